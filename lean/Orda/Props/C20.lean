/-
C20 — Calls from several goroutines on one datatype behave as if made one at a time (PARTIAL).
Proved: the flag-and-mutex protocol of TransactionDatatype (model: Model/TxLock.lean, the protocol of
the current source) gives mutual exclusion, never crashes, cannot deadlock, and queues every issued
operation exactly once — for any number of goroutines and any schedule; the variant that releases the
mutex before `isLocked := false` is shown broken by an explicit schedule, which the check also
FORCES on the implementation through the `verif` schedule points.
Not decided by proof (named gap): the Go memory model — unsynchronised reads outside the mutex
(argument validation, Get/Size/ToJSON) are data races that the race detector reports; the theorem
covers the protocol logic only.  Stress runs with randomised yields are search support.
-/
import Orda.Proofs.TxLockProofs
import Orda.Proofs.TxFlagProofs
namespace Orda.Props.C20
open Orda.TxLock

theorem mutual_exclusion_any_schedule (n : Nat) (s : St) (h : Reach true n s) :
    s.crashed = false ∧
    (∀ i : Nat, s.pcs[i]? ≠ some .critUnlocked) ∧ (∀ i : Nat, s.pcs[i]? ≠ some .released) ∧
    (∀ i j : Nat, s.pcs[i]? = some .critLocked → s.pcs[j]? = some .critLocked → i = j) ∧
    (∀ i, s.pcs[i]? = some .critLocked ↔ s.mutex = some i) ∧
    (s.isLocked = true ↔ s.mutex.isSome = true) ∧ (s.txCtx = s.mutex) ∧
    s.pcs.length = n := fixed_mutual_exclusion n s h

theorem no_deadlock (n : Nat) (s : St) (h : Reach true n s) (hnd : ∃ (i : Nat) (p : Pc), s.pcs[i]? = some p ∧ p ≠ .done) :
    ∃ s', Step true s s' := fixed_no_deadlock n s h hnd

theorem every_operation_queued_once (n : Nat) (s : St) (h : Reach true n s) :
    s.queued.Nodup ∧ ∀ i, i ∈ s.queued ↔ s.pcs[i]? = some .done := fixed_queued_once n s h

theorem all_done_all_queued (n : Nat) (s : St) (h : Reach true n s) (hd : ∀ i, i < n → s.pcs[i]? = some .done) :
    s.queued.length = n := fixed_all_done_all_queued n s h hd

/-- the variant that releases the mutex before `isLocked := false` admits a schedule with a goroutine
    inside the critical section without the mutex, and a crash -/
theorem earlier_protocol_broken :
    (∃ s, Reach false 2 s ∧ ∃ i : Nat, s.pcs[i]? = some .critUnlocked) ∧ (∃ s, Reach false 2 s ∧ s.crashed = true) :=
  old_protocol_broken

/-! ### the success flag: "no update is lost", "a transaction does not interleave with other goroutines' calls"

`Model/TxFlag`: one shared boolean decides in EndTransaction between commit and rollback.  Where the source writes it is
REGENERATED on every run (`Gen.txFacts`, tools/gofacts): the theorems below hold for exactly those facts; the bridge theorem
`Orda.Shape.C20.source_flag_facts : Gen.txFacts = TxFlag.currentFacts` lives in Orda/Shape/C20.lean. -/

/-- no update lost, no failed transaction committed: every finished unit of work (call, transaction, delivery of remote
    operations) was committed iff ITS OWN body reported no failure — any number of goroutines, any schedule -/
theorem outcome_depends_on_own_body_only (fails : Nat → Bool) (n : Nat) (s : Orda.TxFlag.St)
    (h : Orda.TxFlag.Reach Orda.TxFlag.currentFacts fails n s) (i : Nat) (hd : s.pcs[i]? = some .done) :
    s.outs[i]? = some (if fails i then .rolledBack else .committed) :=
  Orda.TxFlag.flag_outcome_is_own fails n s h i hd

theorem flag_protocol_never_stuck (fails : Nat → Bool) (n : Nat) (s : Orda.TxFlag.St)
    (h : Orda.TxFlag.Reach Orda.TxFlag.currentFacts fails n s)
    (hnd : ∃ (i : Nat) (p : Orda.TxFlag.Pc), s.pcs[i]? = some p ∧ p ≠ .done) :
    ∃ s', Orda.TxFlag.Step Orda.TxFlag.currentFacts fails s s' := Orda.TxFlag.flag_progress fails n s h hnd

/-- each of the facts is needed: resetting before the lock rather than under it loses the update of a caller that waited
    behind a failing transaction (this is seeded change C20-success-flag-race); resetting at both places commits a failed
    transaction; not resetting at all switches every later unit of work off -/
theorem flag_facts_are_needed :
    (∃ (fails : Nat → Bool) (s : Orda.TxFlag.St), Orda.TxFlag.Reach ⟨false, true, true, true⟩ fails 2 s ∧
      ∃ i : Nat, fails i = false ∧ s.pcs[i]? = some .done ∧ s.outs[i]? = some .rolledBack) ∧
    (∃ (fails : Nat → Bool) (s : Orda.TxFlag.St), Orda.TxFlag.Reach ⟨true, true, true, true⟩ fails 2 s ∧
      ∃ i : Nat, fails i = true ∧ s.pcs[i]? = some .done ∧ s.outs[i]? = some .committed) ∧
    (∃ (fails : Nat → Bool) (s : Orda.TxFlag.St), Orda.TxFlag.Reach ⟨false, false, true, true⟩ fails 2 s ∧
      ∃ i : Nat, fails i = false ∧ s.pcs[i]? = some .done ∧ s.outs[i]? = some .rolledBack) :=
  ⟨Orda.TxFlag.reset_before_lock_loses_update, Orda.TxFlag.reset_at_both_commits_failed, Orda.TxFlag.no_reset_loses_update⟩

end Orda.Props.C20
