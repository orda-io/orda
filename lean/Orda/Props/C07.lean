/-
C07 — Lost, duplicated or delayed sync messages never lose or double-apply operations.
The adversary of `PStep` may serve any request ever sent again, and deliver any response ever
produced late, repeatedly, or never; the theorems hold in EVERY state it can reach.
-/
import Orda.Proofs.Protocol
import Orda.Model.Wired
import Orda.Proofs.ProtocolJoin
import Orda.Proofs.ProtoNet
import Orda.Proofs.ServerRefine
import Orda.Proofs.ServerRefineJoin
import Orda.Proofs.FullNet
namespace Orda.Props.C07
open Orda

/-- duplicates, losses and delays leave no trace: what a client has applied (and what it was
    acknowledged for) is a function of the log up to its checkpoint alone — two runs that reach the
    same log prefix agree, however their messages were duplicated, dropped or delayed -/
theorem as_if_delivered_once {cuids₁ cuids₂ : List String} {S₁ S₂ : PSys} (h₁ : PReach cuids₁ S₁) (h₂ : PReach cuids₂ S₂)
    {cl₁ cl₂ : PClient} (m₁ : cl₁ ∈ S₁.clients) (m₂ : cl₂ ∈ S₂.clients) (hu : cl₁.cuid = cl₂.cuid)
    (hlog : S₁.log.take cl₁.cp.sseq = S₂.log.take cl₂.cp.sseq) :
    cl₁.applied = cl₂.applied ∧ cl₁.cp.cseq = cl₂.cp.cseq :=
  as_if_once h₁ h₂ m₁ m₂ hu hlog

/-- never lost, never double-applied: each foreign operation up to the checkpoint exactly once in log
    order; each own operation stored exactly once -/
theorem no_loss_no_double {cuids : List String} {S : PSys} (h : PReach cuids S) :
    (∀ cl ∈ S.clients, cl.applied = (S.log.take cl.cp.sseq).filter (fun o => o.id.cuid ≠ cl.cuid)) ∧ S.log.Nodup :=
  ⟨fun cl hcl => (proto_inv_client h cl hcl).2.2.2.2.2, log_nodup h⟩

/-- a retry always goes through: the server never refuses a request that was ever sent -/
theorem retry_never_refused {cuids : List String} {S : PSys} (h : PReach cuids S) {r : PReq} {cl : PClient}
    (hr : r ∈ S.reqs) (hi : S.clients[r.i]? = some cl) :
    ∃ cp2 docs, pushOps pDuid pCol ⟨S.log.length, (S.recOf cl.cuid).cseq⟩ r.ops [] = .ok (cp2, docs) :=
  never_refused h hr hi

/-- the subscribe exchange under the same adversary: the (delayed or duplicated) answer to an earlier
    subscribe request that reaches a datatype which is subscribed already changes NOTHING (state, buffer,
    checkpoint, identifiers) and calls no handler — the `PStep` system above models subscribed clients, this
    closes the entry phase (defect D33: a client that resets the datatype here loses operations,
    `old_client_lost_operations` below) -/
theorem stale_subscribe_response_ignored (w : WDt) (p : Pack) (he : p.error = false) (hs : p.subscribe = true)
    (h1 : w.dstate ≠ .dueToSubscribe) (h2 : w.dstate ≠ .dueToSubscribeCreate) :
    w.applyPack p = (w, [], none) := by
  unfold WDt.applyPack
  simp [he, hs, h1, h2]

/-! ### the ENTRY phase under the same adversary (`JStep`, Proofs/ProtocolJoin.lean): clients that join
late by a subscribe exchange; every subscribe request ever sent may be served any number of times at any
later time, every subscribe response may be delivered any number of times at any time -/

/-- never lost, never double-applied, joins included: own acknowledged operations once and in order in the
    log, foreign operations up to the checkpoint applied exactly once in log order (the prefix received at
    the join included), nothing of a client that has not joined -/
theorem no_loss_no_double_with_late_joiners {cuids : List (String × Bool)} {S : JSys} (h : JReach cuids S) :
    ∀ cl ∈ S.clients,
      S.log.filter (fun o => o.id.cuid = cl.base.cuid) = cl.base.buf.take (S.recOf cl.base.cuid).cseq ∧
      cl.base.cp.sseq ≤ S.log.length ∧
      ((S.log.take cl.base.cp.sseq).filter (fun o => o.id.cuid = cl.base.cuid)).length = cl.base.cp.cseq ∧
      cl.base.cp.cseq ≤ (S.recOf cl.base.cuid).cseq ∧ (S.recOf cl.base.cuid).cseq ≤ cl.base.buf.length ∧
      cl.base.applied = (S.log.take cl.base.cp.sseq).filter (fun o => o.id.cuid ≠ cl.base.cuid) ∧
      (cl.joined = false → cl.base.cp = ⟨0, 0⟩ ∧ cl.base.applied = [] ∧
        S.log.filter (fun o => o.id.cuid = cl.base.cuid) = []) :=
  join_inv_client h

theorem log_has_no_duplicates_with_late_joiners {cuids : List (String × Bool)} {S : JSys} (h : JReach cuids S) :
    S.log.Nodup := join_log_nodup h

/-- a late or duplicated subscribe response delivered to a joined client is a stutter step -/
theorem stale_subscribe_response_is_stutter {S : JSys} {p : JResp} {cl : JClient}
    (hi : S.clients[p.i]? = some cl) (hj : cl.joined = true) :
    ({ S with clients := S.clients.set p.i (cl.deliverSub p) } : JSys) = S :=
  stale_sub_response_harmless hi hj

/-- a subscribe REQUEST served again after its client joined and pushed: nothing stored, the server's record
    of that client keeps its sequence number (so later pushes are neither refused nor accepted twice) -/
theorem duplicate_subscribe_request_keeps_record (st : Store) (cl : ClientDoc) (col : CollectionDoc) (p : Pack) (d : DatatypeDoc)
    (hs : p.subscribe = true) (hc : p.create = false) (hro : p.readOnly = false)
    (hk : st.getDatatypeByKey col.num p.key = some d) (ht : d.typ = p.typ) (hv : d.visible = true)
    (hd : d.duid ≠ p.duid) (hty : cl.typ ≠ 2) (s : SubClient) (hrec : d.sub cl.cuid false = some s) :
    (processPack st cl col p).pushed = 0 ∧
    (processPack st cl col p).store.operations = st.operations ∧
    (processPack st cl col p).resp.subscribe = true ∧ (processPack st cl col p).resp.error = false ∧
    (processPack st cl col p).resp.cp.cseq = s.cp.cseq ∧
    ∃ d' ∈ (processPack st cl col p).store.datatypes, d'.duid = d.duid ∧
      ∃ n, d'.sub cl.cuid false = some ⟨⟨n, s.cp.cseq⟩, cl.typ⟩ :=
  resubscribe_keeps_record st cl col p d hs hc hro hk ht hv hd hty s hrec

/-- D33, machine-checked: with a client that resets a joined datatype on a late subscribe response
    (`JReachOld`) a reachable run loses an operation silently -/
theorem old_client_lost_operations :
    JReachOld JEx.cs JEx.G5 ∧ JEx.b3.id.seq = JEx.b1.id.seq ∧
    (∀ cl ∈ JEx.G5.clients, cl.base.cuid = "b" → cl.base.buf.map (·.id) = [JEx.b3.id] ∧
      cl.base.cp.cseq = cl.base.buf.length ∧ cl.base.cp.sseq = JEx.G5.log.length) ∧
    (∀ o ∈ JEx.G5.log, o.id ≠ JEx.b3.id) := old_behaviour_loses_operations

/-- non-vacuity: the classic scenario (response lost, another client pushes in between, retry, the lost
    response arrives late, the first request is served again) is reachable -/
theorem classic_scenario_reachable : PReach ["a", "b"] PEx.E13 := PEx.reach

/-! ### at the level of the DATATYPES (`PNet`, Proofs/ProtoNet): REAL replicas (`Replica.call`, `execRemoteBase`) driven by the
push-pull protocol under the ADVERSARIAL network of Proofs/Protocol — any request served any number of times, any response
delivered any number of times, in any order, or never.  The protocol view of every reachable state is a reachable protocol state
(`PNet.proj_reach`: J1–J3 apply) and its datatype view is a reachable state of the ideal-log system (`PNet.net_view`). -/

open Orda.PNet in
/-- whatever was lost, duplicated or delayed: when every client is caught up, all replicas are EQUAL (lists, counters) … -/
theorem faults_never_break_list_or_counter_convergence (cuids : List String) (S : RSys)
    (h : RReach .list cuids S ∨ RReach .counter cuids S) (hq : QuiescentR S) (i j : Nat)
    (hi : i < S.clients.length) (hj : j < S.clients.length) : S.clients[i].r.state = S.clients[j].r.state := by
  rcases h with h | h
  · exact faults_list_quiescent_converged S h hq i j hi hj
  · exact faults_counter_quiescent_converged S h hq i j hi hj

open Orda.PNet in
/-- … show the same reads, Size and JSON view (maps) … -/
theorem faults_never_break_map_convergence (cuids : List String) (S : RSys) (h : RReach .map cuids S) (hq : QuiescentR S)
    (i j : Nat) (hi : i < S.clients.length) (hj : j < S.clients.length) (mi mj : LwwMap)
    (hsi : S.clients[i].r.state = .map mi) (hsj : S.clients[j].r.state = .map mj) : SameReads mi mj :=
  faults_map_quiescent_converged S h hq i j hi hj mi mj hsi hsj

open Orda.PNet Orda.DA in
/-- … and hold `ASim`-equal documents with the same JSON value (documents) -/
theorem faults_never_break_document_convergence (cuids : List String) (S : RSys) (h : RReach .document cuids S)
    (hq : QuiescentR S) (i j : Nat) (hi : i < S.clients.length) (hj : j < S.clients.length) (di dj : Doc)
    (hsi : S.clients[i].r.state = .doc di) (hsj : S.clients[j].r.state = .doc dj) :
    ASim di dj ∧ di.view.canon = dj.view.canon :=
  faults_doc_quiescent_converged S h hq i j hi hj di dj hsi hsj

open Orda.PNet in
/-- no double application, no loss, also BEFORE quiescence: two replicas that have the same operations hold the same list
    state, whatever the network did (maps, counters, documents: `PNet.faults_*_same_operations_*`) -/
theorem faults_same_operations_same_list_state (cuids : List String) (S : RSys) (h : RReach .list cuids S) (i j : Nat)
    (hi : i < S.clients.length) (hj : j < S.clients.length) (hso : SameOpsR S i j) :
    S.clients[i].r.state = S.clients[j].r.state :=
  faults_list_same_operations_same_state S h i j hi hj hso

open Orda.PNet in
/-- applying ANY response ever produced — the first time, again, or late — never makes a replica refuse or panic -/
theorem any_response_can_be_applied_at_any_time (typ : DtType) (cuids : List String) (S : RSys) (h : RReach typ cuids S)
    (p : PResp) (cl : RClient) (hp : p ∈ S.resps) (hc : S.clients[p.i]? = some cl) :
    ExecOK cl.r (newForeignOps cl.cuid cl.cp p.cp p.ops) :=
  faults_deliveries_exact h hp hc

open Orda.SRef in
/-- at the STORE level: whatever was lost, repeated or delayed before, a request that a client has ever sent (an old one, a retry, a
    duplicate) is never answered with an error pack by `processPack` -/
theorem store_server_never_refuses_a_retry {tg : Target} {cuids : List String} {T0 T : SSys}
    (g0 : SRef.Good tg T0) (h0 : PReach cuids (T0.abs tg)) (run : SRun tg T0 T)
    {r : PReq} {cl : PClient} {cd : ClientDoc} {p : Pack}
    (hr : r ∈ T.reqs) (hi : T.clients[r.i]? = some cl) (hcu : cd.cuid = cl.cuid) (hv : cd.typ ≠ 2) (hp : PackOf tg r p) :
    (processPack T.st cd tg.col p).resp.error = false :=
  store_never_refuses g0 h0 run hr hi hcu hv hp

open Orda.SRef Orda.SRefJ in
/-- store level, entry phase included: once the datatype exists, no normal request that a joined client has ever sent is answered
    with an error pack, whatever was created, subscribed, lost, repeated or delayed before -/
theorem store_server_never_refuses_a_retry_with_late_joiners {tg : TargetJ} {cuids : List (String × Bool)} {T0 T : SSysJ}
    (g0 : GoodJ tg T0) (h0 : JReach cuids (T0.abs tg)) (run : SRunJ tg T0 T)
    {r : JReq} {cl : JClient} {cd : ClientDoc} {p : Pack} {d : DatatypeDoc} (hex : T.st.getDatatype tg.duid = some d)
    (hr : r ∈ T.reqs) (hk : r.kind = .normal) (hi : T.clients[r.i]? = some cl) (hcu : cd.cuid = cl.base.cuid)
    (hv : cd.typ ≠ 2) (hp : PackOfJ tg r p) :
    (processPack T.st cd tg.col p).resp.error = false :=
  store_never_refuses_join g0 h0 run hex hr hk hi hcu hv hp

/-! ## The WHOLE executable model — wired clients (Model/Wired: `createPack`, `applyPack`) + store-level server (Model/Server:
`processPack`) + replicas — under the adversarial network (Proofs/FullNet): every run is a `PNet` run, hence the convergence theorems -/

open Orda.PNet Orda.SRef Orda.FullNet in
/-- every run of the full system (calls on the wired clients' replicas, `createPack` requests, ANY request ever sent served by
    `processPack` any number of times, ANY response ever produced — error packs included — applied by `applyPack` late, repeatedly
    or never, foreign traffic and bookkeeping in between) is matched step by step by the protocol system with real replicas -/
theorem full_system_runs_are_protocol_runs {typ : DtType} {tg : Target} {cuids : List String} {F0 F : FSys} {S0 : RSys}
    (h0 : Rel tg F0 S0) (hr0 : RReach typ cuids S0) (run : FRun typ tg F0 F) :
    ∃ S, Rel tg F S ∧ RReach typ cuids S :=
  full_run_simulates_pnet h0 hr0 run

open Orda.PNet Orda.SRef Orda.FullNet in
/-- the start: subscribed wired clients on fresh replicas, the datatype existing with an empty log -/
theorem full_system_initial_state_is_related (typ : DtType) {tg : Target} {st0 : Store} {cds : List ClientDoc}
    (g : SRef.Good tg ⟨st0, [], [], []⟩) (hl : absLog st0 tg.duid = []) (hc : absCps st0 tg.duid = [])
    (hv : ∀ cd ∈ cds, cd.typ ≠ 2) :
    Rel tg (FSys.init typ tg st0 cds) (RSys.init typ (cds.map (·.cuid))) :=
  rel_init typ g hl hc hv

open Orda.PNet Orda.SRef Orda.FullNet in
/-- LISTS, full system: whatever was lost, repeated or delayed, once every wired client stands at the end of the STORE's log with
    everything acknowledged, all of them hold the same list state -/
theorem full_system_faults_never_break_list_convergence {tg : Target} {cuids : List String} {F0 F : FSys} {S0 : RSys}
    (h0 : Rel tg F0 S0) (hr0 : RReach .list cuids S0) (run : FRun .list tg F0 F) (hq : FQuiescent tg F)
    (i j : Nat) (hi : i < F.clients.length) (hj : j < F.clients.length) :
    (F.clients[i]).2.rep.state = (F.clients[j]).2.rep.state :=
  full_quiescent_converged_list h0 hr0 run hq i j hi hj

open Orda.PNet Orda.SRef Orda.FullNet in
/-- COUNTERS, full system -/
theorem full_system_faults_never_break_counter_convergence {tg : Target} {cuids : List String} {F0 F : FSys} {S0 : RSys}
    (h0 : Rel tg F0 S0) (hr0 : RReach .counter cuids S0) (run : FRun .counter tg F0 F) (hq : FQuiescent tg F)
    (i j : Nat) (hi : i < F.clients.length) (hj : j < F.clients.length) :
    (F.clients[i]).2.rep.state = (F.clients[j]).2.rep.state :=
  full_quiescent_converged_counter h0 hr0 run hq i j hi hj

open Orda.PNet Orda.SRef Orda.FullNet in
/-- MAPS, full system: all wired clients answer every read alike -/
theorem full_system_faults_never_break_map_convergence {tg : Target} {cuids : List String} {F0 F : FSys} {S0 : RSys}
    (h0 : Rel tg F0 S0) (hr0 : RReach .map cuids S0) (run : FRun .map tg F0 F) (hq : FQuiescent tg F)
    (i j : Nat) (hi : i < F.clients.length) (hj : j < F.clients.length) (mi mj : LwwMap)
    (hsi : (F.clients[i]).2.rep.state = .map mi) (hsj : (F.clients[j]).2.rep.state = .map mj) : SameReads mi mj :=
  full_quiescent_converged_map h0 hr0 run hq i j hi hj mi mj hsi hsj

open Orda.PNet Orda.SRef Orda.FullNet in
/-- DOCUMENTS, full system: all wired clients hold `ASim`-equal documents with one JSON value -/
theorem full_system_faults_never_break_document_convergence {tg : Target} {cuids : List String} {F0 F : FSys} {S0 : RSys}
    (h0 : Rel tg F0 S0) (hr0 : RReach .document cuids S0) (run : FRun .document tg F0 F) (hq : FQuiescent tg F)
    (i j : Nat) (hi : i < F.clients.length) (hj : j < F.clients.length) (di dj : Doc)
    (hsi : (F.clients[i]).2.rep.state = .doc di) (hsj : (F.clients[j]).2.rep.state = .doc dj) :
    DA.ASim di dj ∧ di.view.canon = dj.view.canon :=
  full_quiescent_converged_document h0 hr0 run hq i j hi hj di dj hsi hsj

open Orda.FullNet in
/-- an error pack changes nothing in the wired datatype: the error handler is called, that is all -/
theorem error_pack_is_invisible_to_the_datatype (w : WDt) (p : Pack) (h : p.error = true) :
    (w.applyPack p).1 = w ∧ (w.applyPack p).2.2 = none ∧ ∃ c, (w.applyPack p).2.1 = [.errors [c]] :=
  applyPack_error_is_stutter w p h

end Orda.Props.C07
