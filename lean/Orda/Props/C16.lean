/-
C16 — Every request gets an answer; refused requests change nothing.
In the model a handler is a total function: there is no "no reply" or "crash" outcome to
reach; what the theorems add is the shape of the answer and that a refusal leaves the store untouched.
-/
import Orda.Proofs.ServerLog
namespace Orda.Props.C16
open Orda

/-- every pack — any bits, checkpoint, operations, ids — is answered by a pack for the same key that is
    either a well-formed error pack (exactly one error operation) or a normal pack -/
theorem every_pack_answered (st : Store) (cl : ClientDoc) (col : CollectionDoc) (p : Pack) :
    let r := (processPack st cl col p).resp
    r.key = p.key ∧ ((r.error = true ∧ ∃ code, r.ops = [⟨OpId.nil, .error code⟩]) ∨ r.error = false) :=
  always_answers st cl col p

theorem one_answer_per_pack (st : Store) (colName cuid : String) (packs resps : List Pack)
    (h : (st.processPushPull colName cuid packs).2.1 = .ok resps) : resps.map (·.key) = packs.map (·.key) :=
  Orda.one_answer_per_pack st colName cuid packs resps h

/-- a refused pack leaves the store exactly as it was -/
theorem refused_changes_nothing (st : Store) (cl : ClientDoc) (col : CollectionDoc) (p : Pack)
    (h : (processPack st cl col p).resp.error = true) : (processPack st cl col p).store = st :=
  refused_store_unchanged st cl col p h

/-- an RPC-level refusal (unknown collection, unregistered client, foreign collection) likewise -/
theorem rpc_refusal_changes_nothing (st : Store) (colName cuid : String) (packs : List Pack) (code : Nat)
    (h : (st.processPushPull colName cuid packs).2.1 = .rpcErr code) : (st.processPushPull colName cuid packs).1 = st :=
  rpcErr_store_unchanged st colName cuid packs code h

/-- the client survives an error response: it reports it and its datatype is exactly as before -/
theorem client_survives_error_pack (w : WDt) (p : Pack) (h : p.error = true) :
    (w.applyPack p).1 = w ∧ (w.applyPack p).2.2 = none ∧ ∃ c, (w.applyPack p).2.1 = [.errors [c]] := by
  rw [WDt.applyPack, if_pos h]
  split <;> exact ⟨rfl, rfl, _, rfl⟩

end Orda.Props.C16
