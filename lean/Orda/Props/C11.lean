/-
C11 — Stored snapshots and the user-visible document equal the log replay.
Model: Model/Snap.lean (`updateSnapshotUpTo`: the background updater started for end-of-log `e`, which may
run at ANY later point — after further pushes, several of them racing in any order) over the store
of Model/Server.lean. Reference: `replayState` = replay of the log from the empty datatype.
`Reach` below is every store obtainable from the empty one by pushes of arbitrary clients/packs and
updater runs for arbitrary (duid, collection, end-of-log) in any order; the invariants hold in every
such store.
Not modelled (named): the reset of a collection while an updater is in flight.  The REST patch path
(`Store.patchDocument`) uses the same `latest`/push/updater functions: once the snapshot job the endpoint
returned has run, the user-facing collection holds exactly one document for (collection, key), its value the
target, its version the new end of the log — for an existing and for a created document
(`rest_patch_publishes_target_to_user_collection`, `rest_patch_create_publishes_target_to_user_collection`).
-/
import Orda.Proofs.SnapReplay
import Orda.Proofs.RestPatchPublish
namespace Orda.Props.C11
open Orda Orda.SL Orda.SN

/-- the updater touches only snapshots and user documents -/
theorem logInv_updateSnapshotUpTo (st : Store) (duid colName : String) (e : Nat) (h : LogInv st) :
    LogInv (st.updateSnapshotUpTo duid colName e) := by
  rcases upTo_cases st duid colName e with h0 | ⟨doc, r, _, _, _, h1⟩
  · rw [h0]; exact h
  · rw [h1]; exact logInv_congr (st := st) rfl rfl h

/-- every schedule of pushes and background snapshot updates -/
inductive Reach : Store → Prop
  | init : Reach {}
  | push (st : Store) (cl : ClientDoc) (col : CollectionDoc) (p : Pack) :
      Reach st → Reach (processPack st cl col p).store
  | update (st : Store) (duid colName : String) (e : Nat) :
      Reach st → Reach (st.updateSnapshotUpTo duid colName e)

/-- the whole invariant: log invariant (C06), every snapshot at version v is the replay of 1..v, the user
    document is the state of a stored snapshot with its version recorded, no orphaned snapshot -/
structure Inv (st : Store) : Prop where
  log : LogInv st
  snap : st.SnapInv
  user : st.UserInv
  noOrphan : SnapNoOrphan st

theorem inv_reachable (st : Store) (h : Reach st) : Inv st := by
  induction h with
  | init => exact ⟨logInv_empty, snapInv_empty, userInv_empty, snapNoOrphan_empty⟩
  | push st cl col p _ ih =>
    exact ⟨logInv_processPack st cl col p ih.log,
           snapInv_processPack_partial st cl col p ih.log ih.snap ih.noOrphan,
           userInv_processPack st cl col p ih.user,
           snapNoOrphan_processPack st cl col p ih.log ih.noOrphan⟩
  | update st duid colName e _ ih =>
    exact ⟨logInv_updateSnapshotUpTo st duid colName e ih.log,
           snapInv_updateSnapshotUpTo st duid colName e ih.log ih.snap,
           userInv_updateSnapshotUpTo st duid colName e ih.snap ih.user,
           snapNoOrphan_updateSnapshotUpTo st duid colName e ih.noOrphan⟩

/-- C11 (first clause), every reachable store: a snapshot stored at version v for a datatype is the state
    obtained by replaying log operations 1..v, and v is within the log -/
theorem stored_snapshot_is_replay_of_prefix (st : Store) (h : Reach st) (s : SnapDoc) (d : DatatypeDoc)
    (hs : s ∈ st.snapshots) (hd : d ∈ st.datatypes) (hid : d.duid = s.duid) :
    s.sseq ≤ d.sseqEnd ∧ replayState d.typ ((st.logOf s.duid).take s.sseq) = some s.snap :=
  (inv_reachable st h).snap s hs d hd hid

/-- C11 (second clause): the user-visible document is the state of a stored snapshot (hence of a replay
    of a log prefix) with that snapshot's version recorded -/
theorem user_document_is_a_snapshot_state (st : Store) (h : Reach st) (u : UserDoc) (hu : u ∈ st.userDocs) :
    ∃ s ∈ st.snapshots, s.key = u.key ∧ s.sseq = u.ver ∧ u.value = s.snap :=
  (inv_reachable st h).user u hu

/-- C11 (third clause): an updater run — whenever it happens — either leaves the user documents alone or
    writes one whose recorded version is greater than every snapshot version stored so far (and the user
    document's version IS a stored snapshot version by the second clause), so it never decreases -/
theorem recorded_version_never_decreases (st : Store) (duid colName : String) (e : Nat) (doc : DatatypeDoc)
    (hd : st.getDatatype duid = some doc) :
    let st' := st.updateSnapshotUpTo duid colName e
    st'.userDocs = st.userDocs ∨
    (∃ u ∈ st'.userDocs, u.key = doc.key ∧ u.col = colName ∧
       ∀ s ∈ st.snapshots, s.colNum = doc.colNum → s.duid = duid → s.sseq < u.ver) :=
  version_monotone st duid colName e doc hd

/-- pushes never touch the user documents or the snapshots' invariant -/
theorem push_keeps_user_documents (st : Store) (cl : ClientDoc) (col : CollectionDoc) (p : Pack)
    (hu : st.UserInv) : (processPack st cl col p).store.UserInv := userInv_processPack st cl col p hu

/-- C11 (last clause), every reachable store: rebuilding from the latest snapshot plus the later
    operations gives the same state as rebuilding from the whole log, at the version of the end of the log -/
theorem latest_plus_later_ops_is_full_replay (st : Store) (h : Reach st) (doc : DatatypeDoc) (hd : doc ∈ st.datatypes)
    (hfull : (replayState doc.typ (st.logOf doc.duid)).isSome = true) :
    ∃ r ver, st.latest doc = some (r, ver) ∧ some r.state = replayState doc.typ (st.logOf doc.duid) ∧
      (ver = doc.sseqEnd ∨ (st.logOf doc.duid = [] ∧ ver = 0)) :=
  let i := inv_reachable st h
  latest_is_full_replay st doc hd i.log i.snap i.log.duidNodup hfull

/-- the atomic updater of the model used by the correspondence (run right after its push) is the bounded
    one started for the current end of the log -/
theorem atomic_updater_is_bounded_updater (st : Store) (duid colName : String) (doc : DatatypeDoc)
    (hd : st.getDatatype duid = some doc) (hi : LogInv st) :
    st.updateSnapshot duid colName = st.updateSnapshotUpTo duid colName doc.sseqEnd :=
  updateSnapshot_eq_upTo st duid colName doc hd hi

/-- replay is compositional: a completely received prefix can be received first (what makes
    "snapshot + later operations" meaningful) -/
theorem replay_of_prefix_then_rest (r : Replica) (a b : List Op) (ha : (r.receive a).2 = .ok ()) :
    r.receive (a ++ b) = (r.receive a).1.receive b := SN.receive_append_ok b a r ha

/-- the hypothesis `SnapNoOrphan` of the push step is needed: without it the snapshot invariant is not
    preserved by a push (machine-checked counterexample; unreachable from the empty store) -/
theorem orphan_hypothesis_needed :
    ∃ (st : Store) (cl : ClientDoc) (col : CollectionDoc) (p : Pack),
      LogInv st ∧ st.SnapInv ∧ ¬ (processPack st cl col p).store.SnapInv :=
  snapInv_processPack_counterexample

/-- non-vacuity: a reachable store with a stored snapshot and a user document -/
def exOps : List Op := [⟨⟨0, 1, "a", 1⟩, .snapshot (.counter 0)⟩, ⟨⟨0, 2, "a", 2⟩, .increase 5⟩]
def exPack : Pack := { key := "k", duid := "d", create := true, cp := ⟨0, 0⟩, typ := .counter, ops := exOps }
def exStore : Store := ((processPack {} ⟨"a", "a", 0, 0, 0⟩ ⟨"col", 0⟩ exPack).store).updateSnapshotUpTo "d" "col" 2

example : Reach exStore := Reach.update _ _ _ _ (Reach.push _ _ _ _ Reach.init)
def cval : DState → Int
  | .counter v => v
  | _ => -1
example : exStore.snapshots.map (fun s => (s.sseq, cval s.snap)) = [(2, 5)] ∧
    exStore.userDocs.map (fun u => (u.ver, cval u.value)) = [(2, 5)] := by decide

open Orda.RestP in
/-- the USER-FACING document after a REST patch: once the snapshot job that the endpoint returned has run, the user-facing collection
    holds EXACTLY ONE document for (collection, key); its version is the new end of the log, its value the target; a snapshot record
    of that version with the same value exists (`RestP.Published`).  Named hypotheses beyond those of C19's stored-state theorem: the
    collection is found by its number, no stored snapshot lies beyond the end of the log (follows from `SnapInv`:
    `RestP.snap_bound_of_snapInv`; without it the job may SKIP and the user document stays stale — `RestP.updateSnapshot_skips`), the
    target differs from the current value -/
theorem rest_patch_publishes_target_to_user_collection
    (st : Store) (colName key tmpDuid tmpCuid : String) (col : CollectionDoc) (d : DatatypeDoc) (r0 : Replica) (ver : Nat)
    (hc : st.getCollection colName = some col) (hd : st.getDatatypeByKey col.num key = some d) (ht : d.typ = .document)
    (hl : st.latest d = some (r0, ver))
    (hinv : DP.DocInv { r0 with opId := { r0.opId with cuid := tmpCuid }, cp := ⟨ver, 0⟩ })
    (hlog : LogInv st) (hend : ver = d.sseqEnd) (hpos : 0 < ver)
    (hadmin : d.sub patchApiCuid false = none)
    (hhist : ∀ d0, r0.state = .doc d0 → DLR.HistOK d0)
    (hnum : st.collections.find? (fun c => c.num = col.num) = some col)
    (hsnapb : ∀ s ∈ st.snapshots, s.duid = d.duid → s.sseq ≤ d.sseqEnd)
    (tgt : List (String × JVal)) (hn : (JVal.obj tgt).hasNull = false) (hk : DC.JKeysND (.obj tgt))
    (hchg : ∀ d0, r0.state = .doc d0 → d0.view.canon ≠ (JVal.obj tgt).canon) :
    ∃ n, d.sseqEnd < n ∧
      Published (runJobs (st.patchDocument colName key (.obj tgt) tmpDuid tmpCuid).1
                         (st.patchDocument colName key (.obj tgt) tmpDuid tmpCuid).2.2.2) col key d.duid n (.obj tgt) :=
  patch_then_snapshot_job_publishes_target st colName key tmpDuid tmpCuid col d r0 ver hc hd ht hl hinv hlog hend hpos hadmin hhist
    hnum hsnapb tgt hn hk hchg

open Orda.RestP in
/-- … and for a document CREATED by the endpoint -/
theorem rest_patch_create_publishes_target_to_user_collection
    (st : Store) (colName key tmpDuid tmpCuid : String) (col : CollectionDoc)
    (hc : st.getCollection colName = some col) (hd : st.getDatatypeByKey col.num key = none)
    (hlog : LogInv st) (hfresh : st.getDatatype tmpDuid = none) (hsnap : ∀ s ∈ st.snapshots, s.duid ≠ tmpDuid)
    (hnum : st.collections.find? (fun c => c.num = col.num) = some col)
    (tgt : List (String × JVal)) (hn : (JVal.obj tgt).hasNull = false) (hk : DC.JKeysND (.obj tgt)) (hne : tgt ≠ []) :
    ∃ n, 2 ≤ n ∧
      Published (runJobs (st.patchDocument colName key (.obj tgt) tmpDuid tmpCuid).1
                         (st.patchDocument colName key (.obj tgt) tmpDuid tmpCuid).2.2.2) col key tmpDuid n (.obj tgt) :=
  patch_create_then_snapshot_job_publishes_target st colName key tmpDuid tmpCuid col hc hd hlog hfresh hsnap hnum tgt hn hk hne

open Orda.RestP in
/-- a snapshot job that finds a snapshot of the version reached writes NOTHING, neither snapshot nor user document -/
theorem snapshot_job_skips_when_version_exists {st : Store} {duid colName : String} {doc : DatatypeDoc} {r : Replica} {n : Nat}
    (hg : st.getDatatype duid = some doc) (hl : st.latest doc = some (r, n))
    (hex : st.snapshots.any (fun s => s.duid = duid ∧ s.sseq = n) = true) : st.updateSnapshot duid colName = st :=
  updateSnapshot_skips hg hl hex

end Orda.Props.C11
