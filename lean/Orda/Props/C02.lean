/-
C02 — Conflicts resolve by operation timestamp, identically on every replica.
The outcome is a fixed function (Spec/Denote) of the SET of operations.
-/
import Orda.Proofs.MapCounter
import Orda.Proofs.Rga
import Orda.Proofs.RgaFull
import Orda.Proofs.DocConv
import Orda.Proofs.DocArr
import Orda.Proofs.MapNet
import Orda.Proofs.FlatNetCreate
namespace Orda.Props.C02
open Orda

/-- map: after ANY causal application order, every key holds the value of the put/remove with the
    greatest timestamp (absent if that is a remove) -/
theorem map_key_is_max_timestamp (ops : List Op) (hc : MapCausal ops) (hd : DistinctTs ops) (k : String) :
    (mapApplyAll LwwMap.empty ops).get k = Spec.mapGet ops k :=
  map_denote ops hc hd k

/-- map: Size is the number of live keys of that outcome -/
theorem map_size_is_live_keys (ops : List Op) (hc : MapCausal ops) (hd : DistinctTs ops) :
    (mapApplyAll LwwMap.empty ops).size = ((Spec.mapView ops).length : Int) :=
  map_size_denote ops hc hd

/-- the rule does not depend on arrival order -/
theorem map_rule_order_independent (ops ops' : List Op) (hp : ops.Perm ops') (hd : DistinctTs ops) (k : String) :
    Spec.mapGet ops k = Spec.mapGet ops' k :=
  spec_mapGet_perm ops ops' hp hd k

/-- a local remove is the remote application of its own operation (so the issuing replica computes
    the same outcome as everyone else) -/
theorem map_local_remove_is_remote (m : LwwMap) (k : String) (ts : Ts) (e : MEntry)
    (hf : m.find k = some e) (hl : e.v.isSome = true) (hn : e.t.cmp ts = .lt) :
    (m.removeLocal k ts).1 = (m.removeRemote k ts).1 :=
  removeLocal_eq_removeRemote m k ts e hf hl hn

/-- counter: the value is the sum of all increments with 32-bit wrap-around -/
theorem counter_is_wrapped_sum (ops : List Op) : ops.foldl counterApply 0 = Spec.counter ops :=
  counter_denote ops

theorem counter_in_int32 (x : Int) : -2147483648 ≤ wrap32 x ∧ wrap32 x < 2147483648 := wrap32_range x

/-- list: elements inserted concurrently at the same place appear newest first -/
theorem list_siblings_newest_first (ops : List InsOp) (hc : InsCausal ops) (a b : InsOp)
    (ha : a ∈ ops) (hb : b ∈ ops) (hanch : a.anchor = b.anchor) (hlt : a.ts.cmp b.ts = .lt) :
    ∃ l1 l2 l3, (Rga.empty.applyAllIns ops).ids = l1 ++ b.ts :: l2 ++ a.ts :: l3 :=
  rga_siblings_newest_first ops hc a b ha hb hanch hlt

/-- list: a deleted element stays deleted — an update never revives it, in either arrival order -/
theorem list_delete_dominates (s s' : Rga) (tg : List Ts) (vs : List JVal) (ts : Ts) (x : Ts)
    (hu : s.updateRemote tg vs ts = .ok s') (h : ∃ n ∈ s.nodes, n.o = x ∧ n.v = none) :
    ∃ n ∈ s'.nodes, n.o = x ∧ n.v = none :=
  updateRemote_keeps_tomb s s' tg vs ts x hu h

/-- list, the whole merge rule for EVERY history of inserts/updates/deletes applied in any causal order:
    an element is a tombstone iff some delete of the history targeted it (delete dominates whatever the
    timestamps and the arrival order; an update never revives it) … -/
theorem list_deleted_iff_some_delete (ops : List LOp) (hc : LCausal ops) (n : RNode)
    (hn : n ∈ (Rga.empty.applyAllL ops).nodes) :
    n.v = none ↔ ∃ tgs ts, LOp.del tgs ts ∈ ops ∧ n.o ∈ tgs :=
  rga_tombstone_iff ops hc n hn

/-- … and an element that was never deleted holds the value of its newest update (greatest timestamp among
    the updates newer than its insert), or the inserted value when there is none; a deleted element is
    stamped with the greatest delete stamp. A fixed function of the SET of operations. -/
theorem list_element_is_newest_update (ops : List LOp) (hc : LCausal ops) (n : RNode)
    (hn : n ∈ (Rga.empty.applyAllL ops).nodes) :
    ∃ a ts vals v0, LOp.ins a ts vals ∈ ops ∧ (⟨n.o, some v0, n.o⟩ : RNode) ∈ mkNodes ts vals ∧
      ((∃ p ∈ ops, ∃ t, p.eff n.o = .del t) →
        n.v = none ∧ (∃ p ∈ ops, p.eff n.o = .del n.t) ∧
        ∀ p ∈ ops, ∀ t, p.eff n.o = .del t → t.cmp n.t ≠ .gt) ∧
      ((¬ ∃ p ∈ ops, ∃ t, p.eff n.o = .del t) →
        (n.v = some v0 ∧ n.t = n.o ∧ ∀ p ∈ ops, ∀ v t, p.eff n.o = .upd v t → n.o.cmp t ≠ .lt) ∨
        (∃ p ∈ ops, ∃ v, p.eff n.o = .upd v n.t ∧ n.v = some v ∧ n.o.cmp n.t = .lt ∧
          ∀ q ∈ ops, ∀ v' t', q.eff n.o = .upd v' t' → t'.cmp n.t ≠ .gt)) :=
  rga_payload_spec ops hc n hn

/-- the maxima above are unique: two effective deletes/updates of one element with equal stamps are the
    same operation -/
theorem list_newest_is_unique (ops : List LOp) (hc : LCausal ops) (x : Ts) (p q : LOp) (hp : p ∈ ops)
    (hq : q ∈ ops) (t1 t2 : Ts) (h1 : (p.eff x).stamp? = some t1) (h2 : (q.eff x).stamp? = some t2)
    (he : t1.cmp t2 = .eq) : p = q :=
  eff_stamp_unique ops hc x p q hp hq t1 t2 h1 h2 he

open Orda.DC in
/-- document object key: after ANY order of puts/removes, the LWW state of key k of object p is the
    initial state merged with the operation of the greatest timestamp on (p,k) — the document analogue of
    `map_key_is_max_timestamp` -/
theorem doc_key_is_max_timestamp {d : Doc} {ops : List ObjOp} (h : Good d ops) {p : Ts} {n : DNode}
    (hp : d.find p = some n) (k : String) :
    keyOf' (applyAll d ops) p k = lww (keyOf' d p k) (Spec.maxBy ObjOp.ts (keyOps p k ops)) :=
  key_denote h hp k

open Orda.DC in
/-- … if that operation is a put, the key shows that put's value (any nesting depth), in any order -/
theorem doc_key_shows_newest_put {d : Doc} {l : List ObjOp} (h : Good d l) (hv : ViewOK d) (hk : ∀ o ∈ l, OpKeysND o)
    {p : Ts} {n : DNode} (hp : d.find p = some n) {k : String} {p' : Ts} {k' : String} {v : JVal} {ts : Ts}
    (hw : Spec.maxBy ObjOp.ts (keyOps p k l) = some (.put p' k' v ts))
    (hnew : ∀ st, keyOf' d p k = some st → st.time.cmp ts = .lt) :
    ((applyAll d l).viewAt ts).canon = v.canon := key_value_denote h hv hk hp hw hnew

open Orda.DC in
/-- … if it is a remove, the key's occupant is a tombstone stamped with the remove (absent from the view) -/
theorem doc_key_removed_by_newest_remove {d : Doc} {ops : List ObjOp} (h : Good d ops) {p : Ts} {n : DNode}
    (hp : d.find p = some n) {k : String} {p' : Ts} {k' : String} {ts : Ts}
    (hw : Spec.maxBy ObjOp.ts (keyOps p k ops) = some (.del p' k' ts))
    (hnew : ∀ st, keyOf' d p k = some st → st.time.cmp ts = .lt) :
    ∃ c, occupant (applyAll d ops) p k = some c ∧ (applyAll d ops).isTomb c = true ∧
      (applyAll d ops).timeOf c = ts := key_denote_del h hp hw hnew

open Orda.DA Orda.DC in
/-- document array slot: a delete acts on the slot exactly like the flat list's delete effect (it dominates,
    the tombstone keeps the greatest delete stamp) … -/
theorem doc_array_delete_is_list_delete (t c o : Ts) (w w' : JVal) (st : KeySt) :
    stR o w' (aDelStep t c st).st = (RF.Eff.del t).app (stR o w st) := del_eff t c o w w' st

open Orda.DA Orda.DC in
/-- … and an update like the flat list's update effect (the newer one wins on a live slot, a tombstone is
    never revived): the merge rule of `list_element_is_newest_update` is the rule of document arrays -/
theorem doc_array_update_is_list_update (n c o : Ts) (w v : JVal) (st : KeySt) :
    stR o (if !st.tomb && st.time.cmp n == .lt then v else w) (aUpdStep n c st).st =
      (RF.Eff.upd v n).app (stR o w st) := upd_eff n c o w v st

-- non-vacuity: a concrete conflict (remove older than a concurrent put) resolves to the put
example :
    let ops : List Op := [⟨⟨0, 1, "a", 1⟩, .put "k" (.num 1)⟩, ⟨⟨0, 3, "b", 1⟩, .put "k" (.num 2)⟩,
                          ⟨⟨0, 2, "a", 2⟩, .remove "k"⟩]
    MapCausal ops ∧ DistinctTs ops := by
  refine ⟨?_, ?_⟩
  · intro i hi k hb
    match i, hi with
    | 0, _ => cases hb
    | 1, _ => cases hb
    | 2, _ => exact ⟨0, by omega, .num 1, by cases hb; rfl⟩
  · unfold DistinctTs
    decide

/-! ### end to end (Proofs/MapNet): in the system of n replicas and one server log, ANY public call -/

open Orda.MNet in
/-- every replica's reads ARE the specification evaluated on the operations it has applied: `get k` is the value of the
    greatest-timestamp put/remove of k, Size the number of live keys — in every reachable state, with no causality hypothesis -/
theorem map_reads_are_the_rule_everywhere (cuid : Nat → String) (n : Nat) (net : MNet.Net) (h : MNet.Reach .map cuid n net)
    (i : Nat) (nd : MNet.Node) (hi : net.nodes[i]? = some nd) (m : LwwMap) (hs : nd.r.state = .map m) :
    (∀ k, m.get k = Spec.mapGet (appliedOps net.log i nd) k) ∧
      m.size = ((Spec.mapView (appliedOps net.log i nd)).length : Int) :=
  mnet_reads_are_spec net h i nd m hi hs

open Orda.MNet in
/-- … and a counter IS the wrapped sum of the increments it has applied -/
theorem counter_is_the_sum_everywhere (cuid : Nat → String) (n : Nat) (net : MNet.Net) (h : MNet.Reach .counter cuid n net)
    (i : Nat) (nd : MNet.Node) (hi : net.nodes[i]? = some nd) :
    nd.r.state = DState.counter (Spec.counter (appliedOps net.log i nd)) :=
  cnet_value_is_spec net h i nd hi

open Orda.FNetC in
/-- with the creating client and its snapshot operation: the value of EVERY node at EVERY moment is the wrapped sum of the increments
    among the operations it has applied -/
theorem counter_is_the_sum_everywhere_created {cuid : Nat → String} {n : Nat} (net : MNet.Net) (h : M.ReachC .counter cuid n net)
    (i : Nat) (nd : MNet.Node) (hi : net.nodes[i]? = some nd) :
    nd.r.state = DState.counter (Spec.counter (MNet.appliedOps net.log i nd)) :=
  created_counter_net_value_is_spec net h i nd hi

open Orda.FNetC in
/-- … and two map replicas that have applied the same operations answer every read alike, at every moment -/
theorem map_reads_agree_everywhere_created {cuid : Nat → String} {n : Nat} (net : MNet.Net) (h : M.ReachC .map cuid n net)
    (i j : Nat) (hi : i < net.nodes.length) (hj : j < net.nodes.length) (mi mj : LwwMap)
    (hmi : net.nodes[i].r.state = .map mi) (hmj : net.nodes[j].r.state = .map mj) (hso : MNet.SameOps net i j) :
    (∀ k, mi.get k = mj.get k) ∧ mi.size = mj.size ∧
    (∀ k, alFind k mi.live = alFind k mj.live) ∧ mi.live.Perm mj.live ∧ MNet.sortedView mi = MNet.sortedView mj ∧
    MNet.jsonView mi = MNet.jsonView mj :=
  created_map_net_same_operations_same_reads net h i j hi hj mi mj hmi hmj hso

end Orda.Props.C02
