/-
C17 — Collections and datatypes are isolated from each other (frame theorems).
-/
import Orda.Proofs.ServerContract
import Orda.Proofs.ResetPurge
namespace Orda.Props.C17
open Orda

theorem foreign_collection_is_refused (st : Store) (colName cuid : String) (packs : List Pack)
    (col : CollectionDoc) (cl : ClientDoc)
    (hcol : st.getCollection colName = some col) (hcl : st.getClient cuid = some cl) (hne : cl.colNum ≠ col.num) :
    st.processPushPull colName cuid packs = (st, .rpcErr 16, [], []) :=
  foreign_collection_refused st colName cuid packs col cl hcol hcl hne

/-- a pack handled for one collection leaves every document of the other collections untouched
    (datatype ids are unique — an invariant kept by every pack, C13 `one_datatype_per_key`) -/
theorem other_collections_untouched (st : Store) (cl : ClientDoc) (col : CollectionDoc) (p : Pack) (hdu : DuidUnique st) :
    let st' := (processPack st cl col p).store
    st'.datatypes.filter (fun d => d.colNum ≠ col.num) = st.datatypes.filter (fun d => d.colNum ≠ col.num) ∧
    st'.operations.filter (fun o => o.colNum ≠ col.num) = st.operations.filter (fun o => o.colNum ≠ col.num) ∧
    st'.clients = st.clients ∧ st'.collections = st.collections ∧ st'.snapshots = st.snapshots ∧ st'.userDocs = st.userDocs :=
  frame_other_collections_partial st cl col p hdu

/-- without unique ids the frame fails (the witness shows the hypothesis is needed; not a reachable state) -/
theorem frame_needs_unique_ids :
    ¬ ∀ (st : Store) (cl : ClientDoc) (col : CollectionDoc) (p : Pack),
        (processPack st cl col p).store.datatypes.filter (fun d => d.colNum ≠ col.num) =
          st.datatypes.filter (fun d => d.colNum ≠ col.num) := frame_other_collections_counterexample

/-- operations on one datatype never change another -/
theorem other_datatypes_untouched (st : Store) (cl : ClientDoc) (col : CollectionDoc) (p : Pack) :
    let r := processPack st cl col p
    r.store.datatypes.filter (fun d => d.duid ≠ r.resp.duid) = st.datatypes.filter (fun d => d.duid ≠ r.resp.duid) ∧
    r.store.operations.filter (fun o => o.duid ≠ r.resp.duid) = st.operations.filter (fun o => o.duid ≠ r.resp.duid) :=
  frame_other_datatypes st cl col p

/-- reset removes exactly that collection's datatypes, operations, snapshots, clients and user documents -/
theorem reset_removes_exactly (st : Store) (name : String) (c : CollectionDoc) (h : st.getCollection name = some c) :
    let st' := st.resetCollection name
    st'.datatypes = st.datatypes.filter (fun d => d.colNum ≠ c.num) ∧
    st'.operations = st.operations.filter (fun o => o.colNum ≠ c.num) ∧
    st'.snapshots = st.snapshots.filter (fun s => s.colNum ≠ c.num) ∧
    st'.clients = st.clients.filter (fun x => x.colNum ≠ c.num) ∧
    st'.userDocs = st.userDocs.filter (fun u => u.col ≠ name) ∧
    st'.collections = st.collections := reset_exact st name c h

/-- collection numbers are never re-issued -/
theorem collection_numbers_fresh (st : Store) (name : String) (h : ColNumInv st) (hnew : st.getCollection name = none) :
    (∀ c ∈ st.collections, c.num ≠ (st.makeCollection name).2) ∧ ColNumInv (st.makeCollection name).1 :=
  ⟨makeCollection_fresh st name h hnew, colNumInv_makeCollection st name h⟩

/-- after a reset, a client all of whose records were in the reset collection is unknown to the server … -/
theorem reset_purges_the_collections_clients {st : Store} {name : String} {c : CollectionDoc} (h : st.getCollection name = some c)
    (cuid : String) :
    (st.resetCollection name).getClient cuid = none ↔ ∀ x ∈ st.clients, x.cuid = cuid → x.colNum = c.num :=
  RP.reset_purges_clients_iff h cuid

/-- … its requests are refused as a whole, for every collection name and every pack list, and change nothing … -/
theorem purged_client_is_not_served {st : Store} {name : String} {c : CollectionDoc} (h : st.getCollection name = some c)
    (cuid : String) (hall : ∀ x ∈ st.clients, x.cuid = cuid → x.colNum = c.num) (colName : String) (packs : List Pack) :
    (st.resetCollection name).processPushPull colName cuid packs = (st.resetCollection name, .rpcErr 5, [], []) :=
  RP.purged_client_is_refused h cuid hall colName packs

/-- … while the clients of the other collections are found exactly as before -/
theorem reset_keeps_the_other_collections_clients {st : Store} {name : String} {c : CollectionDoc} (h : st.getCollection name = some c)
    {cuid : String} {cl : ClientDoc} (hg : st.getClient cuid = some cl) (hc : cl.colNum ≠ c.num) :
    (st.resetCollection name).getClient cuid = some cl :=
  RP.reset_keeps_other_clients h hg hc

end Orda.Props.C17
