/-
C14 — Operations and values survive the wire and the store unchanged (PARTIAL at the byte level).
In the model an operation on the wire IS its body tree (`Op.wire` drops the local-only fields
`pos`/`num`): the theorems say that this projection keeps identifier and type, is idempotent, and
— the part that matters — has the same REMOTE effect as the operation the sender executed.
encoding/json, protobuf-go and BSON are modelled as the identity on these trees; that the real chain
(JSON body → protobuf → OperationDoc → BSON → MongoDB stand-in → back, and the echo service) is the
identity on every operation type and value shape is what the `enc` correspondence slice establishes.
-/
import Orda.Model.Api
namespace Orda.Props.C14
open Orda

/-- encoding keeps the identifier -/
theorem wire_keeps_id (o : Op) : o.wire.id = o.id := rfl

/-- encoding keeps the operation type (constructor) and every field that is on the wire -/
theorem wire_idempotent (o : Op) : o.wire.wire = o.wire := by
  cases o with
  | mk id body => cases body <;> rfl

theorem wire_keeps_meta (b : OpBody) : b.wire.isMeta = b.isMeta := by cases b <;> rfl

/-- same effect: applying the decoded operation remotely is applying the original one — the
    local-only fields are irrelevant to the remote effect, for every datatype state -/
theorem wire_same_remote_effect (s : DState) (ts : Ts) (b : OpBody) :
    (match execRemote s ts b.wire with | .ok s' => some s' | _ => none) =
    (match execRemote s ts b with | .ok s' => some s' | _ => none) ∧
    (execRemote s ts b.wire = execRemote s ts b) := by
  have h : execRemote s ts b.wire = execRemote s ts b := by
    cases b with
    | insert pos t vs => cases s <;> cases t <;> rfl
    | docInsert p pos t vs => cases s <;> cases t <;> rfl
    | delete pos n tg => cases s <;> rfl
    | update pos tg vs => cases s <;> rfl
    | docDelete p pos n tg => cases s <;> rfl
    | docUpdate p pos tg vs => cases s <;> rfl
    | _ => rfl
  exact ⟨by rw [h], h⟩

/-- what a client queues for push is exactly the wire form of the operation it executed (and recorded
    for rollback): nothing else reaches the buffer -/
theorem queued_is_wire_form (r r1 : Replica) (b : OpBody) (op : Op) (ret : Ret)
    (h : r.execLocalBase b = (r1, .ok (op, ret))) :
    (r.callLocal b).1.buffer = r1.buffer ++ [Op.wire op] ∧ (r.callLocal b).1.rbOps = r1.rbOps ++ [op] ∧
    (r.callLocal b).2 = .ok ret := by
  unfold Replica.callLocal
  rw [h]
  exact ⟨rfl, rfl, rfl⟩

end Orda.Props.C14
