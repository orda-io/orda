/-
C01 — Replicas of a datatype converge once they have the same operations.
-/
import Orda.Proofs.MapCounter
import Orda.Proofs.Rga
import Orda.Proofs.RgaFull
import Orda.Proofs.DocConv
import Orda.Proofs.DocArr
import Orda.Proofs.DocMixed
import Orda.Proofs.DocCausal
import Orda.Proofs.DocLocalRemote
import Orda.Proofs.DocNet
import Orda.Proofs.ListNet
import Orda.Proofs.MapNet
import Orda.Proofs.DocNetCreate
import Orda.Proofs.FlatNetCreate
namespace Orda.Props.C01
open Orda

/-- map: two replicas that applied the same operations, each in a causal order, agree on every key
    and on Size — for every history and every pair of delivery schedules -/
theorem map_converges (ops ops' : List Op) (hp : ops.Perm ops') (hc : MapCausal ops) (hc' : MapCausal ops')
    (hd : DistinctTs ops) :
    (∀ k, (mapApplyAll LwwMap.empty ops).get k = (mapApplyAll LwwMap.empty ops').get k) ∧
    (mapApplyAll LwwMap.empty ops).size = (mapApplyAll LwwMap.empty ops').size :=
  map_converge ops ops' hp hc hc' hd

/-- the JSON view of a well-formed map is determined by `get` (so equal reads give equal views) -/
theorem map_view_from_reads (m : LwwMap) (h : m.WF) (k : String) : alFind k m.live = m.get k :=
  live_lookup m h k

theorem map_wf_reachable (ops : List Op) : (mapApplyAll LwwMap.empty ops).WF :=
  wf_mapApplyAll ops _ wf_empty

/-- counter: any two orders of the same increments give the same value -/
theorem counter_converges (ops ops' : List Op) (hp : ops.Perm ops') :
    ops.foldl counterApply 0 = ops'.foldl counterApply 0 :=
  counter_converge ops ops' hp

/-- list: two replicas that applied the same insert operations, each in ANY causal order (batches of
    any length, any interleaving the server log order allows), hold the same sequence of elements -/
theorem list_converges (ops ops' : List InsOp) (hp : ops.Perm ops') (hc : InsCausal ops) (hc' : InsCausal ops') :
    (Rga.empty.applyAllIns ops).ids = (Rga.empty.applyAllIns ops').ids :=
  rga_converge ops ops' hp hc hc'

/-! ### list: FULL state, inserts + updates + deletes mixed -/

/-- the list operations of the wire, as `LOp` (an insert without target timestamp is malformed) -/
def toLOp (o : Op) : Option LOp :=
  match o.body with
  | .insert _ (some a) vs => some (.ins a o.id.ts vs)
  | .delete _ _ tg => some (.del tg o.id.ts)
  | .update _ tg vs => some (.upd tg vs o.id.ts)
  | _ => none

/-- `Rga.applyL` IS what the replica's remote execution (`Replica.execRemoteBase`, used by every receive
    and replay path) does to a list state -/
theorem replica_remote_exec_is_applyL (r : Replica) (l : Rga) (o : Op) (lo : LOp)
    (hs : r.state = .list l) (ho : toLOp o = some lo) :
    (r.execRemoteBase o).1.state = .list (l.applyL lo) := by
  rcases o with ⟨id, body⟩
  rw [execRemoteBase_eq]
  show remoteState r.state ⟨id, body⟩ = _
  rw [hs]
  unfold toLOp at ho
  split at ho
  · next p a vs hb => cases ho; obtain rfl : body = _ := hb; exact LNet.remoteState_ins l id p a vs
  · next p n tg hb => cases ho; obtain rfl : body = _ := hb; exact LNet.remoteState_del l id p n tg
  · next p tg vs hb => cases ho; obtain rfl : body = _ := hb; exact LNet.remoteState_upd l id p tg vs
  · cases ho

/-- list, full strength: two replicas that applied the same inserts, updates and deletes, each in ANY
    causal order, hold the same nodes — same order, same values, same value timestamps, same tombstones —
    and the same Size -/
theorem list_full_state_converges (ops ops' : List LOp) (hp : ops.Perm ops') (hc : LCausal ops) (hc' : LCausal ops') :
    Rga.empty.applyAllL ops = Rga.empty.applyAllL ops' :=
  rga_full_converge_state ops ops' hp hc hc'

/-- Size is the number of live elements in every reachable list state -/
theorem list_size_is_live_count (ops : List LOp) (hc : LCausal ops) :
    (Rga.empty.applyAllL ops).size = RF.liveCount (Rga.empty.applyAllL ops).nodes :=
  RF.size_eq_liveCount ops hc

/-! ### document: object operations (put / remove at any object node, values of any nesting depth) -/

open Orda.DC in
/-- the replica's remote execution of a document put/remove IS `DC.applyOp` -/
theorem replica_remote_exec_is_doc_applyOp {d : Doc} (hwf : d.WF) {p : Ts} {k : String} {v : JVal} {ts : Ts}
    (hput : OpOK d (.put p k v ts)) :
    execRemote (.doc d) ts (.docPut p k v) = .ok (.doc (applyOp d (.put p k v ts))) := execRemote_put hwf hput

open Orda.DC in
/-- document, object operations: two replicas that apply the same puts/removes (any parents, any keys, any
    nesting of the values; distinct timestamps, fresh ids, removes of keys that exist) in ANY order reach
    `Sim`-equal node tables — equal parents, shapes, container tombstones, per-key LWW state and sizes; what
    `Sim` forgets is invisible (order of keys inside an object's association list, the deletion stamp and
    identity of unreferenced nodes) — … -/
theorem doc_object_ops_converge {d : Doc} {l l' : List ObjOp} (hp : l.Perm l') (h : DC.Good d l) :
    Sim (applyAll d l) (applyAll d l') := converge_sim hp h h (sim_equivalence.refl d)

open Orda.DC in
/-- … and show the same JSON value (objects compared as key-sorted, which is how the Go side marshals maps) -/
theorem doc_object_ops_same_view {d : Doc} {l l' : List ObjOp} (hp : l.Perm l') (h : DC.Good d l) (hv : ViewOK d)
    (hk : ∀ o ∈ l, OpKeysND o) : (applyAll d l).view.canon = (applyAll d l').view.canon :=
  converge_view hp h hv hk

open Orda.DC in
/-- operations on different parents commute exactly (identical node lookup, identical view) -/
theorem doc_ops_on_different_parents_commute {d : Doc} {l l' : List ObjOp} (hp : l.Perm l') (h : DC.Good d l)
    (hpar : l.Pairwise (fun a b => a.parent ≠ b.parent)) :
    DocEq (applyAll d l) (applyAll d l') ∧ (applyAll d l).view = (applyAll d l').view :=
  converge_docEq_diff_parents hp h hpar

/-- the hypotheses are met by the empty document -/
theorem doc_empty_ready : Doc.empty.WF ∧ DC.ViewOK Doc.empty := ⟨DC.wf_doc_empty, DC.viewOK_empty⟩

/-! ### document: array operations (insert / update / delete on any array node, nested values, batches) -/

open Orda.DA Orda.DC in
/-- document arrays: two replicas that apply the same remote array operations (single- and multi-target,
    values of any nesting depth, on any arrays of the document) in ANY order reach `ASim`-equal node tables
    (`DC.Sim` with the creation id of a slot's child erased — which child node carries a slot's tombstone is
    not observable) and show the same JSON value -/
theorem doc_array_ops_converge {d : Doc} {L L' : List AOp} (hp : L.Perm L') (h : GoodE d (L.flatMap flat))
    (hb : ∀ op ∈ L, BatchOK op) :
    ASim (applyAllA d L) (applyAllA d L') ∧
      (ViewOK d → (∀ e ∈ L.flatMap flat, EKeysND e) →
        (applyAllA d L).view.canon = (applyAllA d L').view.canon) := arr_converge hp h hb

open Orda.DA in
/-- … and the ORDER of an array's slots is the RGA order of the inserts into it, for every causal arrival
    order (`DA.foldIds_converge`, of which `rga_converge` is the instance for the flat list; holds also when operations create the slots later ones address) -/
theorem doc_array_order_converges (d : Doc) (p : Ts) (M0 : List AIns) (ops ops' : List AOp) (hperm : ops.Perm ops')
    (hp : (d.findArr p).isSome) (hk : ∀ o ∈ ops, p.key ≠ o.ts.key)
    (hbase : slotIds d p = foldIds [] M0)
    (hc : ACausal (M0 ++ ops.filterMap (insOn p))) (hc' : ACausal (M0 ++ ops'.filterMap (insOn p))) :
    slotIds (applyAllA d ops) p = slotIds (applyAllA d ops') p :=
  arr_order_converge d p M0 ops ops' hperm hp hk hbase hc hc'

/-! ### document: object AND array operations mixed (what a real document history is) -/

open Orda.DM Orda.DA Orda.DC in
/-- documents, full: two replicas that apply the same remote document operations — puts and removes on any object
    nodes, inserts, deletes and updates (single- and multi-target) on any array nodes, values of any nesting depth —
    in ANY two orders reach `ASim`-equal node tables and show the same JSON value.  `GoodD` = every operation is
    applicable in the start document (the hypotheses of the two theorems above) and operations of the two kinds bring
    disjoint new identifiers. -/
theorem doc_mixed_ops_converge {d : Doc} {L L' : List DOp} (hp : L.Perm L') (h : GoodD d L) :
    ASim (applyAllD d L) (applyAllD d L') ∧
      (ViewOK d → (∀ x ∈ objs L, OpKeysND x) → (∀ e ∈ (arrs L).flatMap flat, EKeysND e) →
        (applyAllD d L).view.canon = (applyAllD d L').view.canon) := mixed_converge hp h

open Orda.DM in
/-- the hypothesis is stable under reordering (so it is a property of the operation SET) -/
theorem doc_mixed_good_is_order_free {d : Doc} {L L' : List DOp} (hp : L.Perm L') (h : GoodD d L) : GoodD d L' :=
  goodD_perm hp h

/-- non-vacuity: a concrete document with an object inside an array and seven mixed operations (nested batch insert,
    concurrent insert at the same place, put into the inner object, two-target update superseding that object,
    two-target delete, remove, nested put into the root) meets `GoodD` -/
theorem doc_mixed_nonvacuous : DM.GoodD DA.Ex.base DM.Ex.L := DM.Ex.goodD

/-! ### document: CAUSAL histories — operations may address nodes that other operations of the history create -/

open Orda.DM Orda.DA Orda.DC Orda.DCausal in
/-- documents, causal: `Valid d L` = every operation is applicable at the moment it is applied (so an operation that needs
    a node created by another one comes after it).  Two valid orders `L`, `L'` of one history (pairwise distinct operation
    identifiers; new identifiers not yet in the start document) reach `ASim`-equal documents with the same JSON value.
    Strictly stronger than `doc_mixed_ops_converge` (`DCausal.Ex`: a put of `{"a": []}`, an insert into that new array, a put
    into the new object — `GoodD` fails for that list).  The freshness hypothesis `FreshIn` is what unique timestamps give;
    without it the EXCHANGE argument is false (machine-checked `DCausal.Anti`), the statement itself has no known
    counterexample (named open part). -/
theorem doc_causal_histories_converge {d : Doc} {L L' : List DOp} (hp : L.Perm L') (hwf : d.WF) (hd : Distinct L)
    (hf : FreshIn d L) (hv : Valid d L) (hv' : Valid d L') :
    ASim (applyAllD d L) (applyAllD d L') ∧
      (ViewOK d → (∀ x ∈ objs L, OpKeysND x) → (∀ e ∈ (arrs L).flatMap flat, EKeysND e) →
        (applyAllD d L).view.canon = (applyAllD d L').view.canon) :=
  causal_converge_partial hp hwf hd hf hv hv'

/-! ### the operations of the convergence theorems ARE what clients emit -/

open Orda.DM Orda.DC Orda.DR in
/-- in every state a replica reaches by calls and deliveries, a successful mutating document call queues exactly one
    operation; it denotes a remote operation that is APPLICABLE in the state before the call (`GoodD`: the hypothesis of
    the convergence theorems), with acceptable values, and applying it to the state before the call gives the state after
    the call (excluded: an insert of zero values, which `GoodD` does not admit) -/
theorem doc_call_emits_applicable_operation (cuid : String) (create : Bool) (r : Replica) (hl : Life cuid create r)
    (d : Doc) (hs : r.state = .doc d) (c : Call) (hk : DP.CallKeysND c) (hm : DP.isMutating c = true) (v : Ret)
    (hok : (r.call c).2 = .ok v) (hne : ∀ hd pos, c ≠ .dinsert hd pos []) :
    ∃ (o : Op) (x : DOp) (d' : Doc),
      (r.call c).1.buffer = r.buffer ++ [o] ∧ o.id = r.opId.next ∧
      (r.call c).1.state = .doc d' ∧
      toDOp o = some x ∧ GoodD d [x] ∧ ValuesOK x ∧ o.id.era = r.opId.era ∧
      DocEq (applyD d x) d' :=
  DLR.life_local_call_is_applicable_remote_op cuid create r hl d hs c hk hm v hok hne

open Orda.DC Orda.DR in
/-- … hence a second replica holding the same document (the server's copy, a subscriber after its snapshot) that receives
    the emitted operation reaches the sender's document and JSON value -/
theorem doc_receiver_reaches_senders_state (cuid : String) (create : Bool) (r q : Replica) (hl : Life cuid create r)
    (d : Doc) (hs : r.state = .doc d) (hq : q.state = .doc d) (c : Call) (hk : DP.CallKeysND c)
    (hm : DP.isMutating c = true) (v : Ret) (hok : (r.call c).2 = .ok v) :
    ∃ (o : Op) (d' dq : Doc), (r.call c).1.buffer = r.buffer ++ [o] ∧ (r.call c).1.state = .doc d' ∧
      (q.execRemoteBase o).1.state = .doc dq ∧ (q.execRemoteBase o).2 = none ∧ DocEq dq d' ∧ dq.view = d'.view :=
  DLR.life_receiver_reaches_senders_state cuid create r q hl d hs hq c hk hm v hok

/-! ### documents END TO END: no applicability hypothesis
`DNet`: n replicas (`Replica.new .document (cuid i) false`, pairwise distinct client ids) and ONE server log; steps: any public
call on any replica (valid or not), push of a replica's next unpushed operation to the log, pull of the next log entry
(own entries skipped, the others delivered with the real `execRemoteBase`) — in any interleaving. -/

open Orda.DNet Orda.DM Orda.DR in
/-- every delivery the system performs IS applicable (this is the hypothesis of all convergence theorems above, proved
    here), raises neither error nor panic, is exactly `applyD`, and keeps the document invariant -/
theorem doc_every_delivery_is_applicable (cuid : Nat → String) (n : Nat) (net : Net) (h : Reach cuid n net) (i : Nat)
    (nd : Node) (a : Nat) (o : Op) (d : Doc) (hi : net.nodes[i]? = some nd) (hl : net.log[nd.pulled]? = some (a, o))
    (ha : a ≠ i) (hs : nd.r.state = .doc d) :
    ∃ x, toDOp o = some x ∧ GoodD d [x] ∧ ValuesOK x ∧ (nd.r.execRemoteBase o).2 = none ∧
      (nd.r.execRemoteBase o).1.state = .doc (applyD d x) ∧ DP.DocInv (nd.r.execRemoteBase o).1 :=
  net_deliveries_exact net h i nd a o d hi hl ha hs

open Orda.DNet Orda.DA in
/-- THE statement of C01 for documents: in every reachable state of the system, two replicas that have the same
    operations (own + delivered, as multisets) hold `ASim`-equal documents and show the same JSON value — whatever the
    interleaving of their own local calls with the operations delivered from the server log -/
theorem doc_same_operations_same_document (cuid : Nat → String) (n : Nat) (net : Net) (h : Reach cuid n net)
    (i j : Nat) (hi : i < net.nodes.length) (hj : j < net.nodes.length) (di dj : Doc)
    (hsi : net.nodes[i].r.state = .doc di) (hsj : net.nodes[j].r.state = .doc dj) (hso : SameOps net i j) :
    ASim di dj ∧ di.view.canon = dj.view.canon :=
  net_same_operations_same_document net h i j hi hj di dj hsi hsj hso

open Orda.DNet Orda.DA in
/-- at every quiescent point (everything pushed, everything pulled) all replicas agree -/
theorem doc_quiescent_replicas_agree (cuid : Nat → String) (n : Nat) (net : Net) (h : Reach cuid n net) (hq : Quiescent net)
    (i j : Nat) (hi : i < net.nodes.length) (hj : j < net.nodes.length) (di dj : Doc)
    (hsi : net.nodes[i].r.state = .doc di) (hsj : net.nodes[j].r.state = .doc dj) :
    ASim di dj ∧ di.view.canon = dj.view.canon :=
  net_quiescent_converged net h hq i j hi hj di dj hsi hsj

/-! ### lists END TO END: no causality hypothesis
`LNet` (Proofs/ListNet): the same system as `DNet` for the List datatype — n replicas with pairwise distinct client ids,
one server log, ANY public call (also refused ones, inserts of zero values, calls of other datatypes), pushes and pulls in
any interleaving.  `LCausal` (the hypothesis of `list_full_state_converges`) is DERIVED. -/

open Orda.LNet in
/-- every replica's list is the remote application of the operations it has applied, and that sequence is causal -/
theorem list_replicas_are_causal_replays (cuid : Nat → String) (n : Nat) (net : LNet.Net) (h : LNet.Reach cuid n net) :
    ∃ applied : Nat → List LOp, ∀ i nd, net.nodes[i]? = some nd →
      nd.r.state = .list (Rga.empty.applyAllL (applied i)) ∧ LCausal (applied i) :=
  lnet_nodes_applied net h

open Orda.LNet in
/-- two replicas that have the same operations hold the SAME list state: order, values, value timestamps, tombstones, Size -/
theorem list_same_operations_same_state (cuid : Nat → String) (n : Nat) (net : LNet.Net) (h : LNet.Reach cuid n net)
    (i j : Nat) (hi : i < net.nodes.length) (hj : j < net.nodes.length) (hso : LNet.SameOps net i j) :
    net.nodes[i].r.state = net.nodes[j].r.state :=
  lnet_same_operations_same_state net h i j hi hj hso

open Orda.LNet in
theorem list_quiescent_replicas_agree (cuid : Nat → String) (n : Nat) (net : LNet.Net) (h : LNet.Reach cuid n net)
    (hq : LNet.Quiescent net) (i j : Nat) (hi : i < net.nodes.length) (hj : j < net.nodes.length) :
    net.nodes[i].r.state = net.nodes[j].r.state :=
  lnet_quiescent_converged net h hq i j hi hj

/-! ### maps and counters END TO END (Proofs/MapNet): the same system, ANY public call, no causality hypothesis -/

open Orda.MNet in
/-- two map replicas that have the same operations agree on every read, on Size and on the JSON view (as lookups, up to
    permutation of the bindings, key-sorted, and in canonical JSON form); plain equality of the association lists is
    false (`MNet.ExMap`), as for documents -/
theorem map_same_operations_same_reads (cuid : Nat → String) (n : Nat) (net : MNet.Net) (h : MNet.Reach .map cuid n net)
    (i j : Nat) (hi : i < net.nodes.length) (hj : j < net.nodes.length) (mi mj : LwwMap)
    (hsi : net.nodes[i].r.state = .map mi) (hsj : net.nodes[j].r.state = .map mj) (hso : MNet.SameOps net i j) :
    (∀ k, mi.get k = mj.get k) ∧ mi.size = mj.size ∧ (∀ k, alFind k mi.live = alFind k mj.live) ∧
      mi.live.Perm mj.live ∧ sortedView mi = sortedView mj ∧ jsonView mi = jsonView mj :=
  mnet_same_operations_same_reads net h i j hi hj mi mj hsi hsj hso

open Orda.MNet in
/-- counters: same operations ⇒ the same value -/
theorem counter_same_operations_same_state (cuid : Nat → String) (n : Nat) (net : MNet.Net)
    (h : MNet.Reach .counter cuid n net) (i j : Nat) (hi : i < net.nodes.length) (hj : j < net.nodes.length)
    (hso : MNet.SameOps net i j) : net.nodes[i].r.state = net.nodes[j].r.state :=
  cnet_same_operations_same_state net h i j hi hj hso

/-! ## The system as it really starts: ONE creating client (its creation snapshot operation heads the log), the others subscribe -/

open Orda.DNet Orda.DNetC Orda.DA in
/-- with the creating client and its snapshot operation in the log: at quiescence creator and subscribers hold the same document -/
theorem doc_created_net_quiescent_replicas_agree {cuid : Nat → String} {n : Nat} (net : Net) (h : ReachC cuid n net)
    (hq : Quiescent net) (i j : Nat) (hi : i < net.nodes.length) (hj : j < net.nodes.length) (di dj : Doc)
    (hsi : net.nodes[i].r.state = .doc di) (hsj : net.nodes[j].r.state = .doc dj) :
    ASim di dj ∧ di.view.canon = dj.view.canon :=
  created_net_quiescent_converged net h hq i j hi hj di dj hsi hsj

open Orda.DNet Orda.DNetC Orda.DA in
/-- … and at every moment two nodes that have applied the same operations hold the same document -/
theorem doc_created_net_same_operations_same_document {cuid : Nat → String} {n : Nat} (net : Net) (h : ReachC cuid n net)
    (i j : Nat) (hi : i < net.nodes.length) (hj : j < net.nodes.length) (di dj : Doc)
    (hsi : net.nodes[i].r.state = .doc di) (hsj : net.nodes[j].r.state = .doc dj) (hso : SameOps net i j) :
    ASim di dj ∧ di.view.canon = dj.view.canon :=
  created_net_same_operations_same_document net h i j hi hj di dj hsi hsj hso

open Orda.DNet Orda.DNetC in
/-- the log starts with the creation snapshot operation and contains it nowhere else -/
theorem doc_created_log_starts_with_snapshot {cuid : Nat → String} {n : Nat} (net : Net) (h : ReachC cuid n net) :
    (∀ e, net.log[0]? = some e → e = snapEnt cuid) ∧
    (∀ k a o, net.log[k]? = some (a, o) → k ≠ 0 → ∃ x, DR.toDOp o = some x ∧ DR.ValuesOK x) :=
  log_starts_with_snapshot net h

open Orda.DNetC in
/-- why a subscriber is usable only after its first sync: a call issued BEFORE the snapshot operation is pulled is wiped out by its
    delivery and the replicas end up different (machine-checked run; the library discards such operations) -/
theorem doc_call_before_first_pull_diverges :
    ∃ net, (initC Ex.cu 2).run badActs = some net ∧ (∀ a ∈ badActs, DNet.ActOK a) ∧ DNet.Quiescent net ∧
      (net.nodes.map fun nd => (Ex.docOf nd.r).view.canon == .obj [("k", .num 1)]) = [true, false] ∧
      (net.nodes.map fun nd => (Ex.docOf nd.r).view.canon == .obj []) = [false, true] ∧
      (runC (initC Ex.cu 2) badActs).isSome = false :=
  call_before_first_pull_diverges

open Orda.FNetC in
/-- LIST, with the creating client and its snapshot operation in the log: at quiescence all replicas hold the SAME list state -/
theorem list_created_net_quiescent_replicas_agree {cuid : Nat → String} {n : Nat} (net : LNet.Net) (h : L.ReachC cuid n net)
    (hq : LNet.Quiescent net) (i j : Nat) (hi : i < net.nodes.length) (hj : j < net.nodes.length) :
    net.nodes[i].r.state = net.nodes[j].r.state :=
  created_list_net_quiescent_converged net h hq i j hi hj

open Orda.FNetC in
/-- LIST: … and at every moment two nodes with the same operations hold the same state -/
theorem list_created_net_same_operations_same_state {cuid : Nat → String} {n : Nat} (net : LNet.Net) (h : L.ReachC cuid n net)
    (i j : Nat) (hi : i < net.nodes.length) (hj : j < net.nodes.length) (hso : LNet.SameOps net i j) :
    net.nodes[i].r.state = net.nodes[j].r.state :=
  created_list_net_same_operations_same_state net h i j hi hj hso

open Orda.FNetC in
/-- MAP, with the creating client: at quiescence creator and subscribers answer every read alike -/
theorem map_created_net_quiescent_replicas_agree {cuid : Nat → String} {n : Nat} (net : MNet.Net) (h : M.ReachC .map cuid n net)
    (hq : MNet.Quiescent net) (i j : Nat) (hi : i < net.nodes.length) (hj : j < net.nodes.length) (mi mj : LwwMap)
    (hmi : net.nodes[i].r.state = .map mi) (hmj : net.nodes[j].r.state = .map mj) :
    (∀ k, mi.get k = mj.get k) ∧ mi.size = mj.size ∧
    (∀ k, alFind k mi.live = alFind k mj.live) ∧ mi.live.Perm mj.live ∧ MNet.sortedView mi = MNet.sortedView mj ∧
    MNet.jsonView mi = MNet.jsonView mj :=
  created_map_net_quiescent_converged net h hq i j hi hj mi mj hmi hmj

open Orda.FNetC in
/-- COUNTER, with the creating client: at quiescence all replicas hold the same value, the wrapped sum of all increments in the log -/
theorem counter_created_net_quiescent_replicas_agree {cuid : Nat → String} {n : Nat} (net : MNet.Net)
    (h : M.ReachC .counter cuid n net) (hq : MNet.Quiescent net) (i j : Nat) (hi : i < net.nodes.length) (hj : j < net.nodes.length) :
    net.nodes[i].r.state = net.nodes[j].r.state ∧
    net.nodes[i].r.state = DState.counter (Spec.counter (net.log.map (·.2))) :=
  created_counter_net_quiescent_converged net h hq i j hi hj

open Orda.FNetC in
/-- the delivery of a creation snapshot operation REPLACES the state of a flat datatype too … -/
theorem flat_snapshot_delivery_resets_state :
    execRemote (.counter 5) ⟨0, 1, "a", 0⟩ (.snapshot (DState.fresh .counter)) = .ok (.counter 0) ∧
    (∀ m, execRemote (.map m) ⟨0, 1, "a", 0⟩ (.snapshot (DState.fresh .map)) = .ok (.map LwwMap.empty)) ∧
    (∀ l, execRemote (.list l) ⟨0, 1, "a", 0⟩ (.snapshot (DState.fresh .list)) = .ok (.list Rga.empty)) :=
  snapshot_delivery_resets_flat_state

open Orda.FNetC in
/-- … which is why a subscriber is usable only after its first sync: an increase issued before is lost (creator 7, subscriber 0) -/
theorem counter_call_before_first_pull_diverges :
    ∃ net, (M.initC .counter cu 2).run badCounter = some net ∧ MNet.Quiescent net ∧
      net.nodes.map (fun nd => ExCounter.valOf nd.r) = [7, 0] ∧ (M.runC (M.initC .counter cu 2) badCounter).isSome = false :=
  FNetC.counter_call_before_first_pull_diverges

end Orda.Props.C01
