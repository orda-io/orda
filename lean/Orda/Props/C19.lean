/-
C19 — Patching a document to a target JSON yields exactly that JSON.
Pure half: the edit script that the model of jsondiff generates, read on plain JSON trees with the semantics patchEach
gives each operation, rewrites ANY canonical source object into ANY canonical target object (PatchDiff).
Document half (DocPatch, on top of the refinement of documents to the plain JSON tree, DocPlain): for every reachable
single-replica document and every target object without nulls, `PatchByJSON` succeeds, the document's canonical JSON value
IS the target, and the script is applied as one atomic unit (nothing / one operation / one transaction unit announcing its
length).  Documents shaped by remote operations: `DP.DocInv` is kept by every applicable delivery (DocRemoteInv), so the theorems
hold in every state a replica reaches by public calls AND deliveries from the server log (`patchByJSON_in_any_reachable_state`).  Other replicas: C01; atomicity on
failure: C09.  REST endpoint (`Store.patchDocument`, Proofs/RestPatch): answer = target, stored = answered, refusal and no-op change nothing; tie: correspondence slice `rest` (+ `Model/Rest`).
-/
import Orda.Proofs.PatchDiff
import Orda.Proofs.DocPatch
import Orda.Proofs.DocRemoteInv
import Orda.Proofs.DocTxNet
import Orda.Proofs.RestPatch
import Orda.Proofs.RestPatchCreate
import Orda.Proofs.TxNetCreate
namespace Orda.Props.C19
open Orda

theorem edit_script_reaches_target (src tgt : List (String × JVal))
    (hs : (JVal.obj src).Canonical) (ht : (JVal.obj tgt).Canonical) :
    applyPatch (jsonDiff (.obj src) (.obj tgt)) (.obj src) = some (.obj tgt) := apply_diff src tgt hs ht

theorem no_script_iff_equal (src tgt : List (String × JVal))
    (hs : (JVal.obj src).Canonical) (ht : (JVal.obj tgt).Canonical) :
    jsonDiff (.obj src) (.obj tgt) = [] ↔ src = tgt := diff_nil_iff src tgt hs ht

theorem chains_compose (a b c : List (String × JVal)) (ha : (JVal.obj a).Canonical) (hb : (JVal.obj b).Canonical)
    (hc : (JVal.obj c).Canonical) :
    (applyPatch (jsonDiff (.obj a) (.obj b)) (.obj a)).bind (applyPatch (jsonDiff (.obj b) (.obj c))) = some (.obj c) :=
  apply_diff_chain a b c ha hb hc

/-- a target without nulls never makes the script carry a null (which the document calls refuse) -/
theorem script_carries_no_null (src tgt : JVal) (h : tgt.hasNull = false) :
    ∀ op ∈ jsonDiff src tgt, match op with
      | .add _ v => v.hasNull = false
      | .replace _ v => v.hasNull = false
      | .remove _ => True := diff_values_no_null src tgt h

/-- what the implementation diffs is the canonical (key-sorted) form of the current value and of the target -/
theorem canonical_forms (v : JVal) : v.canon.Canonical ∧ (v.Canonical → v.canon = v) :=
  ⟨canon_canonical v, canon_of_canonical v⟩

/-- the document-level patch is atomic by construction: several operations run inside one transaction
    (so C09 applies), and a failed patch returns a transaction error only after the rollback -/
theorem patch_of_nothing_is_noop (r : Replica) (d : Doc) (h : r.state = .doc d) : r.patch [] = (r, .ok ()) := by
  unfold Replica.patch; rw [h]

/-! ### the document half -/

/-- THE statement of C19 for a replica: from every reachable document, for every target object without nulls,
    PatchByJSON succeeds and leaves the document's (canonical) JSON value equal to the target; the invariant is kept,
    so patches chain -/
theorem patchByJSON_yields_exactly_the_target (r : Replica) (d : Doc) (hs : r.state = .doc d) (h : DP.DocInv r)
    (tgt : List (String × JVal)) (hn : (JVal.obj tgt).hasNull = false) (hk : DC.JKeysND (.obj tgt)) :
    ∃ d', (r.patchByJSON (.obj tgt)).1.state = .doc d' ∧
      (r.patchByJSON (.obj tgt)).2.2 = .ok () ∧
      d'.view.canon = (JVal.obj tgt).canon ∧
      DP.DocInv (r.patchByJSON (.obj tgt)).1 :=
  DPatch.patchByJSON_reaches_target r d hs h tgt hn hk

/-- … as ONE atomic unit: nothing is queued when the document already equals the target, one operation for a
    one-operation script, otherwise one transaction unit that announces its own length (which a receiving replica
    applies completely or not at all: C09) -/
theorem patchByJSON_is_one_unit (r : Replica) (d : Doc) (hs : r.state = .doc d) (h : DP.DocInv r)
    (tgt : List (String × JVal)) (hn : (JVal.obj tgt).hasNull = false) (hk : DC.JKeysND (.obj tgt)) :
    let r' := (r.patchByJSON (.obj tgt)).1
    let n := (r.patchByJSON (.obj tgt)).2.1.length
    (n = 0 → r' = r) ∧
    (n = 1 → ∃ o, r'.buffer = r.buffer ++ [o] ∧ o.id = r.opId.next) ∧
    (2 ≤ n → ∃ tag body, r'.buffer = r.buffer ++ (⟨r.opId.next, .transaction tag (body.length + 1)⟩ :: body) ∧ body.length ≤ n) :=
  DPatch.patchByJSON_one_unit r d hs h tgt hn hk

/-- patching to the value the document already has does nothing -/
theorem patchByJSON_to_itself_is_noop (r : Replica) (d : Doc) (hs : r.state = .doc d) (h : DP.DocInv r) :
    (r.patchByJSON d.view).1 = r ∧ (r.patchByJSON d.view).2.1 = [] :=
  DPatch.patchByJSON_same_is_noop r d hs h

/-- "for any current document": in EVERY state a replica reaches by public calls and by deliveries of applicable remote
    operations (`DR.Life`: concurrent puts that win or lose, removes, array inserts/updates/deletes by other clients),
    PatchByJSON succeeds and the document's canonical JSON value is exactly the target -/
theorem patchByJSON_in_any_reachable_state (cuid : String) (create : Bool) (r : Replica) (hl : DR.Life cuid create r)
    (d : Doc) (hs : r.state = .doc d) (tgt : List (String × JVal)) (hn : (JVal.obj tgt).hasNull = false)
    (hk : DC.JKeysND (.obj tgt)) :
    ∃ d', (r.patchByJSON (.obj tgt)).1.state = .doc d' ∧
      (r.patchByJSON (.obj tgt)).2.2 = .ok () ∧
      d'.view.canon = (JVal.obj tgt).canon :=
  let ⟨d', h1, h2, h3, _⟩ := DPatch.patchByJSON_reaches_target r d hs (DR.docInv_life cuid create r hl) tgt hn hk
  ⟨d', h1, h2, h3⟩

/-! ### END TO END (`DTx`, Proofs/DocTxNet): n document replicas with pairwise distinct client ids and one server log; steps: any
public call, any user transaction, ANY PatchByJSON (targets without null), push of the whole pending buffer, pull of the whole rest of
the log through one `receive` — in any interleaving -/

open Orda.DTx in
/-- in EVERY reachable state of the system PatchByJSON on any replica succeeds and leaves that replica's JSON value equal to the target -/
theorem patchByJSON_reaches_target_anywhere (cuid : Nat → String) (n : Nat) (net : DNet.Net) (h : DTx.Reach cuid n net)
    (i : Nat) (nd : DNet.Node) (hi : net.nodes[i]? = some nd) (d : Doc) (hs : nd.r.state = .doc d)
    (tgt : List (String × JVal)) (hn : (JVal.obj tgt).hasNull = false) (hk : DC.JKeysND (.obj tgt)) :
    ∃ d', (nd.r.patchByJSON (.obj tgt)).1.state = .doc d' ∧ (nd.r.patchByJSON (.obj tgt)).2.2 = .ok () ∧
      d'.view.canon = (JVal.obj tgt).canon :=
  dtx_patch_reaches_target h hi hs tgt hn hk

open Orda.DTx Orda.DA in
/-- "the operations it emits bring every other replica to the same value": after a patch on replica i, once everything is pushed
    and pulled (only syncs follow) ALL replicas show one JSON value; and when no operation of another replica was concurrent to the
    patch (`NoConc`: replica i had consumed the whole log, the others had nothing pending) that value IS the target.  (With concurrent
    operations the common value merges them — `DTx.Ex` — which is what C01 promises, not the target.) -/
theorem patch_brings_every_replica_to_the_same_value (cuid : Nat → String) (n : Nat) (net : DNet.Net) (h : DTx.Reach cuid n net)
    (i : Nat) (nd : DNet.Node) (hi : net.nodes[i]? = some nd) (tgt : List (String × JVal))
    (hn : (JVal.obj tgt).hasNull = false) (hk : DC.JKeysND (.obj tgt)) (net1 net2 : DNet.Net)
    (h1 : net1 = ⟨net.nodes.set i { r := (nd.r.patchByJSON (.obj tgt)).1, pushed := nd.pushed, pulled := nd.pulled }, net.log⟩)
    (hsync : Syncs net1 net2) (hq : DNet.Quiescent net2) :
    (∀ (j k : Nat) (dj dk : Doc), DNet.Holds net2 j dj → DNet.Holds net2 k dk → ASim dj dk ∧ dj.view.canon = dk.view.canon) ∧
    (NoConc net i → ∀ (j : Nat) (dj : Doc), DNet.Holds net2 j dj → dj.view.canon = (JVal.obj tgt).canon) := by
  obtain ⟨_, _, hall, hno⟩ := dtx_patch_propagates h hi tgt hn hk h1 hsync hq
  exact ⟨hall, fun hc j dj hj => (hno hc j dj hj).1⟩

/-! ## The REST endpoint itself (`Store.patchDocument` = server/service/service_patch_document.go) -/

/-- the ANSWER of the endpoint: for an existing document whose rebuilt latest state satisfies the replica invariant, and any target
    object without nulls and duplicate keys, the endpoint answers OK with the target -/
theorem rest_patch_answers_the_target
    (st : Store) (colName key tmpDuid tmpCuid : String) (col : CollectionDoc) (d : DatatypeDoc) (r0 : Replica) (ver : Nat)
    (hc : st.getCollection colName = some col) (hd : st.getDatatypeByKey col.num key = some d) (ht : d.typ = .document)
    (hl : st.latest d = some (r0, ver))
    (hinv : DP.DocInv { r0 with opId := { r0.opId with cuid := tmpCuid }, cp := ⟨ver, 0⟩ })
    (tgt : List (String × JVal)) (hn : (JVal.obj tgt).hasNull = false) (hk : DC.JKeysND (.obj tgt)) :
    ∃ v, (st.patchDocument colName key (.obj tgt) tmpDuid tmpCuid).2.1 = .ok v ∧ v.canon = (JVal.obj tgt).canon :=
  RestP.patchDocument_answers_target st colName key tmpDuid tmpCuid col d r0 ver hc hd ht hl hinv tgt hn hk

/-- … also when the key does not exist yet (the document is created) -/
theorem rest_patch_creates_the_target
    (st : Store) (colName key tmpDuid tmpCuid : String) (col : CollectionDoc)
    (hc : st.getCollection colName = some col) (hd : st.getDatatypeByKey col.num key = none)
    (tgt : List (String × JVal)) (hn : (JVal.obj tgt).hasNull = false) (hk : DC.JKeysND (.obj tgt)) :
    ∃ v, (st.patchDocument colName key (.obj tgt) tmpDuid tmpCuid).2.1 = .ok v ∧ v.canon = (JVal.obj tgt).canon :=
  RestP.patchDocument_creates_target st colName key tmpDuid tmpCuid col hc hd tgt hn hk

/-- the STORE after the call: the latest state rebuilt from what the endpoint stored (newest snapshot + the stored operations after
    it, applied as remote operations) has the target as its value — "what was answered is what was stored".  Named hypotheses: the log
    invariant of C06, the rebuilt state stands at the end of a NON-EMPTY log (`hpos`: without it the statement is false —
    `RestP.Ex.emptyLog_not_stored`: a document record with an empty log makes the endpoint answer OK and store nothing), nobody is
    recorded under the endpoint's administrative client id, arrays have causal insertion histories (kept by every call and delivery:
    `DLR.histOK_life`).  That the push is ACCEPTED is proved, not assumed (`RestP.processPack_admin`). -/
theorem rest_patch_stores_what_it_answers
    (st : Store) (colName key tmpDuid tmpCuid : String) (col : CollectionDoc) (d : DatatypeDoc) (r0 : Replica) (ver : Nat)
    (hc : st.getCollection colName = some col) (hd : st.getDatatypeByKey col.num key = some d) (ht : d.typ = .document)
    (hl : st.latest d = some (r0, ver))
    (hinv : DP.DocInv { r0 with opId := { r0.opId with cuid := tmpCuid }, cp := ⟨ver, 0⟩ })
    (hlog : LogInv st) (hend : ver = d.sseqEnd) (hpos : 0 < ver)
    (hadmin : d.sub patchApiCuid false = none)
    (hhist : ∀ d0, r0.state = .doc d0 → DLR.HistOK d0)
    (tgt : List (String × JVal)) (hn : (JVal.obj tgt).hasNull = false) (hk : DC.JKeysND (.obj tgt)) :
    ∃ d' r' ver', (st.patchDocument colName key (.obj tgt) tmpDuid tmpCuid).1.getDatatypeByKey col.num key = some d' ∧
      (st.patchDocument colName key (.obj tgt) tmpDuid tmpCuid).1.latest d' = some (r', ver') ∧
      (∃ dd, r'.state = .doc dd ∧ dd.view.canon = (JVal.obj tgt).canon) :=
  RestP.patchDocument_stores_target st colName key tmpDuid tmpCuid col d r0 ver hc hd ht hl hinv hlog hend hpos hadmin hhist tgt hn hk

/-- a refused patch (unknown collection, a key of another type, a target the document refuses) changes nothing in the store -/
theorem rest_patch_refusal_changes_nothing (st : Store) (colName key : String) (target : JVal) (tmpDuid tmpCuid : String)
    (code : Nat) (h : (st.patchDocument colName key target tmpDuid tmpCuid).2.1 = .rpcErr code) :
    (st.patchDocument colName key target tmpDuid tmpCuid).1 = st :=
  RestP.patchDocument_refusal_changes_nothing st colName key target tmpDuid tmpCuid code h

/-- patching to the value the document already has stores nothing, announces nothing, starts no snapshot update -/
theorem rest_patch_to_current_value_is_silent
    (st : Store) (colName key tmpDuid tmpCuid : String) (col : CollectionDoc) (d : DatatypeDoc) (r0 : Replica) (ver : Nat)
    (dd : Doc)
    (hc : st.getCollection colName = some col) (hd : st.getDatatypeByKey col.num key = some d) (ht : d.typ = .document)
    (hl : st.latest d = some (r0, ver)) (hs : r0.state = .doc dd)
    (hinv : DP.DocInv { r0 with opId := { r0.opId with cuid := tmpCuid }, cp := ⟨ver, 0⟩ }) :
    (st.patchDocument colName key dd.view tmpDuid tmpCuid).1 = st ∧
    (st.patchDocument colName key dd.view tmpDuid tmpCuid).2.2.1 = [] ∧
    (st.patchDocument colName key dd.view tmpDuid tmpCuid).2.2.2 = [] :=
  RestP.patchDocument_same_is_silent st colName key tmpDuid tmpCuid col d r0 ver dd hc hd ht hl hs hinv

/-- the CREATED-document case in full: on an absent key, with a fresh random id and a non-empty target, the endpoint answers the
    target, stores the creation snapshot operation and the patch unit as operations 1..n of a new document record, announces the new
    end of the log once, starts one snapshot update, and the latest state rebuilt from the store has the target as its value -/
theorem rest_patch_creates_and_stores_the_target
    (st : Store) (colName key tmpDuid tmpCuid : String) (col : CollectionDoc)
    (hc : st.getCollection colName = some col) (hd : st.getDatatypeByKey col.num key = none)
    (hlog : LogInv st) (hfresh : st.getDatatype tmpDuid = none) (hsnap : ∀ s ∈ st.snapshots, s.duid ≠ tmpDuid)
    (tgt : List (String × JVal)) (hn : (JVal.obj tgt).hasNull = false) (hk : DC.JKeysND (.obj tgt)) (hne : tgt ≠ []) :
    ∃ (st' : Store) (v : JVal) (n : Nat) (nd : List OpDoc) (r' : Replica),
      st.patchDocument colName key (.obj tgt) tmpDuid tmpCuid =
        (st', .ok v, [⟨col.name ++ "/" ++ key, patchApiCuid, tmpDuid, n⟩], [(tmpDuid, col.num)]) ∧
      v.canon = (JVal.obj tgt).canon ∧ 2 ≤ n ∧
      st'.operations = st.operations ++ nd ∧ nd.length = n ∧ (∀ o ∈ nd, o.duid = tmpDuid ∧ o.colNum = col.num) ∧
      nd.map (·.sseq) = List.range' 1 n ∧
      st'.getDatatypeByKey col.num key =
        some { duid := tmpDuid, key := key, colNum := col.num, typ := .document, sseqEnd := n } ∧
      st'.latest { duid := tmpDuid, key := key, colNum := col.num, typ := .document, sseqEnd := n } = some (r', n) ∧
      (∃ dd, r'.state = .doc dd ∧ dd.view.canon = (JVal.obj tgt).canon) :=
  RestP.patchDocument_creates_and_stores_target st colName key tmpDuid tmpCuid col hc hd hlog hfresh hsnap tgt hn hk hne

/-- … and the empty object on an absent key: answered OK `{}`, NOTHING is stored — the document is not created (the model's, and by
    the `rest` correspondence the implementation's, behaviour, stated exactly) -/
theorem rest_patch_empty_target_on_absent_key_creates_nothing
    (st : Store) (colName key tmpDuid tmpCuid : String) (col : CollectionDoc)
    (hc : st.getCollection colName = some col) (hd : st.getDatatypeByKey col.num key = none) :
    st.patchDocument colName key (.obj []) tmpDuid tmpCuid = (st, .ok (.obj []), [], []) :=
  RestP.patchDocument_create_empty_target_stores_nothing st colName key tmpDuid tmpCuid col hc hd

open Orda.DNet Orda.DTx Orda.TxNetC in
/-- in EVERY reachable state of the system that starts with a creating client, PatchByJSON on any node succeeds and yields the target -/
theorem patchByJSON_reaches_target_anywhere_created {cuid : Nat → String} {n : Nat} {net : Net} (h : ReachC cuid n net) {i : Nat}
    {nd : Node} (hi : net.nodes[i]? = some nd) {d : Doc} (hd : nd.r.state = .doc d) (tgt : List (String × JVal))
    (hn : (JVal.obj tgt).hasNull = false) (hk : DC.JKeysND (.obj tgt)) :
    ∃ d', (nd.r.patchByJSON (.obj tgt)).1.state = .doc d' ∧ (nd.r.patchByJSON (.obj tgt)).2.2 = .ok () ∧
      d'.view.canon = (JVal.obj tgt).canon :=
  created_dtx_patch_reaches_target_anywhere h hi hd tgt hn hk

end Orda.Props.C19
