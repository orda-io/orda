/-
C11: stored snapshots and the user-visible document.  Every stored snapshot at version v is the replay
of log operations 1..v (`Store.SnapInv`), the user document is the state of such a snapshot
(`Store.UserInv`); both survive pushes and the background updater whenever it runs; rebuilding from the
latest snapshot plus the later operations equals rebuilding from the whole log.
-/
import Orda.Model.Snap
import Orda.Proofs.ServerLog
import Orda.Proofs.Replay
namespace Orda

namespace SN

theorem receive_congr (ops : List Op) (r1 r2 : Replica) (h : r1.state = r2.state) :
    (r1.receive ops).1.state = (r2.receive ops).1.state ∧ (r1.receive ops).2 = (r2.receive ops).2 := by
  refine (receive_rel (fun a b => a.state = b.state) (fun a b o h => ?_) (fun _ _ _ h => h) ops r1 r2 h).symm
  rw [execRemoteBase_eq, execRemoteBase_eq, show a.state = b.state from h]
  exact ⟨rfl, rfl⟩

theorem receive_append_ok (b a : List Op) : ∀ r : Replica,
    (r.receive a).2 = .ok () → r.receive (a ++ b) = (r.receive a).1.receive b := by
  induction a using units_induction with
  | nil => exact fun _ _ => rfl
  | cons o rest ih =>
    intro r ha
    rw [receive_cons] at ha ⊢
    rw [List.cons_append, receive_cons]
    by_cases hb : o.badHeader (o :: rest).length = true
    · rw [if_pos hb] at ha; cases ha
    · have hb' := Bool.eq_false_iff.2 hb
      have hle : o.unitLen ≤ (o :: rest).length := unitLen_le hb' (Nat.succ_pos _)
      have hb2 : o.badHeader (o :: (rest ++ b)).length = false :=
        badHeader_mono hb' (by rw [List.length_cons, List.length_cons, List.length_append]; omega)
      rw [if_neg hb] at ha ⊢
      rw [if_neg (by rw [hb2]; exact Bool.false_ne_true)]
      rw [← List.cons_append, List.take_append_of_le_length hle, List.drop_append_of_le_length hle]
      rcases h1 : r.applyUnit ((o :: rest).take o.unitLen) with ⟨r', (_ | c | w)⟩
      · rw [h1] at ha
        exact ih hb' r' ha
      · rw [h1] at ha; cases ha
      · rw [h1] at ha; cases ha

/-! ### gapless logs -/

/-- the sequence numbers of `l` are `s, s+1, …` -/
def IsSeq (l : List OpDoc) (s : Nat) : Prop := l.map (·.sseq) = List.range' s l.length

theorem isSeq_of_range {l : List OpDoc} {s n : Nat} (h : l.map (·.sseq) = List.range' s n) :
    IsSeq l s ∧ l.length = n := by
  have hl : l.length = n := by simpa using congrArg List.length h
  subst hl
  exact ⟨h, rfl⟩

theorem IsSeq.cons {x : OpDoc} {xs : List OpDoc} {s : Nat} (h : IsSeq (x :: xs) s) :
    x.sseq = s ∧ IsSeq xs (s + 1) := by
  unfold IsSeq at h ⊢
  simpa [List.range'_succ] using h

theorem IsSeq.mem {l : List OpDoc} {s : Nat} {x : OpDoc} (h : IsSeq l s) (hx : x ∈ l) :
    s ≤ x.sseq ∧ x.sseq < s + l.length := by
  have : x.sseq ∈ List.range' s l.length := by rw [← h]; exact List.mem_map.2 ⟨x, hx, rfl⟩
  exact List.mem_range'_1.1 this

theorem IsSeq.drop {l : List OpDoc} {s : Nat} (h : IsSeq l s) (v : Nat) : IsSeq (l.drop v) (s + v) := by
  unfold IsSeq at *
  rw [List.map_drop, h, List.drop_range']
  simp

theorem IsSeq.take {l : List OpDoc} : ∀ {s : Nat}, IsSeq l s → ∀ k : Nat, IsSeq (l.take k) s := by
  induction l with
  | nil => intro s h k; simpa using h
  | cons x xs ih =>
    intro s h k
    cases k with
    | zero => simp [IsSeq]
    | succ k =>
      obtain ⟨hx, hxs⟩ := h.cons
      have := ih hxs k
      unfold IsSeq at this ⊢
      simp only [List.take_succ_cons, List.map_cons, List.length_cons, List.range'_succ, this, hx]

theorem IsSeq.sorted {l : List OpDoc} {s : Nat} (h : IsSeq l s) : l.Pairwise (fun a b => a.sseq ≤ b.sseq) :=
  SL.sorted_of_range h

theorem IsSeq.filter_le {l : List OpDoc} : ∀ {s : Nat}, IsSeq l s → ∀ e : Nat,
    l.filter (fun o => decide (o.sseq ≤ e)) = l.take (e + 1 - s) := by
  induction l with
  | nil => exact fun _ _ => List.take_nil.symm
  | cons x xs ih =>
    intro s h e
    obtain ⟨hx, hxs⟩ := h.cons
    rw [List.filter_cons, ih hxs e, hx]
    by_cases hk : s ≤ e
    · rw [if_pos (decide_eq_true hk), Nat.add_sub_add_right, Nat.succ_sub hk]
      rfl
    · have hlt := Nat.lt_of_not_le hk
      rw [if_neg (fun h => hk (of_decide_eq_true h)), Nat.sub_eq_zero_of_le hlt,
        Nat.sub_eq_zero_of_le (Nat.succ_le_succ (Nat.le_of_lt hlt))]
      rfl

def verOf (ops : List OpDoc) (v : Nat) : Nat := (ops.getLast?.map (·.sseq)).getD v

theorem IsSeq.verOf {l : List OpDoc} {v : Nat} (h : IsSeq l (v + 1)) : verOf l v = v + l.length := by
  unfold SN.verOf
  rw [← List.getLast?_map, h, List.getLast?_range']
  split
  · next h0 => simp [h0]
  · simp <;> omega

/-- under a gapless log, `getOperations duid (v+1)` is the stored log of the datatype without its first
    `v` operations, in store order -/
theorem getOperations_drop {st : Store} {duid : String} {n : Nat}
    (h : (st.opsOf duid).map (·.sseq) = List.range' 1 n) (v : Nat) :
    st.getOperations duid (v + 1) = (st.opsOf duid).drop v :=
  SL.getOperations_eq_drop h v

theorem logOf_eq {st : Store} (h : LogInv st) (duid : String) : st.logOf duid = (st.opsOf duid).map (·.op) :=
  h.log_eq duid

theorem take_length_take {α : Type} (k : Nat) (l : List α) : l.take (l.take k).length = l.take k := by
  rw [List.take_eq_take_iff, List.length_take]
  omega

/-! ### the latest stored snapshot -/

def pick (acc : Option SnapDoc) (s : SnapDoc) : Option SnapDoc :=
  match acc with | none => some s | some b => if b.sseq < s.sseq then some s else some b

def bestOf (l : List SnapDoc) : Option SnapDoc := l.foldl pick none

def snapsOf (st : Store) (doc : DatatypeDoc) : List SnapDoc :=
  st.snapshots.filter (fun s => s.colNum = doc.colNum ∧ s.duid = doc.duid)

theorem foldl_pick (l : List SnapDoc) : ∀ a : SnapDoc,
    ∃ b, l.foldl pick (some a) = some b ∧ (b = a ∨ b ∈ l) ∧ a.sseq ≤ b.sseq ∧ ∀ x ∈ l, x.sseq ≤ b.sseq := by
  induction l with
  | nil => exact fun a => ⟨a, rfl, Or.inl rfl, Nat.le_refl _, fun _ h => nomatch h⟩
  | cons x xs ih =>
    intro a
    obtain ⟨c, hc, hca, h1, h2⟩ :
        ∃ c, pick (some a) x = some c ∧ (c = a ∨ c = x) ∧ a.sseq ≤ c.sseq ∧ x.sseq ≤ c.sseq := by
      by_cases hlt : a.sseq < x.sseq
      · exact ⟨x, if_pos hlt, Or.inr rfl, Nat.le_of_lt hlt, Nat.le_refl _⟩
      · exact ⟨a, if_neg hlt, Or.inl rfl, Nat.le_refl _, Nat.le_of_not_lt hlt⟩
    obtain ⟨b, hb, hbc, h3, h4⟩ := ih c
    refine ⟨b, by rw [List.foldl_cons, hc, hb], ?_, Nat.le_trans h1 h3, ?_⟩
    · rcases hbc with rfl | h
      · exact hca.imp id (fun e => List.mem_cons.2 (Or.inl e))
      · exact Or.inr (List.mem_cons_of_mem _ h)
    · intro y hy
      rcases List.mem_cons.1 hy with rfl | hy
      · exact Nat.le_trans h2 h3
      · exact h4 y hy

theorem bestOf_some {l : List SnapDoc} {b : SnapDoc} (h : bestOf l = some b) :
    b ∈ l ∧ ∀ x ∈ l, x.sseq ≤ b.sseq := by
  cases l with
  | nil => cases h
  | cons x xs =>
    obtain ⟨b', hb, hm, h1, h2⟩ := foldl_pick xs x
    cases hb.symm.trans h
    refine ⟨List.mem_cons.2 hm, fun y hy => ?_⟩
    rcases List.mem_cons.1 hy with rfl | hy
    · exact h1
    · exact h2 y hy

theorem bestOf_none {l : List SnapDoc} (h : bestOf l = none) : l = [] := by
  cases l with
  | nil => rfl
  | cons x xs =>
    obtain ⟨b', hb, -⟩ := foldl_pick xs x
    cases hb.symm.trans h

/-- the replica and version the rebuild starts from -/
def baseOf (doc : DatatypeDoc) (best : Option SnapDoc) : Replica × Nat :=
  match best with
  | some s =>
    ({ Replica.new doc.typ "server" false with
        opId := { s.opId with seq := 0 }, state := s.snap, rbOpId := s.opId, rbSnap := s.snap }, s.sseq)
  | none => ({ Replica.new doc.typ "server" false with opId := ⟨0, 1, "server", 0⟩ }, 0)

def base (st : Store) (doc : DatatypeDoc) : Replica × Nat := baseOf doc (bestOf (snapsOf st doc))

/-- the operations the updater started for end of log `e` applies -/
def opsUpTo (st : Store) (duid : String) (v e : Nat) : List OpDoc :=
  (st.getOperations duid (v + 1)).filter (fun o => o.sseq ≤ e)

def withSnap (st : Store) (doc : DatatypeDoc) (duid colName : String) (ver : Nat) (r : Replica) : Store :=
  { st with snapshots := st.snapshots ++ [⟨doc.colNum, duid, ver, r.opId, doc.key, r.state⟩],
            userDocs := (st.userDocs.filter (fun u => !(u.col = colName ∧ u.key = doc.key))) ++
                        [⟨colName, doc.key, ver, r.state⟩] }

theorem upTo_eq (st : Store) (duid colName : String) (e : Nat) :
    st.updateSnapshotUpTo duid colName e =
      match st.getDatatype duid with
      | none => st
      | some doc =>
        match (base st doc).1.receive ((opsUpTo st duid (base st doc).2 e).map (·.op)) with
        | (r, .ok ()) =>
          if st.snapshots.any (fun s => s.duid = duid ∧ s.sseq = verOf (opsUpTo st duid (base st doc).2 e) (base st doc).2)
          then st else withSnap st doc duid colName (verOf (opsUpTo st duid (base st doc).2 e) (base st doc).2) r
        | _ => st := by
  rfl

theorem latest_eq (st : Store) (doc : DatatypeDoc) :
    st.latest doc =
      match (base st doc).1.receive ((st.getOperations doc.duid ((base st doc).2 + 1)).map (·.op)) with
      | (r, .ok ()) => some (r, verOf (st.getOperations doc.duid ((base st doc).2 + 1)) (base st doc).2)
      | _ => none := by
  rfl

theorem upTo_cases (st : Store) (duid colName : String) (e : Nat) :
    st.updateSnapshotUpTo duid colName e = st ∨
    ∃ doc r, st.getDatatype duid = some doc ∧
      (base st doc).1.receive ((opsUpTo st duid (base st doc).2 e).map (·.op)) = (r, .ok ()) ∧
      st.snapshots.any (fun s => s.duid = duid ∧
        s.sseq = verOf (opsUpTo st duid (base st doc).2 e) (base st doc).2) = false ∧
      st.updateSnapshotUpTo duid colName e =
        withSnap st doc duid colName (verOf (opsUpTo st duid (base st doc).2 e) (base st doc).2) r := by
  generalize hX : st.updateSnapshotUpTo duid colName e = X
  rw [upTo_eq] at hX
  cases hg : st.getDatatype duid with
  | none => rw [hg] at hX; exact Or.inl hX.symm
  | some doc =>
    rw [hg] at hX
    simp only [] at hX
    rcases hr : (base st doc).1.receive ((opsUpTo st duid (base st doc).2 e).map (·.op)) with ⟨r, (_ | c | w)⟩ <;>
      rw [hr] at hX <;> simp only [] at hX
    · by_cases ha : st.snapshots.any (fun s => s.duid = duid ∧
          s.sseq = verOf (opsUpTo st duid (base st doc).2 e) (base st doc).2) = true
      · rw [if_pos ha] at hX; exact Or.inl hX.symm
      · rw [if_neg ha] at hX
        exact Or.inr ⟨doc, r, rfl, hr, Bool.eq_false_iff.2 ha, hX.symm⟩
    · exact Or.inl hX.symm
    · exact Or.inl hX.symm

/-! ### replay from a snapshot -/

def replayOf (x : Replica × Outcome Unit) : Option DState :=
  match x with
  | (r, .ok ()) => some r.state
  | _ => none

theorem replayState_eq (typ : DtType) (ops : List Op) :
    replayState typ ops = replayOf ((Replica.new typ "server" false).receive ops) := rfl

theorem replayOf_some {x : Replica × Outcome Unit} {s : DState} :
    replayOf x = some s ↔ x.2 = .ok () ∧ x.1.state = s := by
  rcases x with ⟨r, (_ | c | w)⟩ <;> simp [replayOf]

theorem replayOf_congr {x y : Replica × Outcome Unit} (h1 : x.1.state = y.1.state) (h2 : x.2 = y.2) :
    replayOf x = replayOf y := by
  rcases x with ⟨r, ox⟩
  rcases y with ⟨r', oy⟩
  simp only at h1 h2
  subst h2
  rcases ox with _ | c | w <;> simp [replayOf, h1]

theorem replay_extend (typ : DtType) (A B : List Op) (rb : Replica) (hA : replayState typ A = some rb.state) :
    replayState typ (A ++ B) = replayOf (rb.receive B) := by
  rw [replayState_eq, replayOf_some] at hA
  obtain ⟨h1, h2⟩ := hA
  rw [replayState_eq, receive_append_ok B A _ h1]
  obtain ⟨c1, c2⟩ := receive_congr B _ rb h2
  exact replayOf_congr c1 c2

theorem base_max (st : Store) (doc : DatatypeDoc) :
    ∀ s ∈ st.snapshots, s.colNum = doc.colNum → s.duid = doc.duid → s.sseq ≤ (base st doc).2 := by
  intro x hx1 hx2 hx3
  have hx : x ∈ snapsOf st doc := by simp [snapsOf, hx1, hx2, hx3]
  unfold base
  cases hb : bestOf (snapsOf st doc) with
  | none => rw [bestOf_none hb] at hx; cases hx
  | some s => exact (bestOf_some hb).2 x hx

theorem base_spec {st : Store} {doc : DatatypeDoc} (hd : doc ∈ st.datatypes) (hs : st.SnapInv) :
    (base st doc).2 ≤ doc.sseqEnd ∧
      replayState doc.typ ((st.logOf doc.duid).take (base st doc).2) = some (base st doc).1.state := by
  unfold base
  cases hb : bestOf (snapsOf st doc) with
  | none =>
    refine ⟨Nat.zero_le _, ?_⟩
    show replayState doc.typ ((st.logOf doc.duid).take 0) = _
    rw [List.take_zero]
    rfl
  | some s =>
    have hm : s ∈ st.snapshots ∧ s.colNum = doc.colNum ∧ s.duid = doc.duid := by
      simpa [snapsOf] using (bestOf_some hb).1
    obtain ⟨h1, h2⟩ := hs s hm.1 doc hd hm.2.2.symm
    rw [hm.2.2] at h2
    exact ⟨h1, h2⟩

/-- The next `k` stored operations `ops` after the base version (the newest snapshot's, or 0) are numbered from base+1, stay
    within `sseqEnd`, and replaying the log up to there is continuing the base replica with them.  Both results about the
    rebuild rest on it: `latest_is_full_replay` with all remaining operations, `snapInv_updateSnapshotUpTo` with those up to `e`. -/
theorem replay_from_base {st : Store} {doc : DatatypeDoc} (hd : doc ∈ st.datatypes) (hi : LogInv st) (hs : st.SnapInv)
    (k : Nat) {ops : List OpDoc} (hops : ops = ((st.opsOf doc.duid).drop (base st doc).2).take k) :
    IsSeq ops ((base st doc).2 + 1) ∧ (base st doc).2 + ops.length ≤ doc.sseqEnd ∧
    replayState doc.typ ((st.logOf doc.duid).take ((base st doc).2 + ops.length)) =
      replayOf ((base st doc).1.receive (ops.map (·.op))) := by
  subst hops
  have gap := hi.gapless doc hd
  obtain ⟨hseq, hlen⟩ := isSeq_of_range gap
  obtain ⟨hv, hrep⟩ := base_spec hd hs
  rw [logOf_eq hi] at hrep ⊢
  refine ⟨?_, ?_, ?_⟩
  · have := (hseq.drop (base st doc).2).take k
    rwa [Nat.add_comm] at this
  · have h1 := List.length_take_le' k ((st.opsOf doc.duid).drop (base st doc).2)
    rw [List.length_drop] at h1
    omega
  · rw [← List.map_take] at hrep
    rw [List.take_add, ← List.map_drop, ← List.map_take, ← List.map_take, take_length_take]
    exact replay_extend _ _ _ _ hrep

theorem verOf_ge {ops : List OpDoc} {v : Nat} (h : ∀ o ∈ ops, v ≤ o.sseq) : v ≤ verOf ops v := by
  unfold verOf
  cases hl : ops.getLast? with
  | none => simp
  | some last => simpa using h last (List.mem_of_getLast? hl)

/-! ### pushes -/

open SL

/-- every stored snapshot belongs to a datatype document -/
def SnapNoOrphan (st : Store) : Prop := ∀ s ∈ st.snapshots, ∃ d ∈ st.datatypes, d.duid = s.duid

theorem processPack_store (st : Store) (cl : ClientDoc) (col : CollectionDoc) (p : Pack) (hi : LogInv st) :
    (processPack st cl col p).store.snapshots = st.snapshots ∧
    (processPack st cl col p).store.userDocs = st.userDocs ∧
    (∃ nd, (processPack st cl col p).store.operations = st.operations ++ nd) ∧
    (∀ d ∈ st.datatypes, ∃ d' ∈ (processPack st cl col p).store.datatypes, d'.duid = d.duid) ∧
    (∀ d ∈ st.datatypes, ∀ d' ∈ (processPack st cl col p).store.datatypes, d'.duid = d.duid →
      d'.typ = d.typ ∧ d.sseqEnd ≤ d'.sseqEnd) := by
  have hfr : (processPack st cl col p).store.snapshots = st.snapshots ∧
      (processPack st cl col p).store.userDocs = st.userDocs := by
    rcases processPack_shape st cl col p with ⟨resp, he, _⟩ | ⟨dsp, doc, cp2, nd, he, _, _⟩ <;> rw [he] <;> exact ⟨rfl, rfl⟩
  obtain ⟨nd, hnd, _⟩ := processPack_appends st cl col p
  have hk : ∀ d ∈ st.datatypes, ∃ d' ∈ (processPack st cl col p).store.datatypes, d'.duid = d.duid ∧ d'.typ = d.typ ∧
      d.sseqEnd ≤ d'.sseqEnd := fun d hd => by
    obtain ⟨d', h0, -, -, -, h4, -, h6⟩ := processPack_keeps st cl col p hi (getDatatype_of_mem hi hd)
    exact ⟨d', (getDatatype_some h0).1, (getDatatype_some h0).2, h4, h6⟩
  refine ⟨hfr.1, hfr.2, ⟨nd, hnd⟩, fun d hd => (hk d hd).imp fun d' h => ⟨h.1, h.2.1⟩, fun d hd d' hd' hid => ?_⟩
  obtain ⟨d0, h0, h1, h2⟩ := hk d hd
  rw [eq_of_nodup_duid (logInv_processPack st cl col p hi).duidNodup hd' h0 (hid.trans h1.symm)]
  exact h2

theorem logOf_take_append {st st' : Store} {duid : String} {nd : List OpDoc}
    (ho : st'.operations = st.operations ++ nd) {n : Nat} (hi : LogInv st) (hi' : LogInv st')
    (h : (st.opsOf duid).map (·.sseq) = List.range' 1 n) {k : Nat} (hk : k ≤ n) :
    (st'.logOf duid).take k = (st.logOf duid).take k := by
  rw [logOf_eq hi, logOf_eq hi']
  have : st'.opsOf duid = st.opsOf duid ++ nd.filter (fun o => o.duid = duid) := by
    unfold Store.opsOf; rw [ho, List.filter_append]
  rw [this, List.map_append, List.take_append_of_le_length]
  rw [List.length_map, (isSeq_of_range h).2]
  exact hk

end SN

open SL SN

/-- the state reached by `receive` does not depend on the replica's identifiers or bookkeeping, only on
    its state (the outcomes are even equal) -/
theorem receive_state_congr (r1 r2 : Replica) (ops : List Op) (h : r1.state = r2.state) :
    ((r1.receive ops).1.state = (r2.receive ops).1.state) ∧
    (((r1.receive ops).2 = .ok ()) ↔ ((r2.receive ops).2 = .ok ())) :=
  (receive_congr ops r1 r2 h).imp id fun h2 => by rw [h2]

/-- a prefix that is received completely ends at a unit boundary and can be received first:
    receiving `a ++ b` is receiving `a` and then `b` -/
theorem receive_append (r : Replica) (a b : List Op) (ha : (r.receive a).2 = .ok ()) :
    ((r.receive (a ++ b)).1.state = ((r.receive a).1.receive b).1.state) ∧
    ((r.receive (a ++ b)).2 = .ok () ↔ ((r.receive a).1.receive b).2 = .ok ()) :=
  receive_append_ok b a r ha ▸ ⟨rfl, Iff.rfl⟩

set_option linter.unusedVariables false in
/-- C11: rebuilding from the latest stored snapshot plus the later operations gives the same state as
    rebuilding from the whole log (and the version reached is the end of the log) -/
theorem latest_is_full_replay (st : Store) (doc : DatatypeDoc) (hd : doc ∈ st.datatypes)
    (hi : LogInv st) (hs : st.SnapInv) (hdu : (st.datatypes.map (·.duid)).Nodup)
    (hfull : (replayState doc.typ (st.logOf doc.duid)).isSome = true) :
    ∃ r ver, st.latest doc = some (r, ver) ∧ some r.state = replayState doc.typ (st.logOf doc.duid) ∧
      (ver = doc.sseqEnd ∨ (st.logOf doc.duid = [] ∧ ver = 0)) := by
  have gap := hi.gapless doc hd
  obtain ⟨hseq, hlen⟩ := isSeq_of_range gap
  obtain ⟨hv, _⟩ := base_spec hd hs
  obtain ⟨r1, r2, r3⟩ := replay_from_base hd hi hs _ (List.take_length (l := (st.opsOf doc.duid).drop (base st doc).2)).symm
  have hvl : (base st doc).2 ≤ (st.opsOf doc.duid).length := by rw [hlen]; exact hv
  have hall : (st.logOf doc.duid).take ((base st doc).2 + ((st.opsOf doc.duid).drop (base st doc).2).length)
      = st.logOf doc.duid := by
    apply List.take_of_length_le
    rw [logOf_eq hi, List.length_map, List.length_drop, Nat.add_sub_of_le hvl]
    exact Nat.le_refl _
  rw [hall] at r3
  rw [latest_eq, hi.getOperations]
  rw [r3] at hfull
  rcases hr : (base st doc).1.receive (((st.opsOf doc.duid).drop (base st doc).2).map (·.op)) with ⟨r, (_ | c | w)⟩ <;>
    rw [hr] at hfull r3
  · refine ⟨r, _, by rw [hr], r3.symm, Or.inl ?_⟩
    rw [r1.verOf, List.length_drop, Nat.add_sub_of_le hvl]
    exact hlen
  · cases hfull
  · cases hfull

/-- C11: the updater — whenever it runs, for whatever end of log `e` it was started — keeps
    "every stored snapshot at version v is the replay of operations 1..v" … -/
theorem snapInv_updateSnapshotUpTo (st : Store) (duid colName : String) (e : Nat)
    (hi : LogInv st) (hs : st.SnapInv) :
    (st.updateSnapshotUpTo duid colName e).SnapInv := by
  rcases upTo_cases st duid colName e with h | ⟨doc, r, hg, hr, _, h⟩
  · rw [h]; exact hs
  · rw [h]
    obtain ⟨hd, hdu⟩ := getDatatype_some hg
    subst hdu
    have gap := hi.gapless doc hd
    obtain ⟨hseq, hlen⟩ := isSeq_of_range gap
    have hops : opsUpTo st doc.duid (base st doc).2 e =
        ((st.opsOf doc.duid).drop (base st doc).2).take (e + 1 - (1 + (base st doc).2)) := by
      unfold opsUpTo
      rw [hi.getOperations, (hseq.drop _).filter_le e]
    obtain ⟨r1, r2, r3⟩ := replay_from_base hd hi hs _ hops
    rw [hr] at r3
    intro s hsm d hdm hds
    rcases List.mem_append.1 hsm with hsm | hsm
    · exact hs s hsm d hdm hds
    · simp only [List.mem_singleton] at hsm
      subst hsm
      have : d = doc := eq_of_nodup_duid hi.duidNodup hdm hd hds
      subst this
      show verOf _ _ ≤ d.sseqEnd ∧ replayState d.typ ((st.logOf d.duid).take (verOf _ _)) = some r.state
      rw [r1.verOf]
      exact ⟨r2, r3⟩

set_option linter.unusedVariables false in
/-- … and "the user document is the state of a stored snapshot with its version recorded" -/
theorem userInv_updateSnapshotUpTo (st : Store) (duid colName : String) (e : Nat)
    (hs : st.SnapInv) (hu : st.UserInv) : (st.updateSnapshotUpTo duid colName e).UserInv := by
  rcases upTo_cases st duid colName e with h | ⟨doc, r, hg, hr, _, h⟩
  · rw [h]; exact hu
  · rw [h]
    intro u hum
    rcases List.mem_append.1 hum with hum | hum
    · obtain ⟨s, hsm, h1⟩ := hu u (List.mem_filter.1 hum).1
      exact ⟨s, List.mem_append_left _ hsm, h1⟩
    · simp only [List.mem_singleton] at hum
      subst hum
      exact ⟨_, List.mem_append_right _ (List.mem_singleton.2 rfl), rfl, rfl, rfl⟩

theorem snapNoOrphan_updateSnapshotUpTo (st : Store) (duid colName : String) (e : Nat)
    (hn : SnapNoOrphan st) : SnapNoOrphan (st.updateSnapshotUpTo duid colName e) := by
  rcases upTo_cases st duid colName e with h | ⟨doc, r, hg, hr, _, h⟩
  · rw [h]; exact hn
  · rw [h]
    intro s hsm
    rcases List.mem_append.1 hsm with hsm | hsm
    · exact hn s hsm
    · simp only [List.mem_singleton] at hsm
      subst hsm
      exact ⟨doc, (getDatatype_some hg).1, (getDatatype_some hg).2⟩

theorem snapNoOrphan_processPack (st : Store) (cl : ClientDoc) (col : CollectionDoc) (p : Pack)
    (hi : LogInv st) (hn : SnapNoOrphan st) : SnapNoOrphan (processPack st cl col p).store := by
  obtain ⟨h1, _, _, h4, _⟩ := processPack_store st cl col p hi
  intro s hsm
  rw [h1] at hsm
  obtain ⟨d, hd, hds⟩ := hn s hsm
  obtain ⟨d', hd', hdd⟩ := h4 d hd
  exact ⟨d', hd', hdd.trans hds⟩

theorem snapNoOrphan_empty : SnapNoOrphan {} := by
  intro s hs; cases hs

/-- pushes only append to the log, so they keep the snapshot invariant (prefixes 1..v are unchanged).
    The extra hypothesis `SnapNoOrphan` (every stored snapshot belongs to a datatype document) is needed:
    `SnapInv` says nothing about a snapshot whose datatype document does not exist, and a push can
    create that document. -/
theorem snapInv_processPack_partial (st : Store) (cl : ClientDoc) (col : CollectionDoc) (p : Pack)
    (hi : LogInv st) (hs : st.SnapInv) (hn : SnapNoOrphan st) : (processPack st cl col p).store.SnapInv := by
  have hi' := logInv_processPack st cl col p hi
  obtain ⟨h1, _, ⟨nd, h3⟩, _, h5⟩ := processPack_store st cl col p hi
  intro s hsm d' hd' hds
  rw [h1] at hsm
  obtain ⟨d, hd, hdd⟩ := hn s hsm
  obtain ⟨ht, hle⟩ := h5 d hd d' hd' (hds.trans hdd.symm)
  obtain ⟨hs1, hs2⟩ := hs s hsm d hd hdd
  have g := hi.gapless d hd
  rw [hdd] at g
  rw [ht, logOf_take_append h3 hi hi' g hs1]
  exact ⟨Nat.le_trans hs1 hle, hs2⟩

theorem userInv_processPack (st : Store) (cl : ClientDoc) (col : CollectionDoc) (p : Pack)
    (hu : st.UserInv) : (processPack st cl col p).store.UserInv := by
  have h : (processPack st cl col p).store.snapshots = st.snapshots ∧
      (processPack st cl col p).store.userDocs = st.userDocs := by
    rcases processPack_shape st cl col p with ⟨resp, he, _⟩ | ⟨dsp, doc, cp2, nd, he, _, _⟩ <;> rw [he] <;> exact ⟨rfl, rfl⟩
  intro u hum
  rw [h.2] at hum
  rw [h.1]
  exact hu u hum

/-- C11: the recorded version of the user document never decreases: the updater writes a user document only
    together with a NEW snapshot whose version is greater than every stored snapshot version of that datatype -/
theorem version_monotone (st : Store) (duid colName : String) (e : Nat) (doc : DatatypeDoc)
    (hd : st.getDatatype duid = some doc) :
    let st' := st.updateSnapshotUpTo duid colName e
    st'.userDocs = st.userDocs ∨
    (∃ u ∈ st'.userDocs, u.key = doc.key ∧ u.col = colName ∧
       ∀ s ∈ st.snapshots, s.colNum = doc.colNum → s.duid = duid → s.sseq < u.ver) := by
  intro st'
  rcases upTo_cases st duid colName e with h | ⟨doc', r, hg, hr, hany, h⟩
  · left; show (st.updateSnapshotUpTo duid colName e).userDocs = _; rw [h]
  · right
    rw [hd] at hg
    cases hg
    have hdu := (getDatatype_some hd).2
    refine ⟨⟨colName, doc.key, verOf (opsUpTo st duid (base st doc).2 e) (base st doc).2, r.state⟩, ?_, rfl, rfl, ?_⟩
    · show _ ∈ (st.updateSnapshotUpTo duid colName e).userDocs
      rw [h]
      exact List.mem_append_right _ (List.mem_singleton.2 rfl)
    · intro s hsm hc hsd
      have hmax := base_max st doc s hsm hc (hsd.trans hdu.symm)
      have hge : (base st doc).2 ≤ verOf (opsUpTo st duid (base st doc).2 e) (base st doc).2 := by
        apply verOf_ge
        intro o ho
        exact Nat.le_of_succ_le (mem_getOperations.1 (List.mem_filter.1 ho).1).2
      have hne := List.any_eq_false.1 hany s hsm
      simp only [decide_eq_true_eq, not_and] at hne
      exact Nat.lt_of_le_of_ne (Nat.le_trans hmax hge) (hne hsd)

/-- the atomic updater of Model/Server (run right after its push) is the bounded one started for the current end of log -/
theorem updateSnapshot_eq_upTo (st : Store) (duid colName : String) (doc : DatatypeDoc)
    (hd : st.getDatatype duid = some doc) (hi : LogInv st) :
    st.updateSnapshot duid colName = st.updateSnapshotUpTo duid colName doc.sseqEnd := by
  obtain ⟨hm, hdu⟩ := getDatatype_some hd
  subst hdu
  have gap := hi.gapless doc hm
  obtain ⟨hseq, hlen⟩ := isSeq_of_range gap
  have hf : opsUpTo st doc.duid (base st doc).2 doc.sseqEnd = st.getOperations doc.duid ((base st doc).2 + 1) := by
    unfold opsUpTo
    apply List.filter_eq_self.2
    intro o ho
    have := (hseq.mem (mem_getOperations.1 ho).1).2
    rw [hlen, Nat.add_comm] at this
    exact decide_eq_true (Nat.le_of_lt_succ this)
  rw [upTo_eq, hd]
  unfold Store.updateSnapshot
  rw [hd]
  simp only []
  rw [latest_eq, hf]
  generalize (base st doc).1.receive ((st.getOperations doc.duid ((base st doc).2 + 1)).map (·.op)) = x
  rcases x with ⟨r, (_ | c | w)⟩ <;> rfl

/-! ### `snapInv_processPack_partial` without its hypothesis `SnapNoOrphan` is false -/

namespace SN
def cexStore : Store := { snapshots := [⟨0, "d", 5, OpId.nil, "k", .counter 42⟩] }
def cexCl : ClientDoc := ⟨"c1", "a", 0, 0, 0⟩
def cexCol : CollectionDoc := ⟨"col", 0⟩
def cexPack : Pack := { key := "k", duid := "d", create := true, cp := ⟨0, 0⟩, typ := .counter, ops := [] }
end SN

/-- `LogInv` and `SnapInv` alone do not make a push keep `SnapInv`: a
    store holding a snapshot (version 5) of a datatype id that has no datatype document satisfies both
    vacuously; a push that creates a datatype with that id (end of log 0) breaks `SnapInv` -/
theorem snapInv_processPack_counterexample :
    ∃ (st : Store) (cl : ClientDoc) (col : CollectionDoc) (p : Pack),
      LogInv st ∧ st.SnapInv ∧ ¬ (processPack st cl col p).store.SnapInv := by
  have hi : LogInv cexStore := logInv_congr (st := {}) rfl rfl logInv_empty
  refine ⟨cexStore, cexCl, cexCol, cexPack, hi, ?_, ?_⟩
  · intro s _ d hd; cases hd
  · intro h
    have hany : (processPack cexStore cexCl cexCol cexPack).store.datatypes.any
        (fun d => d.duid = "d" ∧ d.sseqEnd = 0) = true := by decide
    obtain ⟨d, hd, hp⟩ := List.any_eq_true.1 hany
    simp only [decide_eq_true_eq] at hp
    have hsn := (processPack_store cexStore cexCl cexCol cexPack hi).1
    have := (h ⟨0, "d", 5, OpId.nil, "k", .counter 42⟩ (by rw [hsn]; exact List.mem_singleton.2 rfl) d hd hp.1).1
    rw [hp.2] at this
    exact absurd this (by decide)

theorem snapInv_empty : ({} : Store).SnapInv := by
  intro s hs; cases hs

theorem userInv_empty : ({} : Store).UserInv := by
  intro u hu; cases hu

end Orda

