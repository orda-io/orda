/-
C19 (document half): `Replica.patchByJSON` brings a single-replica document to exactly the target JSON.

The values the script of `jsonDiff` carries are sub-values of the target (`carried`, beside `jdiff` in PatchDiff). A string path that the plain tree can
walk is walked by `Doc.resolve` to the node `Doc.locate` finds (`resolve_getAt`); the call `patchCall` builds for an
operation is the one the plain tree answers as `applyAt` says (`callOf`, `step_of_apply`, `patchCall_eq`), and
`DP.call_full` says what `prepare` and `execLocal` do with it (`exec_step`, `op_step`). `body_tx` is the induction over the script: the
body of a patch is the body of a transaction over those calls; `patch_run` reads off the three ways `Replica.patch` runs a script: no
operation, one public call, one transaction.

ONE patch operation is ONE public call, which queues ONE operation: `Doc.patchCall` and `callOf` return a single `Call`, `op_step` finds
it, and `body_tx` counts one recorded operation per patch operation.
In `DP.DInv L b d` the number `b` bounds the delimiters that an operation in progress has handed out under the next clock value
(`b = 0` between operations); a call leaves `∃ b', DInv L b' d'`, and `DInv.finish` closes it: `DInv L.next 0 d'`.
-/
import Orda.Proofs.DocPlain
import Orda.Proofs.PatchDiff
import Std.Data.String.ToInt
namespace Orda.DPatch
open Orda DC

/-! ## values -/

mutual
theorem hasNull_canon : ∀ v : JVal, v.hasNull = false → v.canon.hasNull = false
  | .null, h => by simp [JVal.hasNull] at h
  | .bool _, _ => by simp [JVal.canon, JVal.hasNull]
  | .num _, _ => by simp [JVal.canon, JVal.hasNull]
  | .str _, _ => by simp [JVal.canon, JVal.hasNull]
  | .arr l, h => by
    simp only [JVal.hasNull] at h
    simp only [JVal.canon, JVal.hasNull]
    exact hasNull_canonList l h
  | .obj kvs, h => by
    simp only [JVal.hasNull] at h
    simp only [JVal.canon, JVal.hasNull]
    exact hasNull_canonKvs kvs h
theorem hasNull_canonList : ∀ l : List JVal, JVal.hasNullList l = false → JVal.hasNullList (JVal.canonList l) = false
  | [], _ => by simp [JVal.canonList, JVal.hasNullList]
  | v :: vs, h => by
    simp only [JVal.hasNullList, Bool.or_eq_false_iff] at h
    simp only [JVal.canonList, JVal.hasNullList, Bool.or_eq_false_iff]
    exact ⟨hasNull_canon v h.1, hasNull_canonList vs h.2⟩
theorem hasNull_canonKvs : ∀ kvs : List (String × JVal), JVal.hasNullKvs kvs = false →
    JVal.hasNullKvs (JVal.canonKvs kvs) = false
  | [], _ => by simp [JVal.canonKvs, JVal.hasNullKvs]
  | (k, v) :: r, h => by
    simp only [JVal.hasNullKvs, Bool.or_eq_false_iff] at h
    simp only [JVal.canonKvs]
    have ih := hasNull_canonKvs r h.2
    rw [hasNullKvs_iff] at ih ⊢
    intro x hx
    rcases PD.mem_objPut hx with hx | hx
    · rw [hx]; exact hasNull_canon v h.1
    · exact ih x hx
end

mutual
theorem jkeys_of_canonical : ∀ v : JVal, v.Canonical → JKeysND v
  | .null, _ => by simp [JKeysND]
  | .bool _, _ => by simp [JKeysND]
  | .num _, _ => by simp [JKeysND]
  | .str _, _ => by simp [JKeysND]
  | .arr l, h => by
    simp only [JVal.Canonical] at h
    simp only [JKeysND]
    exact jkeysList_of_canonical l h
  | .obj kvs, h => by
    simp only [JVal.Canonical] at h
    simp only [JKeysND]
    exact ⟨h.2.imp ne_of_lt, jkeysKvs_of_canonical kvs h.1⟩
theorem jkeysList_of_canonical : ∀ l : List JVal, JVal.CanonicalList l → JKeysNDList l
  | [], _ => by simp [JKeysNDList]
  | v :: vs, h => by
    simp only [JVal.CanonicalList] at h
    simp only [JKeysNDList]
    exact ⟨jkeys_of_canonical v h.1, jkeysList_of_canonical vs h.2⟩
theorem jkeysKvs_of_canonical : ∀ kvs : List (String × JVal), JVal.CanonicalKvs kvs → JKeysNDKvs kvs
  | [], _ => by simp [JKeysNDKvs]
  | (k, v) :: r, h => by
    simp only [JVal.CanonicalKvs] at h
    simp only [JKeysNDKvs]
    exact ⟨jkeys_of_canonical v h.1, jkeysKvs_of_canonical r h.2⟩
end

/-- the values a patch operation may carry here: no null, canonical -/
def GoodV (v : JVal) : Prop := v.hasNull = false ∧ v.Canonical

theorem goodV_subClosed : SubClosed GoodV := by
  constructor
  · intro l h v hv
    obtain ⟨h1, h2⟩ := h
    simp only [JVal.hasNull] at h1
    simp only [JVal.Canonical] at h2
    exact ⟨(PD.hasNullList_iff l).mp h1 v hv, (PD.canonicalList_iff l).mp h2 v hv⟩
  · intro kvs h x hx
    obtain ⟨h1, h2⟩ := h
    simp only [JVal.hasNull] at h1
    simp only [JVal.Canonical] at h2
    exact ⟨(hasNullKvs_iff kvs).mp h1 x hx, (PD.canonicalKvs_iff kvs).mp h2.1 x hx⟩

/-! ## paths -/

theorem replace_arr {new : JVal} {r : List PlainDoc.Seg} {l : List JVal} {i : Nat} {c : JVal} (hc : l[i]? = some c) :
    (PlainDoc.replace new r c).map (fun c' => JVal.arr (l.take i ++ [c'] ++ l.drop (i + 1))) =
      (PlainDoc.replace new r c).map (fun c' => JVal.arr (l.set i c')) := by
  have hl := PD.getElem?_lt hc
  cases PlainDoc.replace new r c with
  | none => rfl
  | some c' => simp only [Option.map_some, PD.upd_eq_set l i c' hl]

theorem resolve_getAt {L : OpId} {b : Nat} {d : Doc} (I : DP.DInv L b d) (hk : KeysND d) :
    ∀ (p : List String) (cur : Ts) (s : JVal), DP.Alive d cur → PD.getAt p (d.viewAt cur).canon = some s →
    ∃ π hd, d.locate π cur = some hd ∧ d.resolve p cur = .ok hd ∧ (d.viewAt hd).canon = s ∧
      ∀ new, PD.setAt new p (d.viewAt cur).canon = PlainDoc.replace new π (d.viewAt cur).canon := by
  have hg := I.dg hk
  intro p
  induction p with
  | nil =>
    intro cur s _ h
    simp only [PD.getAt, Option.some.injEq] at h
    exact ⟨[], cur, rfl, rfl, h, fun new => rfl⟩
  | cons k rest ih =>
    intro cur s ha h
    obtain ⟨n, hn⟩ := Option.isSome_iff_exists.mp ha.2
    cases hkind : n.kind with
    | elem v =>
      obtain ⟨e1, e2, e3⟩ := DP.shape_elem I hn hkind
      rw [e1] at h
      cases v <;> first | (simp [PD.getAt] at h; done) | (exfalso; exact e2 _ rfl) | (exfalso; exact e3 _ rfl)
    | obj m sz =>
      have hv := DP.shape_obj hg hn hkind
      rw [hv] at h ⊢
      simp only [PD.getAt] at h
      split at h
      · rename_i c hc
        have hc0 := hc
        rw [DP.view_key (hk cur n m sz hn hkind)] at hc
        cases hm : alFind k m with
        | none => simp [hm] at hc
        | some ch =>
          rw [hm] at hc
          simp only [Option.bind_some] at hc
          by_cases ht : d.isTomb ch = true
          · simp [ht] at hc
          · have ht' : d.isTomb ch = false := by simpa using ht
            simp only [ht', Bool.false_eq_true, if_false, Option.some.injEq] at hc
            obtain ⟨hal, hgb⟩ := DP.alive_kid I ha hn (by rw [hkind]; exact alFind_mem_vals hm) ht'
            rw [← hc] at h hc0
            obtain ⟨π, hd, q1, q2, q3, q4⟩ := ih ch s hal h
            refine ⟨.key k :: π, hd, ?_, ?_, q3, ?_⟩
            · exact ((DP.LiveKid.key hn hkind hm ht').locate π).trans q1
            · simp only [Doc.resolve, hn, hkind, hm, hgb, Bool.false_eq_true, if_false]
              exact q2
            · intro new
              simp only [PD.setAt, PlainDoc.replace, hc0, q4 new]
      · cases h
    | arr sl sz =>
      have hv := DP.shape_arr hg hn hkind
      rw [hv] at h ⊢
      simp only [PD.getAt] at h
      split at h
      · rename_i i hi
        split at h
        · rename_i c hc
          rw [DP.arrView_eq] at hc
          simp only [List.getElem?_map, Option.map_map] at hc
          cases hx : (sl.filter (slotLive d))[i]? with
          | none => simp [hx] at hc
          | some x =>
            have hch : ((sl.filter (slotLive d)).map (·.2))[i]? = some x.2 := by simp [hx]
            have hc2 : c = (d.viewAt x.2).canon := by
              rw [hx] at hc
              simpa using hc.symm
            generalize x.2 = ch at hch hc2
            obtain ⟨hmem, ht'⟩ := DP.mem_of_getElem?_filter hch
            obtain ⟨hal, hgb⟩ := DP.alive_kid I ha hn (by rw [hkind]; exact hmem) ht'
            rw [hc2] at h
            obtain ⟨π, hd, q1, q2, q3, q4⟩ := ih ch s hal h
            have hlc := DP.liveChildren_eq hn hkind
            refine ⟨.idx i :: π, hd, ?_, ?_, q3, ?_⟩
            · exact ((DP.LiveKid.idx hn hkind hch).locate π).trans q1
            · have hint := String.toInt?_eq_some_of_toNat?_eq_some hi
              simp only [Doc.resolve, hn, hkind, hint, hlc]
              have : ¬ ((i : Int) < 0) := by omega
              simp only [this, if_false, Int.toNat_natCast, hch, hgb, Bool.false_eq_true]
              exact q2
            · intro new
              have hc' : ((DP.arrView d sl).map JVal.canon)[i]? = some (d.viewAt ch).canon := by
                rw [DP.arrView_eq]
                simp only [List.getElem?_map] at hch ⊢
                simp [hch]
              simp only [PD.setAt, PlainDoc.replace, hi, hc', q4 new]
              exact replace_arr hc'
        · cases h
      · cases h

theorem resolve_root {L : OpId} {b : Nat} {d : Doc} (I : DP.DInv L b d) (hk : KeysND d) (p : List String) (s : JVal)
    (h : PD.getAt p d.view.canon = some s) :
    ∃ π hd, d.locate π Ts.oldest = some hd ∧ d.resolve p Ts.oldest = .ok hd ∧ (d.viewAt hd).canon = s ∧
      ∀ new, PD.setAt new p d.view.canon = PlainDoc.replace new π d.view.canon :=
  resolve_getAt I hk p Ts.oldest s (DP.root_live I) h

/-! ## one operation, on the plain tree -/

/-- the call that `patchCall` builds for an operation whose last segment is `k`, decided on the plain subtree `c0`
    the parent path leads to -/
def callOf (hd : Ts) (k : String) (op : PatchOp) : JVal → Option Call
  | .obj _ =>
    match op with
    | .add _ v => some (.dput hd k v)
    | .replace _ v => some (.dput hd k v)
    | .remove _ => some (.dremove hd k)
  | .arr l =>
    match op with
    | .add _ v => if k = "-" then some (.dinsert hd l.length [v]) else k.toInt?.map (fun i => Call.dinsert hd i [v])
    | .replace _ v => k.toInt?.map (fun i => Call.dupdate hd i [v])
    | .remove _ => k.toInt?.map (fun i => Call.ddelete hd i)
  | _ => none

theorem put_of_replace {t t' s' : JVal} {π : List PlainDoc.Seg} (h : PlainDoc.replace s' π t = some t') :
    PlainDoc.put t π s' = t' := by
  simp [PlainDoc.put, h]

theorem goodV_keys {v : JVal} (h : GoodV v) : DP.CallKeysND (.dput Ts.oldest "" v) ∧ JKeysNDList [v] := by
  have := jkeys_of_canonical v h.2
  exact ⟨this, by simp [JKeysNDList, this]⟩

theorem step_of_apply {t t' c0 c' : JVal} {π : List PlainDoc.Seg} (hd : Ts) {k : String} {op : PatchOp}
    (hsub : PlainDoc.sub π t = some c0) (happ : applyAt op [k] c0 = some c')
    (hrep : PlainDoc.replace c' π t = some t') (hgood : Carr GoodV op) :
    ∃ c, callOf hd k op c0 = some c ∧ (∃ ret, PlainDoc.step t π c = (t', .ok ret)) ∧ PlainDoc.handleOf c = some hd ∧
      DP.CallKeysND c ∧ DP.isMutating c = true := by
  cases c0 with
  | null => simp [applyAt] at happ
  | bool _ => simp [applyAt] at happ
  | num _ => simp [applyAt] at happ
  | str _ => simp [applyAt] at happ
  | obj kvs =>
    cases op with
    | add p v | replace p v =>
      obtain ⟨hn, hc⟩ := hgood
      simp only [applyAt, Option.some.injEq] at happ
      subst happ
      refine ⟨.dput hd k v, rfl, ⟨.val (alFind k kvs), ?_⟩, rfl, jkeys_of_canonical v hc, rfl⟩
      simp only [PlainDoc.step, hsub, hn, Bool.false_eq_true, if_false, canon_of_canonical v hc, put_of_replace hrep]
    | remove p =>
      simp only [applyAt] at happ
      cases hf : alFind k kvs with
      | none => simp [hf] at happ
      | some old =>
        simp only [hf, Option.isSome_some, if_true, Option.some.injEq] at happ
        subst happ
        refine ⟨.dremove hd k, rfl, ⟨.val (some old), ?_⟩, rfl, trivial, rfl⟩
        simp only [PlainDoc.step, hsub, hf, put_of_replace hrep]
  | arr l =>
    cases op with
    | add p v =>
      obtain ⟨hn, hc⟩ := hgood
      have hk1 : JKeysNDList [v] := by simp [JKeysNDList, jkeys_of_canonical v hc]
      have hany : [v].any JVal.hasNull = false := by simp [hn]
      simp only [applyAt] at happ
      by_cases hk : k = "-"
      · simp only [hk, if_true, Option.some.injEq] at happ
        subst happ
        refine ⟨.dinsert hd l.length [v], by simp [callOf, hk], ⟨.none, ?_⟩, rfl, hk1, rfl⟩
        have h1 : ¬ ((l.length : Int) < 0) := by omega
        simp only [PlainDoc.step, hsub, h1, gt_iff_lt, lt_self_iff_false, decide_false, Bool.or_self,
          Bool.false_eq_true, if_false, hany, Int.toNat_natCast, List.take_length, List.drop_length,
          List.append_nil, List.map_cons, List.map_nil, canon_of_canonical v hc, put_of_replace hrep]
      · simp only [hk, if_false] at happ
        cases hi : k.toNat? with
        | none => simp [hi] at happ
        | some i =>
          simp only [hi] at happ
          split_ifs at happ with hle
          simp only [Option.some.injEq] at happ
          subst happ
          have hint := String.toInt?_eq_some_of_toNat?_eq_some hi
          refine ⟨.dinsert hd i [v], by simp [callOf, hk, hint], ⟨.none, ?_⟩, rfl, hk1, rfl⟩
          have h1 : ¬ ((i : Int) < 0) := by omega
          have h2 : ¬ ((i : Int) > l.length) := by omega
          simp only [PlainDoc.step, hsub, h1, h2, decide_false, Bool.or_self,
            Bool.false_eq_true, if_false, hany, Int.toNat_natCast,
            List.map_cons, List.map_nil, canon_of_canonical v hc, put_of_replace hrep]
    | replace p v =>
      obtain ⟨hn, hc⟩ := hgood
      have hk1 : JKeysNDList [v] := by simp [JKeysNDList, jkeys_of_canonical v hc]
      have hany : [v].any JVal.hasNull = false := by simp [hn]
      simp only [applyAt] at happ
      cases hi : k.toNat? with
      | none => simp [hi] at happ
      | some i =>
        simp only [hi] at happ
        split_ifs at happ with hlt
        simp only [Option.some.injEq] at happ
        subst happ
        have hint := String.toInt?_eq_some_of_toNat?_eq_some hi
        refine ⟨.dupdate hd i [v], by simp [callOf, hint], ⟨.vals ((l.drop i).take 1), ?_⟩, rfl, hk1, rfl⟩
        have hr : PlainDoc.inRange i (1 : Nat) l.length = true := by
          simp [PlainDoc.inRange]; omega
        simp only [PlainDoc.step, hsub, List.length_singleton, hr, Bool.not_true, Bool.false_eq_true, if_false, hany, Int.toNat_natCast,
          List.map_cons, List.map_nil, canon_of_canonical v hc, List.length_singleton, put_of_replace hrep]
    | remove p =>
      simp only [applyAt] at happ
      cases hi : k.toNat? with
      | none => simp [hi] at happ
      | some i =>
        simp only [hi] at happ
        split_ifs at happ with hlt
        simp only [Option.some.injEq] at happ
        subst happ
        have hint := String.toInt?_eq_some_of_toNat?_eq_some hi
        refine ⟨.ddelete hd i, by simp [callOf, hint], ⟨.val (l.drop i).head?, ?_⟩, rfl, trivial, rfl⟩
        have hr : PlainDoc.inRange i 1 l.length = true := by
          simp [PlainDoc.inRange]; omega
        simp only [PlainDoc.step, hsub, hr, Bool.not_true, Bool.false_eq_true, if_false, Int.toNat_natCast,
          put_of_replace hrep]

theorem isNull_of_hasNull {v : JVal} (h : v.hasNull = false) : v.isNull = false := by
  cases v <;> simp_all [JVal.hasNull, JVal.isNull]

theorem patchCall_eq {L : OpId} {b : Nat} {d : Doc} (I : DP.DInv L b d) (hk : KeysND d) {op : PatchOp}
    {p : List String} {k : String} {hd : Ts} {c0 : JVal} {c : Call} (hpath : op.path = p ++ [k])
    (hres : d.resolve p Ts.oldest = .ok hd) (hal : DP.Alive d hd) (hview : (d.viewAt hd).canon = c0)
    (hcall : callOf hd k op c0 = some c) (hgood : Carr GoodV op) : d.patchCall op = .ok (some c) := by
  have hg := I.dg hk
  obtain ⟨n, hn⟩ := Option.isSome_iff_exists.mp hal.2
  unfold Doc.patchCall
  rw [hpath]
  simp only [List.reverse_append, List.reverse_singleton, List.singleton_append, List.reverse_reverse, hres]
  cases hkind : n.kind with
  | elem v =>
    obtain ⟨e1, e2, e3⟩ := DP.shape_elem I hn hkind
    rw [e1] at hview
    subst hview
    cases v <;> first | (simp [callOf] at hcall; done) | (exfalso; exact e2 _ rfl) | (exfalso; exact e3 _ rfl)
  | obj m sz =>
    rw [DP.shape_obj hg hn hkind] at hview
    subst hview
    have hko := DP.kindOf_obj.mpr ⟨_, _, _, hn, hkind⟩
    cases op with
    | add q v | replace q v =>
      simp only [callOf, Option.some.injEq] at hcall
      subst hcall
      simp [hko, isNull_of_hasNull hgood.1]
    | remove q =>
      simp only [callOf, Option.some.injEq] at hcall
      subst hcall
      simp [hko]
  | arr sl sz =>
    rw [DP.shape_arr hg hn hkind] at hview
    subst hview
    have hka := DP.kindOf_arr.mpr ⟨_, _, _, hn, hkind⟩
    have hsize : (d.arrRga hd).size = ((DP.arrView d sl).map JVal.canon).length := by
      rw [DP.arrRga_eq hn hkind, List.length_map, DP.arrView_length]
      exact DP.arr_size I hn hkind
    cases op with
    | add q v =>
      simp only [callOf] at hcall
      simp only [hka, isNull_of_hasNull hgood.1, Bool.false_eq_true, if_false, reduceCtorEq, if_true]
      by_cases hkd : k = "-"
      · simp only [hkd, if_true, Option.some.injEq] at hcall ⊢
        rw [← hcall, hsize]
      · simp only [hkd, if_false] at hcall ⊢
        cases hi : k.toInt? with
        | none => simp [hi] at hcall
        | some i =>
          simp only [hi, Option.map_some, Option.some.injEq] at hcall
          rw [← hcall]
    | replace q v =>
      simp only [callOf] at hcall
      simp only [hka, isNull_of_hasNull hgood.1, Bool.false_eq_true, if_false, reduceCtorEq, if_true]
      cases hi : k.toInt? with
      | none => simp [hi] at hcall
      | some i =>
        simp only [hi, Option.map_some, Option.some.injEq] at hcall
        rw [← hcall]
    | remove q =>
      simp only [callOf] at hcall
      simp only [hka, reduceCtorEq, if_false, if_true]
      cases hi : k.toInt? with
      | none => simp [hi] at hcall
      | some i =>
        simp only [hi, Option.map_some, Option.some.injEq] at hcall
        rw [← hcall]

/-! ## one operation, on the replica -/

theorem exec_step {L : OpId} {d : Doc} (I : DP.DInv L 0 d) (hk : KeysND d) {π : List PlainDoc.Seg} {hd : Ts} {c : Call}
    {t' : JVal} {ret : Ret} (hloc : d.locate π Ts.oldest = some hd) (hh : PlainDoc.handleOf c = some hd)
    (hck : DP.CallKeysND c) (hm : DP.isMutating c = true) (hstep : PlainDoc.step d.view.canon π c = (t', .ok ret)) :
    ∃ body post d' bd ret' b', c.prepare (.doc d) = .op body post ∧
      execLocal (.doc d) L.next.ts body = .ok (.doc d', bd, ret') ∧ d'.view.canon = t' ∧ DP.DInv L b' d' ∧ KeysND d' := by
  obtain ⟨d', o, ⟨hres, -, ⟨b', I'⟩, hk'⟩, href⟩ := DP.call_full I c
  obtain ⟨hview, hout⟩ := href π hd hk hck hloc hh
  rw [hstep] at hview hout
  -- the plain tree answered `ok`: a mutating call was not refused, so it was executed
  cases hres with
  | done hp hq =>
    obtain ⟨e, rfl⟩ := hq hm
    cases hout
  | err hp he => cases hout
  | ok _ hp he => exact ⟨_, _, d', _, _, b', hp, he, hview, I', hk' hk hck⟩

theorem callOf_nonempty {hd : Ts} {k : String} {op : PatchOp} {c0 : JVal} {c : Call}
    (h : callOf hd k op c0 = some c) : ∀ h' pos, c ≠ .dinsert h' pos [] := by
  intro h' pos e
  subst e
  cases c0 <;> cases op <;> simp [callOf] at h
  all_goals (try split at h) <;> simp at h

theorem op_step {L : OpId} {d : Doc} (I : DP.DInv L 0 d) (hk : KeysND d) {op : PatchOp} {t' : JVal}
    (happ : applyAt op op.path d.view.canon = some t') (hgood : Carr GoodV op) :
    ∃ c body post d' bd ret' b', d.patchCall op = .ok (some c) ∧
      (DP.CallKeysND c ∧ ∀ h pos, c ≠ .dinsert h pos []) ∧ DP.isMutating c = true ∧
      c.prepare (.doc d) = .op body post ∧
      execLocal (.doc d) L.next.ts body = .ok (.doc d', bd, ret') ∧ d'.view.canon = t' ∧ DP.DInv L b' d' ∧ KeysND d' := by
  rcases List.eq_nil_or_concat op.path with hnil | ⟨p, k, hpath⟩
  · rw [hnil] at happ
    simp [applyAt] at happ
  · rw [List.concat_eq_append] at hpath
    rw [hpath, PD.applyAt_append] at happ
    cases hg : PD.getAt p d.view.canon with
    | none => simp [hg] at happ
    | some c0 =>
      simp only [hg, Option.bind_some] at happ
      cases ha : applyAt op [k] c0 with
      | none => simp [ha] at happ
      | some c' =>
        simp only [ha, Option.bind_some] at happ
        obtain ⟨π, hd, hloc, hres, hview, hset⟩ := resolve_root I hk p c0 hg
        rw [hset c'] at happ
        obtain ⟨hl, _⟩ := DP.loc_of I hk hloc
        have hsub := hl.sub
        rw [hview] at hsub
        obtain ⟨c, hcall, ⟨ret, hstep⟩, hh, hck, hm⟩ := step_of_apply hd hsub ha happ hgood
        have hpc := patchCall_eq I hk hpath hres (DP.alive_located I hloc) hview hcall hgood
        obtain ⟨b, post, d', bd, ret', b', q1, q3, q4, q5, q6⟩ := exec_step I hk hloc hh hck hm hstep
        exact ⟨c, b, post, d', bd, ret', b', hpc, ⟨hck, callOf_nonempty hcall⟩, hm, q1, q3, q4, q5, q6⟩

/-- one operation a patch records: the call of a patch operation, prepared and executed on `d` under the clock `L` -/
def Rec (L : OpId) (d : Doc) (bd : OpBody) (d' : Doc) : Prop :=
  ∃ c body post ret', (DP.CallKeysND c ∧ ∀ h pos, c ≠ .dinsert h pos []) ∧ DP.isMutating c = true ∧
    c.prepare (.doc d) = .op body post ∧ execLocal (.doc d) L.next.ts body = .ok (.doc d', bd, ret') ∧ DP.DInv L 0 d ∧ KeysND d

/-- the operations the body of a patch records one after the other, from document `d` under clock `L` to document `d1` -/
inductive Trace : OpId → Doc → List Op → Doc → Prop
  | nil (L : OpId) (d : Doc) : Trace L d [] d
  | cons {L : OpId} {d d' d1 : Doc} {bd : OpBody} {rest : List Op} : Rec L d bd d' → Trace L.next d' rest d1 →
      Trace L d (⟨L.next, bd⟩ :: rest) d1

/-! ## `Replica.patch` -/

theorem patch_nil {r : Replica} {d : Doc} (hs : r.state = .doc d) : r.patch [] = (r, .ok ()) :=
  Replica.patch.eq_1 r d hs

theorem patch_one {r : Replica} {d : Doc} (hs : r.state = .doc d) (I : DP.DInv r.opId 0 d) (hk : KeysND d)
    {op : PatchOp} {t' : JVal} (happ : applyAt op op.path d.view.canon = some t') (hgood : Carr GoodV op) :
    ∃ d' bd b', r.patch [op] = (r.queued (.doc d') bd, .ok ()) ∧
      d'.view.canon = t' ∧ DP.DInv r.opId b' d' ∧ KeysND d' ∧ Rec r.opId d bd d' := by
  obtain ⟨c, b, post, d', bd, ret', b', hpc, hck, hm, hprep, hexec, hview, I', hk'⟩ := op_step I hk happ hgood
  have hrec : Rec r.opId d bd d' := ⟨c, b, post, ret', hck, hm, hprep, hexec, I, hk⟩
  rw [← hs] at hprep hexec
  have hcall := call_of_ok hprep hexec
  refine ⟨d', bd, b', ?_, hview, I', hk', hrec⟩
  simp only [Replica.patch, hs, hpc, hcall]

/-- On a script the plain tree accepts there are calls `cs` (values without duplicate keys, none an insert of zero values) such that
    the body of the patch and the body of a transaction over `cs` (`Replica.txCalls.body`, whatever `stop`) end in the same replica
    with the same recorded operations `acc'`, one per patch operation. The proof takes for `cs` the calls `patchCall` builds one
    after the other (`op_step`); the statement does not say so. -/
theorem body_tx (stop : Bool) : ∀ (ops : List PatchOp) (r : Replica) (acc : List Op) (outs : List (Outcome Ret)) (d : Doc)
    (tf : JVal), r.state = .doc d → DP.DInv r.opId 0 d → KeysND d → applyPatch ops d.view.canon = some tf →
    (∀ op ∈ ops, Carr GoodV op) →
    ∃ cs outs' r1 acc' d1, (∀ c ∈ cs, DP.CallKeysND c ∧ ∀ h pos, c ≠ .dinsert h pos []) ∧
      Replica.txCalls.body stop r acc outs cs = (r1, acc ++ acc', outs', false, none) ∧
      Replica.patch.body r acc ops = (r1, acc ++ acc', none) ∧ acc'.length = ops.length ∧
      r1.state = .doc d1 ∧ d1.view.canon = tf ∧ DP.DInv r1.opId 0 d1 ∧ KeysND d1 ∧ r1.buffer = r.buffer ∧
      r1.rbOps = r.rbOps ∧ r1.cp = r.cp ∧ r1.typ = r.typ ∧ Trace r.opId d acc' d1 := by
  intro ops
  induction ops with
  | nil =>
    intro r acc outs d tf hs I hk happ _
    simp only [applyPatch, Option.some.injEq] at happ
    exact ⟨[], outs, r, [], d, by simp, by simp [Replica.txCalls.body], by simp [Replica.patch.body], rfl, hs, happ, I, hk,
      rfl, rfl, rfl, rfl, .nil _ _⟩
  | cons op rest ih =>
    intro r acc outs d tf hs I hk happ hgood
    simp only [applyPatch] at happ
    cases h1 : applyAt op op.path d.view.canon with
    | none => simp [h1] at happ
    | some t1 =>
      simp only [h1, Option.bind_some] at happ
      obtain ⟨c, b, post, d', bd, ret', b', hpc, hck, hm, hprep, hexec, hview, I', hk'⟩ :=
        op_step I hk h1 (hgood op (by simp))
      have hex : r.execLocalBase b =
          ({ r with opId := r.opId.next, state := .doc d' }, .ok (⟨r.opId.next, bd⟩, ret')) := by
        simp only [Replica.execLocalBase, prepare_notMeta hprep, Bool.false_eq_true, if_false, hs, hexec]
      rw [← hview] at happ
      obtain ⟨cs, outs', r1, acc', d1, qc, qt, q1, q2, q3, q4, q5, q6, q7, q8, q9, q10, qT⟩ :=
        ih { r with opId := r.opId.next, state := .doc d' } (acc ++ [⟨r.opId.next, bd⟩]) (outs ++ [.ok (post ret')]) d' tf rfl
          I'.finish hk' happ (fun o ho => hgood o (by simp [ho]))
      refine ⟨c :: cs, outs', r1, ⟨r.opId.next, bd⟩ :: acc', d1, ?_, ?_, ?_, by simp [q2], q3, q4, q5, q6, q7, q8, q9, q10,
        .cons ⟨c, b, post, ret', hck, hm, hprep, hexec, I, hk⟩ qT⟩
      · exact fun c' hc' => (List.mem_cons.mp hc').elim (fun e => e ▸ hck) (qc c')
      · rw [Replica.txCalls.body]
        simp only [hs, hprep, hex]
        rw [qt]
        simp
      · rw [Replica.patch.body.eq_2]
        simp only [hs, hpc, hprep, hex]
        rw [q1]
        simp

theorem body_run (ops : List PatchOp) (r : Replica) (acc : List Op) (d : Doc) (tf : JVal)
    (hs : r.state = .doc d) (I : DP.DInv r.opId 0 d) (hk : KeysND d) (happ : applyPatch ops d.view.canon = some tf)
    (hgood : ∀ op ∈ ops, Carr GoodV op) :
    ∃ r1 acc' d1, Replica.patch.body r acc ops = (r1, acc ++ acc', none) ∧ acc'.length = ops.length ∧
      r1.state = .doc d1 ∧ d1.view.canon = tf ∧ DP.DInv r1.opId 0 d1 ∧ KeysND d1 ∧ r1.buffer = r.buffer ∧
      r1.rbOps = r.rbOps ∧ r1.cp = r.cp ∧ r1.typ = r.typ ∧ Trace r.opId d acc' d1 :=
  have ⟨_, _, r1, acc', d1, _, _, h⟩ := body_tx true ops r acc [] d tf hs I hk happ hgood
  ⟨r1, acc', d1, h⟩

theorem patch_of_body {r r1 : Replica} {d : Doc} (hs : r.state = .doc d) {ops : List PatchOp} (hlen : 2 ≤ ops.length)
    {acc : List Op} (hb : Replica.patch.body { r with opId := r.opId.next } [] ops = (r1, acc, none)) :
    r.patch ops =
      ({ r1 with
          rbOps := r1.rbOps ++ (⟨r.opId.next, .transaction (toString ops.length ++ " patches") (acc.length + 1)⟩ :: acc),
          buffer := r1.buffer ++
            (⟨r.opId.next, .transaction (toString ops.length ++ " patches") (acc.length + 1)⟩ :: acc).map Op.wire },
        .ok ()) := by
  rw [Replica.patch.eq_3 r ops d hs (by intro h; rw [h] at hlen; simp at hlen)
    (by intro op h; rw [h] at hlen; simp at hlen), hb]

theorem patch_many {r : Replica} {d : Doc} (hs : r.state = .doc d) (I : DP.DInv r.opId 0 d) (hk : KeysND d)
    {ops : List PatchOp} {tf : JVal} (hlen : 2 ≤ ops.length) (happ : applyPatch ops d.view.canon = some tf)
    (hgood : ∀ op ∈ ops, Carr GoodV op) :
    ∃ (r1 : Replica) (acc : List Op) (d1 : Doc), r.patch ops =
        ({ r1 with
            rbOps := r1.rbOps ++ (⟨r.opId.next, .transaction (toString ops.length ++ " patches") (acc.length + 1)⟩ :: acc),
            buffer := r.buffer ++
              (⟨r.opId.next, .transaction (toString ops.length ++ " patches") (acc.length + 1)⟩ :: acc).map Op.wire },
          .ok ()) ∧
      acc.length = ops.length ∧ r1.state = .doc d1 ∧ d1.view.canon = tf ∧ DP.DInv r1.opId 0 d1 ∧ KeysND d1 ∧
      r1.cp = r.cp ∧ r1.typ = r.typ ∧ Trace r.opId.next d acc d1 := by
  obtain ⟨r1, acc, d1, q1, q2, q3, q4, q5, q6, q7, _, q9, q10, qT⟩ :=
    body_run ops { r with opId := r.opId.next } [] d tf hs I.finish hk happ hgood
  simp only [List.nil_append] at q1 q7
  refine ⟨r1, acc, d1, ?_, q2, q3, q4, q5, q6, q9, q10, qT⟩
  rw [patch_of_body hs hlen q1]
  simp only [q7]

theorem patch_run {r : Replica} {d : Doc} (hs : r.state = .doc d) (I : DP.DInv r.opId 0 d) (hk : KeysND d)
    {ops : List PatchOp} {tf : JVal} (happ : applyPatch ops d.view.canon = some tf)
    (hgood : ∀ op ∈ ops, Carr GoodV op) :
    (∃ d', (r.patch ops).1.state = .doc d' ∧ (r.patch ops).2 = .ok () ∧ d'.view.canon = tf ∧
      DP.DocInv (r.patch ops).1) ∧
    (ops.length = 0 → (r.patch ops).1 = r) ∧
    (ops.length = 1 → ∃ o : Op, (r.patch ops).1.buffer = r.buffer ++ [o] ∧ o.id = r.opId.next) ∧
    (2 ≤ ops.length → ∃ (tag : String) (body : List Op),
      (r.patch ops).1.buffer = r.buffer ++ (⟨r.opId.next, .transaction tag (body.length + 1)⟩ :: body) ∧
      body.length = ops.length) := by
  match ops, happ, hgood with
  | [], happ, _ =>
    simp only [applyPatch, Option.some.injEq] at happ
    rw [patch_nil hs]
    refine ⟨⟨d, hs, rfl, happ, d, hs, I, hk⟩, fun _ => rfl, ?_, ?_⟩
    · intro h; simp at h
    · intro h; simp at h
  | [op], happ, hgood =>
    simp only [applyPatch] at happ
    cases h1 : applyAt op op.path d.view.canon with
    | none => simp [h1] at happ
    | some t1 =>
      simp only [h1, Option.bind_some, Option.some.injEq] at happ
      subst happ
      obtain ⟨d', bd, b', hp, hview, I', hk', _⟩ := patch_one hs I hk h1 (hgood op (by simp))
      rw [hp]
      refine ⟨⟨d', rfl, rfl, hview, d', rfl, I'.finish, hk'⟩, ?_, ?_, ?_⟩
      · intro h; simp at h
      · intro _; exact ⟨_, rfl, rfl⟩
      · intro h; simp at h
  | o1 :: o2 :: rest, happ, hgood =>
    obtain ⟨r1, acc, d1, hp, q2, q3, q4, q5, q6, _⟩ := patch_many hs I hk (by simp) happ hgood
    rw [hp]
    refine ⟨⟨d1, q3, rfl, q4, d1, q3, q5, q6⟩, ?_, ?_, ?_⟩
    · intro h; simp at h
    · intro h; simp at h
    · intro _
      refine ⟨toString (o1 :: o2 :: rest).length ++ " patches", acc.map Op.wire, ?_, by simp [q2]⟩
      simp [Op.wire, OpBody.wire]

/-! ## `patchByJSON` -/

theorem patchByJSON_eq {r : Replica} {d : Doc} (hs : r.state = .doc d) (target : JVal) :
    r.patchByJSON target = ((r.patch (jsonDiff d.view.canon target.canon)).1, jsonDiff d.view.canon target.canon,
      (r.patch (jsonDiff d.view.canon target.canon)).2) := by
  simp only [Replica.patchByJSON, hs]

theorem view_obj {L : OpId} {b : Nat} {d : Doc} (I : DP.DInv L b d) (hk : KeysND d) : ∃ src, d.view.canon = .obj src := by
  obtain ⟨m, s, hr⟩ := I.root
  exact ⟨_, DP.shape_obj (I.dg hk) hr rfl⟩

theorem script_ok {L : OpId} {b : Nat} {d : Doc} (I : DP.DInv L b d) (hk : KeysND d) (tgt : List (String × JVal))
    (hn : (JVal.obj tgt).hasNull = false) :
    applyPatch (jsonDiff d.view.canon (JVal.obj tgt).canon) d.view.canon = some (JVal.obj tgt).canon ∧
    ∀ op ∈ jsonDiff d.view.canon (JVal.obj tgt).canon, Carr GoodV op := by
  obtain ⟨src, hsrc⟩ := view_obj I hk
  have hc1 : (JVal.obj src).Canonical := by rw [← hsrc]; exact canon_canonical _
  have hc2 : (JVal.obj tgt).canon.Canonical := canon_canonical _
  have hn2 : (JVal.obj tgt).canon.hasNull = false := hasNull_canon _ hn
  refine ⟨?_, carried goodV_subClosed _ _ ⟨hn2, hc2⟩⟩
  rw [hsrc]
  rw [canon_obj] at hc2 ⊢
  exact apply_diff src _ hc1 hc2

/-- C19, document half: for every reachable single-replica document and every target object without nulls (and without duplicate
    keys), PatchByJSON succeeds and the document's JSON value is exactly the target -/
theorem patchByJSON_reaches_target (r : Replica) (d : Doc) (hs : r.state = .doc d) (h : DP.DocInv r)
    (tgt : List (String × JVal)) (hn : (JVal.obj tgt).hasNull = false) (hk : DC.JKeysND (.obj tgt)) :
    ∃ d', (r.patchByJSON (.obj tgt)).1.state = .doc d' ∧
      (r.patchByJSON (.obj tgt)).2.2 = .ok () ∧
      d'.view.canon = (JVal.obj tgt).canon ∧
      DP.DocInv (r.patchByJSON (.obj tgt)).1 := by
  have _ := hk
  obtain ⟨I, hkeys⟩ := h.of_state hs
  obtain ⟨happ, hgood⟩ := script_ok I hkeys tgt hn
  rw [patchByJSON_eq hs]
  exact (patch_run hs I hkeys happ hgood).1

/-- it is applied as one atomic unit: nothing is queued when the document already equals the target, one operation when
    the script has one operation, otherwise ONE transaction unit that announces its own length (`body.length ≤ n`: it is `=`,
    `patch_run`) -/
theorem patchByJSON_one_unit (r : Replica) (d : Doc) (hs : r.state = .doc d) (h : DP.DocInv r)
    (tgt : List (String × JVal)) (hn : (JVal.obj tgt).hasNull = false) (hk : DC.JKeysND (.obj tgt)) :
    let r' := (r.patchByJSON (.obj tgt)).1
    let n := (r.patchByJSON (.obj tgt)).2.1.length          -- number of patch operations
    (n = 0 → r' = r) ∧
    (n = 1 → ∃ o, r'.buffer = r.buffer ++ [o] ∧ o.id = r.opId.next) ∧
    (2 ≤ n → ∃ tag body, r'.buffer = r.buffer ++ (⟨r.opId.next, .transaction tag (body.length + 1)⟩ :: body) ∧ body.length ≤ n) := by
  have _ := hk
  obtain ⟨I, hkeys⟩ := h.of_state hs
  obtain ⟨happ, hgood⟩ := script_ok I hkeys tgt hn
  intro r' n
  simp only [r', n, patchByJSON_eq hs]
  obtain ⟨h0, h1, h2⟩ := (patch_run hs I hkeys happ hgood).2
  exact ⟨h0, h1, fun hn => let ⟨tag, body, hb, hl⟩ := h2 hn; ⟨tag, body, hb, hl.le⟩⟩

theorem patchByJSON_same_is_noop (r : Replica) (d : Doc) (hs : r.state = .doc d) (h : DP.DocInv r) :
    (r.patchByJSON d.view).1 = r ∧ (r.patchByJSON d.view).2.1 = [] := by
  obtain ⟨I, hkeys⟩ := h.of_state hs
  obtain ⟨src, hsrc⟩ := view_obj I hkeys
  have hc : (JVal.obj src).Canonical := by rw [← hsrc]; exact canon_canonical _
  have hnil : jsonDiff d.view.canon d.view.canon = [] := by
    rw [hsrc]; exact (diff_nil_iff src src hc hc).mpr rfl
  rw [patchByJSON_eq hs, hnil, patch_nil hs]
  exact ⟨rfl, rfl⟩

/-! ## non-vacuity -/

namespace Ex

/-- `{"a": [1, {"x": 5}], "k": "v"}`, reached by two calls from a fresh document -/
def r : Replica :=
  (((Replica.new .document "c" true).call (.dput Ts.oldest "a" (.arr [.num 1, .obj [("x", .num 5)]]))).1.call
    (.dput Ts.oldest "k" (.str "v"))).1

def d : Doc := match r.state with | .doc d => d | _ => Doc.empty

theorem r_state : r.state = .doc d := rfl

theorem r_inv : DP.DocInv r :=
  DP.docInv_call _ _ (by simp [DP.CallKeysND, JKeysND])
    (DP.docInv_call _ _ (by simp [DP.CallKeysND, JKeysND, JKeysNDList, JKeysNDKvs]) (DP.docInv_new "c" true))

example : d.view = .obj [("a", .arr [.num 1, .obj [("x", .num 5)]]), ("k", .str "v")] := by rfl

/-- the target (keys not sorted): "k" changes, the object inside the array changes, the array grows -/
def tgt : List (String × JVal) := [("k", .str "w"), ("a", .arr [.num 1, .obj [("x", .num 6)], .num 3])]

theorem tgt_nonull : (JVal.obj tgt).hasNull = false := by rfl
theorem tgt_keys : JKeysND (.obj tgt) := by simp [tgt, JKeysND, JKeysNDKvs, JKeysNDList]

/-- the script: a replace below an array index, an append to the array, a replace of an object key -/
example : (r.patchByJSON (.obj tgt)).2.1 =
    [.replace ["a", "1", "x"] (.num 6), .add ["a", "-"] (.num 3), .replace ["k"] (.str "w")] := by rfl

/-- `patchByJSON_reaches_target` instantiated; the resulting view, written out -/
example : ∃ d', (r.patchByJSON (.obj tgt)).1.state = .doc d' ∧ (r.patchByJSON (.obj tgt)).2.2 = .ok () ∧
    d'.view.canon = .obj [("a", .arr [.num 1, .obj [("x", .num 6)], .num 3]), ("k", .str "w")] ∧
    DP.DocInv (r.patchByJSON (.obj tgt)).1 :=
  patchByJSON_reaches_target r d r_state r_inv tgt tgt_nonull tgt_keys

/-- `patchByJSON_one_unit` instantiated: three operations, one transaction unit -/
example : ∃ tag body, (r.patchByJSON (.obj tgt)).1.buffer =
    r.buffer ++ (⟨r.opId.next, .transaction tag (body.length + 1)⟩ :: body) ∧ body.length ≤ 3 :=
  (patchByJSON_one_unit r d r_state r_inv tgt tgt_nonull tgt_keys).2.2 (by decide)

/-- `patchByJSON_same_is_noop` on a document whose view has an object nested in an array -/
example : (r.patchByJSON d.view).1 = r ∧ (r.patchByJSON d.view).2.1 = [] :=
  patchByJSON_same_is_noop r d r_state r_inv

end Ex

end Orda.DPatch
