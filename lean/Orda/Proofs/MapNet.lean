/-
Maps and counters converge over the server log, with no causal or distinct-timestamp hypothesis (C01/C02/C05 for the LWW
map and the counter, end to end).  The system has the shape of the one of `ListNet`, with the datatype `typ` (`.map` or
`.counter` in the theorems) as a parameter; a call step is ANY public call (refused calls and calls of other datatypes
leave the replica alone); the only assumption is pairwise distinct client identifiers.

The idea: both datatypes go through one interface, `sem typ ops` (the state after the remote application of `ops`),
`OpOK`, `Needs` (a remove of `k` needs an earlier put of `k`), `Causal`: a call queues at most one operation, whose remote
application is the new state and which has what it needs (`call_cases`); a delivery is the remote application
(`remote_cases`).  The invariant keeps a ghost sequence `ap i` of the log-tagged operations node `i` has applied: the
state is `sem typ` of it, it is `Causal`, and whatever precedes an own operation in `ap i` sits in the log before it
(`NodeInv.causal`), so a delivered operation has what it needs (`Inv.deliver`).  (lamport, client) keys are pairwise
different, hence `DistinctTs`.  Plain equality of `LwwMap` states is false (`ExMap`): the theorems compare reads and
views.  The bookkeeping that does not depend on the datatype is `NetBook.Book`.
-/
import Orda.Proofs.MapCounter
import Orda.Proofs.JsonCanon
import Orda.Proofs.NetBook
namespace Orda.MNet
open Orda

/-! ## the two flat datatypes -/

/-- the state of a replica of type `typ` that has applied (remote application) the operations `ops`, from the fresh state -/
def sem : DtType → List Op → DState
  | .counter, ops => .counter (ops.foldl counterApply 0)
  | .map, ops => .map (mapApplyAll LwwMap.empty ops)
  | t, _ => DState.fresh t

/-- the operations a replica of type `typ` issues -/
def OpOK : DtType → Op → Prop
  | .map, o => isMapOp o = true
  | .counter, o => ∃ d, o.body = .increase d
  | _, _ => False

/-- what an operation needs among the operations applied before it: a remove of `k` needs a put of `k` -/
def Needs : DtType → Op → List Op → Prop
  | .map, o, P => ∀ k, o.body = .remove k → ∃ o' ∈ P, ∃ v, o'.body = .put k v
  | _, _, _ => True

/-- every operation of the sequence has what it needs before it -/
def Causal (typ : DtType) (ops : List Op) : Prop := ∀ P o S, ops = P ++ o :: S → Needs typ o P

/-- the datatypes of this file -/
def Flat (typ : DtType) : Prop := typ = .map ∨ typ = .counter

theorem needs_mono {typ : DtType} {o : Op} {P P' : List Op} (h : Needs typ o P) (hs : P ⊆ P') : Needs typ o P' := by
  cases typ <;> simp only [Needs] at h ⊢
  intro k hk
  obtain ⟨o', ho', v, hv⟩ := h k hk
  exact ⟨o', hs ho', v, hv⟩

theorem causal_nil (typ : DtType) : Causal typ [] := by
  intro P o S h
  exact absurd h (by simp)

theorem causal_snoc {typ : DtType} {ops : List Op} {o : Op} (hc : Causal typ ops) (hn : Needs typ o ops) :
    Causal typ (ops ++ [o]) := by
  intro P o' S hsplit
  rcases ListAux.snoc_split hsplit with ⟨_, hP, ho⟩ | ⟨S', _, h2⟩
  · subst hP; subst ho; exact hn
  · exact hc P o' S' h2

theorem mapCausal_of_causal {ops : List Op} (hc : Causal .map ops) : MapCausal ops := by
  intro i hi k hb
  have hsplit : ops = ops.take i ++ ops[i] :: ops.drop (i + 1) := by
    rw [List.getElem_cons_drop, List.take_append_drop]
  obtain ⟨o', ho', v, hv⟩ := hc _ _ _ hsplit k hb
  obtain ⟨j, hj, hje⟩ := List.mem_take_iff_getElem.mp ho'
  have hji : j < i := by
    have := Nat.lt_min.mp hj
    exact this.1
  exact ⟨j, hji, v, by rw [hje]; exact hv⟩

theorem map_call_cases (r : Replica) (m : LwwMap) (hs : r.state = .map m) (c : Call) :
    (r.call c).1 = r ∨ ∃ o, (r.call c).1.buffer = r.buffer ++ [o] ∧ o.id = r.opId.next ∧
      (r.call c).1.opId = r.opId.next ∧ (r.call c).1.state = .map (mapApply m o) ∧ isMapOp o = true ∧
      (∀ k, o.body = .remove k → ∃ e, m.find k = some e ∧ e.v.isSome = true) := by
  have s := call_case r c
  generalize r.call c = x at s ⊢
  cases s with
  | done _ | err _ _ => exact Or.inl rfl
  | @panic b post w hp he =>
    rw [hs] at he
    cases b with
    | remove k =>
      simp only [execLocal] at he
      rcases removeLocal_cases m k r.opId.next.ts with ⟨e, hf, hl, hlt, h⟩ | h <;> rw [h] at he <;> cases he
    | _ => cases he
  | @ok b post s' b' ret hp he =>
    -- what was queued is read off `execLocal` on a map: only a put or a remove succeeds
    rw [hs] at he
    cases b with
    | put k v => cases he; exact Or.inr ⟨_, rfl, rfl, rfl, rfl, rfl, fun _ h => nomatch h⟩
    | remove k =>
      simp only [execLocal] at he
      rcases removeLocal_cases m k r.opId.next.ts with ⟨e, hf, hl, hlt, h⟩ | h <;> rw [h] at he <;> cases he
      exact Or.inr ⟨_, rfl, rfl, rfl, rfl, rfl, fun k' hk' => by cases hk'; exact ⟨e, hf, hl⟩⟩
    | _ => cases he

theorem counter_call_cases (r : Replica) (v : Int) (hs : r.state = .counter v) (c : Call) :
    (r.call c).1 = r ∨ ∃ o, (r.call c).1.buffer = r.buffer ++ [o] ∧ o.id = r.opId.next ∧
      (r.call c).1.opId = r.opId.next ∧ (r.call c).1.state = .counter (counterApply v o) ∧
      ∃ d, o.body = .increase d := by
  have s := call_case r c
  generalize r.call c = x at s ⊢
  cases s with
  | done _ | err _ _ => exact Or.inl rfl
  | @panic b _ _ _ he => rw [hs] at he; cases b <;> cases he
  | @ok b _ _ _ _ _ he => rw [hs] at he; cases b <;> cases he; exact Or.inr ⟨_, rfl, rfl, rfl, rfl, _, rfl⟩

theorem put_of_live {ops : List Op} {m : LwwMap} (hinv : MapInv m ops) {k : String} {e : MEntry}
    (hf : m.find k = some e) (hl : e.v.isSome = true) : ∃ o' ∈ ops, ∃ v, o'.body = .put k v := by
  have h := hinv k
  rw [hf] at h
  cases hmax : Spec.maxBy (fun (o : Op) => o.id.ts) (Spec.mapKeyOps k ops) with
  | none => rw [hmax] at h; cases h
  | some y =>
    rw [hmax] at h
    simp only [Option.map_some, Option.some.injEq] at h
    obtain ⟨hy, _, hk⟩ := mem_mapKeyOps.mp (maxBy_spec _ _ _ hmax).1
    subst h
    cases hb : y.body with
    | put k' v =>
      rw [keyOf, hb] at hk
      exact ⟨y, hy, v, by rw [hb, show k' = k from hk]⟩
    | _ => simp [entryOf, hb] at hl

theorem find_of_put {ops : List Op} {m : LwwMap} (hinv : MapInv m ops) {k : String} {o' : Op} (ho' : o' ∈ ops) {v : JVal}
    (hv : o'.body = .put k v) : ∃ e, m.find k = some e := by
  have h := hinv k
  cases hmax : Spec.maxBy (fun (o : Op) => o.id.ts) (Spec.mapKeyOps k ops) with
  | none =>
    have hmem : o' ∈ Spec.mapKeyOps k ops :=
      mem_mapKeyOps.mpr ⟨ho', by simp only [isMapOp, hv], by simp only [keyOf, hv]⟩
    rw [(maxBy_eq_none _ _).mp hmax] at hmem
    cases hmem
  | some y => rw [hmax] at h; exact ⟨_, h⟩

theorem call_cases {typ : DtType} (hf : Flat typ) (r : Replica) (ops : List Op) (hs : r.state = sem typ ops)
    (hc : Causal typ ops) (c : Call) :
    (r.call c).1 = r ∨ ∃ o, (r.call c).1.buffer = r.buffer ++ [o] ∧ o.id = r.opId.next ∧
      (r.call c).1.opId = r.opId.next ∧ (r.call c).1.state = sem typ (ops ++ [o]) ∧ OpOK typ o ∧ Needs typ o ops := by
  rcases hf with rfl | rfl
  · rcases map_call_cases r _ hs c with h | ⟨o, h1, h2, h3, h4, h5, h6⟩
    · exact Or.inl h
    · refine Or.inr ⟨o, h1, h2, h3, ?_, h5, ?_⟩
      · rw [h4]; simp only [sem, mapApplyAll_snoc]
      · intro k hk
        obtain ⟨e, he, hl⟩ := h6 k hk
        exact put_of_live (mapInv_all ops (mapCausal_of_causal hc)) he hl
  · rcases counter_call_cases r _ hs c with h | ⟨o, h1, h2, h3, h4, h5⟩
    · exact Or.inl h
    · refine Or.inr ⟨o, h1, h2, h3, ?_, h5, trivial⟩
      rw [h4]; simp only [sem, List.foldl_append, List.foldl_cons, List.foldl_nil]

theorem remote_cases {typ : DtType} (hf : Flat typ) (r : Replica) (ops : List Op) (hs : r.state = sem typ ops)
    (o : Op) (hok : OpOK typ o) :
    (r.execRemoteBase o).1.state = sem typ (ops ++ [o]) ∧ (r.execRemoteBase o).2 = none := by
  rcases hf with rfl | rfl
  · simp only [sem, mapApplyAll_snoc] at hs ⊢
    rcases isMapOp_cases o hok with ⟨k, v, hb⟩ | ⟨k, hb⟩
    · simp [execRemoteBase_eq, remoteState, remotePanic, execRemote, hs, hb, mapApply]
    · simp [execRemoteBase_eq, remoteState, remotePanic, execRemote, hs, hb, mapApply]
  · obtain ⟨d, hb⟩ := hok
    simp only [sem, List.foldl_append, List.foldl_cons, List.foldl_nil] at hs ⊢
    simp [execRemoteBase_eq, remoteState, remotePanic, execRemote, hs, hb, counterApply]

/-! ## the system -/

/-- one client: the real replica model, how many operations of its buffer are in the log, how many log entries it has
    consumed -/
structure Node where
  r : Replica
  pushed : Nat
  pulled : Nat

/-- an entry of the server log: (author, wire operation) -/
abbrev LEnt := Nat × Op

structure Net where
  nodes : List Node
  log : List LEnt

/-- every node is a fresh subscriber `Replica.new typ (cuid i) false` (`typ` is `.map` or `.counter` in the theorems);
    nothing pushed or pulled; empty log -/
def Net.init (typ : DtType) (cuid : Nat → String) (n : Nat) : Net :=
  ⟨(List.range n).map fun i => ⟨Replica.new typ (cuid i) false, 0, 0⟩, []⟩

/-- client identifiers of the `n` nodes are pairwise distinct -/
def CuidsDistinct (cuid : Nat → String) (n : Nat) : Prop := ∀ i j, i < n → j < n → cuid i = cuid j → i = j

/-- the steps.  Calls are NOT restricted: any public `Call` (of any datatype, valid or not) -/
inductive Step : Net → Net → Prop
  /-- node `i` issues the public call `c` -/
  | call (net : Net) (i : Nat) (nd : Node) (c : Call) (hi : net.nodes[i]? = some nd) :
      Step net ⟨net.nodes.set i { nd with r := (nd.r.call c).1 }, net.log⟩
  /-- the next unpushed operation of node `i`'s buffer is appended to the log (buffer order) -/
  | push (net : Net) (i : Nat) (nd : Node) (o : Op) (hi : net.nodes[i]? = some nd)
      (ho : nd.r.buffer[nd.pushed]? = some o) :
      Step net ⟨net.nodes.set i { nd with pushed := nd.pushed + 1 }, net.log ++ [(i, o)]⟩
  /-- node `i` consumes its next log entry: skipped if `i` is the author, otherwise delivered with `execRemoteBase` -/
  | pull (net : Net) (i : Nat) (nd : Node) (a : Nat) (o : Op) (hi : net.nodes[i]? = some nd)
      (hl : net.log[nd.pulled]? = some (a, o)) :
      Step net ⟨net.nodes.set i { nd with r := if a = i then nd.r else (nd.r.execRemoteBase o).1,
                                          pulled := nd.pulled + 1 }, net.log⟩

/-- the reachable states of the system of `n` replicas of type `typ` with the (pairwise distinct) client identifiers
    `cuid 0 … cuid (n-1)` -/
inductive Reach (typ : DtType) (cuid : Nat → String) (n : Nat) : Net → Prop
  | init (hc : CuidsDistinct cuid n) : Reach typ cuid n (Net.init typ cuid n)
  | step {net net' : Net} : Reach typ cuid n net → Step net net' → Reach typ cuid n net'

/-- the entries of `l` written by `i` / by the others -/
def own (i : Nat) (l : List LEnt) : List LEnt := l.filter fun e => e.1 == i
def oth (i : Nat) (l : List LEnt) : List LEnt := l.filter fun e => !(e.1 == i)

/-- the operations node `nd` (number `i`) has applied: its own buffer and the log entries of the others among the first
    `pulled` ones -/
def appliedOps (log : List LEnt) (i : Nat) (nd : Node) : List Op :=
  nd.r.buffer ++ (oth i (log.take nd.pulled)).map (·.2)

/-- nodes `i` and `j` have applied the same multiset of operations -/
def SameOps (net : Net) (i j : Nat) : Prop :=
  ∃ ni nj, net.nodes[i]? = some ni ∧ net.nodes[j]? = some nj ∧
    (appliedOps net.log i ni).Perm (appliedOps net.log j nj)

/-- every buffer completely pushed, every node has consumed the whole log -/
def Quiescent (net : Net) : Prop :=
  ∀ nd ∈ net.nodes, nd.pushed = nd.r.buffer.length ∧ nd.pulled = net.log.length

/-! ## the executable form (for concrete runs) -/

inductive Act where
  | call (i : Nat) (c : Call)
  | push (i : Nat)
  | pull (i : Nat)

def Net.act (net : Net) : Act → Option Net
  | .call i c =>
    match net.nodes[i]? with
    | some nd => some ⟨net.nodes.set i { nd with r := (nd.r.call c).1 }, net.log⟩
    | none => none
  | .push i =>
    match net.nodes[i]? with
    | some nd =>
      match nd.r.buffer[nd.pushed]? with
      | some o => some ⟨net.nodes.set i { nd with pushed := nd.pushed + 1 }, net.log ++ [(i, o)]⟩
      | none => none
    | none => none
  | .pull i =>
    match net.nodes[i]? with
    | some nd =>
      match net.log[nd.pulled]? with
      | some (a, o) =>
        some ⟨net.nodes.set i { nd with r := if a = i then nd.r else (nd.r.execRemoteBase o).1,
                                        pulled := nd.pulled + 1 }, net.log⟩
      | none => none
    | none => none

def Net.run (net : Net) : List Act → Option Net
  | [] => some net
  | a :: as => match net.act a with
    | some net' => net'.run as
    | none => none

theorem step_of_act {net net' : Net} {a : Act} (h : net.act a = some net') : Step net net' := by
  unfold Net.act at h
  split at h
  · split at h
    · cases h; exact .call net _ _ _ ‹_›
    · cases h
  · split at h
    · split at h
      · cases h; exact .push net _ _ _ ‹_› ‹_›
      · cases h
    · cases h
  · split at h
    · split at h
      · cases h; exact .pull net _ _ _ _ ‹_› ‹_›
      · cases h
    · cases h

theorem reach_run {typ : DtType} {cuid : Nat → String} {n : Nat} : ∀ (as : List Act) {net net' : Net},
    Reach typ cuid n net → net.run as = some net' → Reach typ cuid n net' := fun as _ _ hr h =>
  ListAux.run_induction (Q := fun _ => True) (fun _ => rfl) (fun s a _ => by simp only [Net.run]; cases Net.act s a <;> rfl)
    (fun hr _ h => .step hr (step_of_act h)) as hr h fun _ _ => trivial

/-! ## the invariant -/

/-- the operations of a sequence of entries -/
def opsOf (l : List LEnt) : List Op := l.map (·.2)
/-- what identifies an operation: (lamport, client) -/
def lkey (e : LEnt) : Nat × String := (e.2.id.lamport, e.2.id.cuid)

/-- what is known about every operation of the system -/
def EntOK (typ : DtType) (cuid : Nat → String) (n : Nat) (e : LEnt) : Prop :=
  e.1 < n ∧ e.2.id.cuid = cuid e.1 ∧ OpOK typ e.2

/-- the invariant of one node in the terms of this system: the datatype part `Dt` (`st`, `causal_ops`) and, field for
    field, `NetBook.Book`; the proofs go through the latter (`book`, `of_book`) -/
structure NodeInv (typ : DtType) (cuid : Nat → String) (n : Nat) (log : List LEnt) (i : Nat) (nd : Node)
    (A : List LEnt) : Prop where
  st : nd.r.state = sem typ (opsOf A)
  causal_ops : Causal typ (opsOf A)
  pushed_le : nd.pushed ≤ nd.r.buffer.length
  pulled_le : nd.pulled ≤ log.length
  own_eq : own i A = nd.r.buffer.map (fun o => (i, o))
  oth_eq : oth i A = oth i (log.take nd.pulled)
  log_own : own i log = (nd.r.buffer.take nd.pushed).map (fun o => (i, o))
  clock_cuid : nd.r.opId.cuid = cuid i
  lam_le : ∀ e ∈ A, e.2.id.lamport ≤ nd.r.opId.lamport
  ent_ok : ∀ e ∈ A, EntOK typ cuid n e
  buf_sorted : nd.r.buffer.Pairwise (fun o o' => o.id.lamport < o'.id.lamport)
  keys : A.Pairwise (fun e e' => lkey e ≠ lkey e')
  /-- CAUSALITY: what node `i` had applied when it issued `o` is in the log before `o` -/
  causal : ∀ P o S, A = P ++ (i, o) :: S → ∀ k, log[k]? = some (i, o) → ∀ e ∈ P, e ∈ log.take k

/-- `NetBook.NetInv` in the terms of this system (`toNet`, `of_net`) -/
structure Inv (typ : DtType) (cuid : Nat → String) (n : Nat) (net : Net) (ap : Nat → List LEnt) : Prop where
  flat : Flat typ
  distinct : CuidsDistinct cuid n
  len : net.nodes.length = n
  node : ∀ i nd, net.nodes[i]? = some nd → NodeInv typ cuid n net.log i nd (ap i)
  log_auth : ∀ e ∈ net.log, e.1 < n
  log_keys : net.log.Pairwise (fun e e' => lkey e ≠ lkey e')

theorem oth_single_ne {i a : Nat} (h : a ≠ i) (o : Op) : oth i [(a, o)] = [(a, o)] := NetBook.oth_single_ne h o

theorem opsOf_append (l l' : List LEnt) : opsOf (l ++ l') = opsOf l ++ opsOf l' := List.map_append
theorem opsOf_single (e : LEnt) : opsOf [e] = [e.2] := rfl

theorem distinctTs_of_keys {l : List LEnt} (h : l.Pairwise (fun e e' => lkey e ≠ lkey e')) : DistinctTs (opsOf l) := by
  unfold DistinctTs opsOf
  rw [List.pairwise_map]
  refine h.imp fun hk e0 => hk ?_
  have := (Prod.mk.inj ((cmp_eq_iff _ _).mp e0)).2
  exact Prod.ext (Prod.mk.inj this).1 (Prod.mk.inj this).2

theorem entOK_auth {typ : DtType} {cuid : Nat → String} {n : Nat} (e : LEnt) (h : EntOK typ cuid n e) :
    e.1 < n ∧ e.2.id.cuid = cuid e.1 := ⟨h.1, h.2.1⟩

namespace NodeInv
variable {typ : DtType} {cuid : Nat → String} {n : Nat} {log : List LEnt} {i : Nat} {nd : Node} {A : List LEnt}

theorem book (N : NodeInv typ cuid n log i nd A) :
    NetBook.Book (EntOK typ cuid n) (cuid i) log i nd.r.buffer nd.r.opId nd.pushed nd.pulled A :=
  ⟨N.pushed_le, N.pulled_le, N.own_eq, N.oth_eq, N.log_own, N.clock_cuid, N.lam_le, N.ent_ok, N.buf_sorted, N.keys,
    N.causal⟩

theorem of_book (st : nd.r.state = sem typ (opsOf A)) (causal_ops : Causal typ (opsOf A))
    (B : NetBook.Book (EntOK typ cuid n) (cuid i) log i nd.r.buffer nd.r.opId nd.pushed nd.pulled A) :
    NodeInv typ cuid n log i nd A :=
  { st, causal_ops, pushed_le := B.pushed_le, pulled_le := B.pulled_le, own_eq := B.own_eq, oth_eq := B.oth_eq,
    log_own := B.log_own, clock_cuid := B.clock_cuid, lam_le := B.lam_le, ent_ok := B.ent_ok,
    buf_sorted := B.buf_sorted, keys := B.keys, causal := B.causal }

end NodeInv

theorem needs_deliver {typ : DtType} {Aa Aj P S : List LEnt} {a : Nat} {o : Op} (hsplit : Aa = P ++ (a, o) :: S)
    (ha : Causal typ (opsOf Aa)) (hsub : P ⊆ Aj) : Needs typ o (opsOf Aj) :=
  needs_mono (ha (opsOf P) o (opsOf S) (by rw [hsplit, opsOf_append]; rfl)) (List.map_subset _ hsub)

/-! ## the steps keep the invariant: `NetBook.NetInv.step`, with the datatype part below -/

/-- the datatype part of `NodeInv` -/
abbrev Dt (typ : DtType) : Nat → Replica → Nat → List LEnt → Prop :=
  fun _ r _ A => r.state = sem typ (opsOf A) ∧ Causal typ (opsOf A)

theorem closed {typ : DtType} (hf : Flat typ) (cuid : Nat → String) (n : Nat) :
    NetBook.Closed (EntOK typ cuid n) (Dt typ) (fun _ => True) (fun _ _ _ => True) cuid n where
  auth := entOK_auth
  call := by
    intro log i r pu pl A c hD hB hi hg
    rcases call_cases hf r (opsOf A) hD.1 hD.2 c with h | ⟨o, hbuf, hid, hop, hst, hok, hneeds⟩
    · exact .inl (h.symm ▸ ⟨hD, hB⟩)
    · have B := hB.queue hid ⟨hi, (congrArg OpId.cuid hid).trans hB.clock_cuid, hok⟩
      rw [← hbuf, ← hop] at B
      exact .inr ⟨o, ⟨opsOf_append A _ ▸ hst, opsOf_append A _ ▸ causal_snoc hD.2 hneeds⟩, B⟩
  skip := id
  deliver := by
    intro log j a r ra pu pl pua pla A Aa Pre S o hD hB hDa hBa hkeys hhead hl ha hsplit hsub hnew hP
    exact ⟨opsOf_append A _ ▸ (remote_cases hf r (opsOf A) hD.1 o hP.2.2).1,
      opsOf_append A _ ▸ causal_snoc hD.2 (needs_deliver hsplit hDa.2 hsub)⟩
  first := fun _ _ _ => trivial

/-- a node, as `NetBook` and the transaction layer see it -/
abbrev view : NetBook.View Node :=
  ⟨Node.r, Node.pushed, Node.pulled, Node.mk, fun _ _ _ => rfl, fun _ _ _ => rfl, fun _ _ _ => rfl, fun _ => rfl⟩

theorem Step.cstep {net net' : Net} (h : Step net net') :
    NetBook.CStep view (fun _ _ _ => True) net.nodes net.log net'.nodes net'.log := by
  cases h with
  | call i nd c hi => exact .call i nd c hi trivial
  | push i nd o hi ho => exact .push i nd o hi ho
  | pull i nd a o hi hl => exact .pull i nd a o hi hl

theorem sem_nil {typ : DtType} (hf : Flat typ) : sem typ [] = DState.fresh typ := by
  rcases hf with rfl | rfl <;> rfl

/-- nodes that have the same operations have applied the same operations, for any system on `Node`s whose invariant is a
    `NetBook.NetInv` (this one, the one with a creator: Proofs/FlatNetCreate.lean) -/
theorem perm_of_sameOps_net {P : LEnt → Prop} {D : Nat → Replica → Nat → List LEnt → Prop} {H : LEnt → Prop}
    {cuid : Nat → String} {n : Nat} {nodes : List Node} {log : List LEnt} {ap : Nat → List LEnt}
    (I : NetBook.NetInv view P D H cuid n nodes log ap) {i j : Nat} (h : SameOps ⟨nodes, log⟩ i j) :
    (opsOf (ap i)).Perm (opsOf (ap j)) := by
  obtain ⟨ni, nj, hni, hnj, hperm⟩ := h
  exact ((I.node i ni hni).2.ops_perm.trans hperm).trans (I.node j nj hnj).2.ops_perm.symm

namespace Inv
variable {typ : DtType} {cuid : Nat → String} {n : Nat} {net : Net} {ap : Nat → List LEnt}

theorem toNet (I : Inv typ cuid n net ap) : NetBook.NetInv view (EntOK typ cuid n) (Dt typ)
    (fun _ => True) cuid n net.nodes net.log ap :=
  ⟨I.distinct, I.len, fun i nd hi => ⟨⟨(I.node i nd hi).st, (I.node i nd hi).causal_ops⟩, (I.node i nd hi).book⟩,
    I.log_auth, I.log_keys, fun _ _ => trivial⟩

theorem of_net {nodes : List Node} {log : List LEnt} (hf : Flat typ) (I : NetBook.NetInv view
    (EntOK typ cuid n) (Dt typ) (fun _ => True) cuid n nodes log ap) : Inv typ cuid n ⟨nodes, log⟩ ap :=
  ⟨hf, I.distinct, I.len, fun i nd hi => .of_book (I.node i nd hi).1.1 (I.node i nd hi).1.2 (I.node i nd hi).2,
    I.log_auth, I.log_keys⟩

/-- **causal delivery, derived**: the operation a node is about to consume is an operation of the datatype, has what it
    needs among the operations the node has applied, and is new there -/
theorem deliver (I : Inv typ cuid n net ap) {j : Nat} {nd : Node} {a : Nat} {o : Op} (hj : net.nodes[j]? = some nd)
    (hl : net.log[nd.pulled]? = some (a, o)) (ha : a ≠ j) :
    Needs typ o (opsOf (ap j)) ∧ (∀ e ∈ ap j, lkey e ≠ lkey (a, o)) ∧ EntOK typ cuid n (a, o) := by
  obtain ⟨nda, P, S, hna, hsplit, hsubset, hkeys, hent⟩ := I.toNet.deliver_core entOK_auth hj hl ha
  exact ⟨needs_deliver hsplit (I.node a nda hna).causal_ops hsubset, hkeys, hent⟩

theorem step (I : Inv typ cuid n net ap) {net' : Net} (h : Step net net') : ∃ ap', Inv typ cuid n net' ap' :=
  let ⟨ap', I', _⟩ := I.toNet.step (closed I.flat cuid n) h.cstep
  ⟨ap', of_net I.flat I'⟩

theorem ops_perm (I : Inv typ cuid n net ap) {i : Nat} {nd : Node} (hi : net.nodes[i]? = some nd) :
    (opsOf (ap i)).Perm (appliedOps net.log i nd) :=
  (I.node i nd hi).book.ops_perm

end Inv

theorem inv_init {typ : DtType} {cuid : Nat → String} {n : Nat} (hf : Flat typ) (hc : CuidsDistinct cuid n) :
    Inv typ cuid n (Net.init typ cuid n) (fun _ => []) :=
  .of_net hf (.init hc fun _ _ => ⟨⟨(sem_nil hf).symm, causal_nil typ⟩, .init rfl⟩)

theorem inv_reach {typ : DtType} {cuid : Nat → String} {n : Nat} {net : Net} (hf : Flat typ)
    (h : Reach typ cuid n net) : ∃ ap, Inv typ cuid n net ap := by
  induction h with
  | init hc => exact ⟨_, inv_init hf hc⟩
  | step _ hs ih =>
    obtain ⟨ap, I⟩ := ih
    exact I.step hs

theorem flat_map : Flat .map := Or.inl rfl
theorem flat_counter : Flat .counter := Or.inr rfl

/-! ## the theorems: the LWW map -/

/-- in every reachable state the map of every node IS (plain equality) what the remote application of
    the operations it has applied gives, from the empty map; that sequence is `MapCausal` (every remove comes after a put
    of its key), its timestamps are pairwise `DistinctTs`, and it is a permutation of `appliedOps` (the node's buffer and
    the consumed log entries of the others) -/
theorem mnet_nodes_applied {cuid : Nat → String} {n : Nat} : ∀ net, Reach .map cuid n net →
    ∃ applied : Nat → List Op, ∀ i nd, net.nodes[i]? = some nd →
      nd.r.state = .map (mapApplyAll LwwMap.empty (applied i)) ∧ MapCausal (applied i) ∧ DistinctTs (applied i) ∧
      (applied i).Perm (appliedOps net.log i nd) := by
  intro net h
  obtain ⟨ap, I⟩ := inv_reach flat_map h
  refine ⟨fun i => opsOf (ap i), ?_⟩
  intro i nd hi
  have N := I.node i nd hi
  exact ⟨N.st, mapCausal_of_causal N.causal_ops, distinctTs_of_keys N.keys, I.ops_perm hi⟩

theorem live_keys_nodup {m : LwwMap} (h : m.WF) : (m.live.map (·.1)).Nodup :=
  liveE_keys_nodup _ h.1

theorem mem_live_iff {m : LwwMap} (h : m.WF) (k : String) (v : JVal) : (k, v) ∈ m.live ↔ m.get k = some v := by
  rw [← live_lookup m h k]
  constructor
  · exact alFind_of_mem k v m.live (live_keys_nodup h)
  · exact alFind_some_mem k v m.live

theorem live_nodup {m : LwwMap} (h : m.WF) : m.live.Nodup := by
  have := live_keys_nodup h
  unfold List.Nodup at this ⊢
  rw [List.pairwise_map] at this
  exact this.imp (fun hne e0 => hne (by rw [e0]))

/-- insertion by key -/
def insKV (a : String × JVal) : List (String × JVal) → List (String × JVal)
  | [] => [a]
  | b :: l => if a.1 ≤ b.1 then a :: b :: l else b :: insKV a l

/-- the JSON view of a map with the keys in order: the live bindings, sorted by key (values untouched) -/
def sortedView (m : LwwMap) : List (String × JVal) := m.live.foldr insKV []

/-- the JSON view of a map as a canonical JSON value (keys sorted, recursively: `JVal.canon` of Model/Patch.lean, the
    form in which `net_same_operations_same_document` compares documents) -/
def jsonView (m : LwwMap) : JVal := (JVal.obj m.live).canon

theorem insKV_perm (a : String × JVal) : ∀ l, (insKV a l).Perm (a :: l)
  | [] => List.Perm.refl _
  | b :: l => by
    unfold insKV
    split
    · exact List.Perm.refl _
    · exact ((insKV_perm a l).cons b).trans (List.Perm.swap a b l)

theorem sortKV_perm : ∀ l : List (String × JVal), (l.foldr insKV []).Perm l
  | [] => List.Perm.refl _
  | a :: l => by
    rw [List.foldr_cons]
    exact (insKV_perm a _).trans ((sortKV_perm l).cons a)

theorem insKV_sorted (a : String × JVal) : ∀ l : List (String × JVal), l.Pairwise (fun x y => x.1 ≤ y.1) →
    (insKV a l).Pairwise (fun x y => x.1 ≤ y.1)
  | [], _ => List.pairwise_singleton _ _
  | b :: l, h => by
    unfold insKV
    rw [List.pairwise_cons] at h
    split
    · rename_i hab
      refine List.pairwise_cons.mpr ⟨?_, List.pairwise_cons.mpr h⟩
      intro c hc
      rcases List.mem_cons.mp hc with rfl | hc
      · exact hab
      · exact String.le_trans hab (h.1 c hc)
    · rename_i hab
      have hba : b.1 ≤ a.1 := (String.le_total a.1 b.1).resolve_left hab
      refine List.pairwise_cons.mpr ⟨?_, insKV_sorted a l h.2⟩
      intro c hc
      rcases List.mem_cons.mp ((insKV_perm a l).mem_iff.mp hc) with rfl | hc
      · exact hba
      · exact h.1 c hc

theorem sortKV_sorted : ∀ l : List (String × JVal), (l.foldr insKV []).Pairwise (fun x y => x.1 ≤ y.1)
  | [] => List.Pairwise.nil
  | a :: l => by
    rw [List.foldr_cons]
    exact insKV_sorted a _ (sortKV_sorted l)

theorem sortedView_perm (m : LwwMap) : (sortedView m).Perm m.live := sortKV_perm _
theorem sortedView_sorted (m : LwwMap) : (sortedView m).Pairwise (fun a b => a.1 ≤ b.1) := sortKV_sorted _

theorem views_of_get_eq {mi mj : LwwMap} (hi : mi.WF) (hj : mj.WF) (hget : ∀ k, mi.get k = mj.get k) :
    (∀ k, alFind k mi.live = alFind k mj.live) ∧ mi.live.Perm mj.live ∧ sortedView mi = sortedView mj ∧
    jsonView mi = jsonView mj := by
  have hperm : mi.live.Perm mj.live := by
    apply (List.perm_ext_iff_of_nodup (live_nodup hi) (live_nodup hj)).mpr
    intro a
    obtain ⟨k, v⟩ := a
    rw [mem_live_iff hi, mem_live_iff hj, hget]
  have hlook : ∀ k, alFind k mi.live = alFind k mj.live := fun k => by
    rw [live_lookup mi hi, live_lookup mj hj, hget]
  refine ⟨hlook, hperm, ?_, ?_⟩
  · apply List.Perm.eq_of_pairwise (le := fun a b => a.1 ≤ b.1)
    · intro a b ha hb h1 h2
      have hk : a.1 = b.1 := String.le_antisymm h1 h2
      have ha' : a ∈ mi.live := (sortedView_perm mi).mem_iff.mp ha
      have hb' : b ∈ mi.live := hperm.mem_iff.mpr ((sortedView_perm mj).mem_iff.mp hb)
      obtain ⟨ka, va⟩ := a
      obtain ⟨kb, vb⟩ := b
      simp only at hk
      subst hk
      have e1 := (mem_live_iff hi _ _).mp ha'
      have e2 := (mem_live_iff hi _ _).mp hb'
      rw [e1] at e2
      simp only [Option.some.injEq] at e2
      rw [e2]
    · exact sortedView_sorted mi
    · exact sortedView_sorted mj
    · exact (sortedView_perm mi).trans (hperm.trans (sortedView_perm mj).symm)
  · unfold jsonView
    simp only [JVal.canon]
    rw [DC.canonKvs_ext (l := mi.live) (l' := mj.live) (fun k => by rw [hlook k])]

/-- the hypotheses `… .r.state = .map m` of the theorems below can always be met -/
theorem mnet_state_is_map {cuid : Nat → String} {n : Nat} : ∀ net, Reach .map cuid n net →
    ∀ nd ∈ net.nodes, ∃ m, nd.r.state = .map m ∧ m.WF := by
  intro net h nd hnd
  obtain ⟨ap, I⟩ := inv_reach flat_map h
  obtain ⟨i, hi⟩ := List.mem_iff_getElem?.mp hnd
  exact ⟨_, (I.node i nd hi).st, wf_mapApplyAll _ _ wf_empty⟩

theorem reads_of_perm {a b : List Op} {mi mj : LwwMap} (hi : sem .map a = .map mi) (hj : sem .map b = .map mj)
    (ca : Causal .map a) (cb : Causal .map b) (hd : DistinctTs a) (hp : a.Perm b) :
    (∀ k, mi.get k = mj.get k) ∧ mi.size = mj.size ∧
    (∀ k, alFind k mi.live = alFind k mj.live) ∧ mi.live.Perm mj.live ∧ sortedView mi = sortedView mj ∧
    jsonView mi = jsonView mj := by
  obtain rfl : mapApplyAll LwwMap.empty a = mi := DState.map.inj hi
  obtain rfl : mapApplyAll LwwMap.empty b = mj := DState.map.inj hj
  obtain ⟨hget, hsize⟩ := map_converge _ _ hp (mapCausal_of_causal ca) (mapCausal_of_causal cb) hd
  exact ⟨hget, hsize, views_of_get_eq (wf_mapApplyAll _ _ wf_empty) (wf_mapApplyAll _ _ wf_empty) hget⟩

/-- two nodes that have applied the same operations answer every read alike — `get` of every key,
    `Size`, and the JSON view (`live`): pointwise lookup, equality up to the order of the association list, and plain
    equality of the key-sorted views.  (Plain equality of the `LwwMap` states is false in general: the order of the
    association list is the order of first arrival.) -/
theorem mnet_same_operations_same_reads {cuid : Nat → String} {n : Nat} : ∀ net, Reach .map cuid n net →
    ∀ i j (hi : i < net.nodes.length) (hj : j < net.nodes.length) mi mj,
    net.nodes[i].r.state = .map mi → net.nodes[j].r.state = .map mj → SameOps net i j →
    (∀ k, mi.get k = mj.get k) ∧ mi.size = mj.size ∧
    (∀ k, alFind k mi.live = alFind k mj.live) ∧ mi.live.Perm mj.live ∧ sortedView mi = sortedView mj ∧
    jsonView mi = jsonView mj := by
  intro net h i j hi hj mi mj hmi hmj hsame
  obtain ⟨ap, I⟩ := inv_reach flat_map h
  have Ni := I.node i _ (List.getElem?_eq_getElem hi)
  have Nj := I.node j _ (List.getElem?_eq_getElem hj)
  exact reads_of_perm (Ni.st.symm.trans hmi) (Nj.st.symm.trans hmj) Ni.causal_ops Nj.causal_ops
    (distinctTs_of_keys Ni.keys) (perm_of_sameOps_net I.toNet hsame)

/-- C02 for the map, end to end: what a node answers is a function of the operations it has applied (`appliedOps`: its
    buffer and the consumed log entries of the others) alone — every key holds what the timestamp rule `Spec.mapGet`
    says, `Size` is the number of live keys -/
theorem mnet_reads_are_spec {cuid : Nat → String} {n : Nat} : ∀ net, Reach .map cuid n net →
    ∀ (i : Nat) (nd : Node) (m : LwwMap), net.nodes[i]? = some nd → nd.r.state = .map m →
    (∀ k, m.get k = Spec.mapGet (appliedOps net.log i nd) k) ∧
    m.size = ((Spec.mapView (appliedOps net.log i nd)).length : Int) := by
  intro net h i nd m hi hm
  obtain ⟨ap, I⟩ := inv_reach flat_map h
  have N := I.node i nd hi
  have e1 := N.st
  rw [hm] at e1
  simp only [sem, DState.map.injEq] at e1
  have hd := distinctTs_of_keys N.keys
  have hget : ∀ k, m.get k = Spec.mapGet (appliedOps net.log i nd) k := by
    intro k
    rw [e1, map_denote _ (mapCausal_of_causal N.causal_ops) hd k, spec_mapGet_perm _ _ (I.ops_perm hi) hd k]
  exact ⟨hget, size_eq_of_get m _ (e1 ▸ wf_mapApplyAll _ _ wf_empty) hget⟩

/-- every delivery that the system performs (map) is a put or a remove; a remove finds its key in the map (never
    `DatatypeNoTarget`: CAUSALITY, derived); no error, no panic; the new state IS the remote application -/
theorem mnet_deliveries_exact {cuid : Nat → String} {n : Nat} : ∀ net, Reach .map cuid n net →
    ∀ (i : Nat) (nd : Node) (a : Nat) (o : Op) (m : LwwMap), net.nodes[i]? = some nd →
      net.log[nd.pulled]? = some (a, o) → a ≠ i → nd.r.state = .map m →
      isMapOp o = true ∧ (∀ k, o.body = .remove k → ∃ e, m.find k = some e) ∧
      (nd.r.execRemoteBase o).2 = none ∧ (nd.r.execRemoteBase o).1.state = .map (mapApply m o) := by
  intro net h i nd a o m hi hl ha hm
  obtain ⟨ap, I⟩ := inv_reach flat_map h
  have N := I.node i nd hi
  obtain ⟨hneeds, _, hent⟩ := I.deliver hi hl ha
  have e1 := N.st
  rw [hm] at e1
  simp only [sem, DState.map.injEq] at e1
  obtain ⟨r1, r2⟩ := remote_cases flat_map nd.r _ N.st o hent.2.2
  refine ⟨hent.2.2, ?_, r2, ?_⟩
  · intro k hk
    obtain ⟨o', ho', v, hv⟩ := hneeds k hk
    exact find_of_put (e1 ▸ mapInv_all _ (mapCausal_of_causal N.causal_ops)) ho' hv
  · rw [r1]
    simp only [sem, mapApplyAll_snoc, e1]

theorem sameOps_of_caught_up {typ : DtType} {cuid : Nat → String} {n : Nat} {net : Net} (hf : Flat typ)
    (h : Reach typ cuid n net) {i j : Nat}
    (hi : i < net.nodes.length) (hj : j < net.nodes.length)
    (pi : net.nodes[i].pushed = net.nodes[i].r.buffer.length) (li : net.nodes[i].pulled = net.log.length)
    (pj : net.nodes[j].pushed = net.nodes[j].r.buffer.length) (lj : net.nodes[j].pulled = net.log.length) :
    SameOps net i j :=
  let ⟨_, I⟩ := inv_reach hf h
  ⟨_, _, List.getElem?_eq_getElem hi, List.getElem?_eq_getElem hj,
    I.toNet.caught_up_perm (List.getElem?_eq_getElem hi) (List.getElem?_eq_getElem hj) pi li pj lj⟩

theorem sameOps_of_quiescent {typ : DtType} {cuid : Nat → String} {n : Nat} {net : Net} (hf : Flat typ)
    (h : Reach typ cuid n net) (hq : Quiescent net)
    {i j : Nat} (hi : i < net.nodes.length) (hj : j < net.nodes.length) : SameOps net i j :=
  sameOps_of_caught_up hf h hi hj (hq _ (List.getElem_mem hi)).1 (hq _ (List.getElem_mem hi)).2
    (hq _ (List.getElem_mem hj)).1 (hq _ (List.getElem_mem hj)).2

/-- corollary (map): at quiescence (every buffer completely pushed, every node has consumed the whole log) all nodes
    answer every read alike -/
theorem mnet_quiescent_converged {cuid : Nat → String} {n : Nat} : ∀ net, Reach .map cuid n net → Quiescent net →
    ∀ i j (hi : i < net.nodes.length) (hj : j < net.nodes.length) mi mj,
    net.nodes[i].r.state = .map mi → net.nodes[j].r.state = .map mj →
    (∀ k, mi.get k = mj.get k) ∧ mi.size = mj.size ∧
    (∀ k, alFind k mi.live = alFind k mj.live) ∧ mi.live.Perm mj.live ∧ sortedView mi = sortedView mj ∧
    jsonView mi = jsonView mj := by
  intro net h hq i j hi hj mi mj hmi hmj
  exact mnet_same_operations_same_reads net h i j hi hj mi mj hmi hmj (sameOps_of_quiescent flat_map h hq hi hj)

/-! ## the theorems: the counter -/

/-- the value of every node IS the fold of the remote application over the operations it has
    applied (a permutation of `appliedOps`) -/
theorem cnet_nodes_applied {cuid : Nat → String} {n : Nat} : ∀ net, Reach .counter cuid n net →
    ∃ applied : Nat → List Op, ∀ i nd, net.nodes[i]? = some nd →
      nd.r.state = .counter ((applied i).foldl counterApply 0) ∧ (applied i).Perm (appliedOps net.log i nd) := by
  intro net h
  obtain ⟨ap, I⟩ := inv_reach flat_counter h
  refine ⟨fun i => opsOf (ap i), ?_⟩
  intro i nd hi
  exact ⟨(I.node i nd hi).st, I.ops_perm hi⟩

/-- the value of a counter node is a function of `appliedOps` alone: the sum of the increments, with 32-bit wrap -/
theorem cnet_value_is_spec {cuid : Nat → String} {n : Nat} : ∀ net, Reach .counter cuid n net →
    ∀ (i : Nat) (nd : Node), net.nodes[i]? = some nd →
      nd.r.state = DState.counter (Spec.counter (appliedOps net.log i nd)) := by
  intro net h i nd hi
  obtain ⟨ap, I⟩ := inv_reach flat_counter h
  rw [(I.node i nd hi).st]
  simp only [sem]
  rw [counter_converge _ _ (I.ops_perm hi), counter_denote]

/-- every delivery that the system performs (counter) is an increase; no error, no panic -/
theorem cnet_deliveries_exact {cuid : Nat → String} {n : Nat} : ∀ net, Reach .counter cuid n net →
    ∀ (i : Nat) (nd : Node) (a : Nat) (o : Op) (v : Int), net.nodes[i]? = some nd →
      net.log[nd.pulled]? = some (a, o) → a ≠ i → nd.r.state = .counter v →
      ∃ d, o.body = .increase d ∧ (nd.r.execRemoteBase o).2 = none ∧
        (nd.r.execRemoteBase o).1.state = .counter (counterIncrease v d) := by
  intro net h i nd a o v hi hl ha hv
  obtain ⟨ap, I⟩ := inv_reach flat_counter h
  have N := I.node i nd hi
  obtain ⟨_, _, hent⟩ := I.deliver hi hl ha
  have e1 := N.st
  rw [hv] at e1
  simp only [sem, DState.counter.injEq] at e1
  obtain ⟨r1, r2⟩ := remote_cases flat_counter nd.r _ N.st o hent.2.2
  obtain ⟨d, hd⟩ := hent.2.2
  simp only at hd
  refine ⟨d, hd, r2, ?_⟩
  rw [r1]
  simp only [sem, List.foldl_append, List.foldl_cons, List.foldl_nil, ← e1, counterApply, hd]

theorem counter_of_perm {a b : List Op} (hp : a.Perm b) : sem .counter a = sem .counter b :=
  congrArg DState.counter (counter_converge a b hp)

/-- two nodes that have applied the same operations hold the SAME state (plain equality) -/
theorem cnet_same_operations_same_state {cuid : Nat → String} {n : Nat} : ∀ net, Reach .counter cuid n net →
    ∀ i j (hi : i < net.nodes.length) (hj : j < net.nodes.length),
    SameOps net i j → net.nodes[i].r.state = net.nodes[j].r.state := by
  intro net h i j hi hj hsame
  obtain ⟨ap, I⟩ := inv_reach flat_counter h
  rw [(I.node i _ (List.getElem?_eq_getElem hi)).st, (I.node j _ (List.getElem?_eq_getElem hj)).st]
  exact counter_of_perm (perm_of_sameOps_net I.toNet hsame)

theorem cnet_quiescent_converged {cuid : Nat → String} {n : Nat} : ∀ net, Reach .counter cuid n net → Quiescent net →
    ∀ i j (hi : i < net.nodes.length) (hj : j < net.nodes.length),
    net.nodes[i].r.state = net.nodes[j].r.state := by
  intro net h hq i j hi hj
  exact cnet_same_operations_same_state net h i j hi hj (sameOps_of_quiescent flat_counter h hq hi hj)

/-! ## non-vacuity, map: three nodes, thirteen calls (four refused), a complete run to quiescence

Node 0 puts `x` and `y`; nodes 1 and 2 pull both.  Then, CONCURRENTLY: node 1 removes `x` (a key put by ANOTHER node)
while node 2 puts `x` again (same lamport 3, larger client: the put wins); node 0 removes `y` while node 1 puts `y` again
(same lamport 4, larger client: the put beats that remove) and node 2 removes `y` too (same lamport, largest client: this
remove wins); nodes 0 and 1 create the new keys `z` and `w` concurrently (so their association lists end in different
orders).  REFUSED calls (they change nothing and queue nothing): node 2 removes the unknown key `zz`
(`DatatypeNoOp`), node 1 puts with the empty key (`IllegalParameters`), node 2 calls the counter's `inc` and the list's
`linsert` (`IllegalOperation`).  Everything is pushed (node 2 first), every node pulls the whole log. -/
namespace ExMap

def cu : Nat → String
  | 0 => "a" | 1 => "b" | _ => "c"

def acts : List Act := [
  .call 0 (.mput "x" (.num 1)),
  .call 0 (.mput "y" (.num 2)),
  .push 0, .push 0,
  .pull 1, .pull 1, .pull 2, .pull 2,
  .call 1 (.mremove "x"),
  .call 2 (.mput "x" (.num 5)),
  .call 2 (.mremove "zz"),
  .call 0 (.mput "z" (.str "s")),
  .call 0 (.mremove "y"),
  .call 1 (.mput "y" (.num 7)),
  .call 2 (.inc 1),
  .call 2 (.mremove "y"),
  .call 1 (.mput "" (.num 1)),
  .call 1 (.mput "w" (.obj [("q", .num 0), ("p", .null)])),
  .call 2 (.linsert 0 [.num 1]),
  .push 2, .push 1, .push 0, .push 1, .push 0, .push 2, .push 1,
  .pull 0, .pull 0, .pull 0, .pull 0, .pull 0, .pull 0, .pull 0, .pull 0, .pull 0,
  .pull 1, .pull 1, .pull 1, .pull 1, .pull 1, .pull 1, .pull 1,
  .pull 2, .pull 2, .pull 2, .pull 2, .pull 2, .pull 2, .pull 2]

def mapOf (r : Replica) : LwwMap := match r.state with | .map m => m | _ => LwwMap.empty
def finalNet : Net := ((Net.init .map cu 3).run acts).getD ⟨[], []⟩

theorem final_facts : ((Net.init .map cu 3).run acts).isSome = true ∧ finalNet.nodes.length = 3 ∧
    (∀ nd ∈ finalNet.nodes, nd.pushed = nd.r.buffer.length ∧ nd.pulled = finalNet.log.length) ∧
    (finalNet.log.length = 9 ∧ finalNet.log.map (·.1) = [0, 0, 2, 1, 0, 1, 0, 2, 1] ∧
      finalNet.nodes.map (·.r.buffer.length) = [4, 3, 2]) := by decide +kernel

theorem run_isSome : ((Net.init .map cu 3).run acts).isSome = true := final_facts.1

theorem run_final : (Net.init .map cu 3).run acts = some finalNet := ListAux.some_getD run_isSome

theorem cu_distinct : CuidsDistinct cu 3 := NetBook.distinct3 (by decide) (by decide) (by decide)

theorem reach_final : Reach .map cu 3 finalNet := reach_run acts (.init cu_distinct) run_final

theorem quiescent_final : Quiescent finalNet := final_facts.2.2.1

/-- every node of a reachable map net holds a map (no evaluation needed) -/
theorem state_mapOf {n : Nat} {net : Net} (h : Reach .map cu n net) (i : Nat) (hi : i < net.nodes.length) :
    net.nodes[i].r.state = .map (mapOf net.nodes[i].r) := by
  obtain ⟨m, hm, _⟩ := mnet_state_is_map net h _ (List.getElem_mem hi)
  rw [mapOf, hm]

theorem len_final : finalNet.nodes.length = 3 := final_facts.2.1
def n0 : Node := finalNet.nodes[0]'(by rw [len_final]; decide)
def n1 : Node := finalNet.nodes[1]'(by rw [len_final]; decide)
def n2 : Node := finalNet.nodes[2]'(by rw [len_final]; decide)
def m0 : LwwMap := mapOf n0.r
def m1 : LwwMap := mapOf n1.r
def m2 : LwwMap := mapOf n2.r
theorem st0 : n0.r.state = .map m0 := state_mapOf reach_final 0 (by rw [len_final]; decide)
theorem st1 : n1.r.state = .map m1 := state_mapOf reach_final 1 (by rw [len_final]; decide)
theorem st2 : n2.r.state = .map m2 := state_mapOf reach_final 2 (by rw [len_final]; decide)

/-- nine operations went through the log; the four refused calls queued nothing -/
example : finalNet.log.length = 9 ∧ finalNet.log.map (·.1) = [0, 0, 2, 1, 0, 1, 0, 2, 1] ∧
    finalNet.nodes.map (·.r.buffer.length) = [4, 3, 2] := final_facts.2.2.2

example : (∀ k, m0.get k = m1.get k) ∧ m0.size = m1.size ∧ (∀ k, alFind k m0.live = alFind k m1.live) ∧
    m0.live.Perm m1.live ∧ sortedView m0 = sortedView m1 ∧ jsonView m0 = jsonView m1 :=
  mnet_quiescent_converged finalNet reach_final quiescent_final 0 1 (by rw [len_final]; decide) (by rw [len_final]; decide) m0 m1 st0 st1
example : (∀ k, m1.get k = m2.get k) ∧ m1.size = m2.size ∧ (∀ k, alFind k m1.live = alFind k m2.live) ∧
    m1.live.Perm m2.live ∧ sortedView m1 = sortedView m2 ∧ jsonView m1 = jsonView m2 :=
  mnet_quiescent_converged finalNet reach_final quiescent_final 1 2 (by rw [len_final]; decide) (by rw [len_final]; decide) m1 m2 st1 st2

example : (sortedView m0 == [("w", .obj [("q", .num 0), ("p", .null)]), ("x", .num 5), ("z", .str "s")]) = true ∧
    (sortedView m1 == sortedView m0) = true ∧ (sortedView m2 == sortedView m0) = true ∧
    (jsonView m0 == .obj [("w", .obj [("p", .null), ("q", .num 0)]), ("x", .num 5), ("z", .str "s")]) = true ∧
    m0.size = 3 ∧ m1.size = 3 ∧ m2.size = 3 ∧ (m0.get "y" == none) = true ∧ (m1.get "x" == some (.num 5)) = true := by
  decide +kernel

theorem final_orders :
    m0.entries.map (·.1) = ["x", "y", "z", "w"] ∧ m1.entries.map (·.1) = ["x", "y", "w", "z"] := by decide +kernel

/-- plain equality of the states is FALSE in this very run: the association lists of nodes 0 and 1 differ in order -/
example : m0.entries.map (·.1) = ["x", "y", "z", "w"] ∧ m1.entries.map (·.1) = ["x", "y", "w", "z"] := final_orders
example : n0.r.state ≠ n1.r.state := by
  rw [st0, st1]
  intro h
  have e := final_orders.1.symm.trans ((congrArg (·.entries.map (·.1)) (DState.map.inj h)).trans final_orders.2)
  exact absurd e (by decide)

/-- a state in the middle of the run: node 0 is about to receive node 1's remove of `x` -/
def midNet : Net := ((Net.init .map cu 3).run (acts.take 29)).getD ⟨[], []⟩
theorem mid_run : ((Net.init .map cu 3).run (acts.take 29)).isSome = true ∧ midNet.nodes.length = 3 := by
  decide +kernel
theorem mid_isSome : ((Net.init .map cu 3).run (acts.take 29)).isSome = true := mid_run.1
theorem run_mid : (Net.init .map cu 3).run (acts.take 29) = some midNet := ListAux.some_getD mid_isSome
theorem reach_mid : Reach .map cu 3 midNet := reach_run (acts.take 29) (.init cu_distinct) run_mid
theorem len_mid : midNet.nodes.length = 3 := mid_run.2
def nd0 : Node := midNet.nodes[0]'(by rw [len_mid]; decide)
def oRem : Op := ⟨⟨0, 3, "b", 1⟩, .remove "x"⟩
example : nd0.pulled = 3 ∧ nd0.pushed = 4 := by decide +kernel

example : isMapOp oRem = true ∧ (∀ k, oRem.body = .remove k → ∃ e, (mapOf nd0.r).find k = some e) ∧
    (nd0.r.execRemoteBase oRem).2 = none ∧
    (nd0.r.execRemoteBase oRem).1.state = .map (mapApply (mapOf nd0.r) oRem) :=
  mnet_deliveries_exact midNet reach_mid 0 nd0 1 oRem (mapOf nd0.r) (List.getElem?_eq_getElem _) rfl (by decide)
    (state_mapOf reach_mid 0 _)

/-- `mnet_same_operations_same_reads` instantiated in a NON-quiescent state: nodes 0 and 1 have pushed everything and
    consumed the whole log, node 2 has not -/
def lateNet : Net := ((Net.init .map cu 3).run (acts.take 42)).getD ⟨[], []⟩
theorem late_run : ((Net.init .map cu 3).run (acts.take 42)).isSome = true ∧ lateNet.nodes.length = 3 := by
  decide +kernel
theorem late_isSome : ((Net.init .map cu 3).run (acts.take 42)).isSome = true := late_run.1
theorem run_late : (Net.init .map cu 3).run (acts.take 42) = some lateNet := ListAux.some_getD late_isSome
theorem reach_late : Reach .map cu 3 lateNet := reach_run (acts.take 42) (.init cu_distinct) run_late
theorem len_late : lateNet.nodes.length = 3 := late_run.2

theorem late_facts : ¬ (∀ nd ∈ lateNet.nodes, nd.pushed = nd.r.buffer.length ∧ nd.pulled = lateNet.log.length) ∧
    ∀ i (h : i < 2), (lateNet.nodes[i]'(by rw [len_late]; omega)).pushed =
        (lateNet.nodes[i]'(by rw [len_late]; omega)).r.buffer.length ∧
      (lateNet.nodes[i]'(by rw [len_late]; omega)).pulled = lateNet.log.length := by decide +kernel

example : ¬ Quiescent lateNet := late_facts.1
def l0 : LwwMap := mapOf (lateNet.nodes[0]'(by rw [len_late]; decide)).r
def l1 : LwwMap := mapOf (lateNet.nodes[1]'(by rw [len_late]; decide)).r
example : (∀ k, l0.get k = l1.get k) ∧ l0.size = l1.size ∧ (∀ k, alFind k l0.live = alFind k l1.live) ∧
    l0.live.Perm l1.live ∧ sortedView l0 = sortedView l1 ∧ jsonView l0 = jsonView l1 :=
  mnet_same_operations_same_reads lateNet reach_late 0 1 _ _ l0 l1 (state_mapOf reach_late 0 _)
    (state_mapOf reach_late 1 _)
    (sameOps_of_caught_up flat_map reach_late _ _ (late_facts.2 0 (by decide)).1 (late_facts.2 0 (by decide)).2
      (late_facts.2 1 (by decide)).1 (late_facts.2 1 (by decide)).2)

end ExMap

/-! ## non-vacuity, counter: three nodes, eight calls (three refused), a complete run to quiescence

All increases are concurrent (node 0 sees node 1's first one before its second); one of them overflows int32; refused
calls: a map put, `msize`, a map remove (`IllegalOperation`). -/
namespace ExCounter
open ExMap (cu cu_distinct)

def acts : List Act := [
  .call 0 (.inc 5),
  .call 1 (.inc (-3)),
  .call 2 (.inc 2147483647),
  .call 0 (.mput "k" (.num 1)),
  .push 1, .pull 0,
  .call 1 (.inc 7),
  .call 2 .msize,
  .call 0 (.inc 1),
  .call 2 (.mremove "k"),
  .push 0, .push 2, .push 1, .push 0,
  .pull 0, .pull 0, .pull 0, .pull 0,
  .pull 1, .pull 1, .pull 1, .pull 1, .pull 1,
  .pull 2, .pull 2, .pull 2, .pull 2, .pull 2]

def valOf (r : Replica) : Int := match r.state with | .counter v => v | _ => 0
def finalNet : Net := ((Net.init .counter cu 3).run acts).getD ⟨[], []⟩

theorem final_facts : ((Net.init .counter cu 3).run acts).isSome = true ∧ finalNet.nodes.length = 3 ∧
    (∀ nd ∈ finalNet.nodes, nd.pushed = nd.r.buffer.length ∧ nd.pulled = finalNet.log.length) ∧
    (finalNet.log.length = 5 ∧ finalNet.log.map (·.1) = [1, 0, 2, 1, 0]) ∧
    finalNet.nodes.map (fun nd => valOf nd.r) = [-2147483639, -2147483639, -2147483639] := by decide +kernel

theorem run_isSome : ((Net.init .counter cu 3).run acts).isSome = true := final_facts.1
theorem run_final : (Net.init .counter cu 3).run acts = some finalNet := ListAux.some_getD run_isSome
theorem reach_final : Reach .counter cu 3 finalNet := reach_run acts (.init cu_distinct) run_final
theorem quiescent_final : Quiescent finalNet := final_facts.2.2.1
theorem len_final : finalNet.nodes.length = 3 := final_facts.2.1

example : finalNet.log.length = 5 ∧ finalNet.log.map (·.1) = [1, 0, 2, 1, 0] := final_facts.2.2.2.1

example : (finalNet.nodes[0]'(by rw [len_final]; decide)).r.state =
    (finalNet.nodes[1]'(by rw [len_final]; decide)).r.state :=
  cnet_quiescent_converged finalNet reach_final quiescent_final 0 1 _ _
example : (finalNet.nodes[1]'(by rw [len_final]; decide)).r.state =
    (finalNet.nodes[2]'(by rw [len_final]; decide)).r.state :=
  cnet_quiescent_converged finalNet reach_final quiescent_final 1 2 _ _

/-- the common value: 5 − 3 + 2147483647 + 7 + 1, wrapped to int32 -/
example : finalNet.nodes.map (fun nd => valOf nd.r) = [-2147483639, -2147483639, -2147483639] := final_facts.2.2.2.2

/-- in the middle of the run (after node 0 has consumed node 1's first increase) the values differ -/
example : (((Net.init .counter cu 3).run (acts.take 6)).getD ⟨[], []⟩).nodes.map (fun nd => valOf nd.r) =
    [2, -3, 2147483647] := by decide +kernel

end ExCounter

end Orda.MNet
