/-
C08 on the server model with storage faults (Model/Fault): the datatype document is the commit point
of a push.  A fault before the first write leaves the store untouched, a fault between the two writes
leaves only uncommitted operation documents that `committedView` hides, and nothing committed is ever
lost.

`fault_eq` is the normal form of `processPushPullFault` (`FR.pre` then `FR.served`); `FR.outcome` reads off it that the store
afterwards is one of three (`FR.Outcome`), and the four results about the store after a fault (`fault_between_writes_shape`,
`_invisible`, `fault_keeps_committed`, `logInv_after_fault`) are case splits of it.  A new fault kind is a constructor of
`FaultAt`, its branch in `processPushPullFault` and in `FR.served`, the last `cases f` of `outcome`, and the constructor lists in
`fault_before_write_unchanged'` and `background_fault_commits`.
-/
import Orda.Model.Fault
import Orda.Proofs.ServerLog
namespace Orda

namespace FR
open SL

/-- the leftover test of `committedView` -/
def isLeft (st : Store) (o : OpDoc) : Bool :=
  match st.getDatatype o.duid with
  | some d => decide (d.sseqEnd < o.sseq)
  | none => true

theorem committedView_eq (st : Store) :
    st.committedView =
      ({ st with operations := st.operations.filter (fun o => !isLeft st o) }, st.operations.filter (isLeft st)) := rfl

/-- the leftover test only reads the datatype documents -/
theorem isLeft_ops (st : Store) (ops : List OpDoc) : isLeft { st with operations := ops } = isLeft st := rfl

theorem isLeft_old {st : Store} (h : LogInv st) {o : OpDoc} (ho : o ∈ st.operations) : isLeft st o = false := by
  unfold isLeft
  cases hg : st.getDatatype o.duid with
  | none =>
    obtain ⟨d, hd, hdo⟩ := h.noOrphan o ho
    exact absurd hdo (getDatatype_none hg d hd)
  | some d' =>
    obtain ⟨hm, hduid⟩ := getDatatype_some hg
    have hlog := h.gapless d' hm
    have hmem : o.sseq ∈ (st.opsOf d'.duid).map (·.sseq) := by
      refine List.mem_map.2 ⟨o, ?_, rfl⟩
      unfold Store.opsOf
      exact List.mem_filter.2 ⟨ho, by simp [hduid]⟩
    rw [hlog, List.mem_range'_1] at hmem
    simp only [decide_eq_false_iff_not]
    omega

theorem isLeft_new {st : Store} {cl : ClientDoc} {col : CollectionDoc} {p : Pack} {d : Dispatch} {doc : DatatypeDoc}
    {cp2 : CheckPoint} {nd : List OpDoc} (h : LogInv st) (hs : Served st col p d doc)
    (hp : pushRes cl col p d doc = .ok (cp2, nd)) {o : OpDoc} (ho : o ∈ nd) : isLeft st o = true := by
  have P := pushRes_spec hs hp
  have hduid := (P.mem o ho).1
  have hseq : o.sseq ∈ nd.map (·.sseq) := List.mem_map.2 ⟨o, ho, rfl⟩
  rw [P.sseqs, List.mem_range'_1] at hseq
  unfold isLeft
  rw [hduid]
  rcases hs.src with ⟨hf, _⟩ | hm
  · have : st.getDatatype doc.duid = none := by
      unfold Store.getDatatype
      exact List.find?_eq_none.2 (fun y hy => by simpa using hf y hy)
    rw [this]
  · rw [getDatatype_of_mem h hm]
    simp only [decide_eq_true_eq]
    omega

theorem filter_old {st : Store} (h : LogInv st) :
    st.operations.filter (fun o => !isLeft st o) = st.operations :=
  List.filter_eq_self.2 (fun o ho => by simp [isLeft_old h ho])

/-- the committed view after only the first write of the request `p` is the store before it -/
theorem cv_first_write (st : Store) (cl : ClientDoc) (col : CollectionDoc) (p : Pack) (h : LogInv st) :
    ({ st with operations := (processPack st cl col p).store.operations } : Store).committedView.1 = st := by
  rw [committedView_eq]
  simp only [isLeft_ops]
  rcases processPack_shape st cl col p with ⟨resp, he, _⟩ | ⟨d, doc, cp2, nd, he, hp, hs⟩
  · rw [he]
    simp only [filter_old h]
  · rw [he]
    simp only [okR, List.filter_append, filter_old h]
    have : nd.filter (fun o => !isLeft st o) = [] :=
      List.filter_eq_nil_iff.2 (fun o ho => by simp [isLeft_new h hs hp ho])
    rw [this, List.append_nil]

/-- the collection and client checks of `processPushPullFault` before it looks at the pack, with what follows them as `k`: the
    three refusals of `processPushPull` with its codes (`SL.processPushPull_cases`), in this function's result type; `fault_eq`
    is the equation that uses it -/
def pre (st : Store) (colName cuid : String)
    (k : ClientDoc → CollectionDoc → Store × FaultReply × List Notification) : Store × FaultReply × List Notification :=
  match st.getCollection colName with
  | none => (st, .rpcErr 5, [])
  | some col =>
    match st.getClient cuid with
    | none => (st, .rpcErr 5, [])
    | some cl => if cl.colNum ≠ col.num then (st, .rpcErr 16, []) else k cl col

/-- the store after a faulted request is the old store, the store of the fault-free request, or the
    old store plus the operation documents of the fault-free request -/
inductive Outcome (st : Store) (p : Pack) (f : FaultAt) (s : Store) : Prop where
  | same (h : s = st)
  /-- `herr`: if the failing command was the update of the datatype document and the request still counts as done, it was a
      refusal (nothing was to be written) -/
  | done (cl : ClientDoc) (col : CollectionDoc) (h : s = (processPack st cl col p).store)
      (herr : f = .updateDatatypes → (processPack st cl col p).resp.error = true)
  | half (cl : ClientDoc) (col : CollectionDoc) (hf : f = .updateDatatypes)
      (h : s = { st with operations := (processPack st cl col p).store.operations })

/-- the part of `processPushPullFault` after the checks of `pre`, its `let r := processPack st cl col p` written out; `fault_eq`
    (by `rfl` per fault) keeps the two texts equal -/
def served (st : Store) (p : Pack) (f : FaultAt) (cl : ClientDoc) (col : CollectionDoc) :
    Store × FaultReply × List Notification :=
  if f = .findDatatypes then (st, .errPack 300, [])
  else if (processPack st cl col p).resp.error then
    ((processPack st cl col p).store, .normal (processPack st cl col p).resp, [])
  else
    match f with
    | .findOperations => (st, .errPack 300, [])
    | .deleteLeftovers | .insertOperations =>
      if (processPack st cl col p).pushed = 0 then
        ((processPack st cl col p).store, .normal (processPack st cl col p).resp,
          (processPack st cl col p).notif.toList)
      else (st, .errPack 300, [])
    | .updateDatatypes => ({ st with operations := (processPack st cl col p).store.operations }, .errPack 300, [])
    | _ =>
      ((processPack st cl col p).store, .normal (processPack st cl col p).resp,
        (processPack st cl col p).notif.toList)

theorem fault_eq (st : Store) (colName cuid : String) (p : Pack) (f : FaultAt) :
    st.processPushPullFault colName cuid p f =
      if f = .findCollections ∨ f = .findClients then (st, .rpcErr 14, [])
      else pre st colName cuid (served st p f) := by
  cases f <;> rfl

theorem pre_elim {st : Store} {colName cuid : String}
    {k : ClientDoc → CollectionDoc → Store × FaultReply × List Notification}
    {P : Store × FaultReply × List Notification → Prop} (h0 : ∀ code, P (st, .rpcErr code, []))
    (hk : ∀ cl col, P (k cl col)) : P (pre st colName cuid k) := by
  unfold pre
  split
  · exact h0 5
  · split
    · exact h0 5
    · split
      · exact h0 16
      · exact hk _ _

theorem outcome (st : Store) (colName cuid : String) (p : Pack) (f : FaultAt) :
    Outcome st p f (st.processPushPullFault colName cuid p f).1 := by
  rw [fault_eq]
  split
  · exact .same rfl
  refine pre_elim (P := fun x => Outcome st p f x.1) (fun _ => .same rfl) fun cl col => ?_
  unfold served
  by_cases h2 : f = .findDatatypes
  · rw [if_pos h2]; exact .same rfl
  rw [if_neg h2]
  by_cases herr : (processPack st cl col p).resp.error = true
  · rw [if_pos herr]; exact .done cl col rfl fun _ => herr
  rw [if_neg herr]
  -- the request is served: what is written depends on the failing command alone
  cases f with
  | updateDatatypes => exact .half cl col rfl rfl
  | deleteLeftovers | insertOperations =>
    dsimp only
    split
    · exact .done cl col rfl nofun
    · exact .same rfl
  | findOperations => exact .same rfl
  | findCollections | findClients | findDatatypes | background | bgUserDoc => exact .done cl col rfl nofun

end FR

open SL FR

theorem committedView_of_logInv (st : Store) (h : LogInv st) : st.committedView = (st, []) := by
  rw [committedView_eq, filter_old h]
  have : st.operations.filter (isLeft st) = [] :=
    List.filter_eq_nil_iff.2 (fun o ho => by simp [isLeft_old h ho])
  rw [this]

/-- the committed view is its own committed view: taking it twice changes nothing -/
theorem committedView_idem (st : Store) : (st.committedView.1).committedView.1 = st.committedView.1 := by
  simp only [committedView_eq, isLeft_ops, List.filter_filter, Bool.and_self]

/-- C08: a fault at any of the four reads leaves the store exactly as it was, and the
    client gets an error: an RPC error, an error pack, or a refusal pack -/
theorem fault_before_write_unchanged' (st : Store) (colName cuid : String) (p : Pack) (f : FaultAt)
    (hf : f = .findCollections ∨ f = .findClients ∨ f = .findDatatypes ∨ f = .findOperations) :
    (st.processPushPullFault colName cuid p f).1 = st ∧
    ((∃ code, (st.processPushPullFault colName cuid p f).2.1 = .rpcErr code) ∨
     (∃ code, (st.processPushPullFault colName cuid p f).2.1 = .errPack code) ∨
     (∃ rp, (st.processPushPullFault colName cuid p f).2.1 = .normal rp ∧ rp.error = true)) := by
  rw [fault_eq]
  split
  · exact ⟨rfl, Or.inl ⟨_, rfl⟩⟩
  next h1 =>
  refine pre_elim (P := fun x => x.1 = st ∧ ((∃ code, x.2.1 = .rpcErr code) ∨
    (∃ code, x.2.1 = .errPack code) ∨ ∃ rp, x.2.1 = .normal rp ∧ rp.error = true))
    (fun code => ⟨rfl, Or.inl ⟨code, rfl⟩⟩) fun cl col => ?_
  unfold served
  by_cases h2 : f = .findDatatypes
  · rw [if_pos h2]; exact ⟨rfl, Or.inr (Or.inl ⟨_, rfl⟩)⟩
  rw [if_neg h2]
  by_cases herr : (processPack st cl col p).resp.error = true
  · rw [if_pos herr]; exact ⟨refused_store_unchanged _ _ _ _ herr, Or.inr (Or.inr ⟨_, rfl, herr⟩)⟩
  · rw [if_neg herr]
    rcases hf with rfl | rfl | rfl | rfl
    · exact absurd (Or.inl rfl) h1
    · exact absurd (Or.inr rfl) h1
    · exact absurd rfl h2
    · exact ⟨rfl, Or.inr (Or.inl ⟨_, rfl⟩)⟩

/-- C08: a fault at any of the four reads, regrouped: an RPC error with the store as it was, or the
    store as it was with an error pack or a refusal pack; never silence -/
theorem fault_before_write_unchanged (st : Store) (colName cuid : String) (p : Pack) (f : FaultAt)
    (hf : f = .findCollections ∨ f = .findClients ∨ f = .findDatatypes ∨ f = .findOperations) :
    (st.processPushPullFault colName cuid p f).1 = st ∧
    (∃ code, (st.processPushPullFault colName cuid p f).2.1 = .rpcErr code) ∨
    ((st.processPushPullFault colName cuid p f).1 = st ∧
      ((∃ code, (st.processPushPullFault colName cuid p f).2.1 = .errPack code) ∨
       (∃ rp, (st.processPushPullFault colName cuid p f).2.1 = .normal rp ∧ rp.error = true))) := by
  obtain ⟨h1, h2 | h2⟩ := fault_before_write_unchanged' st colName cuid p f hf
  · exact Or.inl ⟨h1, h2⟩
  · exact Or.inr ⟨h1, h2⟩

/-- C08, the window between the two writes: when the datatype-document update fails, the only change
    is that operation documents were appended; nothing else moved -/
theorem fault_between_writes_shape (st : Store) (colName cuid : String) (p : Pack) :
    let st' := (st.processPushPullFault colName cuid p .updateDatatypes).1
    st'.datatypes = st.datatypes ∧ st'.clients = st.clients ∧ st'.collections = st.collections ∧
    st'.snapshots = st.snapshots ∧ st'.userDocs = st.userDocs ∧ st'.counter = st.counter ∧
    ∃ extra, st'.operations = st.operations ++ extra := by
  intro st'
  have hsame : ∀ s : Store, s = st → s.datatypes = st.datatypes ∧ s.clients = st.clients ∧
      s.collections = st.collections ∧ s.snapshots = st.snapshots ∧ s.userDocs = st.userDocs ∧
      s.counter = st.counter ∧ ∃ extra, s.operations = st.operations ++ extra := by
    intro s hs; subst hs; exact ⟨rfl, rfl, rfl, rfl, rfl, rfl, [], by simp⟩
  rcases outcome st colName cuid p .updateDatatypes with h | ⟨cl, col, h, herr⟩ | ⟨cl, col, _, h⟩
  · exact hsame _ h
  · exact hsame _ (h.trans (refused_store_unchanged _ _ _ _ (herr rfl)))
  · have : st' = _ := h
    rw [this]
    obtain ⟨nd, hnd, _⟩ := processPack_appends st cl col p
    exact ⟨rfl, rfl, rfl, rfl, rfl, rfl, nd, hnd⟩

/-- C08, recoverability: after that fault the COMMITTED view of the store is exactly the committed view
    before the request — the failed push is invisible to every later request and the retry starts from
    the state before it (so it behaves as if the failed request had never happened) -/
theorem fault_between_writes_invisible (st : Store) (colName cuid : String) (p : Pack) (h : LogInv st) :
    ((st.processPushPullFault colName cuid p .updateDatatypes).1).committedView.1 = st := by
  rcases outcome st colName cuid p .updateDatatypes with he | ⟨cl, col, he, herr⟩ | ⟨cl, col, _, he⟩
  · rw [he, committedView_of_logInv st h]
  · rw [he, refused_store_unchanged _ _ _ _ (herr rfl), committedView_of_logInv st h]
  · rw [he]; exact cv_first_write st cl col p h

/-- C08: nothing that was acknowledged is lost — a fault never removes or rewrites a committed
    operation document nor moves a datatype document backwards: the committed view only grows -/
theorem fault_keeps_committed (st : Store) (colName cuid : String) (p : Pack) (f : FaultAt) (h : LogInv st) :
    ∃ extra, ((st.processPushPullFault colName cuid p f).1).committedView.1.operations = st.operations ++ extra := by
  rcases outcome st colName cuid p f with he | ⟨cl, col, he, _⟩ | ⟨cl, col, _, he⟩
  · rw [he, committedView_of_logInv st h]; exact ⟨[], by simp⟩
  · rw [he, committedView_of_logInv _ (logInv_processPack st cl col p h)]
    obtain ⟨nd, hnd, _⟩ := processPack_appends st cl col p
    exact ⟨nd, hnd⟩
  · rw [he, cv_first_write st cl col p h]; exact ⟨[], by simp⟩

/-- C08: the committed view after ANY faulted request satisfies the log invariant -/
theorem logInv_after_fault (st : Store) (colName cuid : String) (p : Pack) (f : FaultAt) (h : LogInv st) :
    LogInv ((st.processPushPullFault colName cuid p f).1).committedView.1 := by
  rcases outcome st colName cuid p f with he | ⟨cl, col, he, _⟩ | ⟨cl, col, _, he⟩
  · rw [he, committedView_of_logInv st h]; exact h
  · rw [he, committedView_of_logInv _ (logInv_processPack st cl col p h)]
    exact logInv_processPack st cl col p h
  · rw [he, cv_first_write st cl col p h]; exact h

/-- a fault during the post-response snapshot update does not touch what the request committed -/
theorem background_fault_commits (st : Store) (colName cuid : String) (p : Pack) (col : CollectionDoc) (cl : ClientDoc)
    (hcol : st.getCollection colName = some col) (hcl : st.getClient cuid = some cl) (hnum : cl.colNum = col.num)
    (f : FaultAt) (hf : f = .background ∨ f = .bgUserDoc) :
    (st.processPushPullFault colName cuid p f).1 = (processPack st cl col p).store := by
  have hpre : pre st colName cuid (served st p f) = served st p f cl col := by
    simp only [pre, hcol, hcl]
    exact if_neg fun h => h hnum
  rw [fault_eq, if_neg (by rcases hf with rfl | rfl <;> decide), hpre]
  unfold served
  rw [if_neg (by rcases hf with rfl | rfl <;> decide)]
  by_cases herr : (processPack st cl col p).resp.error = true
  · rw [if_pos herr]
  · rw [if_neg herr]; rcases hf with rfl | rfl <;> rfl

end Orda
