/-
Proofs about the realtime small-step model (Orda/Model/Realtime.lean).  Every step but `serve` concerns one
client, so the invariant `Inv` (which gives: reachable ∧ quiescent → converged) and the termination measure `μ`
each have one frame lemma (`Inv.update`, `mu_update`) that carries those cases.  The theorems about the current
source are the instances at `currentFacts` of `*_of_guards` theorems, which need only
`notifySyncTakesSema = false ∧ deliverRechecks = true`; that these two guards are needed is shown by explicit
traces run by `exec`.

A guard or a field added to the model shows in: the `let`-free copy of the step's target (`serveResult`,
`respondClient`/`respondResult`, `notifiedResult`; `Step.serve'`, `Step.respond'`, `Step.notified'` tie each to the
model where it is defined) with its case lemma; `inv_<step>` and `mu_<step>`; the five places that split on `Step`
(`inv_step`, `step_cases_mu`, `quiescent_only_localOp`, `progress_of_inv`, `exec`); the concrete states of the traces.
-/
import Orda.Model.Realtime
import Orda.Proofs.ListAux
namespace Orda.Rt

/-! ## Lookup helpers -/

theorem get_publish {l : List Client} {src e j : Nat} {c : Client}
    (h : (publish l src e)[j]? = some c) :
    ∃ c0, l[j]? = some c0 ∧ c = { c0 with notifs := c0.notifs ++ [(src, e)] } := by
  unfold publish at h
  rw [List.getElem?_map] at h
  cases h0 : l[j]? with
  | none => simp [h0] at h
  | some c0 => simp [h0] at h; exact ⟨c0, rfl, h.symm⟩

theorem lt_of_get {l : List Client} {i : Nat} {c : Client} (h : l[i]? = some c) : i < l.length := by
  have := List.getElem?_eq_some_iff.mp h
  exact this.1


/-! ## The invariant -/

/-- a delivery (holder of the semaphore) of client `i` is in flight -/
def HasDeliver (S : Sys) (i : Nat) : Prop :=
  (∃ r ∈ S.reqs, r.c = i ∧ r.kind = .deliver) ∨ (∃ p ∈ S.resps, p.c = i ∧ p.kind = .deliver)

/-- client `i` is at the end of the log, or something is on its way that will bring it there.  A notification counts
only if it announces another client's push (`m.1 ≠ i`): its own may be dropped by `ownFilter`, and then the response
to that push carries the end of the log. -/
def PullOk (S : Sys) (i : Nat) (cl : Client) : Prop :=
  cl.sseq = S.logEnd ∨ (∃ m ∈ cl.notifs, m.1 ≠ i ∧ m.2 = S.logEnd) ∨ (∃ r ∈ S.reqs, r.c = i) ∨
    (∃ p ∈ S.resps, p.c = i ∧ p.sseq = S.logEnd)

/-- `len … respLe` are bookkeeping: indices in range, counters in order.  Three clauses make a quiescent state
converged (`inv_quiescent_converged`): `pull`, lost if a notification-triggered sync gives up at a busy semaphore
(`notifySyncTakesSema`); `push`, kept by the re-check of `NeedPush` after a delivery (`deliverRechecks`); `sema`, a
taken semaphore has its delivery in flight, so a goroutine that finds it busy may return. -/
structure Inv (S : Sys) : Prop where
  len : S.srvCseq.length = S.clients.length
  reqIdx : ∀ r ∈ S.reqs, r.c < S.clients.length
  respIdx : ∀ p ∈ S.resps, p.c < S.clients.length
  srvLe : ∀ (i : Nat) (cl : Client) (h : Nat), S.clients[i]? = some cl → S.srvCseq[i]? = some h → h ≤ cl.issued ∧ cl.acked ≤ h
  sseqLe : ∀ (i : Nat) (cl : Client), S.clients[i]? = some cl → cl.sseq ≤ S.logEnd
  reqLe : ∀ r ∈ S.reqs, ∀ cl : Client, S.clients[r.c]? = some cl → r.upto ≤ cl.issued
  respLe : ∀ p ∈ S.resps, p.sseq ≤ S.logEnd ∧ ∀ h, S.srvCseq[p.c]? = some h → p.cseq ≤ h
  pull : ∀ (i : Nat) (cl : Client), S.clients[i]? = some cl → PullOk S i cl
  push : ∀ (i : Nat) (cl : Client), S.clients[i]? = some cl → cl.acked = cl.issued ∨ 0 < cl.spawned ∨ HasDeliver S i
  sema : ∀ (i : Nat) (cl : Client), S.clients[i]? = some cl → cl.sema = true → HasDeliver S i

theorem HasDeliver.mono {S S' : Sys} {j : Nat} (hr : ∀ r ∈ S.reqs, r ∈ S'.reqs)
    (hp : ∀ p ∈ S.resps, p.c = j → p ∈ S'.resps) : HasDeliver S j → HasDeliver S' j := by
  rintro (⟨r, hm, h⟩ | ⟨p, hm, h⟩)
  · exact Or.inl ⟨r, hr r hm, h⟩
  · exact Or.inr ⟨p, hp p hm h.1, h⟩

theorem Inv.srv_get {S : Sys} (I : Inv S) {i : Nat} {cl : Client} (hcl : S.clients[i]? = some cl) :
    ∃ h, S.srvCseq[i]? = some h :=
  ⟨_, List.getElem?_eq_getElem (I.len ▸ lt_of_get hcl)⟩

theorem inv_init (n : Nat) : Inv (Sys.init n) := by
  have hc : ∀ {i : Nat} {cl : Client}, (Sys.init n).clients[i]? = some cl → cl = {} :=
    fun h => List.eq_of_mem_replicate (List.mem_of_getElem? h)
  exact
  { len := by simp only [Sys.init, List.length_replicate]
    reqIdx := fun _ h => (List.not_mem_nil h).elim
    respIdx := fun _ h => (List.not_mem_nil h).elim
    srvLe := fun i cl h hi hh => by
      cases hc hi
      cases List.eq_of_mem_replicate (List.mem_of_getElem? hh)
      exact ⟨Nat.le_refl 0, Nat.le_refl 0⟩
    sseqLe := fun i cl hi => by cases hc hi; exact Nat.le_refl 0
    reqLe := fun _ h => (List.not_mem_nil h).elim
    respLe := fun _ h => (List.not_mem_nil h).elim
    pull := fun i cl hi => by cases hc hi; exact Or.inl rfl
    push := fun i cl hi => by cases hc hi; exact Or.inl rfl
    sema := fun i cl hi hs => by cases hc hi; cases hs }

theorem PullOk.mono {S S' : Sys} {j : Nat} {c c' : Client} (hl : S'.logEnd = S.logEnd)
    (hs : c.sseq = S.logEnd → c'.sseq = S.logEnd)
    (hn : ∀ m ∈ c.notifs, m.1 ≠ j → m.2 = S.logEnd → (m ∈ c'.notifs ∨ c'.sseq = S.logEnd ∨ ∃ r ∈ S'.reqs, r.c = j))
    (hr : ∀ r ∈ S.reqs, r.c = j → (∃ r' ∈ S'.reqs, r'.c = j) ∨ ∃ p ∈ S'.resps, p.c = j ∧ p.sseq = S.logEnd)
    (hp : ∀ p ∈ S.resps, p.c = j → p.sseq = S.logEnd → p ∈ S'.resps ∨ c'.sseq = S.logEnd) :
    PullOk S j c → PullOk S' j c' := by
  unfold PullOk
  rw [hl]
  rintro (h | ⟨m, hm, h1, h2⟩ | ⟨r, hm, h⟩ | ⟨p, hm, h1, h2⟩)
  · exact Or.inl (hs h)
  · rcases hn m hm h1 h2 with h | h | h
    · exact Or.inr (Or.inl ⟨m, h, h1, h2⟩)
    · exact Or.inl h
    · exact Or.inr (Or.inr (Or.inl h))
  · rcases hr r hm h with h | h
    · exact Or.inr (Or.inr (Or.inl h))
    · exact Or.inr (Or.inr (Or.inr h))
  · rcases hp p hm h1 h2 with h | h
    · exact Or.inr (Or.inr (Or.inr ⟨p, h, h1, h2⟩))
    · exact Or.inl h

theorem PullOk.frame {S S' : Sys} {j : Nat} {c c' : Client} (hl : S'.logEnd = S.logEnd)
    (hs : c'.sseq = c.sseq) (hn : c'.notifs = c.notifs)
    (hr : ∀ r ∈ S.reqs, r ∈ S'.reqs) (hp : ∀ p ∈ S.resps, p.c = j → p ∈ S'.resps) :
    PullOk S j c → PullOk S' j c' :=
  PullOk.mono hl (fun h => hs ▸ h) (fun _ hm _ _ => Or.inl (hn ▸ hm))
    (fun r hm h => Or.inl ⟨r, hr r hm, h⟩) (fun p hm h _ => Or.inl (hp p hm h))

/-- Frame. A step of client `i` replaces its record by `cl'`, may add requests of `i` and may remove responses
to `i` (the state afterwards is `setC S i cl'` with `reqs`, `resps` replaced); nothing a clause about another client
looks at changes. So the invariant holds afterwards once the clauses about `i` itself do. -/
theorem Inv.update {S : Sys} (I : Inv S) {i : Nat} {cl cl' : Client} {rs : List Req} {ps : List Resp}
    (hcl : S.clients[i]? = some cl)
    (hrs : ∀ r ∈ rs, r ∈ S.reqs ∨ (r.c = i ∧ r.upto ≤ cl'.issued)) (hrs' : ∀ r ∈ S.reqs, r ∈ rs)
    (hps : ∀ p ∈ ps, p ∈ S.resps) (hps' : ∀ p ∈ S.resps, p.c ≠ i → p ∈ ps)
    (hiss : cl.issued ≤ cl'.issued) (hack : ∀ h, S.srvCseq[i]? = some h → cl'.acked ≤ h)
    (hsq : cl'.sseq ≤ S.logEnd)
    (hpull : PullOk { S with clients := S.clients.set i cl', reqs := rs, resps := ps } i cl')
    (hpush : cl'.acked = cl'.issued ∨ 0 < cl'.spawned ∨
      HasDeliver { S with clients := S.clients.set i cl', reqs := rs, resps := ps } i)
    (hsema : cl'.sema = true → HasDeliver { S with clients := S.clients.set i cl', reqs := rs, resps := ps } i) :
    Inv { S with clients := S.clients.set i cl', reqs := rs, resps := ps } := by
  have hdel : ∀ j, j ≠ i → HasDeliver S j →
      HasDeliver { S with clients := S.clients.set i cl', reqs := rs, resps := ps } j :=
    fun j hj => HasDeliver.mono hrs' (fun p hm h => hps' p hm (h ▸ hj))
  exact
  { len := I.len.trans (List.length_set ..).symm
    reqIdx := fun r hr => by
      show r.c < (S.clients.set i cl').length
      rw [List.length_set]
      rcases hrs r hr with h | ⟨h, _⟩
      · exact I.reqIdx r h
      · exact h ▸ lt_of_get hcl
    respIdx := fun p hp => by
      show p.c < (S.clients.set i cl').length
      rw [List.length_set]
      exact I.respIdx p (hps p hp)
    srvLe := fun j c h hj hh => by
      rcases ListAux.getElem?_set_some hj with ⟨rfl, rfl⟩ | ⟨_, hj'⟩
      · exact ⟨Nat.le_trans (I.srvLe _ cl h hcl hh).1 hiss, hack h hh⟩
      · exact I.srvLe j c h hj' hh
    sseqLe := fun j c hj => by
      rcases ListAux.getElem?_set_some hj with ⟨rfl, rfl⟩ | ⟨_, hj'⟩
      · exact hsq
      · exact I.sseqLe j c hj'
    reqLe := fun r hr c hj => by
      rcases ListAux.getElem?_set_some hj with ⟨h1, rfl⟩ | ⟨h1, hj'⟩
      · rcases hrs r hr with h | ⟨_, h⟩
        · exact Nat.le_trans (I.reqLe r h cl (h1 ▸ hcl)) hiss
        · exact h
      · rcases hrs r hr with h | ⟨h, _⟩
        · exact I.reqLe r h c hj'
        · exact absurd h h1
    respLe := fun p hp => I.respLe p (hps p hp)
    pull := fun j c hj => by
      rcases ListAux.getElem?_set_some hj with ⟨rfl, rfl⟩ | ⟨hne, hj'⟩
      · exact hpull
      · exact PullOk.frame (S := S) rfl rfl rfl hrs' (fun p hm h => hps' p hm (h ▸ hne)) (I.pull j c hj')
    push := fun j c hj => by
      rcases ListAux.getElem?_set_some hj with ⟨rfl, rfl⟩ | ⟨hne, hj'⟩
      · exact hpush
      · exact (I.push j c hj').imp id (Or.imp id (hdel j hne))
    sema := fun j c hj hs => by
      rcases ListAux.getElem?_set_some hj with ⟨rfl, rfl⟩ | ⟨hne, hj'⟩
      · exact hsema hs
      · exact hdel j hne (I.sema j c hj' hs) }

/-- `Inv.update` for a step that leaves the responses, `acked` and `sseq` alone. -/
theorem Inv.update' {S : Sys} (I : Inv S) {i : Nat} {cl cl' : Client} {rs : List Req}
    (hcl : S.clients[i]? = some cl)
    (hrs : ∀ r ∈ rs, r ∈ S.reqs ∨ (r.c = i ∧ r.upto ≤ cl'.issued)) (hrs' : ∀ r ∈ S.reqs, r ∈ rs)
    (hiss : cl.issued ≤ cl'.issued) (hack : cl'.acked = cl.acked) (hsq : cl'.sseq = cl.sseq)
    (hpull : PullOk { S with clients := S.clients.set i cl', reqs := rs } i cl')
    (hpush : cl'.acked = cl'.issued ∨ 0 < cl'.spawned ∨
      HasDeliver { S with clients := S.clients.set i cl', reqs := rs } i)
    (hsema : cl'.sema = true → HasDeliver { S with clients := S.clients.set i cl', reqs := rs } i) :
    Inv { S with clients := S.clients.set i cl', reqs := rs } :=
  I.update hcl hrs hrs' (fun _ h => h) (fun _ h _ => h) hiss
    (fun h hh => hack ▸ (I.srvLe i cl h hcl hh).2) (hsq ▸ I.sseqLe i cl hcl) hpull hpush hsema

theorem inv_localOp {S : Sys} (I : Inv S) {i : Nat} {cl : Client} (hcl : S.clients[i]? = some cl) :
    Inv (setC S i { cl with issued := cl.issued + 1, spawned := cl.spawned + 1 }) :=
  I.update' hcl (fun _ h => Or.inl h) (fun _ h => h) (Nat.le_succ _) rfl rfl (I.pull i cl hcl)
    (Or.inr (Or.inl (Nat.succ_pos _))) (I.sema i cl hcl)

theorem inv_deliverBusy {S : Sys} (I : Inv S) {i : Nat} {cl : Client} (hcl : S.clients[i]? = some cl)
    (hsema : cl.sema = true) :
    Inv (setC S i { cl with spawned := cl.spawned - 1 }) :=
  I.update' hcl (fun _ h => Or.inl h) (fun _ h => h) (Nat.le_refl _) rfl rfl (I.pull i cl hcl)
    (Or.inr (Or.inr (I.sema i cl hcl hsema))) (I.sema i cl hcl)

theorem mem_snoc_req {S : Sys} {i u : Nat} {k : Kind} {r : Req}
    (h : r ∈ S.reqs ++ [⟨i, k, u⟩]) : r ∈ S.reqs ∨ (r.c = i ∧ r.upto ≤ u) := by
  rcases List.mem_append.mp h with h | h
  · exact Or.inl h
  · cases List.mem_singleton.mp h
    exact Or.inr ⟨rfl, Nat.le_refl _⟩

theorem inv_deliverGo {S : Sys} (I : Inv S) {i : Nat} {cl : Client} (hcl : S.clients[i]? = some cl) :
    Inv { (setC S i { cl with spawned := cl.spawned - 1, sema := true }) with
            reqs := S.reqs ++ [⟨i, .deliver, cl.issued⟩] } :=
  have hd : HasDeliver { S with clients := _, reqs := S.reqs ++ [⟨i, .deliver, cl.issued⟩] } i :=
    Or.inl ⟨_, List.mem_append_right _ (List.mem_singleton_self _), rfl, rfl⟩
  I.update' (cl' := { cl with spawned := cl.spawned - 1, sema := true }) hcl (fun _ => mem_snoc_req)
    (fun _ => List.mem_append_left _) (Nat.le_refl _) rfl rfl
    (PullOk.frame (S := S) rfl rfl rfl (fun _ => List.mem_append_left _) (fun _ h _ => h) (I.pull i cl hcl))
    (Or.inr (Or.inr hd)) (fun _ => hd)


/-! ### serve -/

/-- the target state of `Step.serve`, without `let` -/
def serveResult (S : Sys) (r : Req) (pre post : List Req) (hv : Nat) : Sys :=
  { S with reqs := pre ++ post, logEnd := S.logEnd + (r.upto - hv),
           srvCseq := S.srvCseq.set r.c (max hv r.upto),
           clients := if r.upto - hv = 0 then S.clients
                      else publish S.clients r.c (S.logEnd + (r.upto - hv)),
           resps := S.resps ++ [⟨r.c, r.kind, S.logEnd + (r.upto - hv), max hv r.upto⟩] }

theorem Step.serve' {f : RtFacts} {S : Sys} {r : Req} {pre post : List Req} {hv : Nat}
    (hreqs : S.reqs = pre ++ r :: post) (hsrv : S.srvCseq[r.c]? = some hv) :
    Step f S (serveResult S r pre post hv) :=
  .serve S r pre post hv hreqs hsrv

theorem serve_client {S : Sys} {r : Req} {pre post : List Req} {hv j : Nat} {c' : Client}
    (hj : (serveResult S r pre post hv).clients[j]? = some c') :
    ∃ c ns, S.clients[j]? = some c ∧ c' = { c with notifs := ns } ∧
      ((r.upto - hv = 0 ∧ ns = c.notifs) ∨
       (r.upto - hv ≠ 0 ∧ ns = c.notifs ++ [(r.c, S.logEnd + (r.upto - hv))])) := by
  unfold serveResult at hj
  by_cases h0 : r.upto - hv = 0
  · rw [if_pos h0] at hj
    exact ⟨c', c'.notifs, hj, rfl, Or.inl ⟨h0, rfl⟩⟩
  · rw [if_neg h0] at hj
    obtain ⟨c, h1, e⟩ := get_publish hj
    exact ⟨c, _, h1, e, Or.inr ⟨h0, rfl⟩⟩

theorem serve_len (S : Sys) (r : Req) (pre post : List Req) (hv : Nat) :
    (serveResult S r pre post hv).clients.length = S.clients.length := by
  show (if r.upto - hv = 0 then S.clients else publish S.clients r.c _).length = _
  split
  · rfl
  · exact List.length_map _

theorem serve_resp_mem (S : Sys) (r : Req) (pre post : List Req) (hv : Nat) :
    (⟨r.c, r.kind, S.logEnd + (r.upto - hv), max hv r.upto⟩ : Resp) ∈ (serveResult S r pre post hv).resps :=
  List.mem_append_right _ (List.mem_singleton_self _)

theorem serve_hasDeliver {S : Sys} {r : Req} {pre post : List Req} {hv j : Nat}
    (hreqs : S.reqs = pre ++ r :: post) :
    HasDeliver S j → HasDeliver (serveResult S r pre post hv) j := by
  rintro (⟨r', hm, h1, h2⟩ | ⟨p, hm, h⟩)
  · rcases ListAux.mem_middle.mp (hreqs ▸ hm) with rfl | hm'
    · exact Or.inr ⟨_, serve_resp_mem S r' pre post hv, h1, h2⟩
    · exact Or.inl ⟨r', hm', h1, h2⟩
  · exact Or.inr ⟨p, List.mem_append_left _ hm, h⟩

theorem inv_serve {S : Sys} (I : Inv S) {r : Req} {pre post : List Req} {hv : Nat}
    (hreqs : S.reqs = pre ++ r :: post) (hsrv : S.srvCseq[r.c]? = some hv) :
    Inv (serveResult S r pre post hv) := by
  have hrmem : r ∈ S.reqs := hreqs ▸ List.mem_append_right _ (List.mem_cons_self ..)
  have hsub : ∀ r' ∈ pre ++ post, r' ∈ S.reqs := fun r' h => hreqs ▸ ListAux.mem_middle.mpr (.inr h)
  exact
  { len := by rw [serve_len]; exact (List.length_set ..).trans I.len
    reqIdx := fun r' hr' => by
      rw [serve_len]
      exact I.reqIdx r' (hsub r' hr')
    respIdx := fun p hp => by
      rw [serve_len]
      rcases List.mem_append.mp hp with hp | hp
      · exact I.respIdx p hp
      · cases List.mem_singleton.mp hp
        exact I.reqIdx r hrmem
    srvLe := fun j c' h hj hh => by
      obtain ⟨c, ns, hc, rfl, -⟩ := serve_client hj
      show h ≤ c.issued ∧ c.acked ≤ h
      rcases ListAux.getElem?_set_some hh with ⟨rfl, rfl⟩ | ⟨_, hh'⟩
      · have b := I.srvLe _ c hv hc hsrv
        exact ⟨Nat.max_le.mpr ⟨b.1, I.reqLe r hrmem c hc⟩, Nat.le_trans b.2 (Nat.le_max_left ..)⟩
      · exact I.srvLe j c h hc hh'
    sseqLe := fun j c' hj => by
      obtain ⟨c, ns, hc, rfl, -⟩ := serve_client hj
      exact Nat.le_trans (I.sseqLe j c hc) (Nat.le_add_right _ _)
    reqLe := fun r' hr' c' hj => by
      obtain ⟨c, ns, hc, rfl, -⟩ := serve_client hj
      exact I.reqLe r' (hsub r' hr') c hc
    respLe := fun p hp => by
      rcases List.mem_append.mp hp with hp | hp
      · refine ⟨Nat.le_trans (I.respLe p hp).1 (Nat.le_add_right _ _), fun h hh => ?_⟩
        rcases ListAux.getElem?_set_some hh with ⟨h1, rfl⟩ | ⟨_, hh'⟩
        · exact Nat.le_trans ((I.respLe p hp).2 hv (h1 ▸ hsrv)) (Nat.le_max_left ..)
        · exact (I.respLe p hp).2 h hh'
      · cases List.mem_singleton.mp hp
        refine ⟨Nat.le_refl _, fun h hh => ?_⟩
        rcases ListAux.getElem?_set_some hh with ⟨_, rfl⟩ | ⟨h1, _⟩
        · exact Nat.le_refl _
        · exact absurd rfl h1
    pull := fun j c' hj => by
      obtain ⟨c, ns, hc, rfl, hn⟩ := serve_client hj
      rcases hn with ⟨h0, rfl⟩ | ⟨h0, rfl⟩
      · -- nothing stored: the end of the log stays, and the response carries it
        have hl : S.logEnd + (r.upto - hv) = S.logEnd := congrArg (S.logEnd + ·) h0
        refine PullOk.mono (S := S) hl id (fun m hm _ _ => Or.inl hm) ?_
          (fun p hm _ _ => Or.inl (List.mem_append_left _ hm)) (I.pull j c hc)
        intro r' hm h
        rcases ListAux.mem_middle.mp (hreqs ▸ hm) with rfl | hm'
        · exact Or.inr ⟨_, serve_resp_mem S r' pre post hv, h, hl⟩
        · exact Or.inl ⟨r', hm', h⟩
      · -- the new end of the log is announced to everybody; the pusher gets it in the response
        by_cases hjr : j = r.c
        · exact Or.inr (Or.inr (Or.inr ⟨_, serve_resp_mem S r pre post hv, hjr.symm, rfl⟩))
        · exact Or.inr (Or.inl ⟨(r.c, S.logEnd + (r.upto - hv)),
            List.mem_append_right _ (List.mem_singleton_self _), fun e => hjr e.symm, rfl⟩)
    push := fun j c' hj => by
      obtain ⟨c, ns, hc, rfl, -⟩ := serve_client hj
      exact (I.push j c hc).imp id (Or.imp id (serve_hasDeliver hreqs))
    sema := fun j c' hj hsm => by
      obtain ⟨c, ns, hc, rfl, -⟩ := serve_client hj
      exact serve_hasDeliver hreqs (I.sema j c hc hsm) }


/-! ### respond -/

/-- the client after `Step.respond`, without `let` -/
def respondClient (f : RtFacts) (cl : Client) (p : Resp) : Client :=
  if p.kind = .notify then { cl with acked := max cl.acked p.cseq, sseq := max cl.sseq p.sseq }
  else { cl with acked := max cl.acked p.cseq, sseq := max cl.sseq p.sseq, sema := false,
                 spawned := if p.kind = .deliver ∧ f.deliverRechecks = true ∧ max cl.acked p.cseq < cl.issued
                            then cl.spawned + 1 else cl.spawned }

/-- the target state of `Step.respond`, without `let` -/
def respondResult (f : RtFacts) (S : Sys) (p : Resp) (pre post : List Resp) (cl : Client) : Sys :=
  { (setC S p.c (respondClient f cl p)) with resps := pre ++ post }

theorem Step.respond' {f : RtFacts} {S : Sys} {p : Resp} {pre post : List Resp} {cl : Client}
    (hresps : S.resps = pre ++ p :: post) (hcl : S.clients[p.c]? = some cl) :
    Step f S (respondResult f S p pre post cl) :=
  .respond S p pre post cl hresps hcl

theorem respondClient_issued (f : RtFacts) (cl : Client) (p : Resp) :
    (respondClient f cl p).issued = cl.issued := by
  unfold respondClient; split <;> rfl

theorem respondClient_acked (f : RtFacts) (cl : Client) (p : Resp) :
    (respondClient f cl p).acked = max cl.acked p.cseq := by
  unfold respondClient; split <;> rfl

theorem respondClient_sseq (f : RtFacts) (cl : Client) (p : Resp) :
    (respondClient f cl p).sseq = max cl.sseq p.sseq := by
  unfold respondClient; split <;> rfl

theorem respondClient_notifs (f : RtFacts) (cl : Client) (p : Resp) :
    (respondClient f cl p).notifs = cl.notifs := by
  unfold respondClient; split <;> rfl

theorem respondClient_sema {f : RtFacts} {cl : Client} {p : Resp}
    (h : (respondClient f cl p).sema = true) : cl.sema = true ∧ p.kind = .notify := by
  unfold respondClient at h
  split at h
  · exact ⟨h, by assumption⟩
  · simp at h

theorem respondClient_spawned_ge (f : RtFacts) (cl : Client) (p : Resp) :
    cl.spawned ≤ (respondClient f cl p).spawned := by
  unfold respondClient
  split
  · exact Nat.le_refl _
  · simp only; split
    · exact Nat.le_succ _
    · exact Nat.le_refl _

theorem respondClient_respawn {f : RtFacts} {cl : Client} {p : Resp} (hk : p.kind = .deliver)
    (hr : f.deliverRechecks = true) (hlt : max cl.acked p.cseq < cl.issued) :
    0 < (respondClient f cl p).spawned := by
  unfold respondClient
  simp [hk, hr, hlt]

theorem inv_respond {f : RtFacts} (hr : f.deliverRechecks = true) {S : Sys} (I : Inv S) {p : Resp}
    {pre post : List Resp} {cl : Client}
    (hresps : S.resps = pre ++ p :: post) (hcl : S.clients[p.c]? = some cl) :
    Inv (respondResult f S p pre post cl) := by
  have hrest : ∀ p' ∈ S.resps, p' = p ∨ p' ∈ pre ++ post := fun p' h => ListAux.mem_middle.mp (hresps ▸ h)
  obtain ⟨hv, hhv⟩ := I.srv_get hcl
  have hb := I.srvLe p.c cl hv hcl hhv
  have hpb := I.respLe p (hresps ▸ List.mem_append_right _ (List.mem_cons_self ..))
  have hpc := hpb.2 hv hhv
  have hsq := I.sseqLe p.c cl hcl
  -- a delivery of the client other than `p` itself stays in flight
  have hdel : p.kind ≠ .deliver → HasDeliver S p.c → HasDeliver (respondResult f S p pre post cl) p.c := by
    rintro hne (⟨r, hm, h⟩ | ⟨p', hm, h1, h2⟩)
    · exact Or.inl ⟨r, hm, h⟩
    · rcases hrest p' hm with rfl | hm'
      · exact absurd h2 hne
      · exact Or.inr ⟨p', hm', h1, h2⟩
  refine I.update (cl' := respondClient f cl p) hcl (fun _ h => Or.inl h) (fun _ h => h)
    (fun p' h => hresps ▸ ListAux.mem_middle.mpr (.inr h))
    (fun p' hm hne => (hrest p' hm).resolve_left fun e => hne (e ▸ rfl))
    (Nat.le_of_eq (respondClient_issued f cl p).symm) ?_ ?_ ?_ ?_ ?_
  · intro h hh
    cases hhv.symm.trans hh
    rw [respondClient_acked]
    exact Nat.max_le.mpr ⟨hb.2, hpc⟩
  · rw [respondClient_sseq]
    exact Nat.max_le.mpr ⟨hsq, hpb.1⟩
  · refine PullOk.mono (S := S) rfl ?_ (fun m hm _ _ => Or.inl ((respondClient_notifs f cl p).symm ▸ hm))
      (fun r hm h => Or.inl ⟨r, hm, h⟩) ?_ (I.pull _ cl hcl)
    · intro h
      rw [respondClient_sseq, h]
      exact Nat.max_eq_left hpb.1
    · intro p' hm _ h2
      rcases hrest p' hm with rfl | hm'
      · right
        rw [respondClient_sseq, h2]
        exact Nat.max_eq_right hsq
      · exact Or.inl hm'
  · rw [respondClient_issued, respondClient_acked]
    by_cases hlt : max cl.acked p.cseq < cl.issued
    · by_cases hk : p.kind = .deliver
      · exact Or.inr (Or.inl (respondClient_respawn hk hr hlt))
      · rcases I.push _ cl hcl with h | h | h
        · exact absurd h (Nat.ne_of_lt (Nat.lt_of_le_of_lt (Nat.le_max_left _ _) hlt))
        · exact Or.inr (Or.inl (Nat.lt_of_lt_of_le h (respondClient_spawned_ge f cl p)))
        · exact Or.inr (Or.inr (hdel hk h))
    · exact Or.inl (Nat.le_antisymm (Nat.le_trans (Nat.max_le.mpr ⟨hb.2, hpc⟩) hb.1) (Nat.le_of_not_lt hlt))
  · intro hs
    obtain ⟨h1, h2⟩ := respondClient_sema hs
    exact hdel (by rw [h2]; decide) (I.sema _ cl hcl h1)


/-! ### notified -/

/-- the target state of `Step.notified`, without `let` -/
def notifiedResult (f : RtFacts) (S : Sys) (i : Nat) (cl : Client) (n : Nat × Nat)
    (pre post : List (Nat × Nat)) : Sys :=
  if f.ownFilter = true ∧ n.1 = i then setC S i { cl with notifs := pre ++ post }
  else if f.needPullGuard = true ∧ ¬ (cl.sseq < n.2) then setC S i { cl with notifs := pre ++ post }
  else if f.notifySyncTakesSema = true then
    (if cl.sema = true then setC S i { cl with notifs := pre ++ post }
     else { (setC S i { cl with notifs := pre ++ post, sema := true }) with
              reqs := S.reqs ++ [⟨i, .notifySema, cl.issued⟩] })
  else { (setC S i { cl with notifs := pre ++ post }) with reqs := S.reqs ++ [⟨i, .notify, cl.issued⟩] }

theorem Step.notified' {f : RtFacts} {S : Sys} {i : Nat} {cl : Client} {n : Nat × Nat} {pre post : List (Nat × Nat)}
    (hcl : S.clients[i]? = some cl) (hn : cl.notifs = pre ++ n :: post) :
    Step f S (notifiedResult f S i cl n pre post) :=
  .notified S i cl n pre post hcl hn

theorem notified_cases (f : RtFacts) (S : Sys) (i : Nat) (cl : Client) (n : Nat × Nat)
    (pre post : List (Nat × Nat)) :
    (notifiedResult f S i cl n pre post = setC S i { cl with notifs := pre ++ post } ∧
        (n.1 = i ∨ ¬ cl.sseq < n.2 ∨ f.notifySyncTakesSema = true)) ∨
    (notifiedResult f S i cl n pre post =
        { (setC S i { cl with notifs := pre ++ post, sema := true }) with
            reqs := S.reqs ++ [⟨i, .notifySema, cl.issued⟩] } ∧ f.notifySyncTakesSema = true) ∨
    notifiedResult f S i cl n pre post =
      { (setC S i { cl with notifs := pre ++ post }) with reqs := S.reqs ++ [⟨i, .notify, cl.issued⟩] } := by
  unfold notifiedResult
  by_cases h1 : f.ownFilter = true ∧ n.1 = i
  · rw [if_pos h1]; exact Or.inl ⟨rfl, Or.inl h1.2⟩
  rw [if_neg h1]
  by_cases h2 : f.needPullGuard = true ∧ ¬ (cl.sseq < n.2)
  · rw [if_pos h2]; exact Or.inl ⟨rfl, Or.inr (Or.inl h2.2)⟩
  rw [if_neg h2]
  by_cases h3 : f.notifySyncTakesSema = true
  · rw [if_pos h3]
    by_cases h4 : cl.sema = true
    · rw [if_pos h4]; exact Or.inl ⟨rfl, Or.inr (Or.inr h3)⟩
    · rw [if_neg h4]; exact Or.inr (Or.inl ⟨rfl, h3⟩)
  · rw [if_neg h3]; exact Or.inr (Or.inr rfl)

theorem inv_notified {f : RtFacts} (hns : f.notifySyncTakesSema = false) {S : Sys} (I : Inv S) {i : Nat}
    {cl : Client} {n : Nat × Nat} {pre post : List (Nat × Nat)}
    (hcl : S.clients[i]? = some cl) (hn : cl.notifs = pre ++ n :: post) :
    Inv (notifiedResult f S i cl n pre post) := by
  rcases notified_cases f S i cl n pre post with ⟨e, hd⟩ | ⟨_, h⟩ | e
  · -- dropped because it is the client's own or because the client is already there
    rw [e]
    refine I.update' (cl' := { cl with notifs := pre ++ post }) hcl (fun _ h => Or.inl h) (fun _ h => h)
      (Nat.le_refl _) rfl rfl ?_ (I.push i cl hcl) (I.sema i cl hcl)
    refine PullOk.mono (S := S) (c := cl) rfl id ?_ (fun r hm h => Or.inl ⟨r, hm, h⟩)
      (fun p hm _ _ => Or.inl hm) (I.pull i cl hcl)
    intro m hm h1 h2
    rcases ListAux.mem_middle.mp (hn ▸ hm) with rfl | hm'
    · have := I.sseqLe i cl hcl
      rcases hd with hd | hd | hd
      · exact absurd hd h1
      · exact Or.inr (Or.inl (show cl.sseq = S.logEnd by omega))
      · rw [hns] at hd; cases hd
    · exact Or.inl hm'
  · rw [hns] at h; cases h
  · -- a sync is started, without the semaphore
    rw [e]
    have hmono := HasDeliver.mono (S := S) (j := i)
      (S' := { S with clients := S.clients.set i { cl with notifs := pre ++ post },
                      reqs := S.reqs ++ [⟨i, .notify, cl.issued⟩] })
      (fun _ => List.mem_append_left _) (fun _ h _ => h)
    exact I.update' (cl' := { cl with notifs := pre ++ post }) hcl (fun _ => mem_snoc_req)
      (fun _ => List.mem_append_left _) (Nat.le_refl _) rfl rfl
      (Or.inr (Or.inr (Or.inl ⟨_, List.mem_append_right _ (List.mem_singleton_self _), rfl⟩)))
      ((I.push i cl hcl).imp id (Or.imp id hmono)) (fun hs => hmono (I.sema i cl hcl hs))

/-! ### the invariant is inductive -/

/-- The invariant is preserved by every step, for ANY setting of the guards in which a notification-triggered
sync does not compete for the semaphore and a delivery re-checks `NeedPush` after releasing it
(in particular for the current source). `ownFilter`, `needPullGuard`, `deliverTryAcquire` do not matter. -/
theorem inv_step {f : RtFacts} (hns : f.notifySyncTakesSema = false) (hr : f.deliverRechecks = true)
    {S S' : Sys} (I : Inv S) (h : Step f S S') : Inv S' := by
  cases h with
  | localOp i cl hcl => exact inv_localOp I hcl
  | deliverBusy i cl hcl _ _ hs => exact inv_deliverBusy I hcl hs
  | deliverGo i cl hcl _ _ => exact inv_deliverGo I hcl
  | serve r pre post hv hreqs hsrv => exact inv_serve I hreqs hsrv
  | respond p pre post cl hresps hcl => exact inv_respond hr I hresps hcl
  | notified i cl n pre post hcl hn => exact inv_notified hns I hcl hn

theorem inv_reach {f : RtFacts} (hns : f.notifySyncTakesSema = false) (hr : f.deliverRechecks = true)
    {n : Nat} {S : Sys} (h : Reach f n S) : Inv S := by
  induction h with
  | init => exact inv_init n
  | step _ hs ih => exact inv_step hns hr ih hs

theorem inv_quiescent_converged {S : Sys} (I : Inv S) (hq : Quiescent S) : Converged S := by
  obtain ⟨hreqs, hresps, hcls⟩ := hq
  intro i cl hcl
  have hmem : cl ∈ S.clients := List.mem_of_getElem? hcl
  obtain ⟨hn, hsp⟩ := hcls cl hmem
  have hnd : ¬ HasDeliver S i := by
    rintro (⟨r, hm, _⟩ | ⟨p, hm, _⟩)
    · rw [hreqs] at hm; simp at hm
    · rw [hresps] at hm; simp at hm
  have hack : cl.acked = cl.issued := by
    rcases I.push i cl hcl with h | h | h
    · exact h
    · omega
    · exact absurd h hnd
  have hpull : cl.sseq = S.logEnd := by
    rcases I.pull i cl hcl with h | ⟨m, hm, _⟩ | ⟨r, hm, _⟩ | ⟨p, hm, _⟩
    · exact h
    · rw [hn] at hm; simp at hm
    · rw [hreqs] at hm; simp at hm
    · rw [hresps] at hm; simp at hm
  obtain ⟨hv, hhv⟩ := I.srv_get hcl
  have hb := I.srvLe i cl hv hcl hhv
  refine ⟨hack, hpull, ?_⟩
  rw [hhv, Nat.le_antisymm hb.1 (hack ▸ hb.2)]

/-- **No lost wake-up.** Whenever everything in flight has drained, every client has converged by itself. -/
theorem rt_quiescent_converged (n : Nat) (S : Sys) (h : Reach currentFacts n S) (hq : Quiescent S) :
    Converged S :=
  inv_quiescent_converged (inv_reach rfl rfl h) hq

/-- the same for any guards with `notifySyncTakesSema = false` and `deliverRechecks = true`;
in particular with `needPullGuard := false` (every foreign notification starts a sync). -/
theorem rt_quiescent_converged_of_guards {f : RtFacts} (hns : f.notifySyncTakesSema = false)
    (hr : f.deliverRechecks = true) (n : Nat) (S : Sys) (h : Reach f n S) (hq : Quiescent S) :
    Converged S :=
  inv_quiescent_converged (inv_reach hns hr h) hq


/-! ## Progress and termination -/

/-- `S → S'` is a local operation of some client -/
def IsLocalOp (S S' : Sys) : Prop :=
  ∃ i cl, S.clients[i]? = some cl ∧
    S' = setC S i { cl with issued := cl.issued + 1, spawned := cl.spawned + 1 }

/-- a processing step: any step other than a local operation (no user activity, no further Sync call) -/
def PStep (f : RtFacts) (S S' : Sys) : Prop := Step f S S' ∧ ¬ IsLocalOp S S'

/-- the clients' `issued` counters -/
def issuedL (S : Sys) : List Nat := S.clients.map (·.issued)

theorem issuedL_getD {S : Sys} {i : Nat} {cl : Client} (h : S.clients[i]? = some cl) :
    (issuedL S).getD i 0 = cl.issued := by
  simp [issuedL, List.getD_eq_getElem?_getD, List.getElem?_map, h]

theorem issued_set {l : List Client} {i : Nat} {cl a : Client} (h : l[i]? = some cl)
    (ha : a.issued = cl.issued) : (l.set i a).map (·.issued) = l.map (·.issued) := by
  induction l generalizing i with
  | nil => rfl
  | cons x xs ih =>
    cases i with
    | zero =>
      simp at h
      subst h
      simp [ha]
    | succ k =>
      simp at h
      simp [ih h]

theorem issued_publish (l : List Client) (src e : Nat) :
    (publish l src e).map (·.issued) = l.map (·.issued) := by
  simp [publish]

theorem not_localOp_of_issued {S S' : Sys} (h : issuedL S' = issuedL S) : ¬ IsLocalOp S S' := by
  rintro ⟨i, cl, hcl, rfl⟩
  have h1 : (issuedL S)[i]? = some cl.issued := by simp [issuedL, List.getElem?_map, hcl]
  have h2 : (issuedL (setC S i { cl with issued := cl.issued + 1, spawned := cl.spawned + 1 }))[i]?
      = some (cl.issued + 1) := by
    have := lt_of_get hcl
    simp [issuedL, setC, this]
  rw [h, h1] at h2
  have := Option.some.inj h2
  omega

/-! ### the measure -/

def sumBy {α : Type} (w : α → Nat) : List α → Nat
  | [] => 0
  | a :: l => w a + sumBy w l

theorem sumBy_append {α : Type} (w : α → Nat) (l1 l2 : List α) :
    sumBy w (l1 ++ l2) = sumBy w l1 + sumBy w l2 := by
  induction l1 with
  | nil => simp [sumBy]
  | cons a l ih => simp [sumBy, ih, Nat.add_assoc]

theorem sumBy_split {α : Type} (w : α → Nat) (pre post : List α) (a : α) :
    sumBy w (pre ++ a :: post) = sumBy w (pre ++ post) + w a := by
  simp only [sumBy_append, sumBy]; omega

theorem sumBy_set {α : Type} {w : α → Nat} {l : List α} {i : Nat} {c a : α} (h : l[i]? = some c) :
    sumBy w (l.set i a) + w c = sumBy w l + w a := by
  induction l generalizing i with
  | nil => cases h
  | cons x xs ih =>
    cases i with
    | zero =>
      cases h
      show w a + sumBy w xs + w c = w c + sumBy w xs + w a
      omega
    | succ k =>
      have := ih (i := k) h
      show w x + sumBy w (xs.set k a) + w c = w x + sumBy w xs + w a
      omega

/-- operations issued but not yet stored by the server -/
def unstored : List Nat → List Nat → Nat
  | a :: as, b :: bs => (a - b) + unstored as bs
  | _, _ => 0

theorem unstored_set {iss srv : List Nat} {k h h' m : Nat} (hs : srv[k]? = some h) (hi : iss[k]? = some m)
    (h1 : h ≤ h') (h2 : h' ≤ m) : unstored iss (srv.set k h') + (h' - h) = unstored iss srv := by
  induction iss generalizing srv k with
  | nil => cases hi
  | cons a as ih =>
    cases srv with
    | nil => cases hs
    | cons b bs =>
      cases k with
      | zero =>
        cases hs; cases hi
        show (m - h') + unstored as bs + (h' - h) = (m - h) + unstored as bs
        rw [Nat.add_right_comm, Nat.sub_add_sub_cancel h2 h1]
      | succ k =>
        have := ih (srv := bs) (k := k) hs hi
        show (a - b) + unstored as (bs.set k h') + (h' - h) = (a - b) + unstored as bs
        rw [Nat.add_assoc, this]

/-- weight of a request: 2, plus 3 if it was sent before the client's latest operation
(only the response to such a request can start another delivery) -/
def wReq (iss : List Nat) (r : Req) : Nat := 2 + if r.upto < iss.getD r.c 0 then 3 else 0
def wResp (iss : List Nat) (p : Resp) : Nat := 1 + if p.cseq < iss.getD p.c 0 then 3 else 0
def wClient (cl : Client) : Nat := 3 * cl.spawned + 3 * cl.notifs.length

/-- The termination measure: every unstored operation pays for the notifications its storing will create. -/
def μ (S : Sys) : Nat :=
  unstored (issuedL S) S.srvCseq * (3 * S.clients.length + 1) + sumBy (wReq (issuedL S)) S.reqs
    + sumBy (wResp (issuedL S)) S.resps + sumBy wClient S.clients

theorem sumBy_publish (l : List Client) (src e : Nat) :
    sumBy wClient (publish l src e) = sumBy wClient l + 3 * l.length := by
  induction l with
  | nil => rfl
  | cons x xs ih =>
    have : publish (x :: xs) src e = { x with notifs := x.notifs ++ [(src, e)] } :: publish xs src e := rfl
    rw [this]
    simp only [sumBy, ih, wClient, List.length_append, List.length_cons, List.length_nil]
    omega

theorem wReq_fresh {iss : List Nat} {r : Req} (h : iss.getD r.c 0 ≤ r.upto) : wReq iss r = 2 := by
  unfold wReq
  rw [if_neg (by omega)]

theorem wResp_pos (iss : List Nat) (p : Resp) : 1 ≤ wResp iss p := by
  unfold wResp; omega

theorem wResp_stale {iss : List Nat} {p : Resp} (h : p.cseq < iss.getD p.c 0) : wResp iss p = 4 := by
  unfold wResp
  rw [if_pos h]

theorem wResp_lt_wReq {iss : List Nat} {r : Req} {p : Resp} (hc : p.c = r.c) (h : r.upto ≤ p.cseq) :
    wResp iss p + 1 ≤ wReq iss r := by
  unfold wResp wReq
  rw [hc]
  by_cases h1 : p.cseq < iss.getD r.c 0
  · rw [if_pos h1, if_pos (by omega)]; omega
  · rw [if_neg h1]
    split <;> omega


/-! ### every processing step keeps `issued` and decreases the measure -/

/-- Frame for the measure: a step of client `i` that keeps its `issued` decreases `μ` as soon as what it
leaves behind (the client's record, the requests, the responses) weighs less than what was there. -/
theorem mu_update {S : Sys} {i : Nat} {cl a : Client} {rs : List Req} {ps : List Resp}
    (hcl : S.clients[i]? = some cl) (ha : a.issued = cl.issued)
    (hlt : sumBy (wReq (issuedL S)) rs + sumBy (wResp (issuedL S)) ps + wClient a <
      sumBy (wReq (issuedL S)) S.reqs + sumBy (wResp (issuedL S)) S.resps + wClient cl) :
    issuedL { S with clients := S.clients.set i a, reqs := rs, resps := ps } = issuedL S ∧
    μ { S with clients := S.clients.set i a, reqs := rs, resps := ps } < μ S := by
  have hiss : issuedL { S with clients := S.clients.set i a, reqs := rs, resps := ps } = issuedL S := issued_set hcl ha
  refine ⟨hiss, ?_⟩
  have hc := sumBy_set (w := wClient) (a := a) hcl
  unfold μ
  rw [hiss]
  simp only [List.length_set]
  omega

theorem wReq_now {S : Sys} {i : Nat} {cl : Client} (hcl : S.clients[i]? = some cl) (k : Kind) :
    wReq (issuedL S) ⟨i, k, cl.issued⟩ = 2 :=
  wReq_fresh (by rw [issuedL_getD hcl]; exact Nat.le_refl _)

theorem sumBy_snoc {α : Type} (w : α → Nat) (l : List α) (a : α) : sumBy w (l ++ [a]) = sumBy w l + w a :=
  sumBy_append w l [a]

theorem wClient_unspawn {cl a : Client} (hsp : 0 < cl.spawned) (h1 : a.spawned = cl.spawned - 1)
    (h2 : a.notifs = cl.notifs) : wClient a + 3 = wClient cl := by
  unfold wClient
  rw [h1, h2]
  omega

theorem wClient_unnotify {cl a : Client} (h1 : a.spawned = cl.spawned)
    (h2 : cl.notifs.length = a.notifs.length + 1) : wClient a + 3 = wClient cl := by
  unfold wClient
  rw [h1, h2, Nat.mul_succ, Nat.add_assoc]

/-- The usual step: the client gives up one goroutine or one notification (weight 3) and sends nothing … -/
theorem mu_spend {S : Sys} {i : Nat} {cl a : Client} (hcl : S.clients[i]? = some cl) (ha : a.issued = cl.issued)
    (hw : wClient a + 3 = wClient cl) :
    issuedL (setC S i a) = issuedL S ∧ μ (setC S i a) < μ S :=
  mu_update hcl ha (by omega)

/-- … or one request that carries all it has issued (weight 2). -/
theorem mu_spend_send {S : Sys} {i : Nat} {cl a : Client} (hcl : S.clients[i]? = some cl)
    (ha : a.issued = cl.issued) (hw : wClient a + 3 = wClient cl) (k : Kind) :
    issuedL { (setC S i a) with reqs := S.reqs ++ [⟨i, k, cl.issued⟩] } = issuedL S ∧
      μ { (setC S i a) with reqs := S.reqs ++ [⟨i, k, cl.issued⟩] } < μ S :=
  mu_update (ps := S.resps) hcl ha (by rw [sumBy_snoc, wReq_now hcl]; omega)

theorem mu_deliverBusy {S : Sys} {i : Nat} {cl : Client} (hcl : S.clients[i]? = some cl)
    (hsp : 0 < cl.spawned) :
    issuedL (setC S i { cl with spawned := cl.spawned - 1 }) = issuedL S ∧
    μ (setC S i { cl with spawned := cl.spawned - 1 }) < μ S :=
  mu_spend (a := { cl with spawned := cl.spawned - 1 }) hcl rfl (wClient_unspawn hsp rfl rfl)

theorem mu_deliverGo {S : Sys} {i : Nat} {cl : Client} (hcl : S.clients[i]? = some cl)
    (hsp : 0 < cl.spawned) :
    issuedL { (setC S i { cl with spawned := cl.spawned - 1, sema := true }) with
            reqs := S.reqs ++ [⟨i, .deliver, cl.issued⟩] } = issuedL S ∧
    μ { (setC S i { cl with spawned := cl.spawned - 1, sema := true }) with
            reqs := S.reqs ++ [⟨i, .deliver, cl.issued⟩] } < μ S :=
  mu_spend_send (a := { cl with spawned := cl.spawned - 1, sema := true }) hcl rfl
    (wClient_unspawn hsp rfl rfl) .deliver

/-- storing `r.upto - hv` operations adds at most the weight `3 * n` of the notifications of one publication -/
theorem serve_weight (S : Sys) (r : Req) (pre post : List Req) (hv : Nat) :
    sumBy wClient (serveResult S r pre post hv).clients
      ≤ sumBy wClient S.clients + (r.upto - hv) * (3 * S.clients.length + 1) := by
  show sumBy wClient (if r.upto - hv = 0 then S.clients
    else publish S.clients r.c (S.logEnd + (r.upto - hv))) ≤ _
  split
  · exact Nat.le_add_right _ _
  · rw [sumBy_publish]
    have : 1 * (3 * S.clients.length + 1) ≤ (r.upto - hv) * (3 * S.clients.length + 1) :=
      Nat.mul_le_mul_right _ (by omega)
    omega

/-- the arithmetic of `serve`: the stored operations pay for the publication, the request for its response.  The two
sides are `μ` after and before the step, summand by summand in the order of `μ` (`A`, `D`: what stays unstored and
what is stored, times `3 * n + 1`), so that it closes `mu_serve` by `exact` and `omega` sees variables only. -/
theorem serve_arith {A D Rq Rs wq wp W W' : Nat} (hw : wp + 1 ≤ wq) (hc : W' ≤ W + D) :
    A + Rq + (Rs + wp) + W' < A + D + (Rq + wq) + Rs + W := by
  omega

theorem mu_serve {S : Sys} (I : Inv S) {r : Req} {pre post : List Req} {hv : Nat}
    (hreqs : S.reqs = pre ++ r :: post) (hsrv : S.srvCseq[r.c]? = some hv) :
    issuedL (serveResult S r pre post hv) = issuedL S ∧ μ (serveResult S r pre post hv) < μ S := by
  have hrmem : r ∈ S.reqs := hreqs ▸ List.mem_append_right _ (List.mem_cons_self ..)
  obtain ⟨clr, hclr⟩ : ∃ clr, S.clients[r.c]? = some clr :=
    ⟨_, List.getElem?_eq_getElem (I.reqIdx r hrmem)⟩
  have hiss : issuedL (serveResult S r pre post hv) = issuedL S := by
    show List.map _ (if r.upto - hv = 0 then S.clients else publish S.clients r.c _) = _
    split
    · rfl
    · exact issued_publish _ _ _
  refine ⟨hiss, ?_⟩
  have hi : (issuedL S)[r.c]? = some clr.issued := by rw [issuedL, List.getElem?_map, hclr]; rfl
  -- the stored operations leave `unstored`; the response weighs less than the request
  have hu := unstored_set (h' := max hv r.upto) hsrv hi (Nat.le_max_left ..)
    (Nat.max_le.mpr ⟨(I.srvLe r.c clr hv hclr hsrv).1, I.reqLe r hrmem clr hclr⟩)
  have hw := wResp_lt_wReq (iss := issuedL S) (r := r)
    (p := ⟨r.c, r.kind, S.logEnd + (r.upto - hv), max hv r.upto⟩) rfl (Nat.le_max_right ..)
  have hc := serve_weight S r pre post hv
  have e1 : (serveResult S r pre post hv).srvCseq = S.srvCseq.set r.c (max hv r.upto) := rfl
  have e2 : (serveResult S r pre post hv).reqs = pre ++ post := rfl
  have e3 : (serveResult S r pre post hv).resps
      = S.resps ++ [⟨r.c, r.kind, S.logEnd + (r.upto - hv), max hv r.upto⟩] := rfl
  have hmax : max hv r.upto - hv = r.upto - hv := by
    rcases Nat.le_total hv r.upto with h | h
    · rw [Nat.max_eq_right h]
    · rw [Nat.max_eq_left h, Nat.sub_self, Nat.sub_eq_zero_of_le h]
  unfold μ
  rw [hiss, serve_len, e1, e2, hreqs, sumBy_split, e3, ← hu, Nat.add_mul, sumBy_snoc, hmax]
  exact serve_arith hw hc

theorem respondClient_weight (f : RtFacts) (cl : Client) (p : Resp) :
    wClient (respondClient f cl p) = wClient cl ∨
    (wClient (respondClient f cl p) = wClient cl + 3 ∧ p.cseq < cl.issued) := by
  unfold respondClient wClient
  split
  · left; rfl
  · simp only
    split
    · next h =>
      exact Or.inr ⟨by rw [Nat.mul_succ, Nat.add_right_comm], Nat.lt_of_le_of_lt (Nat.le_max_right _ _) h.2.2⟩
    · left; rfl

theorem mu_respond {f : RtFacts} {S : Sys} {p : Resp} {pre post : List Resp} {cl : Client}
    (hresps : S.resps = pre ++ p :: post) (hcl : S.clients[p.c]? = some cl) :
    issuedL (respondResult f S p pre post cl) = issuedL S ∧ μ (respondResult f S p pre post cl) < μ S := by
  refine mu_update (rs := S.reqs) hcl (respondClient_issued f cl p) ?_
  rw [hresps, sumBy_split]
  have hpos := wResp_pos (issuedL S) p
  -- a new delivery goroutine is paid for by the response to a stale request
  rcases respondClient_weight f cl p with hw | ⟨hw, hlt⟩
  · omega
  · have := wResp_stale (iss := issuedL S) (p := p) (by rw [issuedL_getD hcl]; exact hlt)
    omega

theorem mu_notified (f : RtFacts) {S : Sys} {i : Nat} {cl : Client} {n : Nat × Nat} {pre post : List (Nat × Nat)}
    (hcl : S.clients[i]? = some cl) (hn : cl.notifs = pre ++ n :: post) :
    issuedL (notifiedResult f S i cl n pre post) = issuedL S ∧ μ (notifiedResult f S i cl n pre post) < μ S := by
  have hlen : cl.notifs.length = (pre ++ post).length + 1 := by
    rw [hn, List.length_append, List.length_append, List.length_cons]; rfl
  -- the notification (3) pays for the request (2)
  rcases notified_cases f S i cl n pre post with ⟨e, _⟩ | ⟨e, _⟩ | e
  · rw [e]
    exact mu_spend (a := { cl with notifs := pre ++ post }) hcl rfl (wClient_unnotify rfl hlen)
  · rw [e]
    exact mu_spend_send (a := { cl with notifs := pre ++ post, sema := true }) hcl rfl
      (wClient_unnotify rfl hlen) .notifySema
  · rw [e]
    exact mu_spend_send (a := { cl with notifs := pre ++ post }) hcl rfl (wClient_unnotify rfl hlen) .notify

theorem step_cases_mu {f : RtFacts} {S S' : Sys} (I : Inv S) (h : Step f S S') :
    IsLocalOp S S' ∨ (issuedL S' = issuedL S ∧ μ S' < μ S) := by
  cases h with
  | localOp i cl hcl => exact Or.inl ⟨i, cl, hcl, rfl⟩
  | deliverBusy i cl hcl hsp _ _ => exact Or.inr (mu_deliverBusy hcl hsp)
  | deliverGo i cl hcl hsp _ => exact Or.inr (mu_deliverGo hcl hsp)
  | serve r pre post hv hreqs hsrv => exact Or.inr (mu_serve I hreqs hsrv)
  | respond p pre post cl hresps hcl => exact Or.inr (mu_respond hresps hcl)
  | notified i cl n pre post hcl hn => exact Or.inr (mu_notified f hcl hn)


/-- **Measure.** Every step other than a local operation strictly decreases `μ` (on reachable states;
what is used of reachability is the invariant). -/
theorem measure_decreases {f : RtFacts} {S S' : Sys} (I : Inv S) (h : PStep f S S') : μ S' < μ S := by
  rcases step_cases_mu I h.1 with hl | ⟨_, hlt⟩
  · exact absurd hl h.2
  · exact hlt

theorem rt_measure_decreases {n : Nat} {S S' : Sys} (h : Reach currentFacts n S) (hs : Step currentFacts S S')
    (hnl : ¬ IsLocalOp S S') : μ S' < μ S :=
  measure_decreases (inv_reach rfl rfl h) ⟨hs, hnl⟩

/-- anything in flight can be processed (of the invariant this needs only that indices are in range: `len`, `reqIdx`,
`respIdx`; and `TryAcquire` rather than a blocking `Acquire` in `DeliverTransaction`) -/
theorem progress_of_inv {f : RtFacts} (hta : f.deliverTryAcquire = true) {S : Sys} (I : Inv S)
    (hq : ¬ Quiescent S) : ∃ S', PStep f S S' := by
  cases hreqs : S.reqs with
  | cons r post =>
    have hrmem : r ∈ S.reqs := hreqs ▸ List.mem_cons_self
    have hlt : r.c < S.srvCseq.length := by rw [I.len]; exact I.reqIdx r hrmem
    have hsrv : S.srvCseq[r.c]? = some S.srvCseq[r.c] := List.getElem?_eq_getElem hlt
    have hreqs' : S.reqs = [] ++ r :: post := hreqs
    exact ⟨_, Step.serve' hreqs' hsrv, not_localOp_of_issued (mu_serve I hreqs' hsrv).1⟩
  | nil =>
    cases hresps : S.resps with
    | cons p post =>
      have hpmem : p ∈ S.resps := hresps ▸ List.mem_cons_self
      have hlt : p.c < S.clients.length := I.respIdx p hpmem
      have hcl : S.clients[p.c]? = some S.clients[p.c] := List.getElem?_eq_getElem hlt
      have hresps' : S.resps = [] ++ p :: post := hresps
      exact ⟨_, Step.respond' hresps' hcl, not_localOp_of_issued (mu_respond (f := f) hresps' hcl).1⟩
    | nil =>
      by_cases hex : ∃ cl ∈ S.clients, cl.notifs ≠ [] ∨ cl.spawned ≠ 0
      · obtain ⟨cl, hm, h⟩ := hex
        obtain ⟨i, hi⟩ := List.getElem?_of_mem hm
        cases hnot : cl.notifs with
        | cons m post =>
          have hn : cl.notifs = [] ++ m :: post := hnot
          exact ⟨_, Step.notified' hi hn, not_localOp_of_issued (mu_notified f hi hn).1⟩
        | nil =>
          have hsp : 0 < cl.spawned := by
            rcases h with h | h
            · exact absurd hnot h
            · exact Nat.pos_of_ne_zero h
          cases hs : cl.sema with
          | false =>
            exact ⟨_, Step.deliverGo S i cl hi hsp hs, not_localOp_of_issued (mu_deliverGo hi hsp).1⟩
          | true =>
            exact ⟨_, Step.deliverBusy S i cl hi hsp hta hs, not_localOp_of_issued (mu_deliverBusy hi hsp).1⟩
      · exfalso
        apply hq
        refine ⟨hreqs, hresps, fun cl hm => ?_⟩
        by_cases h1 : cl.notifs = []
        · by_cases h2 : cl.spawned = 0
          · exact ⟨h1, h2⟩
          · exact absurd ⟨cl, hm, Or.inr h2⟩ hex
        · exact absurd ⟨cl, hm, Or.inl h1⟩ hex

/-- **Progress.** In a reachable state that is not quiescent, something in flight can be processed:
there is a step that is not a local operation. -/
theorem rt_progress {n : Nat} {S : Sys} (h : Reach currentFacts n S) (hq : ¬ Quiescent S) :
    ∃ S', Step currentFacts S S' ∧ ¬ IsLocalOp S S' :=
  progress_of_inv rfl (inv_reach rfl rfl h) hq

theorem quiescent_only_localOp {f : RtFacts} {S S' : Sys} (hq : Quiescent S) (h : Step f S S') :
    IsLocalOp S S' := by
  obtain ⟨hreqs, hresps, hcls⟩ := hq
  cases h with
  | localOp i cl hcl => exact ⟨i, cl, hcl, rfl⟩
  | deliverBusy i cl hcl hsp _ _ =>
    have := (hcls cl (List.mem_of_getElem? hcl)).2; omega
  | deliverGo i cl hcl hsp _ =>
    have := (hcls cl (List.mem_of_getElem? hcl)).2; omega
  | serve r pre post hv hr _ => rw [hreqs] at hr; simp at hr
  | respond p pre post cl hr _ => rw [hresps] at hr; simp at hr
  | notified i cl n pre post hcl hn =>
    have := (hcls cl (List.mem_of_getElem? hcl)).1
    rw [this] at hn; simp at hn

/-- a schedule of `k` processing steps -/
inductive PRun (f : RtFacts) : Nat → Sys → Sys → Prop
  | nil (S : Sys) : PRun f 0 S S
  | cons {k : Nat} {S S' S'' : Sys} : PStep f S S' → PRun f k S' S'' → PRun f (k + 1) S S''

/-! Termination holds for every setting of the guards under which the invariant is inductive
(`notifySyncTakesSema = false`, `deliverRechecks = true`), from any state that satisfies the invariant;
only progress needs `deliverTryAcquire = true` as well. -/
section guards
variable {f : RtFacts} (hns : f.notifySyncTakesSema = false) (hr : f.deliverRechecks = true)
include hns hr

theorem prun_inv {k : Nat} {S S' : Sys} (I : Inv S) (h : PRun f k S S') : Inv S' := by
  induction h with
  | nil => exact I
  | cons hs _ ih => exact ih (inv_step hns hr I hs.1)

theorem prun_bound {k : Nat} {S S' : Sys} (I : Inv S) (h : PRun f k S S') : k + μ S' ≤ μ S := by
  induction h with
  | nil => exact Nat.le_of_eq (Nat.zero_add _)
  | cons hs _ ih =>
    have h1 := measure_decreases I hs
    have h2 := ih (inv_step hns hr I hs.1)
    omega

theorem rt_terminates_of_guards (hta : f.deliverTryAcquire = true) {S : Sys} (I : Inv S) :
    (∀ k S', PRun f k S S' → k ≤ μ S) ∧
    (∀ k S', PRun f k S S' → (∃ S'', PStep f S' S'') ∨ (Quiescent S' ∧ Converged S')) := by
  refine ⟨fun k S' h => Nat.le_trans (Nat.le_add_right _ _) (prun_bound hns hr I h), fun k S' h => ?_⟩
  have I' := prun_inv hns hr I h
  by_cases hq : Quiescent S'
  · exact Or.inr ⟨hq, inv_quiescent_converged I' hq⟩
  · exact Or.inl (progress_of_inv hta I' hq)

theorem rt_terminates_acc_of_guards {S : Sys} (I : Inv S) : Acc (fun S'' S' => PStep f S' S'') S := by
  generalize hm : μ S = m
  induction m using Nat.strongRecOn generalizing S with
  | _ m ih =>
    refine Acc.intro S fun S' hs => ?_
    exact ih (μ S') (hm ▸ measure_decreases I hs) (inv_step hns hr I hs.1) rfl

theorem rt_no_infinite_run_of_guards {S : Sys} (I : Inv S) :
    ¬ ∃ σ : Nat → Sys, σ 0 = S ∧ ∀ k, PStep f (σ k) (σ (k + 1)) := by
  rintro ⟨σ, rfl, hs⟩
  -- after `k` steps the measure has dropped by `k` at least
  have hb : ∀ k, Inv (σ k) ∧ k + μ (σ k) ≤ μ (σ 0) := by
    intro k
    induction k with
    | zero => exact ⟨I, Nat.le_of_eq (Nat.zero_add _)⟩
    | succ k ih =>
      have := measure_decreases ih.1 (hs k)
      exact ⟨inv_step hns hr ih.1 (hs k).1, by omega⟩
  have := (hb (μ (σ 0) + 1)).2
  omega

theorem rt_reaches_converged_of_guards (hta : f.deliverTryAcquire = true) {S : Sys} (I : Inv S) :
    ∃ k S', PRun f k S S' ∧ k ≤ μ S ∧ Quiescent S' ∧ Converged S' := by
  generalize hm : μ S = m
  induction m using Nat.strongRecOn generalizing S with
  | _ m ih =>
    by_cases hq : Quiescent S
    · exact ⟨0, S, PRun.nil S, Nat.zero_le _, hq, inv_quiescent_converged I hq⟩
    · obtain ⟨S1, hs⟩ := progress_of_inv hta I hq
      have hlt := measure_decreases I hs
      obtain ⟨k, S', hrun, hk, hq', hc⟩ := ih (μ S1) (hm ▸ hlt) (inv_step hns hr I hs.1) rfl
      exact ⟨k + 1, S', PRun.cons hs hrun, by omega, hq', hc⟩

end guards

/-- **Termination.** Once the users stop issuing operations: (i) no schedule of processing steps from a
reachable state `S` is longer than `μ S`; (ii) wherever such a schedule stands, either it can go on or the
state is quiescent and (by `rt_quiescent_converged`) converged.  Hence EVERY maximal schedule ends, after at most `μ S` steps, in a
quiescent converged state — without any further `Sync` call. -/
theorem rt_terminates {n : Nat} {S : Sys} (h : Reach currentFacts n S) :
    (∀ k S', PRun currentFacts k S S' → k ≤ μ S) ∧
    (∀ k S', PRun currentFacts k S S' →
        (∃ S'', PStep currentFacts S' S'') ∨ (Quiescent S' ∧ Converged S')) :=
  rt_terminates_of_guards rfl rfl rfl (inv_reach rfl rfl h)

/-- the same as well-foundedness: no infinite schedule of processing steps from a reachable state -/
theorem rt_terminates_acc {n : Nat} {S : Sys} (h : Reach currentFacts n S) :
    Acc (fun S'' S' => PStep currentFacts S' S'') S :=
  rt_terminates_acc_of_guards rfl rfl (inv_reach rfl rfl h)

theorem rt_no_infinite_run {n : Nat} {S : Sys} (h : Reach currentFacts n S) :
    ¬ ∃ σ : Nat → Sys, σ 0 = S ∧ ∀ k, PStep currentFacts (σ k) (σ (k + 1)) :=
  rt_no_infinite_run_of_guards rfl rfl (inv_reach rfl rfl h)

/-- and some (indeed every maximal) schedule does reach a quiescent, converged state -/
theorem rt_reaches_converged {n : Nat} {S : Sys} (h : Reach currentFacts n S) :
    ∃ k S', PRun currentFacts k S S' ∧ k ≤ μ S ∧ Quiescent S' ∧ Converged S' :=
  rt_reaches_converged_of_guards rfl rfl rfl (inv_reach rfl rfl h)


/-! ## The guards matter: explicit counterexample traces

A trace is a list of scheduler choices, run by `exec`; `reach_run` turns one evaluation of the run into `Reach`.
In the concrete states a client is `⟨issued, acked, sseq, sema, spawned, notifs⟩`,
a system is `⟨clients, logEnd, srvCseq, reqs, resps⟩`. -/

/-- a scheduler's choice; requests and responses are taken from the head of their queue, client `i` may be handed
its `k`-th queued notification -/
inductive Act where
  | localOp (i : Nat)
  | deliver (i : Nat)
  | serve
  | respond
  | notified (i k : Nat)

def exec (f : RtFacts) (S : Sys) : Act → Option { S' : Sys // Step f S S' }
  | .localOp i =>
    match h : S.clients[i]? with
    | some cl => some ⟨_, .localOp S i cl h⟩
    | none => none
  | .deliver i =>
    match h : S.clients[i]? with
    | some cl =>
      if hsp : 0 < cl.spawned then
        if hs : cl.sema = true then
          if hta : f.deliverTryAcquire = true then some ⟨_, .deliverBusy S i cl h hsp hta hs⟩ else none
        else some ⟨_, .deliverGo S i cl h hsp (Bool.eq_false_iff.2 hs)⟩
      else none
    | none => none
  | .serve =>
    match h : S.reqs with
    | r :: post =>
      match h2 : S.srvCseq[r.c]? with
      | some hv => some ⟨_, .serve S r [] post hv h h2⟩
      | none => none
    | [] => none
  | .respond =>
    match h : S.resps with
    | p :: post =>
      match h2 : S.clients[p.c]? with
      | some cl => some ⟨_, .respond S p [] post cl h h2⟩
      | none => none
    | [] => none
  | .notified i k =>
    match h : S.clients[i]? with
    | some cl =>
      match h2 : cl.notifs.drop k with
      | n :: post =>
        some ⟨_, .notified S i cl n (cl.notifs.take k) post h (by rw [← h2, List.take_append_drop])⟩
      | [] => none
    | none => none

def run (f : RtFacts) : Sys → List Act → Option Sys
  | S, [] => some S
  | S, a :: as => (exec f S a).bind fun p => run f p.1 as

theorem reach_run {f : RtFacts} {n : Nat} : ∀ {S S' : Sys} (as : List Act), Reach f n S → run f S as = some S' →
    Reach f n S'
  | S, S', [], h, e => Option.some.inj e ▸ h
  | S, S', a :: as, h, e => by
    cases ha : exec f S a with
    | none => rw [run, ha] at e; cases e
    | some p => rw [run, ha] at e; exact reach_run as (h.step p.2) e

/-! ### a notification-triggered sync that competes for the semaphore loses a wake-up -/

def factsNotifySema : RtFacts := { currentFacts with notifySyncTakesSema := true }

namespace C1
def acts : List Act :=
  [ .localOp 1, .deliver 1,  -- client 1 issues an operation and delivers it (takes the semaphore)
    .serve,                  -- the server stores it (log end 1) and publishes; the response to client 1 (sseq 1) is delayed
    .localOp 0, .deliver 0,  -- client 0 issues an operation and delivers it
    .serve,                  -- the server stores it (log end 2) and publishes (0,2):
                             -- ⟨[⟨1,0,0,true,0,[(1,1),(0,2)]⟩, ⟨1,0,0,true,0,[(1,1),(0,2)]⟩], 2, [1,1], [], [⟨1,.deliver,1,1⟩, ⟨0,.deliver,2,1⟩]⟩
    .notified 1 1,           -- client 1 receives (0,2) while its own delivery still holds the semaphore: DROPPED — the lost wake-up
    .notified 1 0,           -- client 1 drops its own notification
    .respond,                -- the delayed response reaches client 1: sseq 1, everything pushed, nothing to re-deliver
    .respond, .notified 0 0, .notified 0 0 ]  -- client 0 gets its response and drops its two notifications (already there / own)

def a12 : Sys := ⟨[⟨1,1,2,false,0,[]⟩, ⟨1,1,1,false,0,[]⟩], 2, [1,1], [], []⟩

end C1

/-- If the notification-triggered sync tried the semaphore (and gave up when busy), there would be a
reachable QUIESCENT state that is not converged: client 1 stays at sseq 1 while the log ends at 2, and nothing
is left to wake it up. -/
theorem rt_notifySema_lost_wakeup :
    ∃ S, Reach factsNotifySema 2 S ∧ Quiescent S ∧ ¬ Converged S ∧
      S.clients[1]? = some ⟨1,1,1,false,0,[]⟩ ∧ S.logEnd = 2 := by
  refine ⟨C1.a12, reach_run C1.acts Reach.init rfl, ⟨rfl, rfl, by decide⟩, ?_, rfl, rfl⟩
  intro h
  have := (h 1 ⟨1,1,1,false,0,[]⟩ rfl).2.1
  exact absurd this (by decide)

/-! ### without the re-check after releasing the semaphore an operation is never pushed -/

def factsNoRecheck : RtFacts := { currentFacts with deliverRechecks := false }

namespace C2
def acts : List Act :=
  [ .localOp 0, .deliver 0,  -- first operation, delivery started
    .localOp 0, .deliver 0,  -- second operation while the delivery is in flight: its goroutine finds the semaphore busy and returns
    .serve,                  -- the server stores operation 1: ⟨[⟨2,0,0,true,0,[(0,1)]⟩], 1, [1], [], [⟨0,.deliver,1,1⟩]⟩
    .respond,                -- the response releases the semaphore; NO re-check of NeedPush
    .notified 0 0 ]          -- own notification dropped

def b7 : Sys := ⟨[⟨2,1,1,false,0,[]⟩], 1, [1], [], []⟩

end C2

/-- Without the re-check of `NeedPush` after releasing the semaphore there is a reachable quiescent
state in which the client has issued 2 operations and the server has 1: the second operation is not pushed, and
(by `quiescent_only_localOp`) nothing will push it unless the user issues yet another operation. -/
theorem rt_noRecheck_never_pushed :
    ∃ S, Reach factsNoRecheck 1 S ∧ Quiescent S ∧ ¬ Converged S ∧
      S.clients[0]? = some ⟨2,1,1,false,0,[]⟩ ∧ S.srvCseq = [1] ∧
      ∀ S', Step factsNoRecheck S S' → IsLocalOp S S' := by
  have hq : Quiescent C2.b7 := ⟨rfl, rfl, by decide⟩
  refine ⟨C2.b7, reach_run C2.acts Reach.init rfl, hq, ?_, rfl, rfl, fun S' h => quiescent_only_localOp hq h⟩
  intro h
  have := (h 0 ⟨2,1,1,false,0,[]⟩ rfl).1
  exact absurd this (by decide)

/-! ### `needPullGuard := false`
Convergence still holds: `rt_quiescent_converged_of_guards` above covers every setting of the guards with
`notifySyncTakesSema = false ∧ deliverRechecks = true`; instance: -/

def factsNoPullGuard : RtFacts := { currentFacts with needPullGuard := false }

theorem rt_noPullGuard_converged (n : Nat) (S : Sys) (h : Reach factsNoPullGuard n S) (hq : Quiescent S) :
    Converged S :=
  rt_quiescent_converged_of_guards rfl rfl n S h hq

/-! ## Non-vacuity: 2 clients, 3 operations, reachable, quiescent, converged -/

namespace D
def acts : List Act :=
  [ .localOp 0, .localOp 0, .deliver 0, .deliver 0,
      -- client 0 issues two operations; the first goroutine delivers both, the second finds the semaphore busy
    .localOp 1, .deliver 1,  -- client 1 issues one operation and delivers it
    .serve, .serve,          -- the server serves both pushes
    .respond, .respond,      -- the responses arrive:
                             -- ⟨[⟨2,2,2,false,0,[(0,2),(1,3)]⟩, ⟨1,1,3,false,0,[(0,2),(1,3)]⟩], 3, [2,1], [], []⟩
    .notified 0 0, .notified 0 0,  -- client 0: own notification dropped, the one of client 1 starts a sync (sseq 2 < 3)
    .notified 1 0, .notified 1 0,  -- client 1: already at 3 / own
    .serve, .respond ]       -- the notification-triggered sync of client 0

def d16 : Sys := ⟨[⟨2,2,3,false,0,[]⟩, ⟨1,1,3,false,0,[]⟩], 3, [2,1], [], []⟩

end D

/-- **Non-vacuity.** A reachable, quiescent, converged state of the current source with 2 clients and
3 operations (client 0: two, client 1: one; the log ends at 3 and both clients are at 3). -/
theorem rt_nonvacuous :
    ∃ S, Reach currentFacts 2 S ∧ Quiescent S ∧ Converged S ∧
      S.clients = [⟨2,2,3,false,0,[]⟩, ⟨1,1,3,false,0,[]⟩] ∧ S.logEnd = 3 ∧ S.srvCseq = [2,1] := by
  refine ⟨D.d16, reach_run D.acts Reach.init rfl, ⟨rfl, rfl, by decide⟩, ?_, rfl, rfl, rfl⟩
  intro i cl h
  match i, h with
  | 0, h => cases h; decide
  | 1, h => cases h; decide
  | i + 2, h => simp [D.d16] at h

end Orda.Rt



