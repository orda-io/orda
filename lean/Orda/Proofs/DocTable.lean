/-
The node table of the JSON document, read through `Doc.find`: `DocEq`, the blocks `createNode` makes (`Block`,
`create_induction`), funeral and tombstone in closed form, `Doc.WF`, the remote put and delete case by case (`PutPre`),
acyclicity and the depth bound (`Ranked`, `bounded_of`), distinct keys, and the view of freshly created nodes. What the
convergence proofs (Proofs/DocConv.lean) and the single-replica refinement (Proofs/DocPlain.lean) share.
-/
import Orda.Model.Doc
import Orda.Proofs.HashCmp
import Orda.Proofs.Assoc
import Orda.Proofs.LiveWalk
import Mathlib.Logic.Basic
import Mathlib.Tactic.SplitIfs
import Mathlib.Tactic.Tauto
import Mathlib.Data.List.Nodup
import Mathlib.Data.String.Basic
namespace Orda

/-- extensional equality of documents: the same node under every identifier -/
def DocEq (a b : Doc) : Prop := ∀ c, a.find c = b.find c

namespace DC

/-! ### the node table -/

def ids (t : List DNode) : List Ts := t.map (·.c)

theorem find_some_c {d : Doc} {c : Ts} {n : DNode} (h : d.find c = some n) : n.c = c := by
  unfold Doc.find at h
  have := List.find?_some h
  simpa using this

theorem find_some_mem {d : Doc} {c : Ts} {n : DNode} (h : d.find c = some n) : n ∈ d.table := by
  unfold Doc.find at h
  exact List.mem_of_find?_eq_some h

theorem find_none_iff {d : Doc} {c : Ts} : d.find c = none ↔ c ∉ ids d.table := by
  unfold Doc.find ids
  simp [List.find?_eq_none]

theorem find_isSome_iff {d : Doc} {c : Ts} : (d.find c).isSome ↔ c ∈ ids d.table := by
  rw [← not_iff_not, ← find_none_iff]; simp

theorem tfind_tableSet (n : DNode) (t : List DNode) (c : Ts) :
    (tableSet n t).find? (fun x => x.c = c) = if n.c = c then some n else t.find? (fun x => x.c = c) := by
  induction t with
  | nil => simp [tableSet, List.find?]
  | cons x xs ih =>
    simp only [tableSet]
    by_cases hx : x.c = n.c
    · simp only [hx, if_true, List.find?_cons]
      by_cases hc : n.c = c
      · simp [hc]
      · simp [hc]
    · simp only [hx, if_false, List.find?_cons, ih]
      by_cases hc : n.c = c
      · have : ¬ x.c = c := by rw [← hc]; exact hx
        simp [hc, this]
      · simp [hc]

theorem find_set (d : Doc) (n : DNode) (c : Ts) :
    (d.set n).find c = if n.c = c then some n else d.find c := by
  unfold Doc.set Doc.find
  exact tfind_tableSet n d.table c

theorem find_remove (d : Doc) (x c : Ts) :
    (d.remove x).find c = if c = x then none else d.find c := by
  unfold Doc.remove Doc.find
  rw [List.find?_filter]
  split
  · rename_i h; subst h; exact List.find?_eq_none.mpr fun a _ => by simp
  · rename_i h
    congr 1; funext a
    by_cases e : a.c = c
    · simp [e, h]
    · simp [e]

/-- lookup in a batch of nodes: the last binding wins (as `addAll` overwrites) -/
def nfind (ns : List DNode) (c : Ts) : Option DNode := ns.reverse.find? (fun n => n.c = c)

theorem find_addAll (ns : List DNode) : ∀ (d : Doc) (c : Ts),
    (d.addAll ns).find c = (nfind ns c).or (d.find c) := by
  induction ns with
  | nil => intro d c; simp [Doc.addAll, nfind]
  | cons n ns ih =>
    intro d c
    have : d.addAll (n :: ns) = (d.set n).addAll ns := rfl
    rw [this, ih, find_set]
    simp only [nfind, List.reverse_cons, List.find?_append]
    cases h : List.find? (fun n => n.c = c) ns.reverse with
    | some y => simp
    | none =>
      by_cases hc : n.c = c <;> simp [hc]

theorem nfind_some {ns : List DNode} {c : Ts} {n : DNode} (h : nfind ns c = some n) : n ∈ ns ∧ n.c = c := by
  unfold nfind at h
  exact ⟨List.mem_reverse.mp (List.mem_of_find?_eq_some h), by simpa using List.find?_some h⟩

theorem nfind_none_iff {ns : List DNode} {c : Ts} : nfind ns c = none ↔ c ∉ ids ns := by
  unfold nfind ids
  simp [List.find?_eq_none]

theorem nfind_isSome_iff {ns : List DNode} {c : Ts} : (nfind ns c).isSome ↔ c ∈ ids ns := by
  rw [← not_iff_not, ← nfind_none_iff]; simp

theorem nfind_of_mem {ns : List DNode} (hnd : (ids ns).Nodup) {n : DNode} (hn : n ∈ ns) :
    nfind ns n.c = some n := by
  cases h : nfind ns n.c with
  | none => exact absurd (List.mem_map.mpr ⟨n, hn, rfl⟩) (nfind_none_iff.mp h)
  | some m =>
    obtain ⟨hm, hc⟩ := nfind_some h
    have : m = n := by
      unfold ids at hnd
      exact List.inj_on_of_nodup_map hnd hm hn hc
    rw [this]

theorem ids_tableSet_mem (n : DNode) (t : List DNode) (h : n.c ∈ ids t) :
    ids (tableSet n t) = ids t := by
  induction t with
  | nil => simp [ids] at h
  | cons x xs ih =>
    simp only [tableSet]
    by_cases hx : x.c = n.c
    · simp [hx, ids]
    · have : n.c ∈ ids xs := by
        simp only [ids, List.map_cons, List.mem_cons] at h
        rcases h with h | h
        · exact absurd h.symm hx
        · exact h
      simp only [hx, if_false]
      simp only [ids, List.map_cons] at ih ⊢
      rw [ih this]

theorem ids_tableSet_not_mem (n : DNode) (t : List DNode) (h : n.c ∉ ids t) :
    ids (tableSet n t) = ids t ++ [n.c] := by
  induction t with
  | nil => simp [tableSet, ids]
  | cons x xs ih =>
    simp only [ids, List.map_cons, List.mem_cons, not_or] at h
    have hx : ¬ x.c = n.c := fun e => h.1 e.symm
    simp only [tableSet, hx, if_false]
    simp only [ids, List.map_cons] at ih ⊢
    rw [ih h.2]; rfl

theorem nodup_set {d : Doc} (n : DNode) (h : (ids d.table).Nodup) : (ids (d.set n).table).Nodup := by
  unfold Doc.set
  by_cases hn : n.c ∈ ids d.table
  · rw [ids_tableSet_mem n _ hn]; exact h
  · rw [ids_tableSet_not_mem n _ hn, List.nodup_append]
    refine ⟨h, by simp, ?_⟩
    intro a ha b hb
    simp only [List.mem_singleton] at hb
    subst hb
    intro e; subst e; exact hn ha

theorem nodup_remove {d : Doc} (x : Ts) (h : (ids d.table).Nodup) : (ids (d.remove x).table).Nodup := by
  unfold Doc.remove ids
  exact List.Nodup.sublist (List.Sublist.map _ List.filter_sublist) h

theorem nodup_addAll (ns : List DNode) : ∀ {d : Doc}, (ids d.table).Nodup → (ids (d.addAll ns).table).Nodup := by
  induction ns with
  | nil => intro d h; exact h
  | cons n ns ih => intro d h; exact ih (nodup_set n h)


/-! ### `DocEq` is an equivalence respected by every observation -/

theorem docEq_refl (a : Doc) : DocEq a a := fun _ => rfl
theorem docEq_symm {a b : Doc} (h : DocEq a b) : DocEq b a := fun c => (h c).symm
theorem docEq_trans {a b c : Doc} (h1 : DocEq a b) (h2 : DocEq b c) : DocEq a c :=
  fun x => (h1 x).trans (h2 x)
theorem docEq_equivalence : Equivalence DocEq := ⟨docEq_refl, docEq_symm, docEq_trans⟩

theorem docEq_isTomb {a b : Doc} (h : DocEq a b) (c : Ts) : a.isTomb c = b.isTomb c := by
  unfold Doc.isTomb; rw [h c]
theorem docEq_timeOf {a b : Doc} (h : DocEq a b) (c : Ts) : a.timeOf c = b.timeOf c := by
  unfold Doc.timeOf; rw [h c]
theorem docEq_findObj {a b : Doc} (h : DocEq a b) (c : Ts) : a.findObj c = b.findObj c := by
  unfold Doc.findObj; rw [h c]
theorem docEq_findArr {a b : Doc} (h : DocEq a b) (c : Ts) : a.findArr c = b.findArr c := by
  unfold Doc.findArr; rw [h c]

theorem docEq_viewOf {a b : Doc} (h : DocEq a b) : ∀ (fuel : Nat) (c : Ts), a.viewOf fuel c = b.viewOf fuel c := by
  intro fuel
  induction fuel with
  | zero => intro c; rfl
  | succ f ih =>
    intro c
    simp only [Doc.viewOf, h c]
    have e1 : ∀ ch, a.isTomb ch = b.isTomb ch := docEq_isTomb h
    simp only [e1, ih]

theorem docEq_isGarbage {a b : Doc} (h : DocEq a b) : ∀ (fuel : Nat) (c : Ts), a.isGarbage fuel c = b.isGarbage fuel c := by
  intro fuel
  induction fuel with
  | zero => intro c; rfl
  | succ f ih =>
    intro c
    simp only [Doc.isGarbage, h c, ih]

theorem docEq_ids_perm {a b : Doc} (h : DocEq a b) (ha : (ids a.table).Nodup) (hb : (ids b.table).Nodup) :
    (ids a.table).Perm (ids b.table) := by
  rw [List.perm_ext_iff_of_nodup ha hb]
  intro c
  rw [← find_isSome_iff, ← find_isSome_iff, h c]

theorem docEq_length {a b : Doc} (h : DocEq a b) (ha : (ids a.table).Nodup) (hb : (ids b.table).Nodup) :
    a.table.length = b.table.length := by
  have := (docEq_ids_perm h ha hb).length_eq
  simpa [ids] using this

/-- `view`, `viewAt`, `garbage` use the table size as fuel: equal under `DocEq` when no identifier is duplicated
    (part of `Doc.WF`) -/
theorem docEq_view {a b : Doc} (h : DocEq a b) (ha : (ids a.table).Nodup) (hb : (ids b.table).Nodup) :
    a.view = b.view := by
  unfold Doc.view; rw [docEq_length h ha hb]; exact docEq_viewOf h _ _
theorem docEq_viewAt {a b : Doc} (h : DocEq a b) (ha : (ids a.table).Nodup) (hb : (ids b.table).Nodup) (c : Ts) :
    a.viewAt c = b.viewAt c := by
  unfold Doc.viewAt; rw [docEq_length h ha hb]; exact docEq_viewOf h _ _
theorem docEq_garbage {a b : Doc} (h : DocEq a b) (ha : (ids a.table).Nodup) (hb : (ids b.table).Nodup) (c : Ts) :
    a.garbage c = b.garbage c := by
  unfold Doc.garbage; rw [docEq_length h ha hb]; exact docEq_isGarbage h _ _

theorem docEq_set {a b : Doc} (h : DocEq a b) (n : DNode) : DocEq (a.set n) (b.set n) := by
  intro c; rw [find_set, find_set, h c]
theorem docEq_remove {a b : Doc} (h : DocEq a b) (x : Ts) : DocEq (a.remove x) (b.remove x) := by
  intro c; rw [find_remove, find_remove, h c]
theorem docEq_addAll {a b : Doc} (h : DocEq a b) (ns : List DNode) : DocEq (a.addAll ns) (b.addAll ns) := by
  intro c; rw [find_addAll, find_addAll, h c]


/-! ### `createNode`: the created nodes form a block of consecutive delimiters -/

def addDelim (t : Ts) (i : Nat) : Ts := ⟨t.era, t.lamport, t.cuid, t.delim + i⟩

theorem nextDelim_eq (t : Ts) : t.nextDelim = addDelim t 1 := rfl
theorem addDelim_zero (t : Ts) : addDelim t 0 = t := rfl
theorem addDelim_add (t : Ts) (i j : Nat) : addDelim (addDelim t i) j = addDelim t (i + j) := by
  simp [addDelim, Nat.add_assoc]
theorem addDelim_key (t : Ts) (i : Nat) : (addDelim t i).key = t.key := rfl
theorem mem_delimSeq {x : Ts} {n : Nat} {t : Ts} : x ∈ delimSeq t n ↔ ∃ i, i < n ∧ x = addDelim t i :=
  Orda.mem_delimSeq n t x

theorem delimSeq_append (a b : Nat) : ∀ (t : Ts), delimSeq t (a + b) = delimSeq t a ++ delimSeq (addDelim t a) b := by
  induction a with
  | zero => intro t; simp [delimSeq, addDelim_zero]
  | succ a ih =>
    intro t
    have : a + 1 + b = (a + b) + 1 := by omega
    rw [this]
    simp only [delimSeq, ih, List.cons_append, nextDelim_eq, addDelim_add]
    rw [Nat.add_comm 1 a]

/-- the children referenced by a node -/
def kids : DKind → List Ts
  | .elem _ => []
  | .obj m _ => m.map (·.2)
  | .arr sl _ => sl.map (·.2)

/-- `ns` are freshly created nodes with identifiers `ts, ts+1, …`, `ts'` the next free identifier:
    all live, every referenced child is a LATER node of the block whose parent is the referencing node,
    no node references a child twice -/
structure Block (ts : Ts) (ns : List DNode) (ts' : Ts) : Prop where
  ids : ids ns = delimSeq ts ns.length
  next : ts' = addDelim ts ns.length
  live : ∀ n ∈ ns, n.d = none
  links : ∀ n ∈ ns, ∀ c ∈ kids n.kind, ∃ nc ∈ ns, nc.c = c ∧ nc.parent = some n.c ∧ n.c.delim < c.delim
  inj : ∀ n ∈ ns, (kids n.kind).Nodup

theorem block_nil (ts : Ts) : Block ts [] ts :=
  ⟨rfl, rfl, by simp, by simp, by simp⟩

theorem block_append {ts ts1 ts2 : Ts} {ns1 ns2 : List DNode} (h1 : Block ts ns1 ts1) (h2 : Block ts1 ns2 ts2) :
    Block ts (ns1 ++ ns2) ts2 := by
  refine ⟨?_, ?_, ?_, ?_, ?_⟩
  · have e2 := h2.ids
    have e1 := h1.ids
    rw [h1.next] at e2
    simp only [DC.ids, List.map_append, List.length_append, delimSeq_append] at *
    rw [e1, e2]
  · rw [h2.next, h1.next, addDelim_add, List.length_append]
  · intro n hn
    rcases List.mem_append.mp hn with h | h
    · exact h1.live n h
    · exact h2.live n h
  · intro n hn c hc
    rcases List.mem_append.mp hn with h | h
    · obtain ⟨nc, hnc, r⟩ := h1.links n h c hc
      exact ⟨nc, List.mem_append_left _ hnc, r⟩
    · obtain ⟨nc, hnc, r⟩ := h2.links n h c hc
      exact ⟨nc, List.mem_append_right _ hnc, r⟩
  · intro n hn
    rcases List.mem_append.mp hn with h | h
    · exact h1.inj n h
    · exact h2.inj n h

theorem block_mem_id {ts ts' : Ts} {ns : List DNode} (h : Block ts ns ts') {n : DNode} (hn : n ∈ ns) :
    ∃ i, i < ns.length ∧ n.c = addDelim ts i := by
  have : n.c ∈ DC.ids ns := List.mem_map.mpr ⟨n, hn, rfl⟩
  rw [h.ids] at this
  exact mem_delimSeq.mp this

theorem block_ids_nodup {ts ts' : Ts} {ns : List DNode} (h : Block ts ns ts') : (DC.ids ns).Nodup := by
  rw [h.ids]; exact delimSeq_nodup _ _

theorem Block.mem_ids {ts ts' : Ts} {ns : List DNode} (h : Block ts ns ts') {c : Ts} (hc : c ∈ DC.ids ns) :
    c.era = ts.era ∧ c.lamport = ts.lamport ∧ c.cuid = ts.cuid ∧ ts.delim ≤ c.delim ∧ c.delim < ts'.delim := by
  rw [h.ids] at hc
  obtain ⟨i, hi, rfl⟩ := mem_delimSeq.mp hc
  rw [h.next]
  exact ⟨rfl, rfl, rfl, Nat.le_add_right _ _, Nat.add_lt_add_left hi _⟩

/-- the result of `createNode`: a block whose first node is the returned root `ts`, a child of `parent` -/
def NodeSpec (parent ts : Ts) (r : List DNode × Ts × Ts) : Prop :=
  Block ts r.1 r.2.2 ∧ r.2.1 = ts ∧ ∃ n0 rest, r.1 = n0 :: rest ∧ n0.c = ts ∧ n0.parent = some parent

/-- items: a block, and the returned child identifiers are distinct roots inside it whose parent is `parent` -/
def ItemsSpec (parent ts : Ts) (ns : List DNode) (cs : List Ts) (ts' : Ts) : Prop :=
  Block ts ns ts' ∧ cs.Nodup ∧ ∀ c ∈ cs, ∃ nc ∈ ns, nc.c = c ∧ nc.parent = some parent ∧ ts.delim ≤ c.delim

theorem itemsSpec_cons {parent ts ts1 ts2 : Ts} {ns ns2 : List DNode} {c : Ts} {cs : List Ts}
    (h1 : NodeSpec parent ts (ns, c, ts1)) (h2 : ItemsSpec parent ts1 ns2 cs ts2) :
    ItemsSpec parent ts (ns ++ ns2) (c :: cs) ts2 := by
  obtain ⟨b1, hc, n0, rest, hns, hn0c, hn0p⟩ := h1
  obtain ⟨b2, hnd, hcs⟩ := h2
  simp only at b1 hc hns
  have hts1 : ts1 = addDelim ts ns.length := b1.next
  refine ⟨block_append b1 b2, ?_, ?_⟩
  · rw [List.nodup_cons]
    refine ⟨?_, hnd⟩
    intro hmem
    obtain ⟨nc, _, hncc, _, hle⟩ := hcs c hmem
    rw [hc, hts1, hns] at hle
    simp only [addDelim, List.length_cons] at hle
    omega
  · intro x hx
    rcases List.mem_cons.mp hx with rfl | hx
    · refine ⟨n0, by rw [hns]; simp, by rw [hn0c, hc], hn0p, by rw [hc]⟩
    · obtain ⟨nc, hnc, h1, h2, h3⟩ := hcs x hx
      refine ⟨nc, List.mem_append_right _ hnc, h1, h2, ?_⟩
      rw [hts1] at h3; simp [addDelim] at h3; omega

theorem nodeSpec_container {parent ts ts' : Ts} {ns : List DNode} {cs : List Ts} (kind : DKind)
    (hk : kids kind = cs) (h : ItemsSpec ts ts.nextDelim ns cs ts') :
    NodeSpec parent ts (⟨ts, none, some parent, kind⟩ :: ns, ts, ts') := by
  obtain ⟨b, hnd, hcs⟩ := h
  refine ⟨?_, rfl, _, _, rfl, rfl, rfl⟩
  refine ⟨?_, ?_, ?_, ?_, ?_⟩
  · have := b.ids
    simp only [DC.ids, List.map_cons, List.length_cons, delimSeq] at this ⊢
    rw [this]
  · simp only [List.length_cons]
    rw [b.next, nextDelim_eq, addDelim_add, Nat.add_comm]
  · intro n hn
    rcases List.mem_cons.mp hn with rfl | hn
    · rfl
    · exact b.live n hn
  · intro n hn c hc
    rcases List.mem_cons.mp hn with rfl | hn
    · simp only [hk] at hc
      obtain ⟨nc, hnc, h1, h2, h3⟩ := hcs c hc
      refine ⟨nc, List.mem_cons_of_mem _ hnc, h1, h2, ?_⟩
      simp [Ts.nextDelim] at h3 ⊢; omega
    · obtain ⟨nc, hnc, r⟩ := b.links n hn c hc
      exact ⟨nc, List.mem_cons_of_mem _ hnc, r⟩
  · intro n hn
    rcases List.mem_cons.mp hn with rfl | hn
    · simp only [hk]; exact hnd
    · exact b.inj n hn

theorem nodeSpec_elem (parent ts : Ts) (v : JVal) :
    NodeSpec parent ts ([⟨ts, none, some parent, .elem v⟩], ts, ts.nextDelim) := by
  refine ⟨⟨by simp [DC.ids, delimSeq], by simp [nextDelim_eq], by simp, ?_, by simp [kids]⟩, rfl, _, _, rfl, rfl, rfl⟩
  intro n hn c hc
  simp only [List.mem_singleton] at hn
  subst hn
  simp [kids] at hc

/-! Induction along `createNode` / `createArrItems` / `createObjItems`: to show `P` / `A` / `O` of
whatever the three functions return it suffices to treat a leaf, a container over its items, the empty
item list, and an item list extended by one created value. -/
section create
variable {P : Ts → Ts → JVal → List DNode × Ts × Ts → Prop}
  {A : Ts → Ts → List JVal → List DNode × List Ts × Ts → Prop}
  {O : Ts → Ts → List (String × JVal) → List DNode × List (String × Ts) × Ts → Prop}
  (leaf : ∀ parent ts v, P parent ts v ([⟨ts, none, some parent, .elem v⟩], ts, ts.nextDelim))
  (obj : ∀ parent ts kvs ns m ts', O ts ts.nextDelim kvs (ns, m, ts') →
    P parent ts (.obj kvs) (⟨ts, none, some parent, .obj m m.length⟩ :: ns, ts, ts'))
  (arr : ∀ parent ts vs ns cs ts', A ts ts.nextDelim vs (ns, cs, ts') →
    P parent ts (.arr vs) (⟨ts, none, some parent, .arr (cs.map fun c => (c, c)) cs.length⟩ :: ns, ts, ts'))
  (anil : ∀ parent ts, A parent ts [] ([], [], ts))
  (acons : ∀ parent ts v vs ns c ts1 ns2 cs ts2, createNode parent ts v = .ok (ns, c, ts1) →
    P parent ts v (ns, c, ts1) → A parent ts1 vs (ns2, cs, ts2) →
    A parent ts (v :: vs) (ns ++ ns2, c :: cs, ts2))
  (onil : ∀ parent ts, O parent ts [] ([], [], ts))
  (ocons : ∀ parent ts k v kvs ns c ts1 ns2 m ts2, createNode parent ts v = .ok (ns, c, ts1) →
    P parent ts v (ns, c, ts1) → O parent ts1 kvs (ns2, m, ts2) →
    O parent ts ((k, v) :: kvs) (ns ++ ns2, (k, c) :: m, ts2))
include leaf obj arr anil acons onil ocons

mutual
theorem createNode_induct (parent ts : Ts) : ∀ (v : JVal) (r : List DNode × Ts × Ts),
    createNode parent ts v = .ok r → P parent ts v r
  | .null, r, h => by simp [createNode] at h
  | .bool b, r, h => by
    simp only [createNode, Outcome.ok.injEq] at h; subst h; exact leaf _ _ _
  | .num b, r, h => by
    simp only [createNode, Outcome.ok.injEq] at h; subst h; exact leaf _ _ _
  | .str b, r, h => by
    simp only [createNode, Outcome.ok.injEq] at h; subst h; exact leaf _ _ _
  | .obj kvs, r, h => by
    simp only [createNode] at h
    split at h
    · rename_i ns m ts' hi
      simp only [Outcome.ok.injEq] at h; subst h
      exact obj _ _ _ _ _ _ (createObjItems_induct ts ts.nextDelim kvs _ hi)
    · cases h
    · cases h
  | .arr vs, r, h => by
    simp only [createNode] at h
    split at h
    · rename_i ns cs ts' hi
      simp only [Outcome.ok.injEq] at h; subst h
      exact arr _ _ _ _ _ _ (createArrItems_induct ts ts.nextDelim vs _ hi)
    · cases h
    · cases h
theorem createArrItems_induct (parent ts : Ts) : ∀ (vs : List JVal) (r : List DNode × List Ts × Ts),
    createArrItems parent ts vs = .ok r → A parent ts vs r
  | [], r, h => by
    simp only [createArrItems, Outcome.ok.injEq] at h; subst h; exact anil _ _
  | v :: vs, r, h => by
    simp only [createArrItems] at h
    split at h
    · rename_i ns1 c ts1 h1
      split at h
      · rename_i ns2 cs2 ts2 h2
        simp only [Outcome.ok.injEq] at h; subst h
        exact acons _ _ _ _ _ _ _ _ _ _ h1 (createNode_induct parent ts v _ h1)
          (createArrItems_induct parent ts1 vs _ h2)
      · cases h
      · cases h
    · cases h
    · cases h
theorem createObjItems_induct (parent ts : Ts) : ∀ (kvs : List (String × JVal))
    (r : List DNode × List (String × Ts) × Ts), createObjItems parent ts kvs = .ok r → O parent ts kvs r
  | [], r, h => by
    simp only [createObjItems, Outcome.ok.injEq] at h; subst h; exact onil _ _
  | (k, v) :: kvs, r, h => by
    simp only [createObjItems] at h
    split at h
    · rename_i ns1 c ts1 h1
      split at h
      · rename_i ns2 cs2 ts2 h2
        simp only [Outcome.ok.injEq] at h; subst h
        exact ocons _ _ _ _ _ _ _ _ _ _ _ h1 (createNode_induct parent ts v _ h1)
          (createObjItems_induct parent ts1 kvs _ h2)
      · cases h
      · cases h
    · cases h
    · cases h
end

theorem create_induction :
    (∀ parent ts v r, createNode parent ts v = .ok r → P parent ts v r) ∧
    (∀ parent ts vs r, createArrItems parent ts vs = .ok r → A parent ts vs r) ∧
    (∀ parent ts kvs r, createObjItems parent ts kvs = .ok r → O parent ts kvs r) :=
  ⟨createNode_induct leaf obj arr anil acons onil ocons, createArrItems_induct leaf obj arr anil acons onil ocons,
    createObjItems_induct leaf obj arr anil acons onil ocons⟩
end create

theorem create_spec :
    (∀ parent ts v r, createNode parent ts v = .ok r → NodeSpec parent ts r) ∧
    (∀ parent ts vs r, createArrItems parent ts vs = .ok r → ItemsSpec parent ts r.1 r.2.1 r.2.2) ∧
    (∀ parent ts kvs r, createObjItems parent ts kvs = .ok r →
      ItemsSpec parent ts r.1 (r.2.1.map (·.2)) r.2.2) :=
  create_induction (P := fun parent ts _ r => NodeSpec parent ts r)
    (A := fun parent ts _ r => ItemsSpec parent ts r.1 r.2.1 r.2.2)
    (O := fun parent ts _ r => ItemsSpec parent ts r.1 (r.2.1.map Prod.snd) r.2.2)
    nodeSpec_elem (fun _ _ _ _ _ _ h => nodeSpec_container _ rfl h)
    (fun _ _ _ _ _ _ h => nodeSpec_container _ (by simp [kids, Function.comp_def]) h)
    (fun _ _ => ⟨block_nil _, List.nodup_nil, by simp⟩) (fun _ _ _ _ _ _ _ _ _ _ _ => itemsSpec_cons)
    (fun _ _ => ⟨block_nil _, List.nodup_nil, by simp⟩) (fun _ _ _ _ _ _ _ _ _ _ _ _ => itemsSpec_cons)

theorem createNode_spec (parent ts : Ts) : ∀ (v : JVal) (r : List DNode × Ts × Ts),
    createNode parent ts v = .ok r → NodeSpec parent ts r := create_spec.1 parent ts
theorem createArrItems_spec (parent ts : Ts) : ∀ (vs : List JVal) (ns : List DNode) (cs : List Ts) (ts' : Ts),
    createArrItems parent ts vs = .ok (ns, cs, ts') → ItemsSpec parent ts ns cs ts' :=
  fun vs _ _ _ => create_spec.2.1 parent ts vs _
theorem createObjItems_spec (parent ts : Ts) : ∀ (kvs : List (String × JVal)) (ns : List DNode) (m : List (String × Ts)) (ts' : Ts),
    createObjItems parent ts kvs = .ok (ns, m, ts') → ItemsSpec parent ts ns (m.map (·.2)) ts' :=
  fun kvs _ _ _ => create_spec.2.2 parent ts kvs _


/-! ### funeral / makeTomb in closed form -/

/-- what a funeral leaves of the node: an element leaves the table, a container becomes a tombstone -/
def fun1 (t : Ts) : Option DNode → Option DNode
  | none => none
  | some n => match n.kind with
    | .elem _ => none
    | _ => some { n with d := some t }

def setD (t : Ts) (o : Option DNode) : Option DNode := o.map fun n => { n with d := some t }

theorem find_funeral (d : Doc) (x t c : Ts) :
    (d.funeral x t).find c = if c = x then fun1 t (d.find x) else d.find c := by
  unfold Doc.funeral
  cases h : d.find x with
  | none =>
    by_cases hc : c = x
    · subst hc; simp [fun1, h]
    · simp [hc]
  | some n =>
    have hnc := find_some_c h
    cases hk : n.kind with
    | elem v => simp only [find_remove, fun1, hk]
    | obj m s =>
      simp only [find_set, fun1, hk, hnc]
      by_cases hc : c = x
      · subst hc; simp
      · have : ¬ x = c := fun e => hc e.symm
        simp [hc, this]
    | arr sl s =>
      simp only [find_set, fun1, hk, hnc]
      by_cases hc : c = x
      · subst hc; simp
      · have : ¬ x = c := fun e => hc e.symm
        simp [hc, this]

theorem find_makeTomb (d : Doc) (x t c : Ts) :
    (d.makeTomb x t).find c = if c = x then (d.find x).map (fun n => { n with d := some t }) else d.find c := by
  unfold Doc.makeTomb
  cases h : d.find x with
  | none =>
    by_cases hc : c = x
    · subst hc; simp [h]
    · simp [hc]
  | some n =>
    have hnc := find_some_c h
    simp only [find_set, hnc]
    by_cases hc : c = x
    · subst hc; simp [hnc]
    · have : ¬ x = c := fun e => hc e.symm
      simp [hc, this]

theorem find_funeral_some {d : Doc} {x t q : Ts} {n : DNode} (h : (d.funeral x t).find q = some n) :
    ∃ n0, d.find q = some n0 ∧ n.kind = n0.kind ∧ n.parent = n0.parent := by
  rw [find_funeral] at h
  split at h
  · subst q
    cases hf : d.find x with
    | none => rw [hf] at h; cases h
    | some n0 =>
      rw [hf] at h
      simp only [fun1] at h
      split at h
      · cases h
      · cases h; exact ⟨n0, rfl, rfl, rfl⟩
  · exact ⟨n, h, rfl, rfl⟩

theorem find_makeTomb_some {d : Doc} {x t q : Ts} {n : DNode} (h : (d.makeTomb x t).find q = some n) :
    ∃ n0, d.find q = some n0 ∧ n.kind = n0.kind ∧ n.parent = n0.parent := by
  rw [find_makeTomb] at h
  split at h
  · subst q
    cases hf : d.find x with
    | none => rw [hf] at h; cases h
    | some n0 => rw [hf] at h; cases h; exact ⟨n0, rfl, rfl, rfl⟩
  · exact ⟨n, h, rfl, rfl⟩

theorem nodup_funeral {d : Doc} (x t : Ts) (h : (ids d.table).Nodup) : (ids (d.funeral x t).table).Nodup := by
  unfold Doc.funeral
  split
  · exact h
  · split
    · exact nodup_remove _ h
    · exact nodup_set _ h

theorem nodup_makeTomb {d : Doc} (x t : Ts) (h : (ids d.table).Nodup) : (ids (d.makeTomb x t).table).Nodup := by
  unfold Doc.makeTomb
  split
  · exact h
  · exact nodup_set _ h

end DC

/-! ### well-formedness -/

/-- no duplicate identifiers; every referenced child (object key or array slot) is in the table and its
    `parent` is the referencing node; no node references the same child twice -/
structure Doc.WF (d : Doc) : Prop where
  nodup : (DC.ids d.table).Nodup
  child : ∀ p n, d.find p = some n → ∀ c ∈ DC.kids n.kind, ∃ nc, d.find c = some nc ∧ nc.parent = some p
  inj : ∀ p n, d.find p = some n → (DC.kids n.kind).Nodup

namespace DC

theorem find_empty {p : Ts} {n : DNode} (h : Doc.empty.find p = some n) : n = ⟨Ts.oldest, none, none, .obj [] 0⟩ := by
  unfold Doc.find Doc.empty at h
  simp only [List.find?_cons, List.find?_nil] at h
  split at h <;> cases h
  rfl

theorem wf_doc_empty : Doc.empty.WF :=
  ⟨List.nodup_singleton _, fun _ _ h c hc => (by cases find_empty h; cases hc),
    fun _ _ h => by cases find_empty h; exact List.nodup_nil⟩

theorem wf_unique_parent {d : Doc} (h : d.WF) {p q c : Ts} {np nq : DNode} (hp : d.find p = some np)
    (hq : d.find q = some nq) (hcp : c ∈ kids np.kind) (hcq : c ∈ kids nq.kind) : p = q := by
  obtain ⟨n1, h1, p1⟩ := h.child p np hp c hcp
  obtain ⟨n2, h2, p2⟩ := h.child q nq hq c hcq
  rw [h1] at h2
  simp only [Option.some.injEq] at h2
  subst h2
  rw [p1] at p2
  simpa using p2

/-- new nodes do not clash with the table -/
def Fresh (d : Doc) (ns : List DNode) : Prop := ∀ c ∈ ids ns, d.find c = none

theorem find_addAll_old {d : Doc} {ns : List DNode} (hf : Fresh d ns) {c : Ts} {n : DNode}
    (h : d.find c = some n) : (d.addAll ns).find c = some n := by
  rw [find_addAll]
  have : nfind ns c = none := by
    rw [nfind_none_iff]
    intro hc
    rw [hf c hc] at h; cases h
  rw [this, h]; rfl

theorem find_addAll_new {d : Doc} {ns : List DNode} (hnd : (ids ns).Nodup) {n : DNode}
    (h : n ∈ ns) : (d.addAll ns).find n.c = some n := by
  rw [find_addAll, nfind_of_mem hnd h]; rfl

theorem find_addAll_not_mem {d : Doc} {ns : List DNode} {c : Ts} (h : c ∉ ids ns) :
    (d.addAll ns).find c = d.find c := by
  rw [find_addAll, nfind_none_iff.mpr h]; rfl

theorem find_addAll_cases {d : Doc} {ns : List DNode} {c : Ts} {n : DNode}
    (h : (d.addAll ns).find c = some n) : (n ∈ ns ∧ n.c = c) ∨ (c ∉ ids ns ∧ d.find c = some n) := by
  rw [find_addAll] at h
  cases hn : nfind ns c with
  | none =>
    rw [hn] at h
    exact Or.inr ⟨nfind_none_iff.mp hn, by simpa using h⟩
  | some m =>
    rw [hn] at h
    have h : m = n := by simpa using h
    subst h
    exact Or.inl (nfind_some hn)

theorem wf_addAll {d : Doc} {ts ts' : Ts} {ns : List DNode} (h : d.WF) (hb : Block ts ns ts') (hf : Fresh d ns) :
    (d.addAll ns).WF := by
  have hnd := block_ids_nodup hb
  refine ⟨nodup_addAll ns h.nodup, ?_, ?_⟩
  · intro p n hp c hc
    rcases find_addAll_cases hp with ⟨hn, hnc⟩ | ⟨_, hd⟩
    · obtain ⟨nc, hnc', h1, h2, _⟩ := hb.links n hn c hc
      refine ⟨nc, ?_, by rw [h2, hnc]⟩
      rw [← h1]; exact find_addAll_new hnd hnc'
    · obtain ⟨nc, h1, h2⟩ := h.child p n hd c hc
      exact ⟨nc, find_addAll_old hf h1, h2⟩
  · intro p n hp
    rcases find_addAll_cases hp with ⟨hn, _⟩ | ⟨_, hd⟩
    · exact hb.inj n hn
    · exact h.inj p n hd

theorem find_setKind_cases {d : Doc} {p : Ts} {pn : DNode} (hp : d.find p = some pn) {K : DKind} {q : Ts}
    {n : DNode} (h : (d.set { pn with kind := K }).find q = some n) :
    (q = p ∧ n = { pn with kind := K }) ∨ (q ≠ p ∧ d.find q = some n) := by
  rw [find_set] at h
  split at h
  · rename_i e; exact Or.inl ⟨(show pn.c = q from e).symm.trans (find_some_c hp), (Option.some.inj h).symm⟩
  · rename_i e; exact Or.inr ⟨fun e' => e ((find_some_c hp : pn.c = p).trans e'.symm), h⟩

theorem wf_setKind {d : Doc} (h : d.WF) {p : Ts} {pn : DNode} (hp : d.find p = some pn) (K : DKind)
    (hK : ∀ c ∈ kids K, ∃ nc, d.find c = some nc ∧ nc.parent = some p) (hKn : (kids K).Nodup) :
    (d.set { pn with kind := K }).WF := by
  have key : ∀ c nc, d.find c = some nc →
      ∃ nc', (d.set { pn with kind := K }).find c = some nc' ∧ nc'.parent = nc.parent := by
    intro c nc hc
    rw [find_set]
    split
    · rename_i e
      have : c = p := (show pn.c = c from e).symm.trans (find_some_c hp)
      subst this; rw [hp] at hc; cases hc
      exact ⟨_, rfl, rfl⟩
    · exact ⟨nc, hc, rfl⟩
  refine ⟨nodup_set _ h.nodup, fun q n hq c hc => ?_, fun q n hq => ?_⟩
  · obtain ⟨nc, h1, h2⟩ : ∃ nc, d.find c = some nc ∧ nc.parent = some q := by
      rcases find_setKind_cases hp hq with ⟨rfl, rfl⟩ | ⟨_, hq⟩
      · exact hK c hc
      · exact h.child q n hq c hc
    obtain ⟨nc', h3, h4⟩ := key c nc h1
    exact ⟨nc', h3, h4.trans h2⟩
  · rcases find_setKind_cases hp hq with ⟨_, rfl⟩ | ⟨_, hq⟩
    · exact hKn
    · exact h.inj q n hq

theorem wf_funeral {d : Doc} (h : d.WF) (x t : Ts) (hx : ∀ q n, d.find q = some n → x ∉ kids n.kind) :
    (d.funeral x t).WF := by
  refine ⟨nodup_funeral _ _ h.nodup, ?_, ?_⟩
  · intro q n hq c hc
    obtain ⟨n0, h0, hk, _⟩ := find_funeral_some hq
    rw [hk] at hc
    obtain ⟨nc, h1, h2⟩ := h.child q n0 h0 c hc
    have hcx : c ≠ x := fun e => hx q n0 h0 (e ▸ hc)
    exact ⟨nc, by rw [find_funeral, if_neg hcx, h1], h2⟩
  · intro q n hq
    obtain ⟨n0, h0, hk, _⟩ := find_funeral_some hq
    rw [hk]; exact h.inj q n0 h0

theorem wf_makeTomb {d : Doc} (h : d.WF) (x t : Ts) : (d.makeTomb x t).WF := by
  refine ⟨nodup_makeTomb _ _ h.nodup, ?_, ?_⟩
  · intro q n hq c hc
    obtain ⟨n0, h0, hk, _⟩ := find_makeTomb_some hq
    rw [hk] at hc
    obtain ⟨nc, h1, h2⟩ := h.child q n0 h0 c hc
    rw [find_makeTomb]
    split
    · subst c; rw [h1]; exact ⟨_, rfl, h2⟩
    · exact ⟨nc, h1, h2⟩
  · intro q n hq
    obtain ⟨n0, h0, hk, _⟩ := find_makeTomb_some hq
    rw [hk]; exact h.inj q n0 h0


/-! ### association-list facts about the referenced children -/

theorem alFind_mem_vals {k : String} {c : Ts} {m : List (String × Ts)} (h : alFind k m = some c) :
    c ∈ m.map (·.2) :=
  List.mem_map.mpr ⟨(k, c), alFind_some_mem k c m h, rfl⟩

theorem alSet_vals_none {k : String} (e : Ts) {m : List (String × Ts)} (h : alFind k m = none) :
    (alSet k e m).map (·.2) = m.map (·.2) ++ [e] := by
  rw [alSet_of_none k e m h]; simp

theorem alSet_vals_some {k : String} {e old : Ts} : ∀ {m : List (String × Ts)}, (m.map (·.2)).Nodup →
    alFind k m = some old → e ∉ m.map (·.2) →
    ((alSet k e m).map (·.2)).Nodup ∧ old ∉ (alSet k e m).map (·.2) ∧
      ∀ c ∈ (alSet k e m).map (·.2), c = e ∨ c ∈ m.map (·.2) := by
  intro m
  induction m with
  | nil => intro _ h; simp [alFind] at h
  | cons x r ih =>
    obtain ⟨k0, c0⟩ := x
    intro hnd hf he
    simp only [List.map_cons, List.nodup_cons, List.mem_cons, not_or] at hnd he
    simp only [alFind] at hf
    by_cases h0 : k0 = k
    · simp only [h0, if_true, Option.some.injEq] at hf
      subst hf
      simp only [alSet, h0, if_true, List.map_cons, List.nodup_cons, List.mem_cons, not_or]
      refine ⟨⟨he.2, hnd.2⟩, ⟨fun e' => he.1 e'.symm, hnd.1⟩, ?_⟩
      intro c hc
      rcases hc with hc | hc
      · exact Or.inl hc
      · exact Or.inr (Or.inr hc)
    · simp only [h0, if_false] at hf
      obtain ⟨i1, i2, i3⟩ := ih hnd.2 hf he.2
      have hold : old ∈ r.map (·.2) := alFind_mem_vals hf
      simp only [alSet, h0, if_false, List.map_cons, List.nodup_cons, List.mem_cons, not_or]
      refine ⟨⟨?_, i1⟩, ⟨?_, i2⟩, ?_⟩
      · intro hc
        rcases i3 c0 hc with e' | e'
        · exact he.1 e'.symm
        · exact hnd.1 e'
      · intro e'; subst e'; exact hnd.1 hold
      · intro c hc
        rcases hc with hc | hc
        · exact Or.inr (Or.inl hc)
        · rcases i3 c hc with e' | e'
          · exact Or.inl e'
          · exact Or.inr (Or.inr e')

theorem alSet_vals (k : String) {e : Ts} {m : List (String × Ts)} (hnd : (m.map (·.2)).Nodup)
    (he : e ∉ m.map (·.2)) :
    ((alSet k e m).map (·.2)).Nodup ∧ ∀ c ∈ (alSet k e m).map (·.2), c = e ∨ c ∈ m.map (·.2) := by
  cases hk : alFind k m with
  | none =>
    rw [alSet_vals_none e hk]
    exact ⟨List.nodup_append.mpr ⟨hnd, List.nodup_singleton e, fun a ha b hb => by
        rw [List.mem_singleton.mp hb]; exact fun e' => he (e' ▸ ha)⟩,
      fun c hc => (List.mem_append.mp hc).elim Or.inr fun hc => Or.inl (List.mem_singleton.mp hc)⟩
  | some old => obtain ⟨h1, _, h3⟩ := alSet_vals_some hnd hk he; exact ⟨h1, h3⟩

/-! ### the object operations, case by case -/

theorem findObj_some_iff {d : Doc} {p : Ts} {pn : DNode} {m : List (String × Ts)} {size : Int} :
    d.findObj p = some (pn, m, size) ↔ d.find p = some pn ∧ pn.kind = .obj m size := by
  unfold Doc.findObj
  constructor
  · intro h
    split at h
    · rename_i n hn
      split at h
      · rename_i m' s' hk
        simp only [Option.some.injEq, Prod.mk.injEq] at h
        obtain ⟨rfl, rfl, rfl⟩ := h
        exact ⟨hn, hk⟩
      · cases h
    · cases h
  · rintro ⟨h1, h2⟩
    simp only [h1, h2]

theorem createNode_root {p ts c ts' : Ts} {v : JVal} {ns : List DNode}
    (h : createNode p ts v = .ok (ns, c, ts')) : c = ts := (createNode_spec p ts v _ h).2.1

theorem timeOf_of_find {a b : Doc} {c : Ts} (h : a.find c = b.find c) : a.timeOf c = b.timeOf c := by
  unfold Doc.timeOf; rw [h]
theorem isTomb_of_find {a b : Doc} {c : Ts} (h : a.find c = b.find c) : a.isTomb c = b.isTomb c := by
  unfold Doc.isTomb; rw [h]

theorem root_unlinked {d : Doc} (hwf : d.WF) {p t t' c : Ts} {v : JVal} {ns : List DNode}
    (hc : createNode p t v = .ok (ns, c, t')) (hf : Fresh d ns) :
    ∀ q n, (d.addAll ns).find q = some n → c ∉ kids n.kind := by
  obtain ⟨hb, hroot, n0, rest, hns, hn0c, _⟩ := createNode_spec p t v _ hc
  simp only at hb hroot hns
  subst hroot
  intro q n hq hmem
  rcases find_addAll_cases hq with ⟨hn, _⟩ | ⟨_, hd⟩
  · obtain ⟨nc, _, h1, _, h3⟩ := hb.links n hn c hmem
    obtain ⟨i, _, hi⟩ := block_mem_id hb hn
    rw [hi] at h3
    simp only [addDelim] at h3
    omega
  · obtain ⟨nc, h1, _⟩ := hwf.child q n hd c hmem
    have : c ∈ ids ns := by rw [hns]; simp [ids, hn0c]
    rw [hf c this] at h1; cases h1

theorem root_find {d : Doc} {p t t' c : Ts} {v : JVal} {ns : List DNode}
    (hc : createNode p t v = .ok (ns, c, t')) :
    ∃ n0, (d.addAll ns).find c = some n0 ∧ n0.parent = some p ∧ n0 ∈ ns ∧ n0.d = none := by
  obtain ⟨hb, hroot, n0, rest, hns, hn0c, hn0p⟩ := createNode_spec p t v _ hc
  simp only at hb hroot hns
  subst hroot
  have hmem : n0 ∈ ns := by rw [hns]; simp
  have := find_addAll_new (d := d) (block_ids_nodup hb) hmem
  rw [hn0c] at this
  exact ⟨n0, this, hn0p, hmem, hb.live n0 hmem⟩

/-- everything a remote put needs: a well-formed document, an object parent, a creatable value, fresh identifiers -/
structure PutPre (d : Doc) (p : Ts) (v : JVal) (ts : Ts) (pn : DNode) (m : List (String × Ts)) (size : Int)
    (ns : List DNode) (ts' : Ts) : Prop where
  wf : d.WF
  hp : d.find p = some pn
  hk : pn.kind = .obj m size
  hc : createNode p ts v = .ok (ns, ts, ts')
  fresh : Fresh d ns

section put
variable {d : Doc} {p : Ts} {v : JVal} {ts : Ts} {pn : DNode} {m : List (String × Ts)} {size : Int}
  {ns : List DNode} {ts' : Ts}

theorem PutPre.block (h : PutPre d p v ts pn m size ns ts') : Block ts ns ts' :=
  (createNode_spec p ts v _ h.hc).1

theorem PutPre.root (h : PutPre d p v ts pn m size ns ts') :
    ∃ n0 rest, ns = n0 :: rest ∧ n0.c = ts ∧ n0.parent = some p :=
  (createNode_spec p ts v _ h.hc).2.2

theorem PutPre.findObj (h : PutPre d p v ts pn m size ns ts') : d.findObj p = some (pn, m, size) :=
  findObj_some_iff.mpr ⟨h.hp, h.hk⟩

theorem PutPre.kids_eq (h : PutPre d p v ts pn m size ns ts') : kids pn.kind = m.map (·.2) := by rw [h.hk]; rfl

theorem PutPre.old_find (h : PutPre d p v ts pn m size ns ts') {k : String} {oldC : Ts}
    (hk : alFind k m = some oldC) : ∃ no, d.find oldC = some no ∧ no.parent = some p :=
  h.wf.child p pn h.hp oldC (h.kids_eq ▸ alFind_mem_vals hk)

theorem PutPre.old_addAll (h : PutPre d p v ts pn m size ns ts') {k : String} {oldC : Ts}
    (hk : alFind k m = some oldC) : (d.addAll ns).find oldC = d.find oldC := by
  obtain ⟨no, h1, _⟩ := h.old_find hk
  rw [h1]; exact find_addAll_old h.fresh h1

theorem put_new (h : PutPre d p v ts pn m size ns ts') {k : String} (hk : alFind k m = none) :
    d.putInObject p k v ts =
      .ok ((d.addAll ns).set { pn with kind := .obj (alSet k ts m) (size + 1) }, none) := by
  unfold Doc.putInObject
  simp only [h.findObj, h.hc, hk]

theorem put_win (h : PutPre d p v ts pn m size ns ts') {k : String} {oldC : Ts} (hk : alFind k m = some oldC)
    (hlt : (d.timeOf oldC).cmp ts = .lt) :
    d.putInObject p k v ts =
      .ok (((d.addAll ns).set { pn with kind := .obj (alSet k ts m) (if d.isTomb oldC then size + 1 else size) }).funeral
        oldC ts, if d.isTomb oldC then none else some oldC) := by
  unfold Doc.putInObject
  simp only [h.findObj, h.hc, hk, timeOf_of_find (h.old_addAll hk), isTomb_of_find (h.old_addAll hk), hlt,
    beq_self_eq_true, if_true]

theorem put_lose (h : PutPre d p v ts pn m size ns ts') {k : String} {oldC : Ts} (hk : alFind k m = some oldC)
    (hlt : (d.timeOf oldC).cmp ts ≠ .lt) :
    d.putInObject p k v ts = .ok ((d.addAll ns).funeral ts oldC, some ts) := by
  unfold Doc.putInObject
  simp only [h.findObj, h.hc, hk, timeOf_of_find (h.old_addAll hk), beq_eq_false_iff_ne.mpr hlt,
    Bool.false_eq_true, if_false]

/-- the three outcomes of a remote put: a new key is linked; an older occupant is superseded and buried;
    the occupant is newer and the new root is buried -/
theorem put_cases (h : PutPre d p v ts pn m size ns ts') {k : String} {d' : Doc} {r : Option Ts}
    (hr : d.putInObject p k v ts = .ok (d', r)) :
    (∃ s', alFind k m = none ∧ d' = (d.addAll ns).set { pn with kind := .obj (alSet k ts m) s' }) ∨
    (∃ oldC s', alFind k m = some oldC ∧ (d.timeOf oldC).cmp ts = .lt ∧
      d' = ((d.addAll ns).set { pn with kind := .obj (alSet k ts m) s' }).funeral oldC ts) ∨
    (∃ oldC, alFind k m = some oldC ∧ (d.timeOf oldC).cmp ts ≠ .lt ∧ d' = (d.addAll ns).funeral ts oldC) := by
  cases hk : alFind k m with
  | none => rw [put_new h hk] at hr; cases hr; exact Or.inl ⟨_, rfl, rfl⟩
  | some oldC =>
    by_cases hlt : (d.timeOf oldC).cmp ts = .lt
    · rw [put_win h hk hlt] at hr; cases hr; exact Or.inr (Or.inl ⟨_, _, rfl, hlt, rfl⟩)
    · rw [put_lose h hk hlt] at hr; cases hr; exact Or.inr (Or.inr ⟨_, rfl, hlt, rfl⟩)

theorem put_ok (h : PutPre d p v ts pn m size ns ts') (k : String) :
    ∃ d' r, d.putInObject p k v ts = .ok (d', r) := by
  cases hk : alFind k m with
  | none => exact ⟨_, _, put_new h hk⟩
  | some oldC =>
    by_cases hlt : (d.timeOf oldC).cmp ts = .lt
    · exact ⟨_, _, put_win h hk hlt⟩
    · exact ⟨_, _, put_lose h hk hlt⟩

theorem PutPre.ts_new (h : PutPre d p v ts pn m size ns ts') : ts ∈ ids ns := by
  obtain ⟨n0, rest, rfl, hc, _⟩ := h.root
  exact List.mem_cons.mpr (Or.inl hc.symm)

theorem PutPre.p_not_new (h : PutPre d p v ts pn m size ns ts') : p ∉ ids ns := fun e => by
  have := h.fresh p e; rw [h.hp] at this; cases this

theorem PutPre.root_find (h : PutPre d p v ts pn m size ns ts') :
    ∃ n0, (d.addAll ns).find ts = some n0 ∧ n0.parent = some p ∧ n0 ∈ ns :=
  let ⟨n0, h1, h2, h3, _⟩ := DC.root_find (d := d) h.hc
  ⟨n0, h1, h2, h3⟩

theorem PutPre.root_unlinked (h : PutPre d p v ts pn m size ns ts') :
    ∀ q n, (d.addAll ns).find q = some n → ts ∉ kids n.kind := DC.root_unlinked h.wf h.hc h.fresh

theorem PutPre.wf1 (h : PutPre d p v ts pn m size ns ts') : (d.addAll ns).WF :=
  wf_addAll h.wf h.block h.fresh

theorem PutPre.hp1 (h : PutPre d p v ts pn m size ns ts') : (d.addAll ns).find p = some pn :=
  find_addAll_old h.fresh h.hp

theorem PutPre.ts_notin (h : PutPre d p v ts pn m size ns ts') : ts ∉ m.map (·.2) :=
  h.kids_eq ▸ h.root_unlinked p pn h.hp1

theorem PutPre.vals_nodup (h : PutPre d p v ts pn m size ns ts') : (m.map (·.2)).Nodup :=
  h.kids_eq ▸ h.wf.inj p pn h.hp

theorem PutPre.old_unlinked (h : PutPre d p v ts pn m size ns ts') {k : String} {oldC : Ts}
    (hk : alFind k m = some oldC) (s' : Int) :
    ∀ q n, ((d.addAll ns).set { pn with kind := .obj (alSet k ts m) s' }).find q = some n → oldC ∉ kids n.kind := by
  intro q n hq hmem
  rcases find_setKind_cases h.hp1 hq with ⟨_, rfl⟩ | ⟨e, hq⟩
  · exact (alSet_vals_some (e := ts) h.vals_nodup hk h.ts_notin).2.1 hmem
  · exact e (wf_unique_parent h.wf1 h.hp1 hq (h.kids_eq ▸ alFind_mem_vals hk) hmem).symm

end put

theorem del_eq {d : Doc} {p : Ts} {pn : DNode} {m : List (String × Ts)} {size : Int} {k : String} {c : Ts}
    (hp : d.find p = some pn) (hk : pn.kind = .obj m size) (hf : alFind k m = some c) (ts : Ts) :
    d.deleteInObject p k ts false =
      if (d.timeOf c).cmp ts = .lt then
        .ok ((d.set { pn with kind := .obj m (if d.isTomb c then size else size - 1) }).makeTomb c ts, some c)
      else .ok (d, none) := by
  unfold Doc.deleteInObject
  simp only [findObj_some_iff.mpr ⟨hp, hk⟩, hf, Bool.false_eq_true, if_false, _root_.beq_iff_eq]

/-- a remote delete of an absent key is refused (causality: deletes follow a put of the key) -/
theorem del_absent {d : Doc} {p : Ts} {pn : DNode} {m : List (String × Ts)} {size : Int} {k : String}
    (hp : d.find p = some pn) (hk : pn.kind = .obj m size) (hf : alFind k m = none) (ts : Ts) :
    d.deleteInObject p k ts false = .err Err.noTarget := by
  unfold Doc.deleteInObject
  simp [findObj_some_iff.mpr ⟨hp, hk⟩, hf]

theorem del_cases {d : Doc} {p : Ts} {k : String} {ts : Ts} {d' : Doc} {r : Option Ts}
    (hr : d.deleteInObject p k ts false = .ok (d', r)) :
    ∃ pn m size c, d.find p = some pn ∧ pn.kind = .obj m size ∧ alFind k m = some c ∧
      (d' = d ∨ d' = (d.set { pn with kind := .obj m (if d.isTomb c then size else size - 1) }).makeTomb c ts) := by
  cases hfo : d.findObj p with
  | none => unfold Doc.deleteInObject at hr; simp [hfo] at hr
  | some x =>
    obtain ⟨pn, m, size⟩ := x
    obtain ⟨hp, hk⟩ := findObj_some_iff.mp hfo
    cases hf : alFind k m with
    | none => rw [del_absent hp hk hf] at hr; cases hr
    | some c =>
      rw [del_eq hp hk hf] at hr
      refine ⟨pn, m, size, c, hp, hk, hf, ?_⟩
      split at hr <;> cases hr
      · exact Or.inr rfl
      · exact Or.inl rfl

/-- everything a remote delete needs: a well-formed document, an object parent, the key present -/
structure DelPre (d : Doc) (p : Ts) (k : String) (pn : DNode) (m : List (String × Ts)) (size : Int) (c : Ts) : Prop where
  wf : d.WF
  hp : d.find p = some pn
  hk : pn.kind = .obj m size
  hf : alFind k m = some c

theorem del_ok {d : Doc} {p : Ts} {k : String} {pn : DNode} {m : List (String × Ts)} {size : Int} {c : Ts}
    (h : DelPre d p k pn m size c) (ts : Ts) : ∃ d' r, d.deleteInObject p k ts false = .ok (d', r) := by
  rw [del_eq h.hp h.hk h.hf]
  split
  · exact ⟨_, _, rfl⟩
  · exact ⟨_, _, rfl⟩


/-! ### depth bound: the fuel `table.length + 1` of `view` is enough -/

/-- children have smaller rank -/
def Ranked (d : Doc) (rk : Ts → Nat) : Prop :=
  ∀ p n, d.find p = some n → ∀ c ∈ kids n.kind, rk c < rk p

/-- the reference graph is acyclic and no deeper than the table is long -/
def Bounded (d : Doc) : Prop := ∃ rk, Ranked d rk ∧ ∀ c, rk c < d.table.length

theorem bounded_empty : Bounded Doc.empty :=
  ⟨fun _ => 0, fun _ _ h c hc => (by cases find_empty h; cases hc), fun _ => Nat.zero_lt_one⟩

theorem viewOf_stable {d : Doc} {rk : Ts → Nat} (h : Ranked d rk) :
    ∀ (f f' : Nat) (c : Ts), rk c < f → rk c < f' → d.viewOf f c = d.viewOf f' c := by
  intro f
  induction f with
  | zero => exact fun f' c h1 => absurd h1 (Nat.not_lt_zero _)
  | succ f ih =>
    intro f' c h1 h2
    cases f' with
    | zero => exact absurd h2 (Nat.not_lt_zero _)
    | succ f' =>
      -- the children have smaller rank, so both fuels suffice for them
      have hch : ∀ n, d.find c = some n → ∀ ch ∈ kids n.kind, d.viewOf f ch = d.viewOf f' ch := fun n hn ch hch =>
        have := h c n hn ch hch
        ih f' ch (Nat.lt_of_lt_of_le this (Nat.le_of_lt_succ h1)) (Nat.lt_of_lt_of_le this (Nat.le_of_lt_succ h2))
      simp only [Doc.viewOf]
      cases hf : d.find c with
      | none => rfl
      | some n =>
        obtain ⟨nc, nd, np, nk⟩ := n
        cases nk with
        | elem v => rfl
        | obj m s =>
          simp only [JVal.obj.injEq]
          exact List.filterMap_congr fun x hx => by rw [hch _ hf x.2 (List.mem_map.mpr ⟨x, hx, rfl⟩)]
        | arr sl s =>
          simp only [JVal.arr.injEq]
          exact List.filterMap_congr fun x hx => by rw [hch _ hf x.2 (List.mem_map.mpr ⟨x, hx, rfl⟩)]

theorem ranked_of_kinds {d d' : Doc} {rk : Ts → Nat} (h : Ranked d rk)
    (hk : ∀ p n, d'.find p = some n → ∃ n0, d.find p = some n0 ∧ n.kind = n0.kind) : Ranked d' rk :=
  fun p n hf c hc => let ⟨n0, h0, e⟩ := hk p n hf; h p n0 h0 c (e ▸ hc)

theorem ranked_funeral {d : Doc} {rk : Ts → Nat} (h : Ranked d rk) (x t : Ts) : Ranked (d.funeral x t) rk :=
  ranked_of_kinds h fun _ _ hq => let ⟨n0, h0, hk, _⟩ := find_funeral_some hq; ⟨n0, h0, hk⟩

theorem ranked_makeTomb {d : Doc} {rk : Ts → Nat} (h : Ranked d rk) (x t : Ts) : Ranked (d.makeTomb x t) rk :=
  ranked_of_kinds h fun _ _ hq => let ⟨n0, h0, hk, _⟩ := find_makeTomb_some hq; ⟨n0, h0, hk⟩

theorem ranked_setKind {d : Doc} {rk : Ts → Nat} (h : Ranked d rk) {p : Ts} {pn : DNode} (hp : d.find p = some pn)
    (K : DKind) (hK : ∀ c ∈ kids K, rk c < rk p) : Ranked (d.set { pn with kind := K }) rk := by
  intro q n hq c hc
  rcases find_setKind_cases hp hq with ⟨rfl, rfl⟩ | ⟨_, hq⟩
  · exact hK c hc
  · exact h q n hq c hc

theorem len_set_ge (d : Doc) (n : DNode) : d.table.length ≤ (d.set n).table.length := by
  unfold Doc.set
  simp only
  by_cases h : n.c ∈ ids d.table
  · have := congrArg List.length (ids_tableSet_mem n _ h)
    simp only [ids, List.length_map] at this; omega
  · have := congrArg List.length (ids_tableSet_not_mem n _ h)
    simp only [ids, List.length_map, List.length_append, List.length_singleton] at this; omega

/-- a funeral that does not remove anything keeps the length -/
theorem len_funeral_cont {d : Doc} (x t : Ts) (h : ∀ n v, d.find x = some n → n.kind ≠ .elem v) :
    d.table.length ≤ (d.funeral x t).table.length := by
  unfold Doc.funeral
  cases hf : d.find x with
  | none => simp
  | some n =>
    simp only
    split
    · rename_i v hk; exact absurd hk (h n v hf)
    · exact len_set_ge _ _

theorem countP_lt {α : Type} (p q : α → Bool) : ∀ (l : List α), (∀ x ∈ l, p x = true → q x = true) →
    (∃ x ∈ l, p x = false ∧ q x = true) → l.countP p < l.countP q := by
  intro l
  induction l with
  | nil => intro _ h; obtain ⟨x, hx, _⟩ := h; cases hx
  | cons a l ih =>
    intro hm hx
    obtain ⟨x, hx, hpx, hqx⟩ := hx
    have hm' : ∀ x ∈ l, p x = true → q x = true := fun y hy => hm y (List.mem_cons_of_mem _ hy)
    have hle := List.countP_mono_left hm'
    rw [List.countP_cons, List.countP_cons]
    rcases List.mem_cons.mp hx with rfl | hx
    · simp only [hpx, hqx, Bool.false_eq_true, if_false, if_true]; omega
    · have := ih hm' ⟨x, hx, hpx, hqx⟩
      by_cases hpa : p a = true
      · have hqa := hm a List.mem_cons_self hpa
        rw [if_pos hpa, if_pos hqa]; omega
      · rw [if_neg hpa]
        split <;> omega

/-- counted rank: the number of table nodes of smaller rank -/
def crk (d : Doc) (rk : Ts → Nat) (c : Ts) : Nat := d.table.countP (fun n => decide (rk n.c < rk c))

theorem crk_le (d : Doc) (rk : Ts → Nat) (c : Ts) : crk d rk c ≤ d.table.length := List.countP_le_length

theorem crk_ranked {d : Doc} {rk : Ts → Nat} (hw : d.WF) (hr : Ranked d rk) : Ranked d (crk d rk) := by
  intro p n hp c hc
  have hlt := hr p n hp c hc
  obtain ⟨nc, hnc, _⟩ := hw.child p n hp c hc
  unfold crk
  apply countP_lt
  · intro x _ hx
    simp only [decide_eq_true_eq] at hx ⊢
    omega
  · refine ⟨nc, find_some_mem hnc, ?_, ?_⟩
    · simp [find_some_c hnc]
    · simp [find_some_c hnc, hlt]

/-- Acyclicity is the invariant; the depth bound is read off it. Counted ranks of table nodes stay below the table
    length (a node does not count itself), so no operation has to keep ranks and table length in step. -/
theorem bounded_of {d : Doc} (hw : d.WF) (ha : ∃ rk, Ranked d rk) (hne : ∃ c n, d.find c = some n) : Bounded d := by
  obtain ⟨rk, hr⟩ := ha
  classical
  refine ⟨fun c => if (d.find c).isSome then crk d rk c else 0, ?_, ?_⟩
  · intro p n hp c hc
    obtain ⟨nc, hnc, _⟩ := hw.child p n hp c hc
    simp only [hp, hnc, Option.isSome_some, if_true]
    exact crk_ranked hw hr p n hp c hc
  · intro c
    obtain ⟨c0, n0, h0⟩ := hne
    have hpos : 0 < d.table.length := List.length_pos_of_mem (find_some_mem h0)
    cases hf : d.find c with
    | none => simpa [hf] using hpos
    | some n =>
      simp only [hf, Option.isSome_some, if_true]
      unfold crk
      have := countP_lt (fun m => decide (rk m.c < rk c)) (fun _ => true) d.table (by simp)
        ⟨n, find_some_mem hf, by simp [find_some_c hf], rfl⟩
      simpa using this

open Classical in
/-- ranks after adding the new nodes: new nodes by reverse creation order, the old ranks shifted above them -/
noncomputable def newRank (rk : Ts → Nat) (ns : List DNode) (ts' : Ts) (c : Ts) : Nat :=
  if c ∈ ids ns then ts'.delim - 1 - c.delim else rk c + ns.length

theorem newRank_old {rk : Ts → Nat} {ns : List DNode} {ts' c : Ts} (h : c ∉ ids ns) :
    newRank rk ns ts' c = rk c + ns.length := by
  unfold newRank; simp [h]

theorem newRank_new {rk : Ts → Nat} {ns : List DNode} {ts' c : Ts} (h : c ∈ ids ns) :
    newRank rk ns ts' c = ts'.delim - 1 - c.delim := by
  unfold newRank; simp [h]

theorem block_delim {ts ts' : Ts} {ns : List DNode} (hb : Block ts ns ts') {c : Ts} (hc : c ∈ ids ns) :
    ts.delim ≤ c.delim ∧ c.delim < ts'.delim ∧ ts'.delim = ts.delim + ns.length :=
  ⟨(hb.mem_ids hc).2.2.2.1, (hb.mem_ids hc).2.2.2.2, by rw [hb.next]; rfl⟩

theorem ranked_addAll {d : Doc} (hwf : d.WF) {ts ts' : Ts} {ns : List DNode} (hb : Block ts ns ts')
    (hf : Fresh d ns) {rk : Ts → Nat} (hr : Ranked d rk) : Ranked (d.addAll ns) (newRank rk ns ts') := by
  intro q n hq c hc
  rcases find_addAll_cases hq with ⟨hn, hnc⟩ | ⟨hnot, hd⟩
  · obtain ⟨nc, hnc', h1, _, h3⟩ := hb.links n hn c hc
    have hq' : q ∈ ids ns := List.mem_map.mpr ⟨n, hn, hnc⟩
    have hc' : c ∈ ids ns := List.mem_map.mpr ⟨nc, hnc', h1⟩
    rw [newRank_new hq', newRank_new hc']
    have := block_delim hb hc'
    rw [hnc] at h3
    omega
  · obtain ⟨nc, h1, _⟩ := hwf.child q n hd c hc
    have hc' : c ∉ ids ns := fun e => by rw [hf c e] at h1; cases h1
    rw [newRank_old hnot, newRank_old hc']
    have := hr q n hd c hc
    omega

theorem ranked_relink {d : Doc} {ts ts' : Ts} {ns : List DNode} {p : Ts} {pn : DNode} (hwf : d.WF)
    (hb : Block ts ns ts') (hf : Fresh d ns) (hp : d.find p = some pn) {rk : Ts → Nat} (hrk : Ranked d rk) (K' : DKind)
    (hK : ∀ c ∈ kids K', c ∈ ids ns ∨ c ∈ kids pn.kind) :
    Ranked ((d.addAll ns).set { pn with kind := K' }) (newRank rk ns ts') := by
  have hpn : p ∉ ids ns := fun e => by rw [hf p e] at hp; cases hp
  refine ranked_setKind (ranked_addAll hwf hb hf hrk) (find_addAll_old hf hp) _ fun c hc => ?_
  rw [newRank_old hpn]
  rcases hK c hc with h | h
  · rw [newRank_new h]
    have := block_delim hb h
    omega
  · obtain ⟨nc, h2, _⟩ := hwf.child p pn hp c h
    rw [newRank_old fun e => by rw [hf c e] at h2; cases h2]
    have := hrk p pn hp c h
    omega

/-! ### no duplicate keys inside an object -/

def KeysND (d : Doc) : Prop := ∀ p n m s, d.find p = some n → n.kind = .obj m s → (m.map (·.1)).Nodup

/-- the objects among freshly created nodes have no duplicate keys (true when the JSON value put has none) -/
def NodesKeysND (ns : List DNode) : Prop := ∀ n ∈ ns, ∀ m s, n.kind = .obj m s → (m.map (·.1)).Nodup

theorem keysND_empty : KeysND Doc.empty := fun _ _ _ _ h hk => by
  cases find_empty h; cases hk; exact List.nodup_nil

theorem keysND_funeral {d : Doc} (h : KeysND d) (x t : Ts) : KeysND (d.funeral x t) := by
  intro q n m s hq hk
  obtain ⟨n0, h0, hk0, _⟩ := find_funeral_some hq
  exact h q n0 m s h0 (hk0 ▸ hk)

theorem keysND_makeTomb {d : Doc} (h : KeysND d) (x t : Ts) : KeysND (d.makeTomb x t) := by
  intro q n m s hq hk
  obtain ⟨n0, h0, hk0, _⟩ := find_makeTomb_some hq
  exact h q n0 m s h0 (hk0 ▸ hk)

theorem keysND_addAll {d : Doc} (h : KeysND d) {ns : List DNode} (hn : NodesKeysND ns) : KeysND (d.addAll ns) := by
  intro q n m s hq hk
  rcases find_addAll_cases hq with ⟨h1, _⟩ | ⟨_, h1⟩
  · exact hn n h1 m s hk
  · exact h q n m s h1 hk

/-- the occupant of a key and its reference state, concretely -/
def occupant (d : Doc) (p : Ts) (k : String) : Option Ts :=
  match d.findObj p with
  | some (_, m, _) => alFind k m
  | none => none

theorem alFind_inj_of_vals_nodup {m : List (String × Ts)} (hnd : (m.map (·.2)).Nodup) {k k' : String} {c : Ts}
    (h1 : alFind k m = some c) (h2 : alFind k' m = some c) : k = k' := by
  induction m with
  | nil => simp [alFind] at h1
  | cons x r ih =>
    obtain ⟨k0, c0⟩ := x
    simp only [List.map_cons, List.nodup_cons] at hnd
    simp only [alFind] at h1 h2
    by_cases e1 : k0 = k <;> by_cases e2 : k0 = k'
    · rw [← e1, ← e2]
    · simp only [e1, if_true, Option.some.injEq] at h1
      simp only [e2, if_false] at h2
      subst h1
      exact absurd (alFind_mem_vals h2) hnd.1
    · simp only [e2, if_true, Option.some.injEq] at h2
      simp only [e1, if_false] at h1
      subst h2
      exact absurd (alFind_mem_vals h1) hnd.1
    · simp only [e1, if_false] at h1
      simp only [e2, if_false] at h2
      exact ih hnd.2 h1 h2

theorem alFind_filterMap_view {β : Type} (t : Ts → Bool) (g : Ts → β) (k : String) :
    ∀ (m : List (String × Ts)), (m.map (·.1)).Nodup →
    alFind k (m.filterMap fun (k', ch) => if t ch then none else some (k', g ch)) =
      (alFind k m).bind (fun ch => if t ch then none else some (g ch)) := by
  intro m
  induction m with
  | nil => intro _; rfl
  | cons x r ih =>
    obtain ⟨k0, c0⟩ := x
    intro hnd
    simp only [List.map_cons, List.nodup_cons] at hnd
    have ih' := ih hnd.2
    simp only [List.filterMap_cons]
    by_cases ht : t c0 = true
    · simp only [ht, if_true, alFind]
      by_cases h0 : k0 = k
      · subst h0
        have : alFind k0 r = none := (alFind_none_iff k0 r).mpr hnd.1
        rw [ih', this]; simp [ht]
      · simp only [h0, if_false]; exact ih'
    · simp only [ht, Bool.false_eq_true, if_false, alFind]
      by_cases h0 : k0 = k
      · simp [h0, ht]
      · simp only [h0, if_false]; exact ih'

/-! ### values without duplicate keys create objects without duplicate keys -/

mutual
/-- no object inside the value has a duplicate key (the codec hands the model key-sorted objects) -/
def JKeysND : JVal → Prop
  | .arr l => JKeysNDList l
  | .obj kvs => (kvs.map (·.1)).Nodup ∧ JKeysNDKvs kvs
  | _ => True
def JKeysNDList : List JVal → Prop
  | [] => True
  | v :: vs => JKeysND v ∧ JKeysNDList vs
def JKeysNDKvs : List (String × JVal) → Prop
  | [] => True
  | (_, v) :: r => JKeysND v ∧ JKeysNDKvs r
end

theorem nodesKeysND_append {a b : List DNode} (ha : NodesKeysND a) (hb : NodesKeysND b) : NodesKeysND (a ++ b) :=
  fun n hn => (List.mem_append.mp hn).elim (ha n) (hb n)

theorem create_keysND :
    (∀ parent ts v r, createNode parent ts v = .ok r → JKeysND v → NodesKeysND r.1) ∧
    (∀ parent ts vs r, createArrItems parent ts vs = .ok r → JKeysNDList vs → NodesKeysND r.1) ∧
    (∀ parent ts kvs r, createObjItems parent ts kvs = .ok r →
      r.2.1.map Prod.fst = kvs.map Prod.fst ∧ (JKeysNDKvs kvs → NodesKeysND r.1)) :=
  create_induction (P := fun _ _ v r => JKeysND v → NodesKeysND r.1)
    (A := fun _ _ vs r => JKeysNDList vs → NodesKeysND r.1)
    (O := fun _ _ kvs r => r.2.1.map Prod.fst = kvs.map Prod.fst ∧ (JKeysNDKvs kvs → NodesKeysND r.1))
    (fun _ _ _ _ n hn m s hk => by cases List.mem_singleton.mp hn; cases hk)
    (fun _ _ kvs ns m _ ih hv n hn m' s hk => by
      simp only [JKeysND] at hv
      rcases List.mem_cons.mp hn with rfl | hn
      · cases hk; rw [ih.1]; exact hv.1
      · exact ih.2 hv.2 n hn m' s hk)
    (fun _ _ vs ns cs _ ih hv n hn m' s hk => by
      simp only [JKeysND] at hv
      rcases List.mem_cons.mp hn with rfl | hn
      · cases hk
      · exact ih hv n hn m' s hk)
    (fun _ _ _ n hn => nomatch hn)
    (fun _ _ _ _ _ _ _ _ _ _ _ ih1 ih2 hv => by
      simp only [JKeysNDList] at hv; exact nodesKeysND_append (ih1 hv.1) (ih2 hv.2))
    (fun _ _ => ⟨rfl, fun _ n hn => nomatch hn⟩)
    (fun _ _ _ _ _ _ _ _ _ _ _ _ ih1 ih2 => ⟨by simp only [List.map_cons, ih2.1], fun hv => by
      simp only [JKeysNDKvs] at hv; exact nodesKeysND_append (ih1 hv.1) (ih2.2 hv.2)⟩)

theorem createNode_keysND (parent ts : Ts) : ∀ (v : JVal) (r : List DNode × Ts × Ts),
    createNode parent ts v = .ok r → JKeysND v → NodesKeysND r.1 := create_keysND.1 parent ts
theorem createArrItems_keysND (parent ts : Ts) : ∀ (vs : List JVal) (ns : List DNode) (cs : List Ts) (ts' : Ts),
    createArrItems parent ts vs = .ok (ns, cs, ts') → JKeysNDList vs → NodesKeysND ns :=
  fun vs _ _ _ => create_keysND.2.1 parent ts vs _
theorem createObjItems_keysND (parent ts : Ts) : ∀ (kvs : List (String × JVal)) (ns : List DNode)
    (m : List (String × Ts)) (ts' : Ts),
    createObjItems parent ts kvs = .ok (ns, m, ts') → JKeysNDKvs kvs → NodesKeysND ns :=
  fun kvs _ _ _ h => (create_keysND.2.2 parent ts kvs _ h).2

/-! ### the view of freshly created nodes is the value they were created from -/

/-- the nodes `ns` are in the table of `D` exactly as created -/
def Present (D : Doc) (ns : List DNode) : Prop := ∀ n ∈ ns, D.find n.c = some n

theorem present_append {D : Doc} {a b : List DNode} (h : Present D (a ++ b)) : Present D a ∧ Present D b :=
  ⟨fun n hn => h n (List.mem_append_left _ hn), fun n hn => h n (List.mem_append_right _ hn)⟩

theorem created_root_live {D : Doc} {parent ts : Ts} {v : JVal} {r : List DNode × Ts × Ts}
    (h : createNode parent ts v = .ok r) (hp : Present D r.1) : r.2.1 = ts ∧ D.isTomb ts = false := by
  obtain ⟨hb, hc, n0, rest, hns, hn0c, _⟩ := createNode_spec parent ts v r h
  have hmem : n0 ∈ r.1 := by rw [hns]; simp
  have hf := hp n0 hmem
  rw [hn0c] at hf
  refine ⟨hc, ?_⟩
  unfold Doc.isTomb
  rw [hf]
  simp [hb.live n0 hmem]

theorem create_viewOf (D : Doc) :
    (∀ parent ts v r, createNode parent ts v = .ok r → Present D r.1 → ∃ F, ∀ f, F ≤ f → D.viewOf f ts = v) ∧
    (∀ parent ts vs r, createArrItems parent ts vs = .ok r → Present D r.1 → ∃ F, ∀ f, F ≤ f →
      ((r.2.1.map fun c => (c, c)).filterMap fun (_, ch) => if D.isTomb ch then none else some (D.viewOf f ch)) = vs) ∧
    (∀ parent ts kvs r, createObjItems parent ts kvs = .ok r → Present D r.1 → ∃ F, ∀ f, F ≤ f →
      (r.2.1.filterMap fun (k, ch) => if D.isTomb ch then none else some (k, D.viewOf f ch)) = kvs) := by
  have succ : ∀ {Q : Nat → Prop} (F : Nat), (∀ f, F ≤ f → Q (f + 1)) → ∃ F, ∀ f, F ≤ f → Q f := fun F h =>
    ⟨F + 1, fun f hf => match f, hf with | f + 1, hf => h f (Nat.le_of_succ_le_succ hf)⟩
  refine create_induction
    (P := fun _ ts v r => Present D r.1 → ∃ F, ∀ f, F ≤ f → D.viewOf f ts = v)
    (A := fun _ _ vs r => Present D r.1 → ∃ F, ∀ f, F ≤ f →
      ((r.2.1.map fun c => (c, c)).filterMap fun (_, ch) => if D.isTomb ch then none else some (D.viewOf f ch)) = vs)
    (O := fun _ _ kvs r => Present D r.1 → ∃ F, ∀ f, F ≤ f →
      (r.2.1.filterMap fun (k, ch) => if D.isTomb ch then none else some (k, D.viewOf f ch)) = kvs)
    ?_ ?_ ?_ (fun _ _ _ => ⟨0, fun _ _ => rfl⟩) ?_ (fun _ _ _ => ⟨0, fun _ _ => rfl⟩) ?_
  · intro parent ts v hp
    have hroot : D.find ts = some _ := hp _ (List.mem_singleton.mpr rfl)
    exact succ 0 fun f _ => by simp only [Doc.viewOf, hroot]
  · intro parent ts kvs ns m ts' ih hp
    have hroot : D.find ts = some _ := hp _ List.mem_cons_self
    obtain ⟨F, hF⟩ := ih fun n hn => hp n (List.mem_cons_of_mem _ hn)
    exact succ F fun f hf => by simp only [Doc.viewOf, hroot, hF f hf]
  · intro parent ts vs ns cs ts' ih hp
    have hroot : D.find ts = some _ := hp _ List.mem_cons_self
    obtain ⟨F, hF⟩ := ih fun n hn => hp n (List.mem_cons_of_mem _ hn)
    exact succ F fun f hf => by simp only [Doc.viewOf, hroot, hF f hf]
  · intro parent ts v vs ns c ts1 ns2 cs ts2 h1 ih1 ih2 hp
    obtain ⟨hp1, hp2⟩ := present_append hp
    obtain ⟨F1, hF1⟩ := ih1 hp1
    obtain ⟨F2, hF2⟩ := ih2 hp2
    obtain ⟨rfl, hl⟩ := created_root_live h1 hp1
    exact ⟨max F1 F2, fun f hf => by
      simp only [List.map_cons, List.filterMap_cons, hl, Bool.false_eq_true, if_false,
        hF1 f (le_trans (le_max_left _ _) hf), hF2 f (le_trans (le_max_right _ _) hf)]⟩
  · intro parent ts k v kvs ns c ts1 ns2 m ts2 h1 ih1 ih2 hp
    obtain ⟨hp1, hp2⟩ := present_append hp
    obtain ⟨F1, hF1⟩ := ih1 hp1
    obtain ⟨F2, hF2⟩ := ih2 hp2
    obtain ⟨rfl, hl⟩ := created_root_live h1 hp1
    exact ⟨max F1 F2, fun f hf => by
      simp only [List.filterMap_cons, hl, Bool.false_eq_true, if_false,
        hF1 f (le_trans (le_max_left _ _) hf), hF2 f (le_trans (le_max_right _ _) hf)]⟩

theorem viewOf_createNode (D : Doc) (parent ts : Ts) : ∀ (v : JVal) (r : List DNode × Ts × Ts),
    createNode parent ts v = .ok r → Present D r.1 → ∃ F, ∀ f, F ≤ f → D.viewOf f ts = v :=
  (create_viewOf D).1 parent ts
theorem viewOf_arrItems (D : Doc) (parent ts : Ts) : ∀ (vs : List JVal) (ns : List DNode) (cs : List Ts) (ts' : Ts),
    createArrItems parent ts vs = .ok (ns, cs, ts') → Present D ns →
    ∃ F, ∀ f, F ≤ f →
      ((cs.map fun c => (c, c)).filterMap fun (_, ch) => if D.isTomb ch then none else some (D.viewOf f ch)) = vs :=
  fun vs _ _ _ => (create_viewOf D).2.1 parent ts vs _
theorem viewOf_objItems (D : Doc) (parent ts : Ts) : ∀ (kvs : List (String × JVal)) (ns : List DNode)
    (m : List (String × Ts)) (ts' : Ts),
    createObjItems parent ts kvs = .ok (ns, m, ts') → Present D ns →
    ∃ F, ∀ f, F ≤ f →
      (m.filterMap fun (k, ch) => if D.isTomb ch then none else some (k, D.viewOf f ch)) = kvs :=
  fun kvs _ _ _ => (create_viewOf D).2.2 parent ts kvs _


theorem createNode_ids {parent ts c ts' : Ts} {v : JVal} {ns : List DNode}
    (h : createNode parent ts v = .ok (ns, c, ts')) :
    ns.map (·.c) = delimSeq ts ns.length ∧ (ns.map (·.c)).Nodup ∧ c = ts ∧ ts' = addDelim ts ns.length ∧
    (∀ n ∈ ns, n.c.era = ts.era ∧ n.c.lamport = ts.lamport ∧ n.c.cuid = ts.cuid ∧ ts.delim ≤ n.c.delim ∧ n.d = none) ∧
    (∃ n0 rest, ns = n0 :: rest ∧ n0.c = ts ∧ n0.parent = some parent) := by
  obtain ⟨hb, hc, hroot⟩ := createNode_spec parent ts v _ h
  refine ⟨hb.ids, block_ids_nodup hb, hc, hb.next, ?_, hroot⟩
  intro n hn
  obtain ⟨i, _, hi⟩ := block_mem_id hb hn
  rw [hi]
  exact ⟨rfl, rfl, rfl, Nat.le_add_right _ _, hb.live n hn⟩


end DC
end Orda
