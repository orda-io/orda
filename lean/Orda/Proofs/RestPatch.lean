/-
The REST patch endpoint `Store.patchDocument` (Model/Rest), end to end through the store (C19 / C11).
The endpoint returns the store as it is or the result of pushing the patched temporary replica's pack as the admin client
(`patchDocument_cases`); `run` is the part after the temporary replica is built, with one equation per outcome.
Replica side (`patch_remote`): what the patch appends to the buffer carries the next client sequence numbers, and `receive`
of it on any replica holding the same document gives the patched document (needs `DLR.HistOK`).
Server side: the admin's push is accepted (`processPack_admin`), and `Store.latest` afterwards is the old latest state
receiving the pushed operations (`latest_pushed`).
`Ex`: a store reached by makeCollection / processClient / two processPushPull of a real client on which all hypotheses hold;
`Ex.emptyLog_not_stored`: why `hpos` is needed.
-/
import Orda.Model.Rest
import Orda.Proofs.DocPatch
import Orda.Proofs.DocLocalRemote
import Orda.Proofs.ServerLog
import Orda.Proofs.SnapReplay
namespace Orda.RestP
open Orda

/-! ## normal form of the endpoint -/

def viewOf (r : Replica) : JVal := match r.state with | .doc dd => dd.view | _ => .null

/-- the endpoint's result when the script is not empty: the pack of the patched replica `r2` is pushed as the admin client -/
def pushResult (st : Store) (col : CollectionDoc) (w : WDt) (r2 : Replica) :
    Store × Rpc JVal × List Notification × List (String × Nat) :=
  let res := processPack st ⟨patchApiCuid, "ordaPatchAPI", col.num, 2, 0⟩ col ({ w with rep := r2 }).createPack
  (res.store, .ok (viewOf r2), res.notif.toList, if res.pushed > 0 then [(res.resp.duid, col.num)] else [])

def run (st : Store) (col : CollectionDoc) (w : WDt) (target : JVal) :
    Store × Rpc JVal × List Notification × List (String × Nat) :=
  match w.rep.patchByJSON target with
  | (_, _, .err _) => (st, .rpcErr 3, [], [])
  | (_, _, .panic _) => (st, .rpcErr 13, [], [])
  | (r2, ops, .ok ()) => if ops.isEmpty then (st, .ok (viewOf r2), [], []) else pushResult st col w r2

theorem run_eq (st : Store) (col : CollectionDoc) (w : WDt) (target : JVal) :
    run st col w target =
      match (w.rep.patchByJSON target).2.2 with
      | .err _ => (st, .rpcErr 3, [], [])
      | .panic _ => (st, .rpcErr 13, [], [])
      | .ok () =>
        if (w.rep.patchByJSON target).2.1.isEmpty then (st, .ok (viewOf (w.rep.patchByJSON target).1), [], [])
        else pushResult st col w (w.rep.patchByJSON target).1 := by
  unfold run
  rcases w.rep.patchByJSON target with ⟨r2, ops, (_ | _ | ⟨⟨⟩⟩)⟩ <;> rfl

def tmpRep (r0 : Replica) (ver : Nat) (tmpCuid : String) : Replica :=
  { r0 with opId := { r0.opId with cuid := tmpCuid }, cp := ⟨ver, 0⟩ }

theorem patchDocument_eq (st : Store) (colName key : String) (target : JVal) (tmpDuid tmpCuid : String) :
    st.patchDocument colName key target tmpDuid tmpCuid =
      match st.getCollection colName with
      | none => (st, .rpcErr 5, [], [])
      | some col =>
        match st.getDatatypeByKey col.num key with
        | some d =>
          if d.typ ≠ .document then (st, .rpcErr 3, [], [])
          else
            match st.latest d with
            | none => (st, .rpcErr 13, [], [])
            | some (r0, ver) =>
              run st col ⟨tmpRep r0 ver tmpCuid, key, d.duid, if ver > 0 then .subscribed else .dueToCreate⟩ target
        | none => run st col ⟨Replica.new .document tmpCuid true, key, tmpDuid, .dueToCreate⟩ target := by
  rfl

theorem patchDocument_existing {st : Store} {colName key : String} {col : CollectionDoc} {d : DatatypeDoc} {r0 : Replica}
    {ver : Nat} (hc : st.getCollection colName = some col) (hd : st.getDatatypeByKey col.num key = some d)
    (ht : d.typ = .document) (hl : st.latest d = some (r0, ver)) (target : JVal) (tmpDuid tmpCuid : String) :
    st.patchDocument colName key target tmpDuid tmpCuid =
      run st col ⟨tmpRep r0 ver tmpCuid, key, d.duid, if ver > 0 then .subscribed else .dueToCreate⟩ target := by
  rw [patchDocument_eq]
  simp only [hc, hd, ht, hl, ne_eq, not_true_eq_false, if_false]

theorem patchDocument_absent {st : Store} {colName key : String} {col : CollectionDoc}
    (hc : st.getCollection colName = some col) (hd : st.getDatatypeByKey col.num key = none) (target : JVal)
    (tmpDuid tmpCuid : String) :
    st.patchDocument colName key target tmpDuid tmpCuid =
      run st col ⟨Replica.new .document tmpCuid true, key, tmpDuid, .dueToCreate⟩ target := by
  rw [patchDocument_eq]
  simp only [hc, hd]

theorem run_cases (st : Store) (col : CollectionDoc) (w : WDt) (target : JVal) :
    (∃ a, run st col w target = (st, a, [], [])) ∨ ∃ r2, run st col w target = pushResult st col w r2 := by
  rw [run_eq]
  split
  · exact .inl ⟨_, rfl⟩
  · exact .inl ⟨_, rfl⟩
  · split
    · exact .inl ⟨_, rfl⟩
    · exact .inr ⟨_, rfl⟩

theorem patchDocument_cases (st : Store) (colName key : String) (target : JVal) (tmpDuid tmpCuid : String) :
    (∃ a, st.patchDocument colName key target tmpDuid tmpCuid = (st, a, [], [])) ∨
    ∃ col w r2, st.patchDocument colName key target tmpDuid tmpCuid = pushResult st col w r2 := by
  have hrun : ∀ col w, (∃ a, run st col w target = (st, a, [], [])) ∨
      ∃ col' w' r2, run st col w target = pushResult st col' w' r2 :=
    fun col w => (run_cases st col w target).imp id (fun ⟨r2, h⟩ => ⟨col, w, r2, h⟩)
  rw [patchDocument_eq]
  cases st.getCollection colName with
  | none => exact .inl ⟨_, rfl⟩
  | some col =>
    dsimp only
    cases st.getDatatypeByKey col.num key with
    | none => exact hrun _ _
    | some d =>
      dsimp only
      split
      · exact .inl ⟨_, rfl⟩
      · cases st.latest d with
        | none => exact .inl ⟨_, rfl⟩
        | some rv => exact hrun _ _

theorem run_ok {st : Store} {col : CollectionDoc} {w : WDt} {target : JVal}
    (h : (w.rep.patchByJSON target).2.2 = .ok ()) :
    (run st col w target).2.1 = .ok (viewOf (w.rep.patchByJSON target).1) := by
  simp only [run_eq, h]
  split <;> rfl

theorem run_nil {st : Store} {col : CollectionDoc} {w : WDt} {target : JVal} {d0 : Doc} (hs : w.rep.state = .doc d0)
    (hnil : jsonDiff d0.view.canon target.canon = []) : run st col w target = (st, .ok d0.view, [], []) := by
  simp only [run_eq, DPatch.patchByJSON_eq hs, hnil, DPatch.patch_nil hs, viewOf, hs, List.isEmpty_nil, if_true]

theorem run_push {st : Store} {col : CollectionDoc} {w : WDt} {target : JVal} {d0 : Doc} (hs : w.rep.state = .doc d0)
    (hok : (w.rep.patch (jsonDiff d0.view.canon target.canon)).2 = .ok ())
    (hne : jsonDiff d0.view.canon target.canon ≠ []) :
    run st col w target = pushResult st col w (w.rep.patch (jsonDiff d0.view.canon target.canon)).1 := by
  simp only [run_eq, DPatch.patchByJSON_eq hs, hok, List.isEmpty_iff, hne, if_false]

theorem run_target (st : Store) (col : CollectionDoc) (w : WDt) (h : DP.DocInv w.rep)
    (tgt : List (String × JVal)) (hn : (JVal.obj tgt).hasNull = false) (hk : DC.JKeysND (.obj tgt)) :
    ∃ v, (run st col w (.obj tgt)).2.1 = .ok v ∧ v.canon = (JVal.obj tgt).canon := by
  obtain ⟨d, hs, _, _⟩ := id h
  obtain ⟨d', h1, h2, h3, _⟩ := DPatch.patchByJSON_reaches_target w.rep d hs h tgt hn hk
  refine ⟨_, run_ok h2, ?_⟩
  simp only [viewOf, h1]
  exact h3

/-! ## the answer -/

/-- the ANSWER: for an existing document whose latest state satisfies the replica invariant, and a target object without
    nulls and duplicate keys, the endpoint answers OK with (a value canonically equal to) the target -/
theorem patchDocument_answers_target
    (st : Store) (colName key tmpDuid tmpCuid : String) (col : CollectionDoc) (d : DatatypeDoc) (r0 : Replica) (ver : Nat)
    (hc : st.getCollection colName = some col) (hd : st.getDatatypeByKey col.num key = some d) (ht : d.typ = .document)
    (hl : st.latest d = some (r0, ver))
    (hinv : DP.DocInv { r0 with opId := { r0.opId with cuid := tmpCuid }, cp := ⟨ver, 0⟩ })
    (tgt : List (String × JVal)) (hn : (JVal.obj tgt).hasNull = false) (hk : DC.JKeysND (.obj tgt)) :
    ∃ v, (st.patchDocument colName key (.obj tgt) tmpDuid tmpCuid).2.1 = .ok v ∧ v.canon = (JVal.obj tgt).canon := by
  rw [patchDocument_existing hc hd ht hl]
  exact run_target st col _ hinv tgt hn hk

/-- … also when the key does not exist yet (the document is created) -/
theorem patchDocument_creates_target
    (st : Store) (colName key tmpDuid tmpCuid : String) (col : CollectionDoc)
    (hc : st.getCollection colName = some col) (hd : st.getDatatypeByKey col.num key = none)
    (tgt : List (String × JVal)) (hn : (JVal.obj tgt).hasNull = false) (hk : DC.JKeysND (.obj tgt)) :
    ∃ v, (st.patchDocument colName key (.obj tgt) tmpDuid tmpCuid).2.1 = .ok v ∧ v.canon = (JVal.obj tgt).canon := by
  rw [patchDocument_absent hc hd]
  exact run_target st col _ (DP.docInv_new tmpCuid true) tgt hn hk

/-! ## refusals, and patching to the current value -/

/-- refusals change nothing: unknown collection, a key of another type, a target the document refuses → the store is returned as is -/
theorem patchDocument_refusal_changes_nothing (st : Store) (colName key : String) (target : JVal) (tmpDuid tmpCuid : String)
    (code : Nat) (h : (st.patchDocument colName key target tmpDuid tmpCuid).2.1 = .rpcErr code) :
    (st.patchDocument colName key target tmpDuid tmpCuid).1 = st := by
  rcases patchDocument_cases st colName key target tmpDuid tmpCuid with ⟨a, e⟩ | ⟨col, w, r2, e⟩
  · rw [e]
  · rw [e] at h
    cases h

theorem patchDocument_same_eq
    (st : Store) (colName key tmpDuid tmpCuid : String) (col : CollectionDoc) (d : DatatypeDoc) (r0 : Replica) (ver : Nat)
    (dd : Doc)
    (hc : st.getCollection colName = some col) (hd : st.getDatatypeByKey col.num key = some d) (ht : d.typ = .document)
    (hl : st.latest d = some (r0, ver)) (hs : r0.state = .doc dd)
    (hinv : DP.DocInv { r0 with opId := { r0.opId with cuid := tmpCuid }, cp := ⟨ver, 0⟩ }) :
    st.patchDocument colName key dd.view tmpDuid tmpCuid = (st, .ok dd.view, [], []) := by
  have hs1 : (tmpRep r0 ver tmpCuid).state = .doc dd := hs
  have hnil := (DPatch.patchByJSON_same_is_noop _ dd hs1 hinv).2
  rw [DPatch.patchByJSON_eq hs1] at hnil
  rw [patchDocument_existing hc hd ht hl]
  exact run_nil hs1 hnil

/-- patching to the current value (the JSON view `dd.view` of the latest state) stores nothing and announces nothing:
    the store is returned as it is, no notification, no snapshot job (and the answer is that value, `patchDocument_same_eq`) -/
theorem patchDocument_same_is_silent
    (st : Store) (colName key tmpDuid tmpCuid : String) (col : CollectionDoc) (d : DatatypeDoc) (r0 : Replica) (ver : Nat)
    (dd : Doc)
    (hc : st.getCollection colName = some col) (hd : st.getDatatypeByKey col.num key = some d) (ht : d.typ = .document)
    (hl : st.latest d = some (r0, ver)) (hs : r0.state = .doc dd)
    (hinv : DP.DocInv { r0 with opId := { r0.opId with cuid := tmpCuid }, cp := ⟨ver, 0⟩ }) :
    (st.patchDocument colName key dd.view tmpDuid tmpCuid).1 = st ∧
    (st.patchDocument colName key dd.view tmpDuid tmpCuid).2.2.1 = [] ∧
    (st.patchDocument colName key dd.view tmpDuid tmpCuid).2.2.2 = [] := by
  rw [patchDocument_same_eq st colName key tmpDuid tmpCuid col d r0 ver dd hc hd ht hl hs hinv]
  exact ⟨rfl, rfl, rfl⟩

/-! ## the replica side -/

section replica
open Orda.DC Orda.DM Orda.DR
open Orda.DPatch (Carr GoodV callOf)

theorem rec_remote {L : OpId} {q : Replica} {d d' : Doc} {bd : OpBody} (hq : q.state = .doc d) (hh : DLR.HistOK d)
    (R : DPatch.Rec L d bd d') :
    bd.isMeta = false ∧ DLR.HistOK d' ∧ (q.execRemoteBase (Op.wire ⟨L.next, bd⟩)).1.state = .doc d' ∧
      (q.execRemoteBase (Op.wire ⟨L.next, bd⟩)).2 = none := by
  obtain ⟨c, b, post, ret', hck, hm, hprep, hexec, I, hk⟩ := R
  -- the sender: any replica with this clock and this document
  obtain ⟨r, rfl, hs⟩ : ∃ r : Replica, r.opId = L ∧ r.state = .doc d := ⟨{ q with opId := L }, rfl, hq⟩
  have hinv : DP.DocInv r := ⟨d, hs, I, hk⟩
  have hcall := Orda.call_of_ok (r := r) (by rw [hs]; exact hprep) (by rw [hs]; exact hexec)
  obtain ⟨o, x, d'', E⟩ := DLR.local_call_core r d hs hinv c hck.1 hm (post ret') (by rw [hcall])
  have h1 := E.buffer
  have h3 := E.state
  rw [hcall] at h1 h3
  simp only [Replica.queued, List.append_cancel_left_eq, List.cons.injEq, and_true] at h1
  simp only [Replica.queued, DState.doc.injEq] at h3
  subst h1 h3
  obtain ⟨e1, e2⟩ := DLR.execRemoteBase_is_applyD_weak q d hq _ x E.den E.weak
  rw [E.noHead (DLR.histOK_noHeadSlots hh)] at e1
  exact ⟨(execLocal_isMeta _ _ _ _ _ _ hexec).1, DLR.histOK_call r d hs hinv hh c hck.1 d' (by rw [hcall]; rfl), e1, e2⟩

/-- consecutive client sequence numbers -/
def SeqFrom (s : Nat) (l : List Op) : Prop := l.map (·.id.seq) = List.range' s l.length

theorem seqFrom_nil (s : Nat) : SeqFrom s [] := rfl

theorem seqFrom_cons {s : Nat} {o : Op} {l : List Op} (h1 : o.id.seq = s) (h2 : SeqFrom (s + 1) l) : SeqFrom s (o :: l) := by
  unfold SeqFrom at *
  simp only [List.map_cons, List.length_cons, List.range'_succ, h1, h2]

theorem SeqFrom.getElem {s : Nat} {l : List Op} (h : SeqFrom s l) (k : Nat) (hk : k < l.length) : l[k].id.seq = s + k := by
  have := congrArg (fun l => l[k]?) h
  simp only [List.getElem?_map, List.getElem?_eq_getElem hk, Option.map_some, List.getElem?_range' hk] at this
  rw [Option.some.inj this, Nat.one_mul]

/-- `r1` is `r` after a patch that appended `new` to its buffer and left the document `d1` with canonical view `tf`;
    `q1` is `q` after receiving `new`, holding the same document -/
structure Patched (r q r1 q1 : Replica) (d1 : Doc) (tf : JVal) (new : List Op) : Prop where
  state : r1.state = .doc d1
  view : d1.view.canon = tf
  buffer : r1.buffer = r.buffer ++ new
  seq : SeqFrom (r.opId.seq + 1) new
  ne : new ≠ []
  cp : r1.cp = r.cp
  typ : r1.typ = r.typ
  recv : q.receive new = (q1, .ok ())
  qstate : q1.state = .doc d1

theorem Patched.viewOf {r q r1 q1 : Replica} {d1 : Doc} {tf : JVal} {new : List Op} (h : Patched r q r1 q1 d1 tf new) :
    (viewOf r1).canon = tf := by
  simp only [RestP.viewOf, h.state]
  exact h.view

theorem trace_remote {L : OpId} {d d1 : Doc} {new : List Op} (T : DPatch.Trace L d new d1) :
    ∀ q : Replica, q.state = .doc d → DLR.HistOK d →
      ∃ q1, Replica.applyUnit.go q (new.map Op.wire) = (q1, .ok ()) ∧ q1.state = .doc d1 ∧
        SeqFrom (L.seq + 1) (new.map Op.wire) := by
  induction T with
  | nil L d => exact fun q hq _ => ⟨q, rfl, hq, seqFrom_nil _⟩
  | @cons L d d' d1 bd rest R _ ih =>
    intro q hq hh
    obtain ⟨_, hh', e1, e2⟩ := rec_remote hq hh R
    rcases hq' : q.execRemoteBase (Op.wire ⟨L.next, bd⟩) with ⟨q', w⟩
    rw [hq'] at e1 e2
    simp only at e1 e2
    subst e2
    obtain ⟨q1, p8, p9, p7⟩ := ih { q' with rbOps := q'.rbOps ++ [Op.wire ⟨L.next, bd⟩] } e1 hh'
    refine ⟨q1, ?_, p9, ?_⟩
    · rw [List.map_cons, applyUnit_go_cons, hq']
      exact p8
    · rw [List.map_cons]
      exact seqFrom_cons rfl p7

theorem wire_isMeta (b : OpBody) : b.wire.isMeta = b.isMeta := by
  cases b <;> rfl

theorem receive_one (q : Replica) (o : Op) (rest : List Op) (h : ∀ tag n, o.body ≠ .transaction tag n) :
    q.receive (o :: rest) = match q.execRemoteBase o with
      | (q', none) => ({ q' with rbOps := q'.rbOps ++ [o] } : Replica).receive rest
      | (q', some w) => (q', .panic w) := by
  rw [receive_single q o rest h, applyUnit_go_cons]
  rcases q.execRemoteBase o with ⟨q', (_ | w)⟩ <;> rfl

theorem receive_unit_go (q : Replica) (id : OpId) (tag : String) {n : Int} (ops : List Op) (hne : ops ≠ [])
    (hn : n = ((ops.length + 1 : Nat) : Int)) :
    q.receive (⟨id, .transaction tag n⟩ :: ops) =
      match Replica.applyUnit.go q ops with
      | (q', .ok ()) => (q', .ok ())
      | (q', e) => (q', e) := by
  subst hn
  have h := Orda.receive_unit q id tag ops [] hne
  rw [List.append_nil] at h
  exact h

theorem patch_remote_buf {r q : Replica} {d : Doc} (hs : r.state = .doc d) (hq : q.state = .doc d) (I : DP.DInv r.opId 0 d)
    (hk : KeysND d) (hh : DLR.HistOK d) {ops : List PatchOp} {tf : JVal}
    (happ : applyPatch ops d.view.canon = some tf) (hgood : ∀ op ∈ ops, Carr GoodV op) (hne : ops ≠ []) :
    ∃ d1 q1 new, (r.patch ops).2 = .ok () ∧ Patched r q (r.patch ops).1 q1 d1 tf new := by
  rcases ops with _ | ⟨o1, _ | ⟨o2, rest⟩⟩
  · exact absurd rfl hne
  · simp only [applyPatch] at happ
    cases h1 : applyAt o1 o1.path d.view.canon with
    | none => simp [h1] at happ
    | some t1 =>
      simp only [h1, Option.bind_some, Option.some.injEq] at happ
      subst happ
      obtain ⟨d', bd, b', hp, hview, _, _, R⟩ := DPatch.patch_one hs I hk h1 (hgood o1 List.mem_cons_self)
      obtain ⟨hmeta', _, e1, e2⟩ := rec_remote hq hh R
      rw [hp]
      rcases hq' : q.execRemoteBase (Op.wire ⟨r.opId.next, bd⟩) with ⟨q', w⟩
      rw [hq'] at e1 e2
      simp only at e1 e2
      subst e2
      refine ⟨d', { q' with rbOps := q'.rbOps ++ [Op.wire ⟨r.opId.next, bd⟩] }, [Op.wire ⟨r.opId.next, bd⟩],
        rfl, ⟨rfl, hview, rfl, seqFrom_cons rfl (seqFrom_nil _), List.cons_ne_nil _ _, rfl, rfl, ?_, e1⟩⟩
      have hnt : ∀ tag n, (Op.wire ⟨r.opId.next, bd⟩).body ≠ .transaction tag n := by
        intro tag n e
        have hm := (wire_isMeta bd).trans hmeta'
        rw [show bd.wire = _ from e] at hm
        cases hm
      rw [receive_one _ _ _ hnt, hq']
      rfl
  · obtain ⟨r1, new, d1, hp, p2, p3, p4, _, _, p6, pt, T⟩ := DPatch.patch_many hs I hk (by simp) happ hgood
    obtain ⟨q1, p8, p9, p7⟩ := trace_remote T q hq hh
    rw [hp]
    refine ⟨d1, q1, (⟨r.opId.next, .transaction (toString (o1 :: o2 :: rest).length ++ " patches") (new.length + 1)⟩ :: new).map Op.wire,
      rfl, ⟨p3, p4, rfl, ?_, List.cons_ne_nil _ _, p6, pt, ?_, p9⟩⟩
    · rw [List.map_cons]
      exact seqFrom_cons rfl p7
    · have hne' : new.map Op.wire ≠ [] := by
        intro h
        rw [List.map_eq_nil_iff] at h
        rw [h] at p2
        cases p2
      rw [List.map_cons]
      show q.receive (⟨r.opId.next, .transaction _ _⟩ :: new.map Op.wire) = _
      rw [receive_unit_go q _ _ _ hne' (by rw [List.length_map]; rfl), p8]

/-- **what the patch emits, received by a replica in the same state**: the buffer of the patched replica (which was empty)
    carries consecutive client sequence numbers, and `receive` of it on `q` succeeds and gives the patched state -/
theorem patch_remote {r q : Replica} {d : Doc} (hs : r.state = .doc d) (hq : q.state = .doc d) (I : DP.DInv r.opId 0 d)
    (hk : KeysND d) (hh : DLR.HistOK d) (hbuf : r.buffer = []) {ops : List PatchOp} {tf : JVal}
    (happ : applyPatch ops d.view.canon = some tf) (hgood : ∀ op ∈ ops, Carr GoodV op) (hne : ops ≠ []) :
    ∃ d1 q1, (r.patch ops).2 = .ok () ∧ (r.patch ops).1.state = .doc d1 ∧ d1.view.canon = tf ∧
      SeqFrom (r.opId.seq + 1) (r.patch ops).1.buffer ∧ (r.patch ops).1.buffer ≠ [] ∧ (r.patch ops).1.cp = r.cp ∧
      q.receive (r.patch ops).1.buffer = (q1, .ok ()) ∧ q1.state = .doc d1 := by
  obtain ⟨d1, q1, new, hok, h⟩ := patch_remote_buf hs hq I hk hh happ hgood hne
  have hb := h.buffer
  rw [hbuf, List.nil_append] at hb
  rw [hb]
  exact ⟨d1, q1, hok, h.state, h.view, h.seq, h.ne, h.cp, h.recv, h.qstate⟩

end replica

/-! ## the server side -/

section server
open SL SN

theorem mkDocs_isEmpty (duid : String) (c s : Nat) (ops : List Op) : (mkDocs duid c s ops).isEmpty = ops.isEmpty := by
  cases ops <;> rfl

theorem pushOps_accept (duid : String) (c : Nat) (ops : List Op) (cp : CheckPoint) (acc : List OpDoc)
    (h : SeqFrom (cp.cseq + 1) ops) :
    pushOps duid c cp ops acc = .ok (⟨cp.sseq + ops.length, cp.cseq + ops.length⟩, acc ++ mkDocs duid c cp.sseq ops) := by
  rw [pushOps_eq, accepted_consec ops cp.cseq cp.cseq (fun k hk => (h.getElem k hk).trans (Nat.add_right_comm ..))
    (Nat.le_refl _), Nat.sub_self, List.drop_zero]
  rfl

/-- the store after the volatile admin client pushed `p.ops` onto the existing datatype `d` -/
def pushed (st : Store) (col : CollectionDoc) (d : DatatypeDoc) (ops : List Op) : Store :=
  { st with operations := st.operations ++ mkDocs d.duid col.num d.sseqEnd ops,
            datatypes := upsertDatatype { d with sseqEnd := d.sseqEnd + ops.length } st.datatypes }

theorem processPack_accept (st : Store) (col : CollectionDoc) (p : Pack) {m : Dispatch} {doc : DatatypeDoc}
    (hm : m = .normal ∨ m = .create) (hpath : Path st ⟨patchApiCuid, "ordaPatchAPI", col.num, 2, 0⟩ col p m doc)
    (hduid : p.duid = doc.duid)
    (hro : p.readOnly = false) (hadmin : doc.sub patchApiCuid false = none) (hseq : SeqFrom 1 p.ops) :
    (processPack st ⟨patchApiCuid, "ordaPatchAPI", col.num, 2, 0⟩ col p).store = pushed st col doc p.ops ∧
    (processPack st ⟨patchApiCuid, "ordaPatchAPI", col.num, 2, 0⟩ col p).notif =
      (if p.ops.isEmpty then none
       else some ⟨col.name ++ "/" ++ doc.key, patchApiCuid, doc.duid, doc.sseqEnd + p.ops.length⟩) ∧
    (processPack st ⟨patchApiCuid, "ordaPatchAPI", col.num, 2, 0⟩ col p).pushed = p.ops.length ∧
    (processPack st ⟨patchApiCuid, "ordaPatchAPI", col.num, 2, 0⟩ col p).resp.duid = p.duid := by
  have hsub : (m = .subscribe) = False := by rcases hm with rfl | rfl <;> simp
  have hpush : pushRes ⟨patchApiCuid, "ordaPatchAPI", col.num, 2, 0⟩ col p m doc =
      .ok (⟨doc.sseqEnd + p.ops.length, 0 + p.ops.length⟩, [] ++ mkDocs doc.duid col.num doc.sseqEnd p.ops) := by
    rw [pushRes_rw hro, inOps_of_ne p (fun e => hsub.mp e)]
    simp only [opDuid, cp0, hro, hadmin, hsub, hduid, if_false]
    exact pushOps_accept doc.duid col.num p.ops ⟨doc.sseqEnd, 0⟩ [] hseq
  rw [hpath.eq_finish hro, finish, hpush]
  refine ⟨?_, ?_, ?_, ?_⟩
  · rw [okR_store]
    simp only [doc2, cp3, pulled, if_true, List.getLast?_nil, hro, Bool.false_eq_true, if_false, List.nil_append, pushed]
  · rw [okR_notif]
    simp only [cp3, pulled, if_true, List.getLast?_nil, List.nil_append, mkDocs_isEmpty]
  · rw [okR_pushed, List.nil_append, mkDocs_length]
  · rw [okR_resp]
    simp only [resp1, resp0, hsub, if_false]

/-- **the push is accepted**: a pack of the admin client for an existing datatype (no create / subscribe bit), whose operations
    carry the client sequence numbers 1, 2, …, is served, all its operations are stored at the end of the log -/
theorem processPack_admin (st : Store) (col : CollectionDoc) (d : DatatypeDoc) (p : Pack) (hlog : LogInv st)
    (hd : d ∈ st.datatypes) (hcol : d.colNum = col.num) (hkey : d.key = p.key) (hduid : p.duid = d.duid)
    (hc : p.create = false) (hsu : p.subscribe = false) (hro : p.readOnly = false)
    (hadmin : d.sub patchApiCuid false = none) (hseq : SeqFrom 1 p.ops) :
    (processPack st ⟨patchApiCuid, "ordaPatchAPI", col.num, 2, 0⟩ col p).store = pushed st col d p.ops ∧
    (processPack st ⟨patchApiCuid, "ordaPatchAPI", col.num, 2, 0⟩ col p).pushed = p.ops.length :=
  have h := processPack_accept st col p (.inl rfl)
    (.byId hc hsu (by rw [hduid]; exact SL.getDatatype_of_mem hlog hd) hcol hkey) hduid hro hadmin hseq
  ⟨h.1, h.2.2.1⟩

/-- the record found under a key is still found there, as rewritten, when it is written back under its id: it is the first
    match, so nothing before it matches, and the rewrite (`SL.upsert_split`) stands where the first record of that id stood -/
theorem findByKey_upsert {l : List DatatypeDoc} {d d2 : DatatypeDoc} (n : Nat) (key : String)
    (hf : l.find? (fun x => x.colNum = n ∧ x.key = key) = some d) (h1 : d2.duid = d.duid) (h2 : d2.colNum = d.colNum)
    (h3 : d2.key = d.key) :
    (upsertDatatype d2 l).find? (fun x => x.colNum = n ∧ x.key = key) = some d2 := by
  have hdp : d.colNum = n ∧ d.key = key := by simpa using List.find?_some hf
  rcases SL.upsert_split d2 l with ⟨pre, x, post, e, _, hpre, hu⟩ | ⟨hn, _⟩
  · have hnone : pre.find? (fun x => x.colNum = n ∧ x.key = key) = none := by
      cases hp : pre.find? (fun x => x.colNum = n ∧ x.key = key) with
      | none => rfl
      | some y =>
        rw [e, List.find?_append, hp] at hf
        cases hf
        exact absurd h1.symm (hpre d (List.mem_of_find?_eq_some hp))
    rw [hu, List.find?_append, hnone]
    simp [h2, h3, hdp]
  · exact absurd h1.symm (hn d (List.mem_of_find?_eq_some hf))

theorem base_fresh (st : Store) (doc : DatatypeDoc) : (base st doc).1.buffer = [] ∧ (base st doc).1.opId.seq = 0 := by
  unfold base baseOf
  split <;> exact ⟨rfl, rfl⟩

theorem latest_fresh {st : Store} {doc : DatatypeDoc} {r0 : Replica} {ver : Nat} (hl : st.latest doc = some (r0, ver)) :
    r0.buffer = [] ∧ r0.opId.seq = 0 ∧
    (base st doc).1.receive ((st.getOperations doc.duid ((base st doc).2 + 1)).map (·.op)) = (r0, .ok ()) ∧
    ver = verOf (st.getOperations doc.duid ((base st doc).2 + 1)) (base st doc).2 := by
  rw [latest_eq] at hl
  obtain ⟨hk1, hk2, _⟩ := receive_fields (base st doc).1 ((st.getOperations doc.duid ((base st doc).2 + 1)).map (·.op))
  obtain ⟨b1, b2⟩ := base_fresh st doc
  rcases hr : (base st doc).1.receive ((st.getOperations doc.duid ((base st doc).2 + 1)).map (·.op)) with ⟨r, (_ | c | w)⟩ <;>
    rw [hr] at hl hk1 hk2 <;> simp only [Option.some.injEq, Prod.mk.injEq, reduceCtorEq] at hl hk1 hk2
  obtain ⟨rfl, rfl⟩ := hl
  exact ⟨hk1.trans b1, hk2.trans b2, hr, rfl⟩


theorem latest_absent {st : Store} {d : DatatypeDoc} (hops : st.opsOf d.duid = [])
    (hsnap : ∀ s ∈ st.snapshots, s.duid ≠ d.duid) :
    st.latest d = some ({ Replica.new d.typ "server" false with opId := ⟨0, 1, "server", 0⟩ }, 0) := by
  have hbase : base st d = ({ Replica.new d.typ "server" false with opId := ⟨0, 1, "server", 0⟩ }, 0) := by
    have hsn : snapsOf st d = [] := List.filter_eq_nil_iff.2 (fun s hs => by simp [hsnap s hs])
    unfold base
    rw [hsn]
    rfl
  have hget := getOperations_eq_drop (st := st) (duid := d.duid) (E := 0) (by rw [hops]; rfl) 0
  rw [latest_eq, hbase]
  simp only [Nat.zero_add] at hget ⊢
  rw [hget, hops]
  rfl

theorem getOperations_pushed {st : Store} {col : CollectionDoc} {d : DatatypeDoc}
    (gap : (st.opsOf d.duid).map (·.sseq) = List.range' 1 d.sseqEnd) (ops : List Op) {v : Nat} (hv : v ≤ d.sseqEnd) :
    (pushed st col d ops).getOperations d.duid (v + 1) =
      (st.opsOf d.duid).drop v ++ mkDocs d.duid col.num d.sseqEnd ops ∧
    IsSeq ((st.opsOf d.duid).drop v ++ mkDocs d.duid col.num d.sseqEnd ops) (v + 1) := by
  have hops : (pushed st col d ops).opsOf d.duid = st.opsOf d.duid ++ mkDocs d.duid col.num d.sseqEnd ops := by
    have hm : (mkDocs d.duid col.num d.sseqEnd ops).filter (fun o => decide (o.duid = d.duid)) =
        mkDocs d.duid col.num d.sseqEnd ops :=
      List.filter_eq_self.2 (fun o ho => by simp [(mkDocs_mem _ _ _ _ o ho).1])
    show (st.operations ++ mkDocs d.duid col.num d.sseqEnd ops).filter _ = _
    rw [List.filter_append, hm]
    rfl
  have gap' : ((pushed st col d ops).opsOf d.duid).map (·.sseq) = List.range' 1 (d.sseqEnd + ops.length) := by
    rw [hops, List.map_append, gap, mkDocs_sseq]
    have := @List.range'_append 1 d.sseqEnd ops.length 1
    rwa [Nat.one_mul, Nat.add_comm 1 d.sseqEnd] at this
  have hdrop : ((pushed st col d ops).opsOf d.duid).drop v =
      (st.opsOf d.duid).drop v ++ mkDocs d.duid col.num d.sseqEnd ops := by
    rw [hops, List.drop_append_of_le_length (by rw [(isSeq_of_range gap).2]; exact hv)]
  refine ⟨(getOperations_eq_drop gap' v).trans hdrop, ?_⟩
  rw [← hdrop, Nat.add_comm]
  exact (isSeq_of_range gap').1.drop v

theorem latest_append {st : Store} {col : CollectionDoc} {d : DatatypeDoc} {r0 : Replica}
    (gap : (st.opsOf d.duid).map (·.sseq) = List.range' 1 d.sseqEnd) (hl : st.latest d = some (r0, d.sseqEnd))
    (ops : List Op) :
    (pushed st col d ops).latest { d with sseqEnd := d.sseqEnd + ops.length } =
      match r0.receive ops with
      | (r, .ok ()) => some (r, d.sseqEnd + ops.length)
      | _ => none := by
  obtain ⟨_, _, hrecv, hver⟩ := latest_fresh hl
  obtain ⟨hseq, hlen⟩ := isSeq_of_range gap
  rw [getOperations_eq_drop gap] at hrecv hver
  have hseq0 : IsSeq ((st.opsOf d.duid).drop (base st d).2) ((base st d).2 + 1) := by
    have := hseq.drop (base st d).2
    rwa [Nat.add_comm] at this
  rw [hseq0.verOf, List.length_drop, hlen] at hver
  have hb : (base st d).2 ≤ d.sseqEnd := by
    rw [hver]
    exact Nat.le_add_right _ _
  obtain ⟨hget', hseq1⟩ := getOperations_pushed (col := col) gap ops hb
  -- snapshots are untouched, so the rebuild starts from the same base
  have hbase : base (pushed st col d ops) { d with sseqEnd := d.sseqEnd + ops.length } = base st d := rfl
  rw [latest_eq, hbase]
  dsimp only
  rw [hget', List.map_append, mkDocs_ops, receive_append_ok ops _ _ (by rw [hrecv]), hrecv,
    hseq1.verOf, List.length_append, List.length_drop, hlen, mkDocs_length, ← Nat.add_assoc, Nat.add_sub_of_le hb]
  rfl

/-- **the latest state after the push**: with the latest state of `d` at the end of the log, the rebuild from the store after
    the admin's push is the old latest state receiving the pushed operations -/
theorem latest_pushed {st : Store} {col : CollectionDoc} {d : DatatypeDoc} {r0 : Replica} (hlog : LogInv st)
    (hd : d ∈ st.datatypes) (hl : st.latest d = some (r0, d.sseqEnd)) (ops : List Op) :
    (pushed st col d ops).latest { d with sseqEnd := d.sseqEnd + ops.length } =
      match r0.receive ops with
      | (r, .ok ()) => some (r, d.sseqEnd + ops.length)
      | _ => none :=
  latest_append (hlog.gapless d hd) hl ops

end server

/-! ## the store after the call -/

theorem pending_eq {r : Replica} (hseq : SeqFrom 1 r.buffer) (hcp : r.cp.cseq = 0) : r.pending = r.buffer := by
  rw [pending_eq_drop r, hcp, List.drop_zero]
  intro o ho
  rw [List.head?_eq_getElem?] at ho
  obtain ⟨hlt, rfl⟩ := List.getElem?_eq_some_iff.1 ho
  exact hseq.getElem 0 hlt

theorem pushResult_accept (st : Store) (col : CollectionDoc) (w : WDt) {r2 : Replica} {m : Dispatch} {doc : DatatypeDoc}
    (hm : m = .normal ∨ m = .create)
    (hpath : SL.Path st ⟨patchApiCuid, "ordaPatchAPI", col.num, 2, 0⟩ col ({ w with rep := r2 } : WDt).createPack m doc)
    (hduid : w.duid = doc.duid) (hadmin : doc.sub patchApiCuid false = none)
    (hseq : SeqFrom 1 r2.buffer) (hne : r2.buffer ≠ []) (hcp : r2.cp.cseq = 0) :
    pushResult st col w r2 =
      (pushed st col doc r2.buffer, .ok (viewOf r2),
        [⟨col.name ++ "/" ++ doc.key, patchApiCuid, doc.duid, doc.sseqEnd + r2.buffer.length⟩], [(doc.duid, col.num)]) := by
  have hops : (({ w with rep := r2 } : WDt).createPack).ops = r2.buffer := pending_eq hseq hcp
  obtain ⟨hst, hnot, hpu, hdu⟩ := processPack_accept st col _ hm hpath hduid rfl hadmin (by rw [hops]; exact hseq)
  rw [hops] at hst hnot hpu
  have hlen : r2.buffer.length > 0 := List.length_pos_iff.2 hne
  simp only [pushResult, hst, hnot, hpu, hdu, List.isEmpty_iff, hne, if_false, hlen, if_true, Option.toList]
  rw [show (({ w with rep := r2 } : WDt).createPack).duid = doc.duid from hduid]

theorem view_of_script_nil {L : OpId} {b : Nat} {d : Doc} (I : DP.DInv L b d) (hk : DC.KeysND d)
    (tgt : List (String × JVal)) (hn : (JVal.obj tgt).hasNull = false)
    (hnil : jsonDiff d.view.canon (JVal.obj tgt).canon = []) : d.view.canon = (JVal.obj tgt).canon := by
  have happ := (DPatch.script_ok I hk tgt hn).1
  rw [hnil] at happ
  simpa only [applyPatch, Option.some.injEq] using happ

theorem run_pushes (st : Store) (col : CollectionDoc) {w : WDt} {q : Replica} {d0 : Doc} (hs : w.rep.state = .doc d0)
    (hq : q.state = .doc d0) (I : DP.DInv w.rep.opId 0 d0) (hkeys : DC.KeysND d0) (hh : DLR.HistOK d0)
    (tgt : List (String × JVal)) (hn : (JVal.obj tgt).hasNull = false)
    (hne : jsonDiff d0.view.canon (JVal.obj tgt).canon ≠ []) :
    ∃ r2 new d1 q1, run st col w (.obj tgt) = pushResult st col w r2 ∧
      Patched w.rep q r2 q1 d1 (JVal.obj tgt).canon new := by
  obtain ⟨happ, hgood⟩ := DPatch.script_ok I hkeys tgt hn
  obtain ⟨d1, q1, new, hok, h⟩ := patch_remote_buf hs hq I hkeys hh happ hgood hne
  exact ⟨_, new, d1, q1, run_push hs hok hne, h⟩

/-- **the existing-document case, all components**: when the target differs from the current value (`hne`: the script is not
    empty), the endpoint pushes a non-empty list `ops` of operations: the store is `pushed st col d ops`, ONE notification with
    the new end of the log, ONE snapshot job for the document's id; the latest state of the new datatype record is at the new
    end of the log and has the target as value.
    Named hypotheses: `hlog` (the log invariant C06), `hend` (the latest state is at the end of the log), `hpos` (the log is
    not empty — see `emptyLog_not_stored` for what happens otherwise), `hadmin` (no subscription of the document is recorded
    under the admin's client id), `hh` (the arrays of the latest state have causal insertion histories, `DLR.HistOK`:
    holds in every state reached by calls and deliveries, `DLR.histOK_life`, but is not part of `DP.DocInv`).
    That the push is ACCEPTED is proved (`processPack_admin`), not assumed; freshness of `tmpCuid` is only used through `hinv`. -/
theorem patchDocument_pushes
    (st : Store) (colName key tmpDuid tmpCuid : String) (col : CollectionDoc) (d : DatatypeDoc) (r0 : Replica) (ver : Nat)
    (hc : st.getCollection colName = some col) (hd : st.getDatatypeByKey col.num key = some d) (ht : d.typ = .document)
    (hl : st.latest d = some (r0, ver))
    (hinv : DP.DocInv { r0 with opId := { r0.opId with cuid := tmpCuid }, cp := ⟨ver, 0⟩ })
    (hlog : LogInv st) (hend : ver = d.sseqEnd) (hpos : 0 < ver) (hadmin : d.sub patchApiCuid false = none)
    {d0 : Doc} (hs0 : r0.state = .doc d0) (hh : DLR.HistOK d0)
    (tgt : List (String × JVal)) (hn : (JVal.obj tgt).hasNull = false)
    (hne : jsonDiff d0.view.canon (JVal.obj tgt).canon ≠ []) :
    ∃ (ops : List Op) (v : JVal) (q1 : Replica) (d1 : Doc), ops ≠ [] ∧
      st.patchDocument colName key (.obj tgt) tmpDuid tmpCuid =
        (pushed st col d ops, .ok v, [⟨col.name ++ "/" ++ key, patchApiCuid, d.duid, d.sseqEnd + ops.length⟩],
         [(d.duid, col.num)]) ∧
      v.canon = (JVal.obj tgt).canon ∧
      (pushed st col d ops).latest { d with sseqEnd := d.sseqEnd + ops.length } = some (q1, d.sseqEnd + ops.length) ∧
      q1.state = .doc d1 ∧ d1.view.canon = (JVal.obj tgt).canon := by
  subst hend
  have hs1 : (tmpRep r0 d.sseqEnd tmpCuid).state = .doc d0 := hs0
  obtain ⟨I, hkeys⟩ := hinv.of_state hs1
  obtain ⟨hbuf0, hseq0, _, _⟩ := latest_fresh hl
  obtain ⟨r2, new, d1, q1, hrun, h⟩ :=
    run_pushes st col (w := ⟨tmpRep r0 d.sseqEnd tmpCuid, key, d.duid, .subscribed⟩)
      hs1 hs0 I hkeys hh tgt hn hne
  -- the temporary replica starts with the empty buffer and client sequence number 0 of the rebuilt state
  have hb' : r2.buffer = new := by
    rw [h.buffer]
    show r0.buffer ++ new = new
    rw [hbuf0, List.nil_append]
  have hsq' : SeqFrom 1 r2.buffer := by
    have hsq := h.seq
    rw [show (tmpRep r0 d.sseqEnd tmpCuid).opId.seq = 0 from hseq0] at hsq
    rw [hb']
    exact hsq
  have hne2 : r2.buffer ≠ [] := hb' ▸ h.ne
  obtain ⟨hdm, hcol, hkey⟩ := SL.getDatatypeByKey_some hd
  refine ⟨r2.buffer, viewOf r2, q1, d1, hne2, ?_, h.viewOf, ?_, h.qstate, h.view⟩
  · rw [patchDocument_existing hc hd ht hl, if_pos hpos, hrun,
      pushResult_accept st col ⟨tmpRep r0 d.sseqEnd tmpCuid, key, d.duid, .subscribed⟩ (.inl rfl)
        (.byId rfl rfl (SL.getDatatype_of_mem hlog hdm) hcol hkey) rfl hadmin hsq' hne2
        (by rw [h.cp]; rfl), hkey]
  · have hlat := latest_pushed (col := col) hlog hdm hl r2.buffer
    rw [hb', h.recv] at hlat
    rw [hb']
    exact hlat

set_option linter.unusedVariables false in
/-- the STORE: what the endpoint stored is what it answered — the latest state rebuilt from the store AFTER the call
    (`Store.latest` on the datatype record as stored afterwards) has the target as its value.
    The hypotheses are those of `patchDocument_pushes`; `hhist` is `DLR.HistOK` of the latest state. -/
theorem patchDocument_stores_target
    (st : Store) (colName key tmpDuid tmpCuid : String) (col : CollectionDoc) (d : DatatypeDoc) (r0 : Replica) (ver : Nat)
    (hc : st.getCollection colName = some col) (hd : st.getDatatypeByKey col.num key = some d) (ht : d.typ = .document)
    (hl : st.latest d = some (r0, ver))
    (hinv : DP.DocInv { r0 with opId := { r0.opId with cuid := tmpCuid }, cp := ⟨ver, 0⟩ })
    (hlog : LogInv st) (hend : ver = d.sseqEnd) (hpos : 0 < ver)
    (hadmin : d.sub patchApiCuid false = none)
    (hhist : ∀ d0, r0.state = .doc d0 → DLR.HistOK d0)
    (tgt : List (String × JVal)) (hn : (JVal.obj tgt).hasNull = false) (hk : DC.JKeysND (.obj tgt)) :
    ∃ d' r' ver', (st.patchDocument colName key (.obj tgt) tmpDuid tmpCuid).1.getDatatypeByKey col.num key = some d' ∧
      (st.patchDocument colName key (.obj tgt) tmpDuid tmpCuid).1.latest d' = some (r', ver') ∧
      (∃ dd, r'.state = .doc dd ∧ dd.view.canon = (JVal.obj tgt).canon) := by
  obtain ⟨d0, hs0, I, hkeys⟩ := id hinv
  have hs1 : (tmpRep r0 ver tmpCuid).state = .doc d0 := hs0
  by_cases hnil : jsonDiff d0.view.canon (JVal.obj tgt).canon = []
  · -- nothing to do: the document has the target value already
    rw [patchDocument_existing hc hd ht hl, run_nil hs1 hnil]
    exact ⟨d, r0, ver, hd, hl, d0, hs0, view_of_script_nil I hkeys tgt hn hnil⟩
  · obtain ⟨ops, v, q1, d1, _, heq, _, hlat, hq1, hd1⟩ := patchDocument_pushes st colName key tmpDuid tmpCuid col d r0 ver
      hc hd ht hl hinv hlog hend hpos hadmin hs0 (hhist d0 hs0) tgt hn hnil
    rw [heq]
    exact ⟨_, q1, _, findByKey_upsert col.num key hd rfl rfl rfl, hlat, d1, hq1, hd1⟩

/-! ## non-vacuity: a store reached by the public requests, patched through the endpoint
(closed computations are checked by the kernel: `decide +kernel`) -/

instance : DecidableEq JVal := fun a b => decidable_of_iff _ (beq_iff_eq a b)
deriving instance DecidableEq for DKind
deriving instance DecidableEq for DNode
deriving instance DecidableEq for Doc
deriving instance DecidableEq for Rpc
deriving instance DecidableEq for Notification
deriving instance DecidableEq for CollectionDoc

theorem docInv_tmp (r0 rc : Replica) (tmpCuid : String) (ver : Nat) (hst : r0.state = rc.state)
    (he : r0.opId.era = rc.opId.era) (hle : rc.opId.lamport ≤ r0.opId.lamport) (h : DP.DocInv rc) :
    DP.DocInv { r0 with opId := { r0.opId with cuid := tmpCuid }, cp := ⟨ver, 0⟩ } := by
  obtain ⟨dd, hs, I, hk⟩ := h
  -- a stamp bounded by the clock of `rc` is bounded by the later clock of `r0`
  have key : ∀ t, DP.St rc.opId 0 t → DP.St r0.opId 0 t := fun t ht =>
    ⟨ht.1.trans he.symm, .inl (ht.2.elim (Nat.le_trans · hle) fun h => absurd h.2 (Nat.not_lt_zero _))⟩
  exact ⟨dd, hst.trans hs, ⟨I.wf, I.acyc, I.root, I.sizes, fun c m hf =>
    let ⟨s1, s2, s3⟩ := I.stamps c m hf
    ⟨key _ s1, fun t ht => key _ (s2 t ht), fun o ho => key _ (s3 o ho)⟩, I.ordnd, I.linked, I.scalar⟩, hk⟩

theorem docInv_tmp_state {r0 : Replica} {tmpCuid : String} {ver : Nat}
    (h : DP.DocInv { r0 with opId := { r0.opId with cuid := tmpCuid }, cp := ⟨ver, 0⟩ }) : ∃ dd, r0.state = .doc dd := by
  obtain ⟨dd, hs, _, _⟩ := h
  exact ⟨dd, hs⟩

namespace Ex

def c1 : Call := .dput Ts.oldest "a" (.arr [.num 1, .obj [("x", .num 5)]])
def c2 : Call := .dput Ts.oldest "k" (.str "v")

/-- collection "col", client "c1" registered -/
def st0 : Store := (({} : Store).makeCollection "col").1
def st1 : Store := (st0.processClient false "col" ⟨"c1", "alice", 0, 0, 0⟩).1
/-- the client creates the document "k" = `{"a": [1, {"x": 5}]}` and pushes its create pack (snapshot operation + put) -/
def w0 : WDt := ⟨((Replica.new .document "c1" true).call c1).1, "k", "duid1", .dueToCreate⟩
def st2 : Store := (st1.processPushPull "col" "c1" [w0.createPack]).1
def resp1 : Pack := match (st1.processPushPull "col" "c1" [w0.createPack]).2.1 with | .ok (p :: _) => p | _ => default
/-- … applies the answer, puts "k": "v", and pushes again -/
def w1 : WDt := (w0.applyPack resp1).1
def w2 : WDt := { w1 with rep := (w1.rep.call c2).1 }
def st3 : Store := (st2.processPushPull "col" "c1" [w2.createPack]).1

def col : CollectionDoc := ⟨"col", 1⟩
def d : DatatypeDoc := (st3.getDatatypeByKey 1 "k").getD default
abbrev r0 : Replica := ((st3.latest d).getD default).1
def rc : Replica := (((Replica.new .document "c1" true).call c1).1.call c2).1

/-- the target (keys not sorted): "k" changes, the object inside the array changes, the array grows -/
def tgt : List (String × JVal) := [("k", .str "w"), ("a", .arr [.num 1, .obj [("x", .num 6)], .num 3])]

theorem pair_of_isSome {α β : Type} [Inhabited α] [Inhabited β] {o : Option (α × β)} {n : β} (h1 : o.isSome = true)
    (h2 : (o.getD default).2 = n) : o = some ((o.getD default).1, n) := by
  cases o with
  | none => cases h1
  | some x => cases x; simp only [Option.getD_some] at h2 ⊢; rw [h2]

def docOf? : DState → Option Doc
  | .doc d => some d
  | _ => none

theorem docOf?_some {s : DState} {d : Doc} (h : docOf? s = some d) : s = .doc d := by
  cases s <;> simp [docOf?] at h
  rw [h]

/-- what is read off `st3` and `d` below, evaluated by the kernel -/
theorem st3_facts :
    st3.getCollection "col" = some col ∧ (st3.getDatatypeByKey col.num "k").isSome = true ∧ d.typ = .document ∧
    st3.operations.map (fun o => (o.sseq, o.op.id.cuid, o.op.id.seq)) = [(1, "c1", 1), (2, "c1", 2), (3, "c1", 3)] ∧
    3 = d.sseqEnd ∧ (d.sub patchApiCuid false).isNone = true ∧ (st3.getDatatypeByKey col.num "new").isNone = true := by
  decide +kernel

/-- … and off the rebuilt latest state `r0` -/
theorem r0_facts :
    (st3.latest d).isSome = true ∧ ((st3.latest d).getD default).2 = 3 ∧ docOf? r0.state = docOf? rc.state ∧
    r0.opId.era = rc.opId.era ∧ rc.opId.lamport ≤ r0.opId.lamport := by
  decide +kernel

theorem hc : st3.getCollection "col" = some col := st3_facts.1
theorem hd : st3.getDatatypeByKey col.num "k" = some d := ListAux.some_getD st3_facts.2.1
theorem ht : d.typ = .document := st3_facts.2.2.1
theorem three_ops : st3.operations.map (fun o => (o.sseq, o.op.id.cuid, o.op.id.seq)) = [(1, "c1", 1), (2, "c1", 2), (3, "c1", 3)] :=
  st3_facts.2.2.2.1
theorem hl : st3.latest d = some (r0, 3) := pair_of_isSome r0_facts.1 r0_facts.2.1
theorem life_rc : DR.Life "c1" true rc :=
  .step (.step .new (.call _ c1 (by simp [c1, DP.CallKeysND, DC.JKeysND, DC.JKeysNDList, DC.JKeysNDKvs])))
    (.call _ c2 (by simp [c2, DP.CallKeysND, DC.JKeysND]))

theorem r0_state : r0.state = rc.state := by
  obtain ⟨dd, hs, _, _⟩ := DR.docInv_life "c1" true rc life_rc
  have h := r0_facts.2.2.1
  rw [hs] at h ⊢
  exact docOf?_some h

theorem hinv : DP.DocInv { r0 with opId := { r0.opId with cuid := "tmp" }, cp := ⟨3, 0⟩ } :=
  docInv_tmp r0 rc "tmp" 3 r0_state r0_facts.2.2.2.1 r0_facts.2.2.2.2
    (DR.docInv_life "c1" true rc life_rc)

theorem hlog : LogInv st3 :=
  logInv_processPushPull _ _ _ _ (logInv_processPushPull _ _ _ _
    (logInv_processClient _ _ _ _ (logInv_makeCollection _ _ logInv_empty)))

theorem hend : 3 = d.sseqEnd := st3_facts.2.2.2.2.1
theorem hadmin : d.sub patchApiCuid false = none := Option.isNone_iff_eq_none.1 st3_facts.2.2.2.2.2.1
theorem hhist : ∀ d0, r0.state = .doc d0 → DLR.HistOK d0 := by
  intro d0 h
  exact DLR.histOK_life "c1" true rc life_rc d0 (r0_state.symm.trans h)

theorem tgt_nonull : (JVal.obj tgt).hasNull = false := by decide +kernel
theorem tgt_keys : DC.JKeysND (.obj tgt) := by simp [tgt, DC.JKeysND, DC.JKeysNDKvs, DC.JKeysNDList]
/-- the target with its keys sorted: what the answer is canonically equal to -/
theorem tgt_canon : (JVal.obj tgt).canon = .obj [("a", .arr [.num 1, .obj [("x", .num 6)], .num 3]), ("k", .str "w")] := by
  decide +kernel

/-- `patchDocument_answers_target` instantiated: the answer, shown -/
example : ∃ v, (st3.patchDocument "col" "k" (.obj tgt) "dX" "tmp").2.1 = .ok v ∧
    v.canon = .obj [("a", .arr [.num 1, .obj [("x", .num 6)], .num 3]), ("k", .str "w")] :=
  tgt_canon ▸ patchDocument_answers_target st3 "col" "k" "dX" "tmp" col d r0 3 hc hd ht hl hinv tgt tgt_nonull tgt_keys

/-- `patchDocument_stores_target` instantiated: all hypotheses discharged -/
example : ∃ d' r' ver', (st3.patchDocument "col" "k" (.obj tgt) "dX" "tmp").1.getDatatypeByKey col.num "k" = some d' ∧
    (st3.patchDocument "col" "k" (.obj tgt) "dX" "tmp").1.latest d' = some (r', ver') ∧
    (∃ dd, r'.state = .doc dd ∧ dd.view.canon = (JVal.obj tgt).canon) :=
  patchDocument_stores_target st3 "col" "k" "dX" "tmp" col d r0 3 hc hd ht hl hinv hlog hend (by decide) hadmin hhist
    tgt tgt_nonull tgt_keys
/-- `patchDocument_creates_target` instantiated: a key that does not exist yet -/
example : ∃ v, (st3.patchDocument "col" "new" (.obj tgt) "dX" "tmp").2.1 = .ok v ∧ v.canon = (JVal.obj tgt).canon :=
  patchDocument_creates_target st3 "col" "new" "dX" "tmp" col hc (Option.isNone_iff_eq_none.1 st3_facts.2.2.2.2.2.2)
    tgt tgt_nonull tgt_keys

/-- `patchDocument_same_is_silent` instantiated: patching to the current value -/
example : ∃ dd, r0.state = .doc dd ∧ (st3.patchDocument "col" "k" dd.view "dX" "tmp").1 = st3 := by
  obtain ⟨dd, hs⟩ := docInv_tmp_state (r0 := r0) (tmpCuid := "tmp") (ver := 3) hinv
  exact ⟨dd, hs, (patchDocument_same_is_silent st3 "col" "k" "dX" "tmp" col d r0 3 dd hc hd ht hl hs hinv).1⟩

/-! ### why `hpos` is there: a datatype whose log is EMPTY (created by a create pack without operations — no real client sends
    one).  The endpoint takes version 0 for "to be created", its pack carries the create bit, the server refuses it
    (duplicate key, 302): the endpoint answers OK with the target, and NOTHING is stored. -/

def stE : Store := (st1.processPushPull "col" "c1"
  [{ key := "e", duid := "duidE", create := true, cp := ⟨0, 0⟩, typ := .document, ops := [] }]).1

theorem emptyLog_exists : (stE.getDatatypeByKey 1 "e").map (fun x => (x.duid, x.sseqEnd)) = some ("duidE", 0) := by
  decide +kernel

theorem emptyLog_not_stored :
    (stE.patchDocument "col" "e" (.obj tgt) "dX" "tmp").2.1 =
      .ok (.obj [("a", .arr [.num 1, .obj [("x", .num 6)], .num 3]), ("k", .str "w")]) ∧
    (stE.patchDocument "col" "e" (.obj tgt) "dX" "tmp").1.operations.length = 0 ∧
    (stE.patchDocument "col" "e" (.obj tgt) "dX" "tmp").1.datatypes.map (fun x => (x.duid, x.sseqEnd)) = [("duidE", 0)] := by
  decide +kernel

end Ex

end Orda.RestP
