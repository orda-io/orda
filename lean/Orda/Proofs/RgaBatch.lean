/-
Order convergence for the insert loop with batches of ARBITRARY identifiers (`DA.AIns`: an anchor and the new
identifiers; `DA.ACausal`: non-empty duplicate-free batches of one `Ts.key` each, pairwise different keys, anchors
inserted earlier by an older batch): `foldIds_converge`.  The flat list (`rga_converge`, Proofs/Rga.lean, batches
`delimSeq ts n`) and the document's arrays (`DA.arr_order_converge`, Proofs/DocArr.lean, the creation identifiers of
the children) are its two instances.
The ghost forest of Proofs/RgaOrder.lean is kept BESIDE the identifiers, not over them: element `i` of a batch `o` is
paired with a tree node whose key is `o.ts0` with delimiter `i` (`ghost`), so the ghost keys of a batch ascend in
`Ts.linearOrder` whatever the delimiters of the identifiers are.  The model's loop runs on the pairs and reads the
identifier, the invariant `TInv` is about the nodes; the tree position of an identifier is fixed by the SET of
batches (`GPath.unique`), and a sorted duplicate-free list is determined by its elements.
-/
import Orda.Proofs.RgaOrder
import Orda.Proofs.RgaLoop
import Mathlib.Data.List.Induction
namespace Orda
namespace DA
open PathOrder

/-- the step of the generic loop on order identifiers -/
def stepIds (l : List Ts) (a : Ts) (cs : List Ts) : List Ts := (insertAfterId id a cs l).getD l

/-- a remote insert into one array, as the order sees it: the anchor and the new order identifiers -/
structure AIns where
  anchor : Ts
  cs : List Ts
deriving DecidableEq

def foldIds (l : List Ts) (M : List AIns) : List Ts := M.foldl (fun l o => stepIds l o.anchor o.cs) l

theorem foldIds_append (l : List Ts) (M N : List AIns) : foldIds l (M ++ N) = foldIds (foldIds l M) N := by
  simp [foldIds, List.foldl_append]

theorem foldIds_snoc (l : List Ts) (M : List AIns) (o : AIns) :
    foldIds l (M ++ [o]) = stepIds (foldIds l M) o.anchor o.cs := by
  rw [foldIds_append]; rfl

/-- the timestamp of a batch: that of its first identifier, delimiter 0 -/
def AIns.ts0 (o : AIns) : Ts :=
  ⟨(o.cs.headD Ts.oldest).era, (o.cs.headD Ts.oldest).lamport, (o.cs.headD Ts.oldest).cuid, 0⟩

/-- the permutation-invariant part of `ACausal` -/
structure MWF (M : List AIns) : Prop where
  nonempty : ∀ o ∈ M, o.cs ≠ []
  samekey : ∀ o ∈ M, ∀ x ∈ o.cs, x.key = o.ts0.key
  nodup : ∀ o ∈ M, o.cs.Nodup
  notHead : ∀ o ∈ M, o.ts0.key ≠ Ts.oldest.key
  uniq : ∀ a ∈ M, ∀ b ∈ M, a.ts0.key = b.ts0.key → a = b

/-- causal histories of inserts into ONE array — the notion of `InsCausal`, with the batch identifiers
    `cs` (the creation identifiers of the inserted children: same era / lamport / client, increasing
    delimiters, not necessarily consecutive when values are nested) in place of `delimSeq ts n`:
    non-empty duplicate-free batches of one `Ts.key`, none the head's, pairwise different keys, each
    anchor is the head or an identifier inserted EARLIER by an operation with an older timestamp -/
structure ACausal (M : List AIns) : Prop where
  nonempty : ∀ o ∈ M, o.cs ≠ []
  samekey : ∀ o ∈ M, ∀ x ∈ o.cs, x.key = o.ts0.key
  nodup : ∀ o ∈ M, o.cs.Nodup
  notHead : ∀ o ∈ M, o.ts0.key ≠ Ts.oldest.key
  distinct : M.Pairwise (fun a b => a.ts0.key ≠ b.ts0.key)
  anchored : ∀ i (hi : i < M.length), (M[i]).anchor = Ts.oldest ∨
      ∃ j, ∃ hj : j < i, (M[i]).anchor ∈ (M[j]'(by omega)).cs ∧
        (M[j]'(by omega)).ts0.cmp (M[i]).ts0 = .lt

theorem ACausal.wf {M : List AIns} (h : ACausal M) : MWF M where
  nonempty := h.nonempty
  samekey := h.samekey
  nodup := h.nodup
  notHead := h.notHead
  uniq := by
    intro a ha b hb hk
    rcases pairwise_mem_cases h.distinct ha hb with e | e | e
    · exact e
    · exact absurd hk e
    · exact absurd hk.symm e

theorem ACausal.anch {M : List AIns} (h : ACausal M) :
    Anch (fun o => o.anchor = Ts.oldest) (fun m o => o.anchor ∈ m.cs ∧ m.ts0.cmp o.ts0 = .lt) M := h.anchored

theorem ACausal.prefix {M N : List AIns} (h : ACausal (M ++ N)) : ACausal M where
  nonempty := fun o ho => h.nonempty o (List.mem_append_left _ ho)
  samekey := fun o ho => h.samekey o (List.mem_append_left _ ho)
  nodup := fun o ho => h.nodup o (List.mem_append_left _ ho)
  notHead := fun o ho => h.notHead o (List.mem_append_left _ ho)
  distinct := (List.pairwise_append.mp h.distinct).1
  anchored := h.anch.prefix

theorem ACausal.last {M : List AIns} {o : AIns} (h : ACausal (M ++ [o])) :
    (∀ m ∈ M, m.ts0.key ≠ o.ts0.key) ∧
      (o.anchor = Ts.oldest ∨ ∃ m ∈ M, o.anchor ∈ m.cs ∧ m.ts0.cmp o.ts0 = .lt) :=
  ⟨fun m hm => (List.pairwise_append.mp h.distinct).2.2 m hm o List.mem_cons_self, h.anch.last⟩

theorem ACausal.nil : ACausal [] :=
  ⟨fun _ h => (nomatch h), fun _ h => (nomatch h), fun _ h => (nomatch h), fun _ h => (nomatch h), List.Pairwise.nil,
    fun _ hi => (nomatch hi)⟩

theorem ACausal.snoc {M : List AIns} {o : AIns} (hM : ACausal M) (ne : o.cs ≠ [])
    (sk : ∀ x ∈ o.cs, x.key = o.ts0.key) (nd : o.cs.Nodup) (nh : o.ts0.key ≠ Ts.oldest.key)
    (hd : ∀ m ∈ M, m.ts0.key ≠ o.ts0.key)
    (ha : o.anchor = Ts.oldest ∨ ∃ m ∈ M, o.anchor ∈ m.cs ∧ m.ts0.cmp o.ts0 = .lt) : ACausal (M ++ [o]) where
  nonempty := forall_mem_snoc hM.nonempty ne
  samekey := forall_mem_snoc hM.samekey sk
  nodup := forall_mem_snoc hM.nodup nd
  notHead := forall_mem_snoc hM.notHead nh
  distinct := List.pairwise_append.2
    ⟨hM.distinct, List.pairwise_singleton _ _, fun m hm _ ho' => List.mem_singleton.1 ho' ▸ hd m hm⟩
  anchored := hM.anch.snoc ha

/-! ## the ghost nodes of a batch -/

/-- element `i` of the batch, paired with the node `⟨q ++ [t, t+1, …, t+(i-1)], t+i⟩`, `t = o.ts0` -/
def ghost (q : List Ts) (o : AIns) : List (Ts × Nd Ts) :=
  o.cs.zip (chainNodes q (delimSeq o.ts0 o.cs.length))

theorem chainNodes_length (ap ts : List Ts) : (chainNodes ap ts).length = ts.length := by
  simpa using congrArg List.length (chainNodes_keys ap ts)

theorem ghost_fst (q : List Ts) (o : AIns) : (ghost q o).map (·.1) = o.cs :=
  List.map_fst_zip (Nat.le_of_eq (by rw [chainNodes_length, delimSeq_length]))

theorem ghost_snd (q : List Ts) (o : AIns) :
    (ghost q o).map (·.2) = chainNodes q (delimSeq o.ts0 o.cs.length) :=
  List.map_snd_zip (Nat.le_of_eq (by rw [chainNodes_length, delimSeq_length]))

theorem mem_ghost {q : List Ts} {o : AIns} {g : Ts × Nd Ts} (h : g ∈ ghost q o) :
    g.1 ∈ o.cs ∧ g.2.key.key = o.ts0.key := by
  obtain ⟨h1, h2⟩ := List.of_mem_zip (a := g.1) (b := g.2) h
  refine ⟨h1, delimSeq_key (n := o.cs.length) ?_⟩
  rw [← chainNodes_keys q (delimSeq o.ts0 o.cs.length)]
  exact List.mem_map_of_mem h2

theorem ghost_fun {q : List Ts} {o : AIns} (hnd : o.cs.Nodup) {g g' : Ts × Nd Ts} (h : g ∈ ghost q o)
    (h' : g' ∈ ghost q o) (e : g.1 = g'.1) : g = g' := by
  obtain ⟨x, n⟩ := g
  obtain ⟨x', n'⟩ := g'
  cases e
  rw [zip_fst_inj hnd h h']

/-! ## the tree position of an identifier, determined by the SET of batches -/

inductive GPath (M : List AIns) : Ts → List Ts → Prop
  | root (o : AIns) (ho : o ∈ M) (ha : o.anchor = Ts.oldest) (g : Ts × Nd Ts) (hg : g ∈ ghost [] o) :
      GPath M g.1 g.2.path
  | child (o : AIns) (ho : o ∈ M) (q : List Ts) (hq : GPath M o.anchor q) (g : Ts × Nd Ts)
      (hg : g ∈ ghost q o) : GPath M g.1 g.2.path

theorem GPath.mono {M M' : List AIns} (h : ∀ o ∈ M, o ∈ M') {x : Ts} {p : List Ts} (hp : GPath M x p) :
    GPath M' x p := by
  induction hp with
  | root o ho ha g hg => exact .root o (h o ho) ha g hg
  | child o ho q _ g hg ih => exact .child o (h o ho) q ih g hg

theorem GPath.inv {M : List AIns} {x : Ts} {p : List Ts} (hp : GPath M x p) :
    ∃ o ∈ M, ∃ q, ((o.anchor = Ts.oldest ∧ q = []) ∨ GPath M o.anchor q) ∧
      ∃ g ∈ ghost q o, x = g.1 ∧ p = g.2.path := by
  cases hp with
  | root o ho ha g hg => exact ⟨o, ho, [], Or.inl ⟨ha, rfl⟩, g, hg, rfl, rfl⟩
  | child o ho q hq g hg => exact ⟨o, ho, q, Or.inr hq, g, hg, rfl, rfl⟩

theorem GPath.key_eq {M : List AIns} (wf : MWF M) {x : Ts} {n : Nd Ts} (hp : GPath M x n.path) :
    n.key.key = x.key := by
  obtain ⟨o, ho, q, _, g, hg, rfl, e⟩ := hp.inv
  rw [key_of_path (x := n) (p := g.2.pre) (k := g.2.key) e, (mem_ghost hg).2, wf.samekey o ho _ (mem_ghost hg).1]

theorem GPath.not_oldest {M : List AIns} (wf : MWF M) {p : List Ts} (hp : GPath M Ts.oldest p) : False := by
  obtain ⟨o, ho, q, _, g, hg, e, _⟩ := hp.inv
  exact wf.notHead o ho ((wf.samekey o ho _ (mem_ghost hg).1).symm.trans (e ▸ rfl))

theorem MWF.same {M : List AIns} (wf : MWF M) {a b : AIns} (ha : a ∈ M) (hb : b ∈ M) {x : Ts}
    (hxa : x ∈ a.cs) (hxb : x ∈ b.cs) : a = b :=
  wf.uniq a ha b hb ((wf.samekey a ha x hxa).symm.trans (wf.samekey b hb x hxb))

theorem GPath.unique {M : List AIns} (wf : MWF M) {x : Ts} {p : List Ts} (hp : GPath M x p) :
    ∀ q, GPath M x q → p = q := by
  induction hp with
  | root o ho ha g hg =>
    intro q hq
    obtain ⟨o', ho', q', hq', g', hg', e, rfl⟩ := hq.inv
    cases wf.same ho ho' (mem_ghost hg).1 (e ▸ (mem_ghost hg').1)
    rcases hq' with ⟨_, rfl⟩ | hq'
    · rw [ghost_fun (wf.nodup o ho) hg hg' e]
    · rw [ha] at hq'; exact (hq'.not_oldest wf).elim
  | child o ho q0 hq0 g hg ih =>
    intro q hq
    obtain ⟨o', ho', q', hq', g', hg', e, rfl⟩ := hq.inv
    cases wf.same ho ho' (mem_ghost hg).1 (e ▸ (mem_ghost hg').1)
    rcases hq' with ⟨ha, _⟩ | hq'
    · rw [ha] at hq0; exact (hq0.not_oldest wf).elim
    · cases ih q' hq'
      rw [ghost_fun (wf.nodup o ho) hg hg' e]

/-! ## the invariant and its preservation -/

def GInv (M : List AIns) (ids : List Ts) : Prop :=
  ∃ G : List (Ts × Nd Ts), G.map (·.1) = ids ∧ TInv (G.map (·.2)) ∧ (∀ g ∈ G, GPath M g.1 g.2.path) ∧
    (∀ x, x ∈ ids ↔ ∃ o ∈ M, x ∈ o.cs) ∧ ids.Nodup

/-- the model's batch loop on the pairs: the first pair skips the newer ones, the others follow it directly -/
theorem skipInsMany_ghost (ap : List Ts) (o : AIns) (hne : o.cs ≠ []) (hsame : ∀ x ∈ o.cs, x.key = o.ts0.key)
    (post : List (Ts × Nd Ts)) (hk : ∀ g ∈ post, g.2.key.key = g.1.key)
    (hfresh : ∀ g ∈ post, g.1.key ≠ o.ts0.key) :
    ∃ sk rest, post = sk ++ rest ∧ (∀ g ∈ sk, o.ts0 < g.2.key) ∧
      (∀ g, rest.head? = some g → g.2.key < o.ts0) ∧
      skipInsMany (·.1) (ghost ap o) post = sk ++ (ghost ap o ++ rest) := by
  obtain ⟨c, cs, hcs⟩ := List.exists_cons_of_ne_nil hne
  have hgh : ghost ap o = (c, ⟨ap, o.ts0⟩) ::
      cs.zip (chainNodes (ap ++ [o.ts0]) (delimSeq o.ts0.nextDelim cs.length)) := by
    simp only [ghost, hcs, List.length_cons, delimSeq, chainNodes, List.zip_cons_cons]
  have hck : c.key = o.ts0.key := hsame c (hcs ▸ List.mem_cons_self)
  obtain ⟨sk, rest, rfl, hsk, hrest, hres⟩ :=
    skipIns1_split (fun g : Ts × Nd Ts => g.1) (c, ⟨ap, o.ts0⟩) post
  have hcmp : ∀ g ∈ sk ++ rest, g.2.key.cmp o.ts0 = g.1.cmp c := fun g hg =>
    cmp_congr_key _ _ _ _ (hk g hg) hck.symm
  refine ⟨sk, rest, rfl, fun g hg => ts_lt_of_cmp_gt ?_, fun g hg => ts_lt_of_not_gt ?_ ?_, ?_⟩
  · rw [hcmp g (List.mem_append_left _ hg)]; exact hsk g hg
  · have hm := List.mem_append_right sk (List.mem_of_mem_head? hg)
    rw [hk g hm]; exact hfresh g hm
  · rw [hcmp g (List.mem_append_right _ (List.mem_of_mem_head? hg))]; exact hrest g hg
  · rw [hgh, skipInsMany, hres, skipInsMany_of_not_gt _ _ rest fun m hm y hy => by
      rw [cmp_congr_key y.1 y.1 m.1 c rfl
        ((hsame m.1 (hcs ▸ List.mem_cons_of_mem _ (List.of_mem_zip hm).1)).trans hck.symm)]
      exact hrest y hy]
    rfl

theorem ginv_step (M : List AIns) (o : AIns) (hc : ACausal (M ++ [o])) (ids : List Ts) (h : GInv M ids) :
    GInv (M ++ [o]) (stepIds ids o.anchor o.cs) := by
  obtain ⟨G, rfl, hT, hP, hmem, hnd⟩ := h
  have wf := hc.wf
  have wfM := hc.prefix.wf
  obtain ⟨hfk, hanch⟩ := ACausal.last hc
  have ho : o ∈ M ++ [o] := List.mem_append_right _ (List.mem_singleton_self o)
  have hsub : ∀ p ∈ M, p ∈ M ++ [o] := fun p => List.mem_append_left _
  have hsame := wf.samekey o ho
  have hne := wf.nonempty o ho
  have hgk : ∀ g ∈ G, g.2.key.key = g.1.key := fun g hg => (hP g hg).key_eq wfM
  have hfresh : ∀ g ∈ G, g.1.key ≠ o.ts0.key := fun g hg => by
    obtain ⟨p, hp, hxp⟩ := (hmem g.1).mp (List.mem_map_of_mem hg)
    rw [wfM.samekey p hp _ hxp]; exact hfk p hp
  have hfresh' : ∀ n ∈ G.map (·.2), n.key.key ≠ o.ts0.key := fun n hn => by
    obtain ⟨g, hg, rfl⟩ := List.mem_map.mp hn
    rw [hgk g hg]; exact hfresh g hg
  obtain ⟨k, hk⟩ := Nat.exists_eq_succ_of_ne_zero (mt List.length_eq_zero_iff.mp hne)
  have hch : ∀ ap, chainNodes ap (delimSeq o.ts0 o.cs.length) =
      ⟨ap, o.ts0⟩ :: chainNodes (ap ++ [o.ts0]) (delimSeq o.ts0.nextDelim k) := fun ap => by rw [hk]; rfl
  -- the batch goes in behind `L`; with its first node alone the forest invariant holds
  obtain ⟨ap, L, rest, hins, hT1, hrest, rfl, hp0⟩ : ∃ ap L rest,
      insertAfterId (·.1) o.anchor (ghost ap o) G = some (L ++ (ghost ap o ++ rest)) ∧
      TInv (L.map (·.2) ++ ⟨ap, o.ts0⟩ :: rest.map (·.2)) ∧
      (∀ y, (rest.map (·.2)).head? = some y → y.key < o.ts0) ∧ L ++ rest = G ∧
      ∀ g ∈ ghost ap o, GPath (M ++ [o]) g.1 g.2.path := by
    rcases hanch with ha | ⟨p, hp, hap, hlt⟩
    · obtain ⟨sk, rest, rfl, hsk, hrest, hres⟩ := skipInsMany_ghost [] o hne hsame G hgk hfresh
      have hrest' : ∀ y, (rest.map (·.2)).head? = some y → y.key < o.ts0 := fun y hy => by
        obtain ⟨g, hg, rfl⟩ := head?_map_snd hy; exact hrest g hg
      rw [List.map_append] at hT hfresh'
      exact ⟨[], sk, rest, by rw [ha, insertAfterId_oldest, hres],
        insHead_inv hT o.ts0 (fun n hn e => hfresh' n hn (e ▸ rfl))
          (fun n hn => by obtain ⟨g, hg, rfl⟩ := List.mem_map.mp hn; exact hsk g hg) hrest',
        hrest', rfl, fun g hg => .root o ho ha g hg⟩
    · have hak : o.anchor.key = p.ts0.key := wfM.samekey p hp _ hap
      have hane : o.anchor ≠ Ts.oldest := fun e => wfM.notHead p hp (by rw [← hak, e])
      rcases insertAfterId_go_spec (fun g : Ts × Nd Ts => g.1) o.anchor G with
        ⟨h1, _⟩ | ⟨pre, a, post, rfl, hakey, _, hgo⟩
      · obtain ⟨a, haG, hakey⟩ := List.mem_map.mp ((hmem _).mpr ⟨p, hp, hap⟩)
        exact absurd hakey (h1 a haG)
      · have haG : a ∈ pre ++ a :: post := List.mem_append_right _ List.mem_cons_self
        have hpost : ∀ g ∈ post, g ∈ pre ++ a :: post := fun g hg =>
          List.mem_append_right _ (List.mem_cons_of_mem _ hg)
        obtain ⟨sk, rest, rfl, hsk, hrest, hres⟩ := skipInsMany_ghost a.2.path o hne hsame post
          (fun g hg => hgk g (hpost g hg)) fun g hg => hfresh g (hpost g hg)
        have hrest' : ∀ y, (rest.map (·.2)).head? = some y → y.key < o.ts0 := fun y hy => by
          obtain ⟨g, hg, rfl⟩ := head?_map_snd hy; exact hrest g hg
        have hle : a.2.key ≤ o.ts0 := le_of_lt (ts_lt_of_cmp_lt (by
          rw [cmp_congr_key a.2.key p.ts0 o.ts0 o.ts0 ((hgk a haG).trans (hakey ▸ hak)) rfl]; exact hlt))
        rw [List.map_append, List.map_cons, List.map_append] at hT hfresh'
        refine ⟨a.2.path, pre ++ a :: sk, rest, ?_, ?_, hrest', List.append_assoc _ _ _,
          fun g hg => .child o ho a.2.path ((hakey ▸ hP a haG).mono hsub) g hg⟩
        · rw [insertAfterId_ne _ _ hane, hgo, hres, List.append_assoc]; rfl
        · rw [List.map_append, List.map_cons, List.append_assoc]
          exact insAfter_inv hT o.ts0 hle (fun n hn e => hfresh' n hn (e ▸ rfl))
            (fun n hn => by obtain ⟨g, hg, rfl⟩ := List.mem_map.mp hn; exact hsk g hg) hrest'
  rw [List.map_append] at hfresh'
  have hT' := chain_inv (delimSeq o.ts0.nextDelim k) (L.map (·.2)) ⟨ap, o.ts0⟩ (rest.map (·.2)) hT1 hrest
    (delimSeq_sorted (k + 1) o.ts0) fun x hx t ht e =>
      hfresh' x hx (e ▸ delimSeq_key (ts := o.ts0.nextDelim) ht)
  have hmap := insertAfterId_map (fun g : Ts × Nd Ts => g.1) id (fun g : Ts × Nd Ts => g.1) (fun _ => rfl)
    o.anchor (ghost ap o) (L ++ rest)
  rw [hins, ghost_fst, Option.map_some] at hmap
  have hperm := insertAfterId_perm id o.anchor _ _ _ hmap.symm
  unfold stepIds
  rw [← hmap, Option.getD_some]
  refine ⟨_, rfl, ?_, fun g hg => ?_, fun x => ?_, ?_⟩
  · rw [List.map_append, List.map_append, ghost_snd, hch ap]
    exact hT'
  · rcases List.mem_append.mp hg with hg | hg
    · exact (hP g (List.mem_append_left _ hg)).mono hsub
    · rcases List.mem_append.mp hg with hg | hg
      · exact hp0 g hg
      · exact (hP g (List.mem_append_right _ hg)).mono hsub
  · rw [hperm.mem_iff, List.mem_append, hmem x]
    constructor
    · rintro (h | ⟨p, hp, hx⟩)
      · exact ⟨o, ho, h⟩
      · exact ⟨p, hsub p hp, hx⟩
    · rintro ⟨p, hp, hx⟩
      rcases List.mem_append.mp hp with hp | hp
      · exact Or.inr ⟨p, hp, hx⟩
      · cases List.mem_singleton.mp hp
        exact Or.inl hx
  · rw [hperm.nodup_iff]
    refine List.nodup_append.mpr ⟨wf.nodup o ho, hnd, fun a ha b hb e => ?_⟩
    obtain ⟨g, hg, rfl⟩ := List.mem_map.mp hb
    exact hfresh g hg (e ▸ hsame a ha)

theorem ginv_all : ∀ M : List AIns, ACausal M → GInv M (foldIds [] M) := by
  intro M
  induction M using List.reverseRecOn with
  | nil => exact fun _ => ⟨[], rfl, TInv.nil, fun _ h => (nomatch h), by simp [foldIds], List.nodup_nil⟩
  | append_singleton M o ih => exact fun hc => foldIds_snoc [] M o ▸ ginv_step M o hc _ (ih hc.prefix)

/-! ## convergence -/

/-- the order in which identifiers must appear, a function of the set of batches only -/
def GOrd (M : List AIns) (x y : Ts) : Prop := ∃ p q, GPath M x p ∧ GPath M y q ∧ plt p q

theorem GOrd.asymm {M : List AIns} (wf : MWF M) {x y : Ts} (h1 : GOrd M x y) (h2 : GOrd M y x) : False := by
  obtain ⟨p, q, hp, hq, hpq⟩ := h1
  obtain ⟨q', p', hq', hp', hqp⟩ := h2
  rw [← hp.unique wf p' hp', ← hq.unique wf q' hq'] at hqp
  exact plt_asymm hpq hqp

theorem GInv.sorted {M : List AIns} {ids : List Ts} (h : GInv M ids) : ids.Pairwise (GOrd M) := by
  obtain ⟨G, rfl, hT, hP, _, _⟩ := h
  rw [List.pairwise_map]
  exact (List.pairwise_map.mp hT.sorted).imp_of_mem
    fun {a b} ha hb hab => ⟨a.2.path, b.2.path, hP a ha, hP b hb, hab⟩

theorem GInv.mem_iff {M : List AIns} {ids : List Ts} (h : GInv M ids) (x : Ts) : x ∈ ids ↔ ∃ o ∈ M, x ∈ o.cs := by
  obtain ⟨_, _, _, _, m, _⟩ := h
  exact m x

theorem GInv.nodup {M : List AIns} {ids : List Ts} (h : GInv M ids) : ids.Nodup := by
  obtain ⟨_, _, _, _, _, n⟩ := h
  exact n

theorem foldIds_converge (M M' : List AIns) (hp : M.Perm M') (hc : ACausal M) (hc' : ACausal M') :
    foldIds [] M = foldIds [] M' := by
  have h1 := ginv_all M hc
  have h2 := ginv_all M' hc'
  have s2 : (foldIds [] M').Pairwise (GOrd M) := h2.sorted.imp fun {a b} ⟨p, q, hp1, hq1, hpq⟩ =>
    ⟨p, q, hp1.mono (fun o ho => hp.mem_iff.mpr ho), hq1.mono (fun o ho => hp.mem_iff.mpr ho), hpq⟩
  refine List.Perm.eq_of_pairwise (fun a b _ _ hab hba => (GOrd.asymm hc.wf hab hba).elim) h1.sorted s2
    ((List.perm_ext_iff_of_nodup h1.nodup h2.nodup).mpr fun x => ?_)
  rw [h1.mem_iff x, h2.mem_iff x]
  exact ⟨fun ⟨o, ho, hx⟩ => ⟨o, hp.mem_iff.mp ho, hx⟩, fun ⟨o, ho, hx⟩ => ⟨o, hp.mem_iff.mpr ho, hx⟩⟩

theorem ACausal.ids_nodup {M : List AIns} (hc : ACausal M) : (foldIds [] M).Nodup := (ginv_all M hc).nodup

theorem foldIds_mem_iff (M : List AIns) (hc : ACausal M) (x : Ts) : x ∈ foldIds [] M ↔ ∃ o ∈ M, x ∈ o.cs :=
  (ginv_all M hc).mem_iff x

end DA
end Orda
