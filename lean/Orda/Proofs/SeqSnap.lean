/-
C15 (operation numbering, Lamport clock) and C10 (a replica restored from a snapshot is
indistinguishable from the original under every continuation).
-/
import Orda.Proofs.Replay
namespace Orda

/-- C15: a client's queued operations are numbered base+1, base+2, … without gaps, all carry its
    client id, and the next id continues the numbering -/
def Replica.SeqInv (base : Nat) (r : Replica) : Prop :=
  r.buffer.map (·.id.seq) = List.range' (base + 1) r.buffer.length ∧
  r.opId.seq = base + r.buffer.length ∧
  ∀ o ∈ r.buffer, o.id.cuid = r.opId.cuid

theorem seqInv_new (typ : DtType) (cuid : String) (create : Bool) : (Replica.new typ cuid create).SeqInv 0 := by
  cases create <;> simp [Replica.new, Replica.SeqInv, OpId.new, OpId.next]

theorem seqInv_import (src : Replica) : (Replica.importFrom src).SeqInv src.opId.seq := by
  simp [Replica.importFrom, Replica.SeqInv]

theorem seqInv_append {base : Nat} {r r' : Replica} {unit : List Op} (h : r.SeqInv base)
    (hb : r'.buffer = r.buffer ++ unit)
    (hs : unit.map (·.id.seq) = List.range' (r.opId.seq + 1) unit.length)
    (hi : r'.opId.seq = r.opId.seq + unit.length) (hc : r'.opId.cuid = r.opId.cuid)
    (hu : ∀ o ∈ unit, o.id.cuid = r.opId.cuid) : r'.SeqInv base := by
  obtain ⟨h1, h2, h3⟩ := h
  refine ⟨?_, ?_, ?_⟩
  · rw [hb, List.map_append, List.length_append, h1, hs, h2,
      show base + r.buffer.length + 1 = base + 1 + r.buffer.length by omega, List.range'_append_1]
  · rw [hi, hb, h2, List.length_append]; omega
  · intro o ho
    rw [hb, List.mem_append] at ho
    rw [hc]
    rcases ho with ho | ho
    · exact h3 o ho
    · exact hu o ho

theorem seqInv_call (base : Nat) (r : Replica) (c : Call) (h : r.SeqInv base)
    (hp : (r.call c).2.isPanic = false) : (r.call c).1.SeqInv base := by
  have s := call_case r c
  generalize r.call c = x at s hp ⊢
  cases s with
  | done _ | err _ _ => exact h
  | panic _ _ => cases hp
  | ok _ _ =>
    exact seqInv_append (unit := [Op.wire ⟨r.opId.next, _⟩]) h rfl (by simp [wire_id, OpId.next]) (by simp [Replica.queued, OpId.next])
      rfl (by simp [wire_id, OpId.next])

theorem seqInv_txCalls (base : Nat) (r : Replica) (tag : String) (calls : List Call) (stop fail : Bool)
    (h : r.SeqInv base) (hr : r.RbInv) (hp : (r.txCalls tag calls stop fail).2.2.isPanic = false) :
    (r.txCalls tag calls stop fail).1.SeqInv base := by
  rcases txCalls_shape r hr tag calls stop fail with ⟨w, e, _⟩ | ⟨_, r2, e, g1, _, g3, _⟩ |
    ⟨_, r1, ops, ⟨hf, new, hnew, _, hseq, hid, hcu⟩, e⟩
  · rw [e] at hp; cases hp
  · rw [e]
    exact seqInv_append (unit := []) h (by simp [g3]) rfl (by simp [g1]) (by simp [g1]) (by simp)
  · obtain ⟨_, f2, _⟩ := frame_fields hf
    rw [List.nil_append] at hnew
    subst hnew
    rw [e]
    refine seqInv_append
      (unit := (⟨r.opId.next, .transaction tag (ops.length + 1)⟩ :: ops).map Op.wire) h (by simp [f2]) ?_
      (by simp [hid, OpId.next]; omega) (by simp [hid, OpId.next]) ?_
    · simp only [List.map_map, List.length_map, List.length_cons, List.map_cons, List.range'_succ]
      congr 1
    · intro o ho
      simp only [List.map_cons, List.mem_cons, List.mem_map] at ho
      rcases ho with rfl | ⟨o', ho', rfl⟩
      · rfl
      · exact hcu o' ho'

theorem seqInv_receive (base : Nat) (r : Replica) (ops : List Op) (h : r.SeqInv base) :
    (r.receive ops).1.SeqInv base := by
  obtain ⟨g1, g2, g3, _⟩ := receive_fields r ops
  exact seqInv_append (unit := []) h (by simp [g1]) rfl (by simp [g2]) g3 (by simp)

/-! ### the Lamport clock -/

/-- C15: the clock never goes back … -/
theorem lamport_mono_call (r : Replica) (c : Call) : r.opId.lamport ≤ (r.call c).1.opId.lamport := by
  have s := call_case r c
  generalize r.call c = x at s ⊢
  cases s with
  | done _ | err _ _ => exact Nat.le_refl _
  | ok _ _ | panic _ _ => exact Nat.le_succ _

theorem execRemoteBase_lamport (r : Replica) (o : Op) :
    r.opId.lamport ≤ (r.execRemoteBase o).1.opId.lamport ∧ o.id.lamport ≤ (r.execRemoteBase o).1.opId.lamport := by
  rw [(execRemoteBase_fst r o).1]
  exact ⟨(syncLamport_fields _ _).2.2.2.1, (syncLamport_fields _ _).2.2.2.2⟩

theorem applyUnit_go_lamport_mono (r : Replica) (ops : List Op) :
    r.opId.lamport ≤ (Replica.applyUnit.go r ops).1.opId.lamport :=
  applyUnit_go_preserves (fun r' => r.opId.lamport ≤ r'.opId.lamport)
    (fun r' o h => Nat.le_trans h (execRemoteBase_lamport r' o).1) (fun _ _ h => h) ops r (Nat.le_refl _)

theorem lamport_mono_receive (r : Replica) (ops : List Op) : r.opId.lamport ≤ (r.receive ops).1.opId.lamport :=
  receive_preserves (fun r' => r.opId.lamport ≤ r'.opId.lamport)
    (fun r' o h => Nat.le_trans h (execRemoteBase_lamport r' o).1) (fun _ _ h => h) r ops (Nat.le_refl _)

/-- every operation a call emits is stamped strictly later than the clock before the call -/
theorem call_emits_newer (r : Replica) (c : Call) :
    ∀ o ∈ (r.call c).1.buffer.drop r.buffer.length, r.opId.lamport < o.id.lamport := by
  have s := call_case r c
  generalize r.call c = x at s ⊢
  cases s with
  | ok _ _ => simp [Replica.queued, wire_id, OpId.next]
  | _ => simp

/-! ### the clock dominates what was applied

"After a successful receive the clock is at least the clock of EVERY received operation" is false
(`receive_lamport_ge_counterexample`): the header of a unit of two or more operations is only checked
against the unit's length, never executed (`applyUnit` hands `unit.tail` to `applyUnit.go`), so its
clock is not merged.  It holds of every operation that is executed (`Op.executed`: not a transaction
header announcing more than itself): `receive_lamport_ge_of_executed`. -/

theorem receive_lamport_ge_counterexample :
    ∃ (r : Replica) (ops : List Op), (r.receive ops).2 = .ok () ∧
      ∃ o ∈ ops, ¬ o.id.lamport ≤ (r.receive ops).1.opId.lamport :=
  ⟨Replica.new .counter "a" false,
   [⟨⟨0, 1000, "b", 1⟩, .transaction "t" 2⟩, ⟨⟨0, 1, "b", 2⟩, .increase 1⟩],
   rfl, _, List.mem_cons_self .., by decide⟩

theorem applyUnit_go_lamport_ge (ops : List Op) : ∀ (r : Replica),
    (Replica.applyUnit.go r ops).2 = .ok () →
    ∀ o ∈ ops, o.id.lamport ≤ (Replica.applyUnit.go r ops).1.opId.lamport := by
  induction ops with
  | nil => intro r _ o ho; simp at ho
  | cons x xs ih =>
    intro r h o ho
    have hx := (execRemoteBase_lamport r x).2
    rw [applyUnit_go_cons] at h ⊢
    revert hx h
    rcases r.execRemoteBase x with ⟨r', (_ | w)⟩ <;> intro h hx <;> simp only [] at h hx ⊢
    · rcases List.mem_cons.1 ho with rfl | ho
      · exact Nat.le_trans hx (applyUnit_go_lamport_mono ({ r' with rbOps := r'.rbOps ++ [o] } : Replica) xs)
      · exact ih _ h o ho
    · simp at h

/-- an operation that `receive` executes wherever it stands: not a header announcing more than itself -/
def Op.executed (o : Op) : Prop := ∀ tag n, o.body = .transaction tag n → n = 1

theorem unitLen_of_executed {o : Op} (h : o.executed) : o.unitLen = 1 := by
  unfold Op.unitLen
  split
  · rename_i tag n hb; rw [h tag n hb]; rfl
  · rfl

/-- C15: after a successful receive the clock is at least the clock of every operation that was
    executed — every operation except the headers of units of two or more operations, which are
    only checked, not executed -/
theorem receive_lamport_ge_of_executed (r : Replica) (ops : List Op) (h : (r.receive ops).2 = .ok ()) :
    ∀ o ∈ ops, o.executed → o.id.lamport ≤ (r.receive ops).1.opId.lamport := by
  obtain ⟨run, b, t⟩ := receive_run ops
  rw [t.eq] at h ⊢
  obtain ⟨hgo, hb⟩ := closeOut_ok h
  exact fun o ho hex => applyUnit_go_lamport_ge run r hgo o (t.all hb o ho (unitLen_of_executed hex))

/-- … hence of EVERY received operation as soon as each such header is no newer than some executed
    operation of the batch (true of the units `txCalls` emits: the header carries the smallest clock) -/
theorem receive_lamport_ge_of_headers_dominated (r : Replica) (ops : List Op)
    (h : (r.receive ops).2 = .ok ())
    (hdom : ∀ o ∈ ops, ¬ o.executed → ∃ o' ∈ ops, o'.executed ∧ o.id.lamport ≤ o'.id.lamport) :
    ∀ o ∈ ops, o.id.lamport ≤ (r.receive ops).1.opId.lamport := by
  intro o ho
  by_cases hex : o.executed
  · exact receive_lamport_ge_of_executed r ops h o ho hex
  · obtain ⟨o', ho', hex', hle⟩ := hdom o ho hex
    exact Nat.le_trans hle (receive_lamport_ge_of_executed r ops h o' ho' hex')

/-! ### C10: a restored copy -/

/-- C10: what a replica's reaction to any step depends on -/
def Replica.core (r : Replica) : OpId × DState := (r.opId, r.state)

theorem import_core (src : Replica) : (Replica.importFrom src).core = src.core := rfl

theorem import_rbInv (src : Replica) : (Replica.importFrom src).RbInv :=
  rbInv_of_rb_eq rfl rfl rfl

/-- the steps of C10's continuation histories -/
inductive Step where
  | call (c : Call)
  | tx (tag : String) (calls : List Call) (stop fail : Bool)
  | recv (ops : List Op)

/-- what a step lets the outside observe: results, emitted operations -/
structure StepObs where
  outs : List (Outcome Ret)
  final : Outcome Unit
  emitted : List Op

def Replica.step (r : Replica) : Step → Replica × StepObs
  | .call c => let (r', o) := r.call c
               (r', ⟨[o], .ok (), r'.buffer.drop r.buffer.length⟩)
  | .tx tag calls stop fail =>
      let (r', outs, o) := r.txCalls tag calls stop fail
      (r', ⟨outs, o, r'.buffer.drop r.buffer.length⟩)
  | .recv ops => let (r', o) := r.receive ops
                 (r', ⟨[], o, r'.buffer.drop r.buffer.length⟩)

def StepObs.noPanic (o : StepObs) : Bool := !o.final.isPanic && o.outs.all (fun x => !x.isPanic)

theorem core_eq_iff {r1 r2 : Replica} : r1.core = r2.core ↔ r1.opId = r2.opId ∧ r1.state = r2.state := by
  simp [Replica.core]

theorem eq_frame_of_core {r1 r2 : Replica} (hc : r1.core = r2.core) : r2 = r1.frame r2 := by
  rw [core_eq_iff] at hc
  exact (frame_of_core hc.1 hc.2).symm

theorem call_core (r1 r2 : Replica) (c : Call) (hc : r1.core = r2.core) :
    (r1.call c).2 = (r2.call c).2 ∧ (r1.call c).1.core = (r2.call c).1.core ∧
      (r1.call c).1.buffer.drop r1.buffer.length = (r2.call c).1.buffer.drop r2.buffer.length := by
  obtain ⟨h1, h2⟩ := core_eq_iff.mp hc
  obtain ⟨nr, a⟩ := call_agree r2 r1 c h2 h1
  exact ⟨a.out, core_eq_iff.mpr ⟨a.opId, a.state⟩, by rw [a.buffer_f, a.buffer_r, List.drop_left, List.drop_left]⟩

theorem receive_core (r1 r2 : Replica) (ops : List Op) (hc : r1.core = r2.core) :
    (r1.receive ops).2 = (r2.receive ops).2 ∧ (r1.receive ops).1.core = (r2.receive ops).1.core := by
  refine receive_rel (fun a b => a.core = b.core) (fun a b o h => ?_) (fun _ _ _ h => h) ops r1 r2 hc
  obtain ⟨h1, h2⟩ := core_eq_iff.mp h
  rw [execRemoteBase_eq, execRemoteBase_eq, h1, h2]
  exact ⟨rfl, rfl⟩

theorem txCalls_frame (r f : Replica) (tag : String) (calls : List Call) (stop fail : Bool)
    (h1 : r.RbInv) (h2 : (r.frame f).RbInv) (hp : (r.txCalls tag calls stop fail).2.2.isPanic = false) :
    ((r.frame f).txCalls tag calls stop fail).2 = (r.txCalls tag calls stop fail).2 ∧
      ((r.frame f).txCalls tag calls stop fail).1.core = (r.txCalls tag calls stop fail).1.core ∧
      ((r.frame f).txCalls tag calls stop fail).1.buffer.drop f.buffer.length =
        (r.txCalls tag calls stop fail).1.buffer.drop r.buffer.length := by
  obtain ⟨r1, ops, outs, stopped, pan, hb, hc⟩ := txCalls_cases r tag calls stop fail
  obtain ⟨r1', ops', outs', stopped', pan', hb', hc'⟩ := txCalls_cases (r.frame f) tag calls stop fail
  have hfr : ({ r.frame f with opId := (r.frame f).opId.next } : Replica) =
      ({ r with opId := r.opId.next } : Replica).frame f := rfl
  rw [hfr, body_frame, hb] at hb'
  simp only [Prod.mk.injEq] at hb'
  obtain ⟨e1, e2, e3, e4, e5⟩ := hb'
  subst e1 e2 e3 e4 e5
  rcases hc with ⟨w, _, e⟩ | ⟨hpan, hs, e⟩ | ⟨hpan, hs, e⟩
  · rw [e] at hp; simp [Outcome.isPanic] at hp
  · subst hpan
    rcases hc' with ⟨w, hw, _⟩ | ⟨_, _, e'⟩ | ⟨_, hs', _⟩
    · simp at hw
    · have hf : r1.frame r = r1 := (body_ok _ _ _ _ _ hb).frame
      obtain ⟨r2, hr2, g1, g2, g3, _⟩ := rollback_of_rbInv h1 hf
      have hf' : (r1.frame f).frame (r.frame f) = r1.frame f := rfl
      obtain ⟨r2', hr2', g1', g2', g3', _⟩ := rollback_of_rbInv h2 hf'
      rw [e, e', hr2, hr2']
      simp [Replica.core, g1, g2, g3, g1', g2', g3']
    · rw [hs] at hs'; simp at hs'
  · subst hpan
    rcases hc' with ⟨w, hw, _⟩ | ⟨_, hs', _⟩ | ⟨_, _, e'⟩
    · simp at hw
    · rw [hs] at hs'; simp at hs'
    · obtain ⟨hf, _⟩ := body_ok _ _ _ _ _ hb
      obtain ⟨_, f2, _⟩ := frame_fields hf
      rw [e, e']
      simp [Replica.core, f2]

theorem step_call (r : Replica) (c : Call) : r.step (.call c) =
    ((r.call c).1, ⟨[(r.call c).2], .ok (), (r.call c).1.buffer.drop r.buffer.length⟩) := rfl

theorem step_tx (r : Replica) (tag : String) (calls : List Call) (stop fail : Bool) :
    r.step (.tx tag calls stop fail) =
      ((r.txCalls tag calls stop fail).1,
        ⟨(r.txCalls tag calls stop fail).2.1, (r.txCalls tag calls stop fail).2.2,
          (r.txCalls tag calls stop fail).1.buffer.drop r.buffer.length⟩) := rfl

theorem step_recv (r : Replica) (ops : List Op) : r.step (.recv ops) =
    ((r.receive ops).1, ⟨[], (r.receive ops).2, (r.receive ops).1.buffer.drop r.buffer.length⟩) := rfl

/-- one step: replicas with the same core (and sound rollback data) react identically and stay so -/
theorem step_bisim (r1 r2 : Replica) (st : Step) (hc : r1.core = r2.core) (h1 : r1.RbInv) (h2 : r2.RbInv)
    (hf : ∀ ops, st = .recv ops → ∀ o ∈ ops, o.id.cuid ≠ r1.opId.cuid)
    (hp : (r1.step st).2.noPanic = true) :
    (r1.step st).2 = (r2.step st).2 ∧ (r1.step st).1.core = (r2.step st).1.core ∧
    (r1.step st).1.RbInv ∧ (r2.step st).1.RbInv := by
  have hid : r1.opId = r2.opId := (core_eq_iff.1 hc).1
  cases st with
  | call c =>
    simp only [step_call, StepObs.noPanic, Bool.and_eq_true, Bool.not_eq_true', List.all_cons,
      List.all_nil, Bool.and_true] at hp ⊢
    obtain ⟨a, b, d⟩ := call_core r1 r2 c hc
    refine ⟨by rw [a, d], b, rbInv_call r1 c h1 hp.2, rbInv_call r2 c h2 (by rw [← a]; exact hp.2)⟩
  | tx tag calls stop fail =>
    simp only [step_tx, StepObs.noPanic, Bool.and_eq_true, Bool.not_eq_true'] at hp ⊢
    have e2 := eq_frame_of_core hc
    have h2' : (r1.frame r2).RbInv := by rw [← e2]; exact h2
    obtain ⟨a, b, d⟩ := txCalls_frame r1 r2 tag calls stop fail h1 h2' hp.1
    rw [← e2] at a b d
    refine ⟨by rw [a, d], b.symm, rbInv_txCalls r1 tag calls stop fail h1 hp.1,
      rbInv_txCalls r2 tag calls stop fail h2 (by rw [a]; exact hp.1)⟩
  | recv ops =>
    simp only [step_recv, StepObs.noPanic, Bool.not_eq_true', List.all_nil, Bool.and_true] at hp ⊢
    obtain ⟨a, b⟩ := receive_core r1 r2 ops hc
    have hfo := hf ops rfl
    refine ⟨?_, b, rbInv_receive r1 ops h1 hfo hp,
      rbInv_receive r2 ops h2 (by rw [← hid]; exact hfo) (by rw [← a]; exact hp)⟩
    rw [a, (receive_fields r1 ops).1, (receive_fields r2 ops).1]
    simp

def Replica.run (r : Replica) : List Step → Replica × List StepObs
  | [] => (r, [])
  | st :: rest => let (r', o) := r.step st
                  let (r'', os) := r'.run rest
                  (r'', o :: os)

theorem run_cons (r : Replica) (st : Step) (rest : List Step) : r.run (st :: rest) =
    (((r.step st).1.run rest).1, (r.step st).2 :: ((r.step st).1.run rest).2) := rfl

theorem step_cuid (r : Replica) (st : Step) (h : r.RbInv) (hp : (r.step st).2.noPanic = true) :
    (r.step st).1.opId.cuid = r.opId.cuid := by
  cases st with
  | call c =>
    rw [step_call]
    have s := call_case r c
    generalize r.call c = x at s ⊢
    cases s <;> rfl
  | tx tag calls stop fail =>
    simp only [step_tx, StepObs.noPanic, Bool.and_eq_true, Bool.not_eq_true'] at hp ⊢
    rcases txCalls_shape r h tag calls stop fail with ⟨w, e, _⟩ | ⟨_, r2, e, g1, _⟩ |
      ⟨_, r1, ops, ⟨_, new, _, _, _, hid, _⟩, e⟩
    · rw [e] at hp; cases hp.1
    · rw [e, g1]
    · rw [e]; simp [hid, OpId.next]
  | recv ops => exact (receive_fields r ops).2.2.1

theorem run_bisim (steps : List Step) : ∀ (r1 r2 : Replica), r1.core = r2.core → r1.RbInv → r2.RbInv →
    (∀ st ∈ steps, ∀ ops, st = .recv ops → ∀ o ∈ ops, o.id.cuid ≠ r1.opId.cuid) →
    (∀ o ∈ (r1.run steps).2, o.noPanic = true) →
    (r2.run steps).2 = (r1.run steps).2 ∧ (r2.run steps).1.core = (r1.run steps).1.core := by
  induction steps with
  | nil => intro r1 r2 hc _ _ _ _; exact ⟨rfl, hc.symm⟩
  | cons st rest ih =>
    intro r1 r2 hc h1 h2 hf hp
    rw [run_cons] at hp ⊢
    rw [run_cons]
    have hp1 : (r1.step st).2.noPanic = true := hp _ (List.mem_cons_self ..)
    obtain ⟨a, b, c, d⟩ := step_bisim r1 r2 st hc h1 h2 (fun ops hst => hf st (List.mem_cons_self ..) ops hst) hp1
    have hcu := step_cuid r1 st h1 hp1
    obtain ⟨x, y⟩ := ih _ _ b c d
      (fun st' hst' ops e o ho => by rw [hcu]; exact hf st' (List.mem_cons_of_mem _ hst') ops e o ho)
      (fun o ho => hp o (List.mem_cons_of_mem _ ho))
    exact ⟨by rw [x, a], y⟩

/-- C10: a restored copy is indistinguishable from the original under EVERY continuation -/
theorem restored_indistinguishable (r : Replica) (h : r.RbInv) (steps : List Step)
    (hf : ∀ st ∈ steps, ∀ ops, st = .recv ops → ∀ o ∈ ops, o.id.cuid ≠ r.opId.cuid)
    (hp : ∀ o ∈ (r.run steps).2, o.noPanic = true) :
    ((Replica.importFrom r).run steps).2 = (r.run steps).2 ∧
    ((Replica.importFrom r).run steps).1.core = (r.run steps).1.core :=
  run_bisim steps r (Replica.importFrom r) (import_core r).symm h (import_rbInv r) hf hp

end Orda
