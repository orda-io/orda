/-
The transaction argument for the systems of nodes around one server log (C09 end to end), on components.
A committed transaction travels as a unit `header :: ops`; a header consumes an operation identifier but changes no state, so
erasing the headers from buffers and log (`eraseB`, `eraseL`, `AbsC`) maps a state of a system with transactions to a state of the
system without.  `GTx.TInv` says that this image satisfies an invariant `SI` of the header-free system, used as a black box, and
that buffers and log are concatenations of units with every `pulled` at a unit boundary (`NodeOK`); it survives what a step
does to a node: `call`, `tx`, `pushAll`, `pullAll` (`same`: nothing but rollback data changes, `unit`: one unit is queued — the
two outcomes of `tx`, stated apart because a document patch ends in them too).  All-or-nothing, "never a panic", "receive
accepts" are read off it.
Of the carrier the argument needs a `NetBook.View`; of the datatype it needs `HeaderFree`: `SI` is closed under the steps of the
header-free system and under clock bumps, allowed calls and deliveries do not panic, and what a call queues is known; for a
system of `NetBook` it comes from `Closed` (`HeaderFree.of_net`).
`Orda.LTx` holds the vocabulary the statements share, `Orda.GTx` the argument.
-/
import Orda.Proofs.NetBook
import Orda.Proofs.SeqSnap
namespace Orda.LTx
open Orda.LNet (LEnt)
open Orda.NetBook (oth)

/-! ## units and headers; erasing the headers -/

/-- a transaction header -/
def isHdr (o : Op) : Bool :=
  match o.body with
  | .transaction _ _ => true
  | _ => false

/-- a unit of the log: ONE plain operation, or a header announcing `k + 1` followed by `k` plain operations -/
def IsUnit (u : List Op) : Prop :=
  (∃ o, u = [o] ∧ isHdr o = false) ∨
  (∃ id tag ops, u = ⟨id, .transaction tag ((ops.length : Int) + 1)⟩ :: ops ∧ ∀ o ∈ ops, isHdr o = false)

/-- the log entries a list of (author, unit) stands for -/
def flatU (units : List (Nat × List Op)) : List LEnt := units.flatMap (fun au => au.2.map (fun o => (au.1, o)))

/-- not a header -/
def nh (o : Op) : Bool := !isHdr o
def eraseB (b : List Op) : List Op := b.filter nh
def eraseL (l : List LEnt) : List LEnt := l.filter (fun e => nh e.2)

theorem eraseB_append (a b : List Op) : eraseB (a ++ b) = eraseB a ++ eraseB b := by simp [eraseB]
theorem eraseL_append (a b : List LEnt) : eraseL (a ++ b) = eraseL a ++ eraseL b := by simp [eraseL]

theorem eraseB_cons_hdr {o : Op} (h : isHdr o = true) (os : List Op) : eraseB (o :: os) = eraseB os := by
  simp [eraseB, nh, h]

theorem eraseB_cons_nh {o : Op} (h : isHdr o = false) (os : List Op) : eraseB (o :: os) = o :: eraseB os := by
  simp [eraseB, nh, h]

theorem filterMap_eraseB {β : Type} {f : Op → Option β} (h : ∀ {o}, isHdr o = true → f o = none) :
    ∀ b : List Op, (eraseB b).filterMap f = b.filterMap f
  | [] => rfl
  | o :: os => by
    cases hh : isHdr o
    · rw [eraseB_cons_nh hh, List.filterMap_cons, List.filterMap_cons, filterMap_eraseB h os]
    · rw [eraseB_cons_hdr hh, List.filterMap_cons, h hh, filterMap_eraseB h os]

theorem eraseB_hdr_cons (id : OpId) (tag : String) (k : Int) (os : List Op) :
    eraseB (⟨id, .transaction tag k⟩ :: os) = eraseB os := rfl

theorem eraseL_map (i : Nat) (b : List Op) :
    eraseL (b.map (fun o => ((i, o) : LEnt))) = (eraseB b).map (fun o => (i, o)) := by
  induction b with
  | nil => rfl
  | cons o os ih =>
    simp only [List.map_cons, eraseL, eraseB, List.filter_cons] at ih ⊢
    split <;> simp [ih]

theorem eraseB_all {b : List Op} (h : ∀ o ∈ b, isHdr o = false) : eraseB b = b := by
  unfold eraseB
  rw [List.filter_eq_self]
  intro o ho
  simp [nh, h o ho]

theorem oth_eraseL (i : Nat) (l : List LEnt) : oth i (eraseL l) = eraseL (oth i l) := by
  unfold oth eraseL
  rw [List.filter_filter, List.filter_filter]
  congr 1
  funext e
  exact Bool.and_comm _ _

theorem eraseL_snd (l : List LEnt) : (eraseL l).map (·.2) = eraseB (l.map (·.2)) := by
  induction l with
  | nil => rfl
  | cons e es ih =>
    simp only [eraseL, eraseB, List.filter_cons, List.map_cons] at ih ⊢
    split <;> simp [ih]

theorem flatU_append (a b : List (Nat × List Op)) : flatU (a ++ b) = flatU a ++ flatU b := by
  simp [flatU]

theorem flatU_cons (au : Nat × List Op) (b : List (Nat × List Op)) :
    flatU (au :: b) = au.2.map (fun o => (au.1, o)) ++ flatU b := by
  simp [flatU]

theorem flatU_map_author (i : Nat) (us : List (List Op)) :
    flatU (us.map (fun u => (i, u))) = us.flatten.map (fun o => ((i, o) : LEnt)) := by
  induction us with
  | nil => rfl
  | cons u us ih => rw [List.flatten_cons, List.map_append, List.map_cons, flatU_cons, ih]

theorem isHdr_false_of {o : Op} (h : ∀ tag k, o.body ≠ .transaction tag k) : isHdr o = false := by
  unfold isHdr
  split
  · rename_i tag k hb; exact absurd hb (h tag k)
  · rfl

theorem unit_head {u : List Op} (hu : IsUnit u) :
    ∃ o tl, u = o :: tl ∧ o.unitLen = u.length ∧ ∀ k, u.length ≤ k → o.badHeader k = false := by
  rcases hu with ⟨o, rfl, ho⟩ | ⟨id, tag, ops, rfl, hops⟩
  · refine ⟨o, [], rfl, ?_, ?_⟩
    · unfold isHdr at ho
      unfold Op.unitLen
      split
      · rename_i tag k hb; rw [hb] at ho; cases ho
      · rfl
    · intro k _
      unfold isHdr at ho
      unfold Op.badHeader
      split
      · rename_i tag k hb; rw [hb] at ho; cases ho
      · rfl
  · refine ⟨_, ops, rfl, ?_, ?_⟩
    · simp [Op.unitLen]
    · intro k hk
      simp only [List.length_cons] at hk
      simp [Op.badHeader]
      omega

/-! ## all or nothing on a decomposition of the log -/

/-- where unit `j` of a decomposition starts in the log -/
def unitStart (units : List (Nat × List Op)) (j : Nat) : Nat := (flatU (units.take j)).length

theorem unitStart_mono (units : List (Nat × List Op)) {j k : Nat} (h : j ≤ k) : unitStart units j ≤ unitStart units k := by
  unfold unitStart
  obtain ⟨t, ht⟩ := List.take_prefix_take_left (l := units) h
  rw [← ht, flatU_append, List.length_append]
  exact Nat.le_add_right _ _

theorem boundary_all_or_none_pos (units : List (Nat × List Op)) {k pulled : Nat}
    (hk : pulled = (flatU (units.take k)).length) (j : Nat) :
    (∀ p, unitStart units j ≤ p → p < unitStart units (j + 1) → p < pulled) ∨
    (∀ p, unitStart units j ≤ p → p < unitStart units (j + 1) → ¬ p < pulled) := by
  change pulled = unitStart units k at hk
  by_cases hjk : j + 1 ≤ k
  · have := unitStart_mono units hjk
    exact Or.inl fun p _ hp => by omega
  · have := unitStart_mono units (show k ≤ j by omega)
    exact Or.inr fun p hp _ => by omega

theorem boundary_split {log : List LEnt} {units : List (Nat × List Op)} (h1 : log = flatU units) {k pulled : Nat}
    (hk : pulled = (flatU (units.take k)).length) :
    log.take pulled = flatU (units.take k) ∧ log.drop pulled = flatU (units.drop k) := by
  have hsplit : log = flatU (units.take k) ++ flatU (units.drop k) := by
    rw [← flatU_append, List.take_append_drop]; exact h1
  exact ⟨by rw [hsplit, hk, List.take_left], by rw [hsplit, hk, List.drop_left]⟩

theorem boundary_all_or_none {log : List LEnt} {units : List (Nat × List Op)} (h1 : log = flatU units)
    (hnd : log.Nodup) {k pulled : Nat} (hk : pulled = (flatU (units.take k)).length) {au : Nat × List Op}
    (hau : au ∈ units) :
    (∀ o ∈ au.2, (au.1, o) ∈ log.take pulled) ∨ (∀ o ∈ au.2, (au.1, o) ∉ log.take pulled) := by
  obtain ⟨htake, hdrop⟩ := boundary_split h1 hk
  have hmem : ∀ us : List (Nat × List Op), au ∈ us → ∀ o ∈ au.2, (au.1, o) ∈ flatU us := fun us hus o ho =>
    List.mem_flatMap.mpr ⟨au, hus, List.mem_map.mpr ⟨o, ho, rfl⟩⟩
  rw [← List.take_append_drop pulled log] at hnd
  rw [← List.take_append_drop k units] at hau
  rcases List.mem_append.mp hau with hin | hin
  · exact Or.inl fun o ho => htake ▸ hmem _ hin o ho
  · exact Or.inr fun o ho h => (List.nodup_append.mp hnd).2.2 _ h _ (hdrop ▸ hmem _ hin o ho) rfl

end Orda.LTx

namespace Orda.GTx
open Orda.LTx
open Orda.LNet (LEnt)
open Orda.NetBook (View own oth lkey mem_own mem_oth own_append oth_append)
open Orda.ListAux (set_self filter_drop_len filter_take_len drop_cons)

theorem own_map_self (i : Nat) (u : List Op) :
    own i (u.map (fun o => ((i, o) : LEnt))) = u.map (fun o => (i, o)) := by
  unfold own
  rw [List.filter_eq_self]
  intro e he
  obtain ⟨o, _, rfl⟩ := List.mem_map.mp he
  simp

theorem own_map_ne {i a : Nat} (h : a ≠ i) (u : List Op) : own i (u.map (fun o => ((a, o) : LEnt))) = [] := by
  unfold own
  rw [List.filter_eq_nil_iff]
  intro e he
  obtain ⟨o, _, rfl⟩ := List.mem_map.mp he
  simp [h]

theorem oth_map_self (i : Nat) (u : List Op) : oth i (u.map (fun o => ((i, o) : LEnt))) = [] := by
  simp [oth]

theorem oth_map_ne {i a : Nat} (h : a ≠ i) (u : List Op) :
    oth i (u.map (fun o => ((a, o) : LEnt))) = u.map (fun o => (a, o)) := by
  unfold oth
  rw [List.filter_eq_self]
  intro e he
  obtain ⟨o, _, rfl⟩ := List.mem_map.mp he
  simp [h]

/-! ## a node and its header-free image, on components -/

/-- `r0, pu0, pl0` is the header-free image of a node `r, pu, pl` (`Abs`, below, on the Components of one node): same state and
    clock, the buffer without its headers, the counters counting what is not a header in the pushed part of the buffer and in
    the consumed part of the log -/
structure AbsC (log : List (Nat × Op)) (r : Replica) (pu pl : Nat) (r0 : Replica) (pu0 pl0 : Nat) : Prop where
  st : r0.state = r.state
  id : r0.opId = r.opId
  buf : r0.buffer = eraseB r.buffer
  pushed : pu0 = (eraseB (r.buffer.take pu)).length
  pulled : pl0 = (eraseL (log.take pl)).length

namespace AbsC
variable {log : List (Nat × Op)} {r r0 : Replica} {pu pl pu0 pl0 : Nat} (A : AbsC log r pu pl r0 pu0 pl0)
include A

theorem extend (hp : pu ≤ r.buffer.length) {r' r0' : Replica} {u : List Op} (hs : r0'.state = r'.state)
    (hid : r0'.opId = r'.opId) (hb : r'.buffer = r.buffer ++ u) (hb0 : r0'.buffer = r0.buffer ++ eraseB u) :
    AbsC log r' pu pl r0' pu0 pl0 where
  st := hs
  id := hid
  buf := by rw [hb0, hb, eraseB_append, A.buf]
  pushed := by rw [hb, List.take_append_of_le_length hp]; exact A.pushed
  pulled := A.pulled

theorem log_append (hp : pl ≤ log.length) (x : List (Nat × Op)) : AbsC (log ++ x) r pu pl r0 pu0 pl0 :=
  { A with pulled := by rw [List.take_append_of_le_length hp]; exact A.pulled }

theorem pushed_all : AbsC log r r.buffer.length pl r0 r0.buffer.length pl0 :=
  { A with pushed := by rw [List.take_length, A.buf] }

theorem pulled_all {r' r0' : Replica} {n0 : Nat} (hs : r0'.state = r'.state) (hid : r0'.opId = r'.opId)
    (hb : r'.buffer = r.buffer) (hb0 : r0'.buffer = r0.buffer) (hl : n0 = (eraseL log).length) :
    AbsC log r' pu log.length r0' pu0 n0 where
  st := hs
  id := hid
  buf := by rw [hb0, hb]; exact A.buf
  pushed := by rw [hb]; exact A.pushed
  pulled := by rw [List.take_length]; exact hl

end AbsC

/-! ## buffers of units -/

def UnitsB (l : List Op) : Prop := ∃ us : List (List Op), l = us.flatten ∧ ∀ u ∈ us, IsUnit u

theorem unitsB_nil : UnitsB [] := ⟨[], rfl, by simp⟩

theorem unitsB_snoc {l u : List Op} (h : UnitsB l) (hu : IsUnit u) : UnitsB (l ++ u) := by
  obtain ⟨us, rfl, h2⟩ := h
  refine ⟨us ++ [u], by simp, ?_⟩
  intro v hv
  rcases List.mem_append.mp hv with h | h
  · exact h2 v h
  · simp only [List.mem_singleton] at h
    exact h ▸ hu

/-! ## a call only reads state and clock -/

theorem call_view (r r0 : Replica) (c : Call) (hs : r0.state = r.state) (hid : r0.opId = r.opId) :
    (r0.call c).1.state = (r.call c).1.state ∧ (r0.call c).1.opId = (r.call c).1.opId ∧
    ∃ new, (r0.call c).1.buffer = r0.buffer ++ new ∧ (r.call c).1.buffer = r.buffer ++ new :=
  have ⟨new, h⟩ := call_agree r r0 c hs hid
  ⟨h.state, h.opId, new.map Op.wire, h.buffer_f, h.buffer_r⟩

theorem wire_hdr (id : OpId) (tag : String) (k : Int) :
    Op.wire ⟨id, .transaction tag k⟩ = ⟨id, .transaction tag k⟩ := rfl

/-! ## what is known of a node beyond its header-free image -/

/-- what is known about a node beyond its header-free image, read on the node's components (replica `r`, `pushed`, `pulled`)
    so that every system around ONE server log can use it; `Safe`: what is known about every operation of a buffer -/
structure NodeOK (Safe : Op → Prop) (cuid : Nat → String) (log : List (Nat × Op)) (i : Nat) (r : Replica)
    (pushed pulled : Nat) : Prop where
  rb : r.RbInv
  pushed_le : pushed ≤ r.buffer.length
  pulled_le : pulled ≤ log.length
  rest_units : UnitsB (r.buffer.drop pushed)
  buf_ok : ∀ o ∈ r.buffer, o.id.cuid = cuid i ∧ Safe o
  log_own : own i log = (r.buffer.take pushed).map (fun o => (i, o))
  buf_sorted : r.buffer.Pairwise (fun o o' => o.id.lamport < o'.id.lamport)
  buf_lam : ∀ o ∈ r.buffer, o.id.lamport ≤ r.opId.lamport

namespace NodeOK
variable {Safe : Op → Prop} {cuid : Nat → String} {log : List (Nat × Op)} {i : Nat} {r : Replica} {pushed pulled : Nat}

theorem extend (K : NodeOK Safe cuid log i r pushed pulled) {r' : Replica} {u : List Op} (hb : r'.buffer = r.buffer ++ u)
    (hu : u = [] ∨ IsUnit u) (hrb : r'.RbInv)
    (hgood : ∀ o ∈ u, o.id.cuid = cuid i ∧ Safe o ∧ r.opId.lamport < o.id.lamport ∧ o.id.lamport ≤ r'.opId.lamport)
    (hsorted : u.Pairwise (fun o o' => o.id.lamport < o'.id.lamport))
    (hmono : r.opId.lamport ≤ r'.opId.lamport) : NodeOK Safe cuid log i r' pushed pulled where
  rb := hrb
  pushed_le := by
    rw [hb, List.length_append]
    exact Nat.le_trans K.pushed_le (Nat.le_add_right _ _)
  pulled_le := K.pulled_le
  rest_units := by
    rw [hb, List.drop_append_of_le_length K.pushed_le]
    rcases hu with rfl | hu
    · simpa using K.rest_units
    · exact unitsB_snoc K.rest_units hu
  buf_ok := by
    intro o ho
    rw [hb] at ho
    rcases List.mem_append.mp ho with h | h
    · exact K.buf_ok o h
    · exact ⟨(hgood o h).1, (hgood o h).2.1⟩
  log_own := by
    rw [hb, List.take_append_of_le_length K.pushed_le]
    exact K.log_own
  buf_sorted := by
    rw [hb]
    refine List.pairwise_append.mpr ⟨K.buf_sorted, hsorted, ?_⟩
    intro a ha b hb'
    have := K.buf_lam a ha
    have := (hgood b hb').2.2.1
    omega
  buf_lam := by
    intro o ho
    rw [hb] at ho
    rcases List.mem_append.mp ho with h | h
    · exact Nat.le_trans (K.buf_lam o h) hmono
    · exact (hgood o h).2.2.2

theorem log_append (K : NodeOK Safe cuid log i r pushed pulled) {a : Nat} (hne : i ≠ a) {x : List Op} :
    NodeOK Safe cuid (log ++ x.map (fun o => ((a, o) : Nat × Op))) i r pushed pulled :=
  { K with
    pulled_le := by rw [List.length_append]; exact Nat.le_trans K.pulled_le (Nat.le_add_right _ _)
    log_own := by rw [own_append, own_map_ne (fun e => hne e.symm), List.append_nil]; exact K.log_own }

theorem pushed_all (K : NodeOK Safe cuid log i r pushed pulled) :
    NodeOK Safe cuid (log ++ (r.buffer.drop pushed).map (fun o => ((i, o) : Nat × Op))) i r r.buffer.length pulled :=
  { K with
    pushed_le := Nat.le_refl _
    pulled_le := by rw [List.length_append]; exact Nat.le_trans K.pulled_le (Nat.le_add_right _ _)
    rest_units := by rw [List.drop_length]; exact unitsB_nil
    log_own := by
      rw [own_append, own_map_self, K.log_own, ← List.map_append, List.take_append_drop, List.take_length] }

theorem pulled_all (K : NodeOK Safe cuid log i r pushed pulled) {r' : Replica} (hb : r'.buffer = r.buffer) (hrb : r'.RbInv)
    (hmono : r.opId.lamport ≤ r'.opId.lamport) : NodeOK Safe cuid log i r' pushed log.length :=
  { K.extend (u := []) (by rw [hb, List.append_nil]) (Or.inl rfl) hrb (by simp) .nil hmono with
    pulled_le := Nat.le_refl _ }

end NodeOK

theorem units_push {log : List LEnt} {units : List (Nat × List Op)} (h1 : log = flatU units)
    (h2 : ∀ au ∈ units, IsUnit au.2) (i : Nat) {x : List Op} (hx : UnitsB x) :
    ∃ units', log ++ x.map (fun o => ((i, o) : LEnt)) = flatU units' ∧ (∀ au ∈ units', IsUnit au.2) ∧
      ∀ k, ∃ k', (flatU (units.take k)).length = (flatU (units'.take k')).length := by
  obtain ⟨us, rfl, hall⟩ := hx
  refine ⟨units ++ us.map (fun u => (i, u)), by rw [flatU_append, flatU_map_author, h1], ?_, fun k => ?_⟩
  · intro au hau
    rcases List.mem_append.mp hau with h | h
    · exact h2 au h
    · obtain ⟨u, hu, rfl⟩ := List.mem_map.mp h
      exact hall u hu
  · by_cases hle : k ≤ units.length
    · exact ⟨k, by rw [List.take_append_of_le_length hle]⟩
    · exact ⟨units.length, by
        rw [List.take_append_of_le_length (Nat.le_refl _), List.take_length, List.take_of_length_le (by omega)]⟩

/-- the unpushed rest of a buffer carries keys that are new to the log: within the client the buffer is sorted by clock and
    its pushed part is what the log holds of the client; no other client has this client's identifier -/
theorem keys_push {cuid : Nat → String} {n : Nat} (hd : ∀ i j, i < n → j < n → cuid i = cuid j → i = j)
    {log : List LEnt} (hkeys : log.Pairwise (fun e e' => lkey e ≠ lkey e'))
    (hok : ∀ e ∈ log, e.1 < n ∧ e.2.id.cuid = cuid e.1) {i : Nat} (hin : i < n) {buf : List Op} {pushed : Nat}
    (hown : own i log = (buf.take pushed).map (fun o => (i, o)))
    (hsorted : buf.Pairwise (fun o o' => o.id.lamport < o'.id.lamport)) (hcu : ∀ o ∈ buf, o.id.cuid = cuid i) :
    (log ++ (buf.drop pushed).map (fun o => ((i, o) : LEnt))).Pairwise (fun e e' => lkey e ≠ lkey e') := by
  rw [← List.take_append_drop pushed buf] at hsorted
  obtain ⟨_, hs2, hs3⟩ := List.pairwise_append.mp hsorted
  refine List.pairwise_append.mpr ⟨hkeys, ?_, ?_⟩
  · rw [List.pairwise_map]
    refine hs2.imp fun hab e0 => ?_
    simp only [lkey, Prod.mk.injEq] at e0
    omega
  · intro e he e' he' e0
    obtain ⟨o, ho, rfl⟩ := List.mem_map.mp he'
    simp only [lkey, Prod.mk.injEq] at e0
    by_cases hei : e.1 = i
    · have : e ∈ own i log := mem_own.mpr ⟨he, hei⟩
      rw [hown] at this
      obtain ⟨o', ho', rfl⟩ := List.mem_map.mp this
      have := hs3 o' ho' o ho
      simp only at e0
      omega
    · obtain ⟨g1, g2⟩ := hok e he
      rw [g2, hcu o (List.mem_of_mem_drop ho)] at e0
      exact hei (hd e.1 i g1 hin e0.2)

/-! ## one transaction against an abstract replica invariant `NI` -/

/-- what the simulation of a transaction body needs of the header-free invariant, read as a property `NI` of the replica
    alone; `CO`: the calls allowed; `bump`: the clock bump that stands for the header -/
structure CallSim (NI : Replica → Prop) (Good : Op → Prop) (CO : Call → Prop) : Prop where
  nopanic : ∀ {ar : Replica} {c : Call}, NI ar → CO c → (ar.call c).2.isPanic = false
  call : ∀ {ar : Replica} {c : Call}, NI ar → CO c → NI (ar.call c).1
  new : ∀ {ar : Replica} {c : Call}, NI ar → CO c → ∀ {new : List Op}, (ar.call c).1.buffer = ar.buffer ++ new →
    ar.opId.lamport ≤ (ar.call c).1.opId.lamport ∧
    (new = [] ∨ ∃ o, new = [o] ∧ Good o ∧ o.id.lamport = ar.opId.lamport + 1 ∧
      (ar.call c).1.opId.lamport = ar.opId.lamport + 1)
  bump : ∀ {ar : Replica}, NI ar → NI { ar with opId := ar.opId.next }

/-- the abstract replica has gone from `ar` to `ar1` by issuing `new` as plain calls; `ar1` has state and clock of the real
    replica `r1` -/
structure Issued (NI : Replica → Prop) (Good : Op → Prop) (ar : Replica) (new : List Op) (r1 ar1 : Replica) : Prop where
  st : ar1.state = r1.state
  id : ar1.opId = r1.opId
  buf : ar1.buffer = ar.buffer ++ new.map Op.wire
  inv : NI ar1
  good : ∀ o ∈ new, Good o.wire ∧ ar.opId.lamport < o.id.lamport
  mono : ar.opId.lamport ≤ ar1.opId.lamport

/-- `r'` is `r` with ONE unit `header :: ops` appended to the buffer; the abstract replica `ar1` (state and clock of `r'`) has
    issued `ops` as plain calls after the clock bump that stands for the header -/
structure Committed (NI : Replica → Prop) (Good : Op → Prop) (ar r r' : Replica) (tag : String) (ops : List Op)
    (ar1 : Replica) : Prop where
  buf : r'.buffer = r.buffer ++ (⟨r.opId.next, .transaction tag ((ops.length : Int) + 1)⟩ :: ops)
  st : ar1.state = r'.state
  id : ar1.opId = r'.opId
  abuf : ar1.buffer = ar.buffer ++ ops
  inv : NI ar1
  good : ∀ o ∈ ops, Good o ∧ r.opId.lamport + 1 < o.id.lamport
  mono : r.opId.lamport + 1 ≤ r'.opId.lamport

section transaction
variable {NI : Replica → Prop} {Good : Op → Prop} {CO : Call → Prop}

theorem Issued.nil {ar r : Replica} (hs : ar.state = r.state) (hid : ar.opId = r.opId) (I : NI ar) :
    Issued NI Good ar [] r ar := ⟨hs, hid, by simp, I, by simp, Nat.le_refl _⟩

theorem Issued.step (ok : CallSim NI Good CO) {ar r : Replica} (hs : ar.state = r.state) (hid : ar.opId = r.opId)
    (I : NI ar) {c : Call} (hc : CO c) {new : List Op} {r1 ar1 : Replica}
    (t : Issued NI Good (ar.call c).1 new r1 ar1) :
    Issued NI Good ar ((r.call c).1.rbOps.drop r.rbOps.length ++ new) r1 ar1 := by
  obtain ⟨nr, a⟩ := call_agree r ar c hs hid
  rw [a.rbOps_r, List.drop_left]
  obtain ⟨hmono, hnew⟩ := ok.new I hc a.buffer_f
  refine ⟨t.st, t.id, by simp [t.buf, a.buffer_f], t.inv, fun o ho => ?_, Nat.le_trans hmono t.mono⟩
  rcases List.mem_append.mp ho with ho | ho
  · rcases hnew with h0 | ⟨o', h0, g, g1, _⟩
    · rw [List.map_eq_nil_iff.mp h0] at ho; cases ho
    · obtain ⟨x, hx, rfl⟩ := List.map_eq_singleton_iff.mp h0
      rw [hx, List.mem_singleton] at ho
      subst ho
      exact ⟨g, by rw [wire_id] at g1; omega⟩
  · exact ⟨(t.good o ho).1, by have := (t.good o ho).2; omega⟩

theorem body_sim (ok : CallSim NI Good CO) (stop : Bool) : ∀ (calls : List Call), (∀ c ∈ calls, CO c) →
    ∀ (r : Replica) (acc : List Op) (outs : List (Outcome Ret)) (ar : Replica),
    ar.state = r.state → ar.opId = r.opId → NI ar →
    ∀ {r1 ops outs' stopped pan}, Replica.txCalls.body stop r acc outs calls = (r1, ops, outs', stopped, pan) →
    pan = none ∧ ∃ ar1 new, ops = acc ++ new ∧ Issued NI Good ar new r1 ar1 := by
  intro calls
  induction calls with
  | nil =>
    intro _ r acc outs ar hs hid I r1 ops outs' stopped pan h
    simp only [Replica.txCalls.body, Prod.mk.injEq] at h
    obtain ⟨h1, h2, _, _, h5⟩ := h
    subst h1 h2 h5
    exact ⟨rfl, ar, [], by simp, .nil hs hid I⟩
  | cons c cs ih =>
    intro hcs r acc outs ar hs hid I r1 ops outs' stopped pan h
    have hc : CO c := hcs c (by simp)
    have ih := ih (fun c' h' => hcs c' (List.mem_cons_of_mem _ h'))
    obtain ⟨_, a⟩ := call_agree r ar c hs hid
    have hnp : (r.call c).2.isPanic = false := by rw [← a.out]; exact ok.nopanic I hc
    rw [body_cons] at h
    split at h
    · obtain ⟨hp, ar1, new, e1, t⟩ := ih ((r.call c).1.frame r) _ _ (ar.call c).1 a.state a.opId (ok.call I hc) h
      exact ⟨hp, ar1, _, by rw [e1, List.append_assoc], .step ok hs hid I hc t⟩
    · split at h
      · simp only [Prod.mk.injEq] at h
        obtain ⟨h1, h2, _, _, h5⟩ := h
        subst h1 h2
        exact ⟨h5.symm, ar, [], by simp, .nil hs hid I⟩
      · exact ih _ _ _ _ hs hid I h
    · rename_i w hw
      rw [hw] at hnp; cases hnp

theorem Issued.commit {ar r r1 ar1 : Replica} {new : List Op}
    (t : Issued NI Good { ar with opId := ar.opId.next } new r1 ar1)
    (hid : ar.opId = r.opId) (hf : r1.buffer = r.buffer) (tag : String) (x : List Op) :
    Committed NI Good ar r
      { r1 with rbOps := x,
                buffer := r1.buffer ++ (⟨r.opId.next, .transaction tag (new.length + 1)⟩ :: new).map Op.wire }
      tag (new.map Op.wire) ar1 := by
  have hbump : ({ ar with opId := ar.opId.next } : Replica).opId.lamport = r.opId.lamport + 1 := by
    show ar.opId.next.lamport = _; rw [hid]; rfl
  refine ⟨?_, t.st, t.id, t.buf, t.inv, ?_, ?_⟩
  · show r1.buffer ++ _ = _
    rw [hf, List.map_cons, wire_hdr, List.length_map]
  · intro o ho
    obtain ⟨o', ho', rfl⟩ := List.mem_map.mp ho
    obtain ⟨g1, g2⟩ := t.good o' ho'
    exact ⟨g1, by rw [wire_id]; omega⟩
  · have := t.mono
    show r.opId.lamport + 1 ≤ r1.opId.lamport
    rw [← t.id]
    omega

theorem tx_cases (ok : CallSim NI Good CO) {ar : Replica} (N0 : NI ar) (r : Replica) (hs : ar.state = r.state)
    (hid : ar.opId = r.opId) (hrb : r.RbInv) (tag : String) (calls : List Call) (hcs : ∀ c ∈ calls, CO c) (s f : Bool) :
    let r' := (r.txCalls tag calls s f).1
    r'.RbInv ∧
    ((∃ c, (r.txCalls tag calls s f).2.2 = .err c ∧ r'.opId = r.opId ∧ r'.state = r.state ∧ r'.buffer = r.buffer ∧
        r'.cp = r.cp) ∨
     ((r.txCalls tag calls s f).2.2 = .ok () ∧ ∃ ops ar1, Committed NI Good ar r r' tag ops ar1)) := by
  intro r'
  obtain ⟨r1, ops, outs, stopped, pan, hb, hc⟩ := txCalls_cases r tag calls s f
  obtain ⟨hpan, ar1, new, e1, t⟩ :=
    body_sim ok s calls hcs { r with opId := r.opId.next } [] []
      { ar with opId := ar.opId.next } hs (by show ar.opId.next = r.opId.next; rw [hid]) (ok.bump N0) hb
  subst hpan
  simp only [List.nil_append] at e1
  subst e1
  have hf : r1.frame r = r1 := (body_ok _ _ _ _ _ hb).frame
  rcases hc with ⟨w, hw, _⟩ | ⟨_, hst, e⟩ | ⟨_, hst, e⟩
  · cases hw
  · obtain ⟨r2, hr, g1, g2, g3, g4, g5, g6, g7⟩ := rollback_of_rbInv hrb hf
    rw [hr] at e
    simp only at e
    have er : r' = r2 := by show (r.txCalls tag calls s f).1 = r2; rw [e]
    rw [er]
    exact ⟨rbInv_of_rb_eq (by rw [g5, g1]) (by rw [g6, g2]) g7, Or.inl ⟨Err.transaction, by rw [e], g1, g2, g3, g4⟩⟩
  · refine ⟨rbInv_txCalls r tag calls s f hrb (by rw [e]; rfl), Or.inr ⟨by rw [e], ops.map Op.wire, ar1, ?_⟩⟩
    have er : r' = _ := congrArg Prod.fst e
    rw [er]
    exact t.commit hid (frame_fields hf).2.1 tag _

end transaction

/-! ## nodes seen through a `NetBook.View`; the header-free side as an interface -/

/-- what the invariant of the header-free system says about one node, whatever the datatype -/
structure Core (cuid : Nat → String) (n : Nat) (lg : List LEnt) (i : Nat) (r : Replica) (pu pl : Nat) : Prop where
  lt : i < n
  clock_cuid : r.opId.cuid = cuid i
  pushed_le : pu ≤ r.buffer.length
  pulled_le : pl ≤ lg.length
  buf_sorted : r.buffer.Pairwise (fun o o' => o.id.lamport < o'.id.lamport)
  buf_lam : ∀ o ∈ r.buffer, o.id.lamport ≤ r.opId.lamport

variable {α : Type}

/-- `SI` is an invariant of the header-free system (a node `i` calling `c` only where `CO c` and `G i pulled`) that is also
    closed under clock bumps.  `Good i o`: what is known of an operation node `i` queues; `Safe o`: what is remembered of every
    operation in buffers and log (and is enough for its delivery not to panic). -/
structure HeaderFree (V : View α) (cuid : Nat → String) (n : Nat) (G : Nat → Nat → Prop) (CO : Call → Prop)
    (Good : Nat → Op → Prop) (Safe : Op → Prop) (SI : List α → List LEnt → Prop) : Prop where
  distinct : ∀ {ns : List α} {lg : List LEnt}, SI ns lg → ∀ i j, i < n → j < n → cuid i = cuid j → i = j
  core : ∀ {ns : List α} {lg : List LEnt} {i : Nat} {nd : α}, SI ns lg → ns[i]? = some nd →
    Core cuid n lg i (V.r nd) (V.pu nd) (V.pl nd)
  good : ∀ {i : Nat} {o : Op}, Good i o → isHdr o = false ∧ o.id.cuid = cuid i ∧ Safe o
  hdr_safe : ∀ {o : Op}, isHdr o = true → Safe o
  nopanic : ∀ {ns : List α} {lg : List LEnt} {i : Nat} {nd : α} {c : Call}, SI ns lg → ns[i]? = some nd → CO c →
    ((V.r nd).call c).2.isPanic = false
  new : ∀ {ns : List α} {lg : List LEnt} {i : Nat} {nd : α} {c : Call}, SI ns lg → ns[i]? = some nd → CO c →
    ∀ {new : List Op}, ((V.r nd).call c).1.buffer = (V.r nd).buffer ++ new →
    (V.r nd).opId.lamport ≤ ((V.r nd).call c).1.opId.lamport ∧
    (new = [] ∨ ∃ o, new = [o] ∧ Good i o ∧ o.id.lamport = (V.r nd).opId.lamport + 1 ∧
      ((V.r nd).call c).1.opId.lamport = (V.r nd).opId.lamport + 1)
  call : ∀ {ns : List α} {lg : List LEnt} {i : Nat} {nd : α} {c : Call}, SI ns lg → ns[i]? = some nd → CO c →
    G i (V.pl nd) → SI (ns.set i (V.node ((V.r nd).call c).1 (V.pu nd) (V.pl nd))) lg
  bump : ∀ {ns : List α} {lg : List LEnt} {i : Nat} {nd : α} {r' : Replica}, SI ns lg → ns[i]? = some nd →
    Bump (V.r nd) r' → SI (ns.set i (V.node r' (V.pu nd) (V.pl nd))) lg
  push : ∀ {ns : List α} {lg : List LEnt} {i : Nat} {nd : α} {o : Op}, SI ns lg → ns[i]? = some nd →
    (V.r nd).buffer[V.pu nd]? = some o → SI (ns.set i (V.node (V.r nd) (V.pu nd + 1) (V.pl nd))) (lg ++ [(i, o)])
  pull : ∀ {ns : List α} {lg : List LEnt} {i : Nat} {nd : α} {a : Nat} {o : Op}, SI ns lg → ns[i]? = some nd →
    lg[V.pl nd]? = some (a, o) → Safe o →
    SI (ns.set i (V.node (if a = i then V.r nd else ((V.r nd).execRemoteBase o).1) (V.pu nd) (V.pl nd + 1))) lg ∧
      (a ≠ i → ((V.r nd).execRemoteBase o).2 = none)

section headerFree
variable {V : View α} {cuid : Nat → String} {n : Nat} {G : Nat → Nat → Prop} {CO : Call → Prop} {Good : Nat → Op → Prop}
  {Safe : Op → Prop} {SI : List α → List LEnt → Prop}

/-- the header-free side is a system of `NetBook`: its invariant is `NetInv`, whose datatype part `D` is kept by the steps
    (`Closed`); `HeaderFree` asks in addition that `D` survives a clock bump, that it excludes a panic of the calls allowed and of
    the deliveries, and what a call queues -/
theorem HeaderFree.of_net {P : Nat × Op → Prop} {D : Nat → Replica → Nat → List (Nat × Op) → Prop} {H : Nat × Op → Prop}
    {GC : Nat → Nat → Call → Prop} (C : NetBook.Closed P D H GC cuid n)
    (guard : ∀ {i pl : Nat} {c : Call}, G i pl → CO c → GC i pl c)
    (good : ∀ {i : Nat} {o : Op}, Good i o → isHdr o = false ∧ o.id.cuid = cuid i ∧ Safe o)
    (hdr_safe : ∀ {o : Op}, isHdr o = true → Safe o)
    (bump : ∀ {i : Nat} {r r' : Replica} {pl : Nat} {A : List (Nat × Op)}, D i r pl A → Bump r r' → D i r' pl A)
    (nopanic : ∀ {i : Nat} {r : Replica} {pl : Nat} {A : List (Nat × Op)} {c : Call}, D i r pl A → CO c →
      (r.call c).2.isPanic = false)
    (queued : ∀ {i : Nat} {r : Replica} {pl : Nat} {A : List (Nat × Op)} {c : Call} {o : Op}, D i r pl A → CO c →
      (r.call c).1.buffer = r.buffer ++ [o] → o.id.cuid = cuid i → Good i o)
    (deliver : ∀ {ns : List α} {lg : List LEnt} {ap : Nat → List (Nat × Op)} {i a : Nat} {nd : α} {o : Op},
      NetBook.NetInv V P D H cuid n ns lg ap → ns[i]? = some nd → lg[V.pl nd]? = some (a, o) → a ≠ i →
      Safe o → ((V.r nd).execRemoteBase o).2 = none) :
    HeaderFree V cuid n G CO Good Safe (fun ns lg => ∃ ap, NetBook.NetInv V P D H cuid n ns lg ap) where
  distinct := fun ⟨_, I⟩ => I.distinct
  core := fun ⟨_, I⟩ hi =>
    have B := (I.node _ _ hi).2
    ⟨I.lt_of_node hi, B.clock_cuid, B.pushed_le, B.pulled_le, B.buf_sorted, fun _ h => B.buf_lam h⟩
  good := good
  hdr_safe := hdr_safe
  nopanic := fun ⟨_, I⟩ hi hc => nopanic (I.node _ _ hi).1 hc
  new := fun {_ _ _ nd c} ⟨_, I⟩ hi hc _ hb =>
    have ⟨hmono, hnew⟩ := call_new (V.r nd) c hb
    ⟨hmono, hnew.imp_right fun ⟨o, e, hid, hop⟩ =>
      ⟨o, e, queued (I.node _ _ hi).1 hc (e ▸ hb) (by rw [hid]; exact (I.node _ _ hi).2.clock_cuid), by rw [hid]; rfl,
        by rw [hop]; rfl⟩⟩
  call := fun ⟨_, I⟩ hi hc hg =>
    have ⟨ap', I', _⟩ := I.call C hi (guard hg hc)
    ⟨ap', I'⟩
  bump := fun {_ _ _ nd r'} ⟨_, I⟩ hi hb => by
    obtain ⟨hD, hB⟩ := I.node _ _ hi
    have B := hB.clock hb.cuid hb.lamport
    rw [← hb.buffer] at B
    exact ⟨_, I.replace ⟨bump hD hb, B⟩⟩
  push := fun ⟨ap, I⟩ hi ho => ⟨ap, I.push C hi ho⟩
  pull := fun ⟨_, I⟩ hi hl hs =>
    ⟨have ⟨ap', I', _⟩ := I.pull C hi hl
     ⟨ap', I'⟩, fun ha => deliver I hi hl ha hs⟩

/-- the header-free invariant with node `i` replaced, as a property of the replica and its counters -/
def At (V : View α) (SI : List α → List LEnt → Prop) (ns0 : List α) (lg0 : List LEnt) (i : Nat) (S : Replica) (pu pl : Nat) :
    Prop := SI (ns0.set i (V.node S pu pl)) lg0

theorem at_self {ns0 : List α} {lg0 : List LEnt} {i : Nat} {nd0 : α} (h0 : ns0[i]? = some nd0) :
    At V SI ns0 lg0 i (V.r nd0) (V.pu nd0) (V.pl nd0) ↔ SI ns0 lg0 := by
  unfold At
  rw [V.eta, set_self h0]

namespace HeaderFree
variable (HF : HeaderFree V cuid n G CO Good Safe SI) {ns0 : List α} {lg0 : List LEnt} {i : Nat} (hlt : i < ns0.length)
  {S : Replica} {pu pl : Nat}
include hlt in
theorem nodeAt : (ns0.set i (V.node S pu pl))[i]? = some (V.node S pu pl) := by simp [hlt]

include HF hlt

theorem coreAt (I : At V SI ns0 lg0 i S pu pl) : Core cuid n lg0 i S pu pl := by
  have := HF.core I (nodeAt hlt (S := S) (pu := pu) (pl := pl))
  rwa [V.r_node, V.pu_node, V.pl_node] at this

theorem callAt (I : At V SI ns0 lg0 i S pu pl) {c : Call} (hc : CO c) (hg : G i pl) :
    At V SI ns0 lg0 i (S.call c).1 pu pl := by
  have := HF.call I (nodeAt hlt) hc (by rw [V.pl_node]; exact hg)
  rwa [List.set_set, V.r_node, V.pu_node, V.pl_node] at this

theorem bumpAt (I : At V SI ns0 lg0 i S pu pl) {S' : Replica} (h : Bump S S') : At V SI ns0 lg0 i S' pu pl := by
  have := HF.bump (r' := S') I (nodeAt hlt) (by rw [V.r_node]; exact h)
  rwa [List.set_set, V.pu_node, V.pl_node] at this

theorem pushAt (I : At V SI ns0 lg0 i S pu pl) {o : Op} (ho : S.buffer[pu]? = some o) :
    At V SI ns0 (lg0 ++ [(i, o)]) i S (pu + 1) pl := by
  have := HF.push (o := o) I (nodeAt hlt) (by rw [V.r_node, V.pu_node]; exact ho)
  rwa [List.set_set, V.r_node, V.pu_node, V.pl_node] at this

theorem pullOwnAt (I : At V SI ns0 lg0 i S pu pl) {o : Op} (hl : lg0[pl]? = some (i, o)) (hs : Safe o) :
    At V SI ns0 lg0 i S pu (pl + 1) := by
  have := (HF.pull (a := i) (o := o) I (nodeAt hlt) (by rw [V.pl_node]; exact hl) hs).1
  rwa [List.set_set, V.r_node, V.pu_node, V.pl_node, if_pos rfl] at this

theorem pullOthAt (I : At V SI ns0 lg0 i S pu pl) {a : Nat} {o : Op} (hl : lg0[pl]? = some (a, o)) (ha : a ≠ i)
    (hs : Safe o) : At V SI ns0 lg0 i (S.execRemoteBase o).1 pu (pl + 1) ∧ (S.execRemoteBase o).2 = none := by
  obtain ⟨I', hnp⟩ := HF.pull (a := a) (o := o) I (nodeAt hlt) (by rw [V.pl_node]; exact hl) hs
  rw [List.set_set, V.r_node, V.pu_node, V.pl_node, if_neg ha] at I'
  exact ⟨I', by have := hnp ha; rwa [V.r_node] at this⟩

theorem callSim (hg : G i pl) : CallSim (fun ar => At V SI ns0 lg0 i ar pu pl) (Good i) CO where
  nopanic := fun {ar c} I hc => by
    have := HF.nopanic I (nodeAt hlt) hc
    rwa [V.r_node] at this
  call := fun I hc => callAt HF hlt I hc hg
  new := fun {ar c} I hc _ hb => by
    have := HF.new (c := c) I (nodeAt hlt) hc (by rw [V.r_node]; exact hb)
    rwa [V.r_node] at this
  bump := fun I => bumpAt HF hlt I { state := rfl, buffer := rfl, cuid := rfl, era := rfl, lamport := Nat.le_succ _ }

theorem pushes (k : Nat) : ∀ (lg0 : List LEnt) (pu : Nat), At V SI ns0 lg0 i S pu pl → pu + k = S.buffer.length →
    At V SI ns0 (lg0 ++ (S.buffer.drop pu).map (fun o => (i, o))) i S S.buffer.length pl := by
  induction k with
  | zero =>
    intro lg0 pu I hk
    rw [List.drop_eq_nil_of_le (by omega), List.map_nil, List.append_nil, ← (by omega : pu = S.buffer.length)]
    exact I
  | succ k ih =>
    intro lg0 pu I hk
    have hp : pu < S.buffer.length := by omega
    have I2 := ih _ _ (pushAt HF hlt I (List.getElem?_eq_getElem hp)) (by omega)
    rw [List.drop_eq_getElem_cons hp, List.map_cons, List.append_cons]
    exact I2

end HeaderFree

/-! ## `receive` of a sequence of units, step by step against the header-free invariant -/

/-- `S` (a replica of the header-free system) is `R` (the replica of this system) up to a clock that is not ahead: `R` receives
    the headers too, and a header moves its clock and nothing else (`le_hdr`) -/
structure Le (S R : Replica) : Prop where
  st : S.state = R.state
  cu : S.opId.cuid = R.opId.cuid
  era : S.opId.era = R.opId.era
  lam : S.opId.lamport ≤ R.opId.lamport

theorem sync_mono {a b : OpId} (k : Nat) (h : a.lamport ≤ b.lamport) :
    (a.syncLamport k).lamport ≤ (b.syncLamport k).lamport := by
  unfold OpId.syncLamport
  split <;> split <;> simp <;> omega

theorem le_exec {S R : Replica} (h : Le S R) (o : Op) (x : List Op) :
    Le (S.execRemoteBase o).1 { (R.execRemoteBase o).1 with rbOps := x } where
  st := by
    show (S.execRemoteBase o).1.state = (R.execRemoteBase o).1.state
    rw [execRemoteBase_eq, execRemoteBase_eq, h.st]
  cu := by show (S.execRemoteBase o).1.opId.cuid = (R.execRemoteBase o).1.opId.cuid; rw [execRemoteBase_opId, execRemoteBase_opId, NetBook.sync_cuid, NetBook.sync_cuid]; exact h.cu
  era := by show (S.execRemoteBase o).1.opId.era = (R.execRemoteBase o).1.opId.era; rw [execRemoteBase_opId, execRemoteBase_opId, NetBook.sync_era, NetBook.sync_era]; exact h.era
  lam := by show (S.execRemoteBase o).1.opId.lamport ≤ (R.execRemoteBase o).1.opId.lamport; rw [execRemoteBase_opId, execRemoteBase_opId]; exact sync_mono _ h.lam

theorem execRemote_hdr (s : DState) (ts : Ts) {o : Op} (ho : isHdr o = true) : execRemote s ts o.body = .ok s := by
  unfold isHdr at ho
  split at ho
  · rename_i tag k hb; rw [hb]; cases s <;> rfl
  · cases ho

theorem applyUnit_single (r : Replica) (o : Op) : r.applyUnit [o] = Replica.applyUnit.go r [o] := rfl

theorem applyUnit_hdr (r : Replica) (id : OpId) (tag : String) (o : Op) (ops : List Op) :
    r.applyUnit (⟨id, .transaction tag (((o :: ops).length : Int) + 1)⟩ :: o :: ops) =
      Replica.applyUnit.go r (o :: ops) := by
  simp only [Replica.applyUnit]
  rw [if_neg (by simp)]

theorem execRemoteBase_snd {r r' : Replica} (h : r.state = r'.state) (o : Op) :
    (r.execRemoteBase o).2 = (r'.execRemoteBase o).2 := by
  unfold Replica.execRemoteBase
  rw [h]
  cases execRemote r'.state o.id.ts o.body <;> rfl

theorem le_hdr {S R : Replica} (h : Le S R) {o : Op} (ho : isHdr o = true) (x : List Op) :
    Le S { (R.execRemoteBase o).1 with rbOps := x } where
  st := by
    show S.state = (R.execRemoteBase o).1.state
    rw [execRemoteBase_eq, remoteState, execRemote_hdr _ _ ho, h.st]
  cu := by show S.opId.cuid = (R.execRemoteBase o).1.opId.cuid; rw [execRemoteBase_opId, NetBook.sync_cuid]; exact h.cu
  era := by show S.opId.era = (R.execRemoteBase o).1.opId.era; rw [execRemoteBase_opId, NetBook.sync_era]; exact h.era
  lam := by show S.opId.lamport ≤ (R.execRemoteBase o).1.opId.lamport; rw [execRemoteBase_opId]; exact Nat.le_trans h.lam (NetBook.sync_lam _ _).1

theorem go_single_hdr {S R : Replica} (h : Le S R) {o : Op} (ho : isHdr o = true) :
    ∃ R', Replica.applyUnit.go R [o] = (R', .ok ()) ∧ Le S R' := by
  have e : R.execRemoteBase o = ((R.execRemoteBase o).1, none) := by
    unfold Replica.execRemoteBase
    rw [execRemote_hdr _ _ ho]
  refine ⟨{ (R.execRemoteBase o).1 with rbOps := (R.execRemoteBase o).1.rbOps ++ [o] }, ?_, le_hdr h ho _⟩
  rw [applyUnit_go_cons, e]
  simp only []
  unfold Replica.applyUnit.go
  rfl

theorem eraseL_flatU_cons (a : Nat) (u : List Op) (units : List (Nat × List Op)) :
    eraseL (flatU ((a, u) :: units)) = (eraseB u).map (fun o => ((a, o) : LEnt)) ++ eraseL (flatU units) := by
  rw [flatU_cons, eraseL_append, eraseL_map]

theorem foreign_cons (i a : Nat) (u : List Op) (units : List (Nat × List Op)) :
    (oth i (flatU ((a, u) :: units))).map (·.2) =
      (if a = i then [] else u) ++ (oth i (flatU units)).map (·.2) := by
  rw [flatU_cons, oth_append, List.map_append]
  by_cases ha : a = i
  · subst ha; rw [if_pos rfl, oth_map_self]; rfl
  · rw [if_neg ha, oth_map_ne ha, ListAux.map_snd_pair]

theorem receive_unit_append {u : List Op} (hu : IsUnit u) (R : Replica) (rest : List Op) :
    R.receive (u ++ rest) = match R.applyUnit u with
      | (R', .ok ()) => R'.receive rest
      | (R', e) => (R', e) := by
  obtain ⟨o, tl, rfl, hlen, hbad⟩ := unit_head hu
  rw [List.cons_append, SN.receive_cons, ← List.cons_append, hbad _ (by simp)]
  simp only [Bool.false_eq_true, if_false, hlen, List.take_left', List.drop_left']
  rcases R.applyUnit (o :: tl) with ⟨R', (_ | _ | _)⟩ <;> rfl

section recv
variable (HF : HeaderFree V cuid n G CO Good Safe SI) {ns0 : List α} {lg0 : List LEnt} {i : Nat} (hlt : i < ns0.length)
  {pu : Nat}
include HF hlt

theorem pulls_own (es : List Op) (hs : ∀ o ∈ es, Safe o) : ∀ (S : Replica) (pl : Nat) (rest : List LEnt),
    At V SI ns0 lg0 i S pu pl → lg0.drop pl = es.map (fun o => ((i, o) : LEnt)) ++ rest →
    At V SI ns0 lg0 i S pu (pl + es.length) := by
  induction es with
  | nil => exact fun S pl rest I _ => I
  | cons o os ih =>
    intro S pl rest I hd
    obtain ⟨h0, h1⟩ := drop_cons (by simpa using hd)
    rw [List.length_cons, Nat.add_comm os.length, ← Nat.add_assoc]
    exact ih (fun o' h' => hs o' (List.mem_cons_of_mem _ h')) S (pl + 1) rest
      (HF.pullOwnAt hlt I h0 (hs o List.mem_cons_self)) h1

theorem go_sim {a : Nat} (ha : a ≠ i) (ops : List Op) (hs : ∀ o ∈ ops, Safe o) : ∀ (S R : Replica) (pl : Nat)
    (rest : List LEnt), At V SI ns0 lg0 i S pu pl → Le S R → lg0.drop pl = ops.map (fun o => ((a, o) : LEnt)) ++ rest →
    ∃ R' S', Replica.applyUnit.go R ops = (R', .ok ()) ∧ At V SI ns0 lg0 i S' pu (pl + ops.length) ∧
      Le S' R' ∧ S'.buffer = S.buffer := by
  induction ops with
  | nil => exact fun S R pl rest I h _ => ⟨R, S, by unfold Replica.applyUnit.go; rfl, I, h, rfl⟩
  | cons o os ih =>
    intro S R pl rest I h hd
    obtain ⟨h0, h1⟩ := drop_cons (by simpa using hd)
    obtain ⟨I1, hnp⟩ := HF.pullOthAt hlt I h0 ha (hs o List.mem_cons_self)
    have hnpR : (R.execRemoteBase o).2 = none := by rw [← execRemoteBase_snd h.st o]; exact hnp
    have e : R.execRemoteBase o = ((R.execRemoteBase o).1, none) := Prod.ext rfl hnpR
    obtain ⟨R', S', g1, g2, g3, g4⟩ := ih (fun o' h' => hs o' (List.mem_cons_of_mem _ h')) (S.execRemoteBase o).1 _ (pl + 1) rest I1
      (le_exec h o _) h1
    rw [List.length_cons, Nat.add_comm os.length, ← Nat.add_assoc, applyUnit_go_cons, e]
    exact ⟨R', S', g1, g2, g3, g4.trans (execRemoteBase_buffer _ _)⟩

theorem unit_sim {a : Nat} (ha : a ≠ i) {u : List Op} (hu : IsUnit u) (hs : ∀ o ∈ u, Safe o) {S R : Replica} {pl : Nat}
    {rest : List LEnt} (I : At V SI ns0 lg0 i S pu pl) (h : Le S R)
    (hd : lg0.drop pl = (eraseB u).map (fun o => ((a, o) : LEnt)) ++ rest) :
    ∃ R' S', R.applyUnit u = (R', .ok ()) ∧ At V SI ns0 lg0 i S' pu (pl + (eraseB u).length) ∧
      Le S' R' ∧ S'.buffer = S.buffer := by
  rcases hu with ⟨o, rfl, ho⟩ | ⟨id, tag, ops, rfl, hops⟩
  · rw [applyUnit_single]
    rw [eraseB_all (by simpa using ho)] at hd ⊢
    exact go_sim HF hlt ha [o] hs S R pl rest I h hd
  · rw [eraseB_hdr_cons, eraseB_all hops] at hd ⊢
    have hs' : ∀ o ∈ ops, Safe o := fun o ho => hs o (List.mem_cons_of_mem _ ho)
    cases ops with
    | nil =>
      rw [applyUnit_single]
      obtain ⟨R', g1, g2⟩ := go_single_hdr h (o := ⟨id, .transaction tag _⟩) rfl
      exact ⟨R', S, g1, I, g2, rfl⟩
    | cons o ops =>
      rw [applyUnit_hdr]
      exact go_sim HF hlt ha (o :: ops) hs' S R pl rest I h hd

/-- ONE `receive` of the real replica `R` (the units of the others in the rest of the log, headers included) against the pulls,
    entry by entry, of the header-free node `S` over the erased rest `lg0.drop pl`: an own entry moves only the counter
    (`pulls_own`), a foreign unit is `applyUnit` on `R` and one delivery per plain operation on `S` (`unit_sim`, `go_sim`; the
    deliveries do not panic on `S`, so they do not on `R`, which has the same state).  `rest`, in the three lemmas above: the
    part of the log behind the entries in hand. -/
theorem recv_sim (units : List (Nat × List Op)) : (∀ au ∈ units, IsUnit au.2 ∧ ∀ o ∈ au.2, Safe o) →
    ∀ (S R : Replica) (pl : Nat),
    At V SI ns0 lg0 i S pu pl → Le S R → lg0.drop pl = eraseL (flatU units) →
    ∃ R' S', R.receive ((oth i (flatU units)).map (·.2)) = (R', .ok ()) ∧
      At V SI ns0 lg0 i S' pu (pl + (eraseL (flatU units)).length) ∧ Le S' R' ∧ S'.buffer = S.buffer := by
  induction units with
  | nil =>
    intro _ S R pl I h _
    exact ⟨R, S, rfl, I, h, rfl⟩
  | cons au units ih =>
    obtain ⟨a, u⟩ := au
    intro hall S R pl I h hd
    have ih := ih (fun au hau => hall au (List.mem_cons_of_mem _ hau))
    obtain ⟨hu, hsafe⟩ := hall (a, u) List.mem_cons_self
    have hsafeE : ∀ o ∈ eraseB u, Safe o := fun o ho => hsafe o (List.mem_filter.mp ho).1
    rw [foreign_cons]
    rw [eraseL_flatU_cons] at hd
    rw [eraseL_flatU_cons, List.length_append, List.length_map, ← Nat.add_assoc]
    have hd2 : lg0.drop (pl + (eraseB u).length) = eraseL (flatU units) := by
      rw [← List.drop_drop, hd, List.drop_left' (by simp)]
    by_cases ha : a = i
    · rw [if_pos ha, List.nil_append]
      rw [ha] at hd
      exact ih S R _ (pulls_own HF hlt (eraseB u) hsafeE S pl _ I hd) h hd2
    · obtain ⟨R1, S1, g1, g2, g3, g4⟩ := unit_sim HF hlt ha hu hsafe I h hd
      obtain ⟨R', S', k1, k2, k3, k4⟩ := ih S1 R1 _ g2 g3 hd2
      rw [if_neg ha, receive_unit_append hu, g1]
      exact ⟨R', S', k1, k2, k3, k4.trans g4⟩

end recv

/-! ## the invariant of the system with headers -/

/-- `ns0, lg0` is `ns, lg` with the headers erased from log and buffers -/
structure Abs (V : View α) (ns : List α) (lg : List LEnt) (ns0 : List α) (lg0 : List LEnt) : Prop where
  log : lg0 = eraseL lg
  len : ns0.length = ns.length
  node : ∀ (i : Nat) (nd : α), ns[i]? = some nd → ∃ nd0, ns0[i]? = some nd0 ∧
    AbsC lg (V.r nd) (V.pu nd) (V.pl nd) (V.r nd0) (V.pu nd0) (V.pl nd0)

theorem Abs.set {ns ns0 : List α} {lg lg0 : List LEnt} (h : Abs V ns lg ns0 lg0) {i : Nat} {nd' nd0' : α}
    (hn : AbsC lg (V.r nd') (V.pu nd') (V.pl nd') (V.r nd0') (V.pu nd0') (V.pl nd0')) :
    Abs V (ns.set i nd') lg (ns0.set i nd0') lg0 := by
  refine ⟨h.log, by simp [h.len], ?_⟩
  intro j nd hj
  rcases ListAux.getElem?_set_some hj with ⟨rfl, rfl⟩ | ⟨hne, hj'⟩
  · have hlt : j < ns.length := by
      have := (List.getElem?_eq_some_iff.mp hj).1
      simpa using this
    exact ⟨nd0', by rw [List.getElem?_set_self (by rw [h.len]; exact hlt)], hn⟩
  · obtain ⟨nd0, h1, h2⟩ := h.node j nd hj'
    exact ⟨nd0, by rw [List.getElem?_set_ne (fun e => hne e.symm)]; exact h1, h2⟩

theorem Abs.ops {ns ns0 : List α} {lg lg0 : List LEnt} (h : Abs V ns lg ns0 lg0) {i : Nat} {nd : α} (hi : ns[i]? = some nd) :
    ∃ nd0, ns0[i]? = some nd0 ∧ (V.r nd0).state = (V.r nd).state ∧
      (V.r nd0).buffer ++ (oth i (lg0.take (V.pl nd0))).map (·.2) =
        eraseB ((V.r nd).buffer ++ (oth i (lg.take (V.pl nd))).map (·.2)) := by
  obtain ⟨nd0, h0, An⟩ := h.node i nd hi
  refine ⟨nd0, h0, An.st, ?_⟩
  have e : lg0.take (V.pl nd0) = eraseL (lg.take (V.pl nd)) := by
    rw [h.log, An.pulled]; exact filter_take_len _ lg (V.pl nd)
  rw [e, An.buf, oth_eraseL, eraseL_snd, ← eraseB_append]

/-- what node `i` hands to `receive` when it pulls -/
def pullOps (lg : List LEnt) (i pl : Nat) : List Op := (oth i (lg.drop pl)).map (·.2)

/-- the invariant of a system with transactions: its header-free image satisfies `SI`; every node is `NodeOK`; the log is a
    concatenation of units; every entry has its author's client identifier and is `Safe` -/
structure TInv (V : View α) (cuid : Nat → String) (n : Nat) (Safe : Op → Prop) (SI : List α → List LEnt → Prop)
    (ns : List α) (lg : List LEnt) : Prop where
  sim : ∃ ns0 lg0, SI ns0 lg0 ∧ Abs V ns lg ns0 lg0
  node : ∀ (i : Nat) (nd : α), ns[i]? = some nd → NodeOK Safe cuid lg i (V.r nd) (V.pu nd) (V.pl nd)
  /-- ONE decomposition of the log into units, and every `pulled` sits at one of ITS boundaries -/
  log_units : ∃ units : List (Nat × List Op), lg = flatU units ∧ (∀ au ∈ units, IsUnit au.2) ∧
    ∀ (i : Nat) (nd : α), ns[i]? = some nd → ∃ k, V.pl nd = (flatU (units.take k)).length
  log_ok : ∀ e ∈ lg, e.1 < n ∧ e.2.id.cuid = cuid e.1 ∧ Safe e.2
  /-- headers included: no two entries of the log carry the same (lamport, client) -/
  log_keys : lg.Pairwise (fun e e' => lkey e ≠ lkey e')

namespace TInv
variable {ns : List α} {lg : List LEnt} (HF : HeaderFree V cuid n G CO Good Safe SI) (T : TInv V cuid n Safe SI ns lg)
  {i : Nat} {nd : α} (hi : ns[i]? = some nd)
include HF T hi

/-- `T.sim` opened at node `i`, the first line of every step proof (also of a system's own, like the document patch); in
    order: the header-free net `ns0 lg0` and its node `nd0`; `Ab`: it is the erased image; `h0 hlt`: `nd0` is node `i`; `An`: of
    `nd`; `I`: `SI` in the form the `…At` lemmas and `callSim` take; `C0`: what `SI` says of `nd0` whatever the datatype -/
theorem at_node : ∃ ns0 lg0 nd0, Abs V ns lg ns0 lg0 ∧ ns0[i]? = some nd0 ∧ i < ns0.length ∧
    AbsC lg (V.r nd) (V.pu nd) (V.pl nd) (V.r nd0) (V.pu nd0) (V.pl nd0) ∧
    At V SI ns0 lg0 i (V.r nd0) (V.pu nd0) (V.pl nd0) ∧ Core cuid n lg0 i (V.r nd0) (V.pu nd0) (V.pl nd0) := by
  obtain ⟨ns0, lg0, I, Ab⟩ := T.sim
  obtain ⟨nd0, h0, An⟩ := Ab.node i nd hi
  exact ⟨ns0, lg0, nd0, Ab, h0, (List.getElem?_eq_some_iff.mp h0).1, An, (at_self h0).mpr I, HF.core I h0⟩

omit HF in
/-- node `i` is replaced and the log stays: the new node is given with its header-free image `S' pu0 pl0` (`I`, `A`) and its
    `NodeOK`.  `hpl`: its `pulled` sits at a unit boundary again, because it is the old one or the end of the log. -/
theorem set_node {r' : Replica} {pu' pl' : Nat} {ns0 : List α} {lg0 : List LEnt} {S' : Replica} {pu0 pl0 : Nat}
    (hpl : pl' = V.pl nd ∨ pl' = lg.length) (Ab : Abs V ns lg ns0 lg0) (I : At V SI ns0 lg0 i S' pu0 pl0)
    (A : AbsC lg r' pu' pl' S' pu0 pl0) (K : NodeOK Safe cuid lg i r' pu' pl') :
    TInv V cuid n Safe SI (ns.set i (V.node r' pu' pl')) lg where
  sim := ⟨_, _, I, Ab.set (by rw [V.r_node, V.pu_node, V.pl_node, V.r_node, V.pu_node, V.pl_node]; exact A)⟩
  node := ListAux.forall_set (by rw [V.r_node, V.pu_node, V.pl_node]; exact K) fun j ndj _ hj => T.node j ndj hj
  log_units := by
    obtain ⟨units, h1, h2, h3⟩ := T.log_units
    refine ⟨units, h1, h2, ?_⟩
    intro j ndj hj
    rcases ListAux.getElem?_set_some hj with ⟨rfl, rfl⟩ | ⟨hne, hj'⟩
    · rw [V.pl_node]
      rcases hpl with h | h
      · obtain ⟨k, hk⟩ := h3 j nd hi
        exact ⟨k, h.trans hk⟩
      · exact ⟨units.length, by rw [h, List.take_length, ← h1]⟩
    · exact h3 j ndj hj'
  log_ok := T.log_ok
  log_keys := T.log_keys

/-! ## what a step can do to node `i`

The conclusions name the new node as `ns.set i (V.node r' pu' pl')`.  A system states its `Step` constructors so that they
unfold to these terms at its `View` (`{ nd with r := … }` is `V.node …`, its own `pullOps` is `GTx.pullOps`): then its induction
step is one `exact` per constructor.  On the header-free side a new system needs no `Step` and `Step.cstep` of its own: it can
take `NetBook.CStep V G` as its step relation (`NetInv.step`); ListNet, MapNet and DocNet have theirs because their theorems
are stated with them. -/

/-- the case of a failed transaction and of an empty patch -/
theorem same {r' : Replica} (hrb' : r'.RbInv) (hid : r'.opId = (V.r nd).opId) (hst : r'.state = (V.r nd).state)
    (hbuf : r'.buffer = (V.r nd).buffer) : TInv V cuid n Safe SI (ns.set i (V.node r' (V.pu nd) (V.pl nd))) lg := by
  obtain ⟨ns0, lg0, nd0, Ab, h0, hlt, An, I, _⟩ := T.at_node HF hi
  have K := T.node i nd hi
  refine T.set_node hi (Or.inl rfl) Ab I ?_ ?_
  · exact An.extend (u := []) K.pushed_le (An.st.trans hst.symm) (An.id.trans hid.symm) (by rw [hbuf]; simp) (by simp [eraseB])
  · exact K.extend (u := []) (by rw [hbuf]; simp) (Or.inl rfl) hrb' (by simp) List.Pairwise.nil (Nat.le_of_eq (by rw [hid]))

/-- `hg`: the guard is `HeaderFree.call`'s, so it is asked at the header-free node's `pulled` (`AbsC.pulled`) -/
theorem call {c : Call} (hc : CO c) (hg : G i (eraseL (lg.take (V.pl nd))).length) :
    TInv V cuid n Safe SI (ns.set i (V.node ((V.r nd).call c).1 (V.pu nd) (V.pl nd))) lg := by
  obtain ⟨ns0, lg0, nd0, Ab, h0, hlt, An, I, _⟩ := T.at_node HF hi
  have K := T.node i nd hi
  obtain ⟨v1, v2, new, v3, v4⟩ := call_view (V.r nd) (V.r nd0) c An.st An.id
  obtain ⟨hmono, hnew⟩ := HF.new ((at_self h0).mp I) h0 hc v3
  have hnp : ((V.r nd).call c).2.isPanic = false := by
    have ⟨_, a⟩ := call_agree _ _ c An.st An.id
    rw [← a.out]; exact HF.nopanic ((at_self h0).mp I) h0 hc
  have hrb := rbInv_call (V.r nd) c K.rb hnp
  rw [An.id, v2] at hmono
  have hnh : ∀ o ∈ new, isHdr o = false := by
    rcases hnew with rfl | ⟨o, rfl, g, _⟩
    · simp
    · simpa using (HF.good g).1
  refine T.set_node hi (Or.inl rfl) Ab (HF.callAt hlt I hc (An.pulled ▸ hg)) ?_ ?_
  · exact An.extend K.pushed_le v1 v2 v4 (by rw [v3, eraseB_all hnh])
  · rcases hnew with rfl | ⟨o, rfl, g, g1, g2⟩
    · exact K.extend v4 (Or.inl rfl) hrb (by simp) .nil hmono
    · refine K.extend v4 (Or.inr (Or.inl ⟨o, rfl, (HF.good g).1⟩)) hrb ?_ (List.pairwise_singleton _ _) hmono
      intro o' ho'
      rw [List.mem_singleton.mp ho', ← v2, ← An.id]
      exact ⟨(HF.good g).2.1, (HF.good g).2.2, by omega, by omega⟩

/-- the case of a committed transaction and of a patch of several operations; `U` speaks of the header-free node, so the
    caller opens `at_node` and hands `Ab hlt An C0` on -/
theorem unit {ns0 : List α} {lg0 : List LEnt} {nd0 : α} (Ab : Abs V ns lg ns0 lg0) (hlt : i < ns0.length)
    (An : AbsC lg (V.r nd) (V.pu nd) (V.pl nd) (V.r nd0) (V.pu nd0) (V.pl nd0))
    (C0 : Core cuid n lg0 i (V.r nd0) (V.pu nd0) (V.pl nd0)) {r' : Replica} {tag : String} {ops : List Op} {ar1 : Replica}
    (hrb' : r'.RbInv)
    (U : Committed (fun ar => At V SI ns0 lg0 i ar (V.pu nd0) (V.pl nd0)) (Good i) (V.r nd0) (V.r nd) r' tag ops ar1) :
    TInv V cuid n Safe SI (ns.set i (V.node r' (V.pu nd) (V.pl nd))) lg := by
  have K := T.node i nd hi
  have C1 := HF.coreAt hlt U.inv
  have hnh : ∀ o ∈ ops, isHdr o = false := fun o ho => (HF.good (U.good o ho).1).1
  refine T.set_node hi (Or.inl rfl) Ab U.inv ?_ ?_
  · exact An.extend K.pushed_le U.st U.id U.buf (by rw [U.abuf, eraseB_hdr_cons, eraseB_all hnh])
  · refine K.extend U.buf (Or.inr (Or.inr ⟨_, _, ops, rfl, hnh⟩)) hrb' ?_ ?_ (by have := U.mono; omega)
    · intro o ho
      rcases List.mem_cons.mp ho with rfl | ho
      · exact ⟨by rw [← An.id]; exact C0.clock_cuid, HF.hdr_safe rfl, by simp [OpId.next],
          by have := U.mono; simp only [OpId.next]; omega⟩
      · refine ⟨(HF.good (U.good o ho).1).2.1, (HF.good (U.good o ho).1).2.2, by have := (U.good o ho).2; omega, ?_⟩
        rw [← U.id]
        exact C1.buf_lam o (by rw [U.abuf]; exact List.mem_append_right _ ho)
    · refine List.pairwise_cons.mpr ⟨?_, ?_⟩
      · intro o ho
        have := (U.good o ho).2
        simp only [OpId.next]
        omega
      · have := C1.buf_sorted
        rw [U.abuf] at this
        exact (List.pairwise_append.mp this).2.1

theorem tx (tag : String) (calls : List Call) (hcs : ∀ c ∈ calls, CO c) (s f : Bool)
    (hg : G i (eraseL (lg.take (V.pl nd))).length) :
    TInv V cuid n Safe SI (ns.set i (V.node ((V.r nd).txCalls tag calls s f).1 (V.pu nd) (V.pl nd))) lg := by
  obtain ⟨ns0, lg0, nd0, Ab, h0, hlt, An, I, C0⟩ := T.at_node HF hi
  obtain ⟨hrb', hc⟩ := GTx.tx_cases (HF.callSim hlt (An.pulled ▸ hg)) I (V.r nd) An.st An.id (T.node i nd hi).rb tag calls hcs s f
  rcases hc with ⟨c, _, g1, g2, g3, _⟩ | ⟨_, ops, ar1, U⟩
  · exact T.same HF hi hrb' g1 g2 g3
  · exact T.unit HF hi Ab hlt An C0 hrb' U

theorem pushAll : TInv V cuid n Safe SI (ns.set i (V.node (V.r nd) (V.r nd).buffer.length (V.pl nd)))
    (lg ++ ((V.r nd).buffer.drop (V.pu nd)).map (fun o => (i, o))) := by
  obtain ⟨ns0, lg0, nd0, Ab, h0, hlt, An, I, C0⟩ := T.at_node HF hi
  have K := T.node i nd hi
  have I' := HF.pushes hlt ((V.r nd0).buffer.length - V.pu nd0) lg0 (V.pu nd0) I (by have := C0.pushed_le; omega)
  have hdrop : eraseB ((V.r nd).buffer.drop (V.pu nd)) = (V.r nd0).buffer.drop (V.pu nd0) := by
    rw [An.buf, An.pushed]
    exact (filter_drop_len nh (V.r nd).buffer (V.pu nd)).symm
  obtain ⟨units, h1, h2, h3⟩ := T.log_units
  obtain ⟨units', g1, g2, g3⟩ := units_push h1 h2 i K.rest_units
  -- the log grows: `set_node` does not apply, and what is known of every OTHER node is carried over the new entries too
  refine {
    sim := ⟨_, _, I', ?abs⟩
    node := ?node
    log_units := ⟨units', g1, g2, ?boundary⟩
    log_ok := ?log_ok
    log_keys := keys_push (HF.distinct ((at_self h0).mp I)) T.log_keys (fun e he => ⟨(T.log_ok e he).1, (T.log_ok e he).2.1⟩)
      C0.lt K.log_own K.buf_sorted (fun o ho => (K.buf_ok o ho).1) }
  case abs =>
    refine ⟨by rw [eraseL_append, eraseL_map, Ab.log, hdrop], by simp [Ab.len], ?_⟩
    refine ListAux.forall_set (Q := fun j ndj => ∃ nd0, (ns0.set i _)[j]? = some nd0 ∧ _) ?_ ?_
    · refine ⟨_, HeaderFree.nodeAt hlt, ?_⟩
      rw [V.r_node, V.pu_node, V.pl_node, V.r_node, V.pu_node, V.pl_node]
      exact (An.log_append K.pulled_le _).pushed_all
    · intro j ndj hne hj
      obtain ⟨ndj0, q1, q2⟩ := Ab.node j ndj hj
      exact ⟨ndj0, by rw [List.getElem?_set_ne (fun e => hne e.symm)]; exact q1,
        q2.log_append (T.node j ndj hj).pulled_le _⟩
  case node =>
    refine ListAux.forall_set ?_ fun j ndj hne hj => (T.node j ndj hj).log_append hne
    rw [V.r_node, V.pu_node, V.pl_node]
    exact K.pushed_all
  case boundary =>
    intro j ndj hj
    have hk : ∃ k, V.pl ndj = (flatU (units.take k)).length := by
      rcases ListAux.getElem?_set_some hj with ⟨rfl, rfl⟩ | ⟨hne, hj'⟩
      · rw [V.pl_node]; exact h3 j nd hi
      · exact h3 j ndj hj'
    obtain ⟨k, hk⟩ := hk
    obtain ⟨k', hk'⟩ := g3 k
    exact ⟨k', hk.trans hk'⟩
  case log_ok =>
    intro e he
    rcases List.mem_append.mp he with h | h
    · exact T.log_ok e h
    · obtain ⟨o, ho, rfl⟩ := List.mem_map.mp h
      have := K.buf_ok o (List.mem_of_mem_drop ho)
      exact ⟨C0.lt, this.1, this.2⟩

/-- a whole-log pull of node `i`: `receive` accepts, and the header-free node reaches the end of its log (`recv_sim`, started at
    the unit boundary where `pulled` sits); `Ab hlt An I` are `at_node`'s, as for `unit` -/
theorem recv {ns0 : List α} {lg0 : List LEnt} {nd0 : α} (Ab : Abs V ns lg ns0 lg0) (hlt : i < ns0.length)
    (An : AbsC lg (V.r nd) (V.pu nd) (V.pl nd) (V.r nd0) (V.pu nd0) (V.pl nd0))
    (I : At V SI ns0 lg0 i (V.r nd0) (V.pu nd0) (V.pl nd0)) :
    ∃ R' S', (V.r nd).receive (pullOps lg i (V.pl nd)) = (R', .ok ()) ∧
      At V SI ns0 lg0 i S' (V.pu nd0) lg0.length ∧ Le S' R' ∧ S'.buffer = (V.r nd0).buffer := by
  -- `pulled` sits at a boundary of the decomposition of the log: the rest of the log is the rest of the units
  obtain ⟨all, h1, h2, h3⟩ := T.log_units
  obtain ⟨k, hk⟩ := h3 i nd hi
  have hu : lg.drop (V.pl nd) = flatU (all.drop k) := (boundary_split h1 hk).2
  have h2' : ∀ au ∈ all.drop k, IsUnit au.2 := fun au h => h2 au (List.mem_of_mem_drop h)
  generalize all.drop k = units at hu h2'
  have hsafe : ∀ au ∈ units, IsUnit au.2 ∧ ∀ o ∈ au.2, Safe o := by
    intro au hau
    refine ⟨h2' au hau, fun o ho => ?_⟩
    have hm : (au.1, o) ∈ lg := by
      apply List.mem_of_mem_drop (i := V.pl nd)
      rw [hu]
      unfold flatU
      exact List.mem_flatMap.mpr ⟨au, hau, List.mem_map.mpr ⟨o, ho, rfl⟩⟩
    exact (T.log_ok _ hm).2.2
  have hes : lg0.drop (V.pl nd0) = eraseL (flatU units) := by
    rw [← hu, Ab.log, An.pulled]
    exact filter_drop_len _ lg (V.pl nd)
  have hle : Le (V.r nd0) (V.r nd) := ⟨An.st, by rw [An.id], by rw [An.id], Nat.le_of_eq (by rw [An.id])⟩
  obtain ⟨R', S', g1, g2, g3, g4⟩ := recv_sim HF hlt units hsafe (V.r nd0) (V.r nd) (V.pl nd0) I hle hes
  refine ⟨R', S', ?_, ?_, g3, g4⟩
  · unfold pullOps
    rw [hu]
    exact g1
  · have : V.pl nd0 + (eraseL (flatU units)).length = lg0.length := by
      have h1 := congrArg List.length hes
      rw [List.length_drop] at h1
      have := (HF.coreAt hlt I).pulled_le
      omega
    rw [← this]
    exact g2

theorem pullAll : TInv V cuid n Safe SI
    (ns.set i (V.node ((V.r nd).receive (pullOps lg i (V.pl nd))).1 (V.pu nd) lg.length)) lg := by
  obtain ⟨ns0, lg0, nd0, Ab, h0, hlt, An, I, C0⟩ := T.at_node HF hi
  have K := T.node i nd hi
  obtain ⟨R', S', hrecv, I1, hle, hbuf⟩ := T.recv HF hi Ab hlt An I
  -- the clock is bumped to the clock of the real replica
  have I2 := HF.bumpAt hlt I1 (S' := { S' with opId := R'.opId })
    { state := rfl, buffer := rfl, cuid := hle.cu.symm, era := hle.era.symm, lamport := hle.lam }
  obtain ⟨f1, _⟩ := receive_fields (V.r nd) (pullOps lg i (V.pl nd))
  have hp : ((V.r nd).receive (pullOps lg i (V.pl nd))).2.isPanic = false := by rw [hrecv]; rfl
  have hmono := lamport_mono_receive (V.r nd) (pullOps lg i (V.pl nd))
  have hcu : (V.r nd).opId.cuid = cuid i := by rw [← An.id]; exact C0.clock_cuid
  have hforeign : ∀ o ∈ pullOps lg i (V.pl nd), o.id.cuid ≠ (V.r nd).opId.cuid := by
    intro o ho
    unfold pullOps at ho
    obtain ⟨e, he, rfl⟩ := List.mem_map.mp ho
    obtain ⟨he1, he2⟩ := mem_oth.mp he
    obtain ⟨g1, g2, _⟩ := T.log_ok e (List.mem_of_mem_drop he1)
    rw [g2, hcu]
    exact fun e0 => he2 (HF.distinct ((at_self h0).mp I) e.1 i g1 C0.lt e0)
  have hrb := rbInv_receive (V.r nd) _ K.rb hforeign hp
  have er : ((V.r nd).receive (pullOps lg i (V.pl nd))).1 = R' := by rw [hrecv]
  rw [er] at f1 hmono hrb ⊢
  refine T.set_node hi (Or.inr rfl) Ab I2 ?_ (K.pulled_all f1 hrb hmono)
  exact An.pulled_all hle.st rfl f1 hbuf (congrArg List.length Ab.log)

end TInv

/-! ## what the invariant gives -/

namespace TInv
variable {ns : List α} {lg : List LEnt} (HF : HeaderFree V cuid n G CO Good Safe SI) (T : TInv V cuid n Safe SI ns lg)
include T

section node
variable {i : Nat} {nd : α} (hi : ns[i]? = some nd)
include hi

include HF in
/-- `GTx.tx_cases` at node `i`, without the header-free side: what the instance files quote -/
theorem tx_cases (tag : String) (calls : List Call) (hcs : ∀ c ∈ calls, CO c) (s f : Bool)
    (hg : G i (eraseL (lg.take (V.pl nd))).length) :
    let r' := ((V.r nd).txCalls tag calls s f).1
    (∃ c, ((V.r nd).txCalls tag calls s f).2.2 = .err c ∧ r'.opId = (V.r nd).opId ∧ r'.state = (V.r nd).state ∧
        r'.buffer = (V.r nd).buffer ∧ r'.cp = (V.r nd).cp) ∨
     (((V.r nd).txCalls tag calls s f).2.2 = .ok () ∧ ∃ ops : List Op,
        r'.buffer = (V.r nd).buffer ++ (⟨(V.r nd).opId.next, .transaction tag ((ops.length : Int) + 1)⟩ :: ops) ∧
        IsUnit (⟨(V.r nd).opId.next, .transaction tag ((ops.length : Int) + 1)⟩ :: ops) ∧
        ∀ o ∈ ops, Good i o ∧ (V.r nd).opId.lamport + 1 < o.id.lamport) := by
  obtain ⟨ns0, lg0, nd0, Ab, h0, hlt, An, I, C0⟩ := T.at_node HF hi
  obtain ⟨_, hc⟩ := GTx.tx_cases (HF.callSim hlt (An.pulled ▸ hg)) I (V.r nd) An.st An.id (T.node i nd hi).rb tag calls hcs s f
  rcases hc with h | ⟨hok, ops, ar1, U⟩
  · exact Or.inl h
  · exact Or.inr ⟨hok, ops, U.buf, Or.inr ⟨_, _, ops, rfl, fun o ho => (HF.good (U.good o ho).1).1⟩, U.good⟩

theorem failed_noop (tag : String) (calls : List Call) (s f : Bool) (c : Nat)
    (herr : ((V.r nd).txCalls tag calls s f).2.2 = .err c) (j : Nat) (nd' : α)
    (hj : (ns.set i (V.node ((V.r nd).txCalls tag calls s f).1 (V.pu nd) (V.pl nd)))[j]? = some nd') :
    ∃ ndj, ns[j]? = some ndj ∧ (V.r nd').opId = (V.r ndj).opId ∧ (V.r nd').state = (V.r ndj).state ∧
      (V.r nd').buffer = (V.r ndj).buffer ∧ (V.r nd').cp = (V.r ndj).cp ∧ V.pu nd' = V.pu ndj ∧ V.pl nd' = V.pl ndj := by
  rcases ListAux.getElem?_set_some hj with ⟨rfl, rfl⟩ | ⟨hne, hj'⟩
  · obtain ⟨g1, g2, g3, g4⟩ := txCalls_fail_restores (V.r nd) (T.node j nd hi).rb tag calls s f c herr
    exact ⟨nd, hi, by rw [V.r_node]; exact g1, by rw [V.r_node]; exact g2, by rw [V.r_node]; exact g3,
      by rw [V.r_node]; exact g4, V.pu_node .., V.pl_node ..⟩
  · exact ⟨nd', hj', rfl, rfl, rfl, rfl, rfl, rfl⟩

include HF in
theorem tx_never_panics (tag : String) (calls : List Call) (hcs : ∀ c ∈ calls, CO c) (s f : Bool)
    (hg : G i (eraseL (lg.take (V.pl nd))).length) :
    ((V.r nd).txCalls tag calls s f).2.2 = .ok () ∨ ∃ c, ((V.r nd).txCalls tag calls s f).2.2 = .err c :=
  (T.tx_cases HF hi tag calls hcs s f hg).elim (fun ⟨c, hc, _⟩ => .inr ⟨c, hc⟩) (fun ⟨hok, _⟩ => .inl hok)

include HF in
theorem committed (tag : String) (calls : List Call) (hcs : ∀ c ∈ calls, CO c) (s f : Bool)
    (hg : G i (eraseL (lg.take (V.pl nd))).length)
    (hok : ((V.r nd).txCalls tag calls s f).2.2 = .ok ()) :
    ∃ ops : List Op,
      ((V.r nd).txCalls tag calls s f).1.buffer =
        (V.r nd).buffer ++ (⟨(V.r nd).opId.next, .transaction tag ((ops.length : Int) + 1)⟩ :: ops) ∧
      IsUnit (⟨(V.r nd).opId.next, .transaction tag ((ops.length : Int) + 1)⟩ :: ops) ∧
      ∀ o ∈ ops, Good i o ∧ (V.r nd).opId.lamport + 1 < o.id.lamport := by
  rcases T.tx_cases HF hi tag calls hcs s f hg with ⟨c, hc, _⟩ | ⟨_, h⟩
  · cases hok.symm.trans hc
  · exact h

include HF in
theorem receive_ok : ((V.r nd).receive (pullOps lg i (V.pl nd))).2 = .ok () := by
  obtain ⟨ns0, lg0, nd0, Ab, h0, hlt, An, I, C0⟩ := T.at_node HF hi
  obtain ⟨R', S', hrecv, _⟩ := T.recv HF hi Ab hlt An I
  rw [hrecv]

end node

theorem log_is_units : ∃ units : List (Nat × List Op), lg = flatU units ∧ ∀ au ∈ units, IsUnit au.2 := by
  obtain ⟨units, h1, h2, _⟩ := T.log_units
  exact ⟨units, h1, h2⟩

theorem all_or_nothing_pos : ∃ units : List (Nat × List Op),
    lg = flatU units ∧ (∀ au ∈ units, IsUnit au.2) ∧
    ∀ (i : Nat) (nd : α), ns[i]? = some nd → ∀ j, j < units.length →
      (∀ p, unitStart units j ≤ p → p < unitStart units (j + 1) → p < V.pl nd) ∨
      (∀ p, unitStart units j ≤ p → p < unitStart units (j + 1) → ¬ p < V.pl nd) := by
  obtain ⟨units, h1, h2, h3⟩ := T.log_units
  refine ⟨units, h1, h2, fun i nd hi j _ => ?_⟩
  obtain ⟨k, hk⟩ := h3 i nd hi
  exact boundary_all_or_none_pos units hk j

theorem log_nodup : lg.Nodup := NetBook.nodup_of_keys T.log_keys

/-- stated in the form of the `Applied` of each system -/
theorem all_or_nothing : ∃ units : List (Nat × List Op),
    lg = flatU units ∧ (∀ au ∈ units, IsUnit au.2) ∧
    ∀ (i : Nat) (nd : α), ns[i]? = some nd → ∀ au ∈ units, au.1 ≠ i →
      (∀ o ∈ au.2, ∃ nd, ns[i]? = some nd ∧ (au.1, o) ∈ oth i (lg.take (V.pl nd))) ∨
      (∀ o ∈ au.2, ¬ ∃ nd, ns[i]? = some nd ∧ (au.1, o) ∈ oth i (lg.take (V.pl nd))) := by
  obtain ⟨units, h1, h2, h3⟩ := T.log_units
  refine ⟨units, h1, h2, fun i nd hi au hau hne => ?_⟩
  obtain ⟨k, hk⟩ := h3 i nd hi
  refine (boundary_all_or_none h1 T.log_nodup hk hau).imp
    (fun ha o ho => ⟨nd, hi, mem_oth.mpr ⟨ha o ho, hne⟩⟩) (fun hn o ho ⟨nd', hi', hm⟩ => ?_)
  cases hi.symm.trans hi'
  exact hn o ho (mem_oth.mp hm).1

theorem caught_up_perm {i j : Nat} {ni nj : α} (hi : ns[i]? = some ni) (hj : ns[j]? = some nj)
    (pi : V.pu ni = (V.r ni).buffer.length) (li : V.pl ni = lg.length) (pj : V.pu nj = (V.r nj).buffer.length)
    (lj : V.pl nj = lg.length) :
    ((V.r ni).buffer ++ (oth i (lg.take (V.pl ni))).map (·.2)).Perm
      ((V.r nj).buffer ++ (oth j (lg.take (V.pl nj))).map (·.2)) :=
  (NetBook.caught_up_of_own (T.node i ni hi).log_own pi li).trans
    (NetBook.caught_up_of_own (T.node j nj hj).log_own pj lj).symm

end TInv

/-- `h`, per node and in this order: nothing pushed, nothing pulled, `RbInv`, the buffer is a sequence of units, sorted by clock,
    and each of its operations is no header, has the node's client identifier, is `Safe` and not ahead of the clock (a buffer
    need not be empty at the start: the creating client's holds its snapshot, `TInvC.init`) -/
theorem TInv.init {ns : List α} (hI : SI ns [])
    (h : ∀ (i : Nat) (nd : α), ns[i]? = some nd → V.pu nd = 0 ∧ V.pl nd = 0 ∧ (V.r nd).RbInv ∧
      UnitsB (V.r nd).buffer ∧ (V.r nd).buffer.Pairwise (fun o o' => o.id.lamport < o'.id.lamport) ∧
      ∀ o ∈ (V.r nd).buffer, isHdr o = false ∧ o.id.cuid = cuid i ∧ Safe o ∧ o.id.lamport ≤ (V.r nd).opId.lamport) :
    TInv V cuid n Safe SI ns [] where
  sim := by
    refine ⟨ns, [], hI, rfl, rfl, fun i nd hi => ?_⟩
    obtain ⟨h1, h2, _, _, _, hb⟩ := h i nd hi
    exact ⟨nd, hi, rfl, rfl, (eraseB_all fun o ho => (hb o ho).1).symm, by rw [h1]; rfl, by rw [h2]; rfl⟩
  node := fun i nd hi => by
    obtain ⟨h1, h2, hrb, hu, hs, hb⟩ := h i nd hi
    exact {
      rb := hrb
      pushed_le := h1 ▸ Nat.zero_le _
      pulled_le := h2 ▸ Nat.zero_le _
      rest_units := by rw [h1]; exact hu
      buf_ok := fun o ho => ⟨(hb o ho).2.1, (hb o ho).2.2.1⟩
      log_own := by rw [h1]; rfl
      buf_sorted := hs
      buf_lam := fun o ho => (hb o ho).2.2.2 }
  log_units := ⟨[], rfl, (fun _ h => nomatch h), fun i nd hi => ⟨0, (h i nd hi).2.1⟩⟩
  log_ok := fun e he => nomatch he
  log_keys := .nil

/-! ## the system started by a creating client (node 0) -/

/-- the guard of the created systems (`C`: with a Creating client): a subscriber calls only after its first pull.  The steps of
    the systems ask it at the node's `pulled`, and the lemmas below spell that out as they do (`hg : i ≠ 0 → 0 < V.pl nd`);
    `HeaderFree.call` asks it at the header-free node's `pulled`: `TInvC.guard` leads from the one to the other. -/
def guardC (i pl : Nat) : Prop := i ≠ 0 → 0 < pl

theorem eraseL_take_pos {log : List (Nat × Op)} {s : Op} (hh : ∀ e, log[0]? = some e → e = (0, s)) (hs : nh s = true)
    {pl : Nat} (hg : 0 < pl) (hle : pl ≤ log.length) : 0 < (eraseL (log.take pl)).length := by
  cases log with
  | nil => exact absurd hg (Nat.not_lt.mpr hle)
  | cons e t =>
    cases hh e rfl
    cases pl with
    | zero => cases hg
    | succ p =>
      rw [List.take_succ_cons, eraseL, List.filter_cons_of_pos (p := fun e : LEnt => nh e.2) hs]
      exact Nat.succ_pos _

/-- the real (header-carrying) side of a system started by a creating client: the snapshot operation `s` heads the creator's
    buffer and the log; a subscriber that has pulled nothing has queued nothing -/
structure Head {α : Type} (V : View α) (s : Op) (nodes : List α) (log : List (Nat × Op)) : Prop where
  log_head : ∀ e, log[0]? = some e → e = (0, s)
  creator : ∀ nd, nodes[0]? = some nd → (V.r nd).buffer.head? = some s
  fresh : ∀ i nd, nodes[i]? = some nd → i ≠ 0 → V.pl nd = 0 → (V.r nd).buffer = []

namespace Head
variable {s : Op} {nodes : List α} {log : List (Nat × Op)}

/-- node `i` gets a buffer that extends the old one and a `pulled` that is not smaller.  `hg`: a node queues only where the guard
    lets it call; otherwise its buffer is the old one, so that a subscriber that has pulled nothing still has queued nothing -/
theorem set (H : Head V s nodes log) {i : Nat} {nd : α} (hi : nodes[i]? = some nd) {r' : Replica} {pl' : Nat}
    (hb : ∃ u, r'.buffer = (V.r nd).buffer ++ u) (hp : V.pl nd ≤ pl')
    (hg : (i ≠ 0 → 0 < V.pl nd) ∨ r'.buffer = (V.r nd).buffer) :
    Head V s (nodes.set i (V.node r' (V.pu nd) pl')) log := by
  refine ⟨H.log_head, fun nd0 h0 => ?_, fun j ndj hj hj0 hpj => ?_⟩
  · rcases ListAux.getElem?_set_some h0 with ⟨rfl, rfl⟩ | ⟨hne, h0'⟩
    · obtain ⟨u, hu⟩ := hb
      have hc := H.creator nd hi
      rw [V.r_node, hu]
      cases hbb : (V.r nd).buffer with
      | nil => rw [hbb] at hc; cases hc
      | cons b0 bt => rw [hbb] at hc; exact hc
    · exact H.creator nd0 h0'
  · rcases ListAux.getElem?_set_some hj with ⟨rfl, rfl⟩ | ⟨hne, hj'⟩
    · rw [V.pl_node] at hpj
      have hp0 : V.pl nd = 0 := Nat.le_zero.mp (hpj ▸ hp)
      rw [V.r_node]
      rcases hg with hg | hg
      · exact absurd (hg hj0) (by omega)
      · rw [hg]; exact H.fresh j nd hi hj0 hp0
    · exact H.fresh j ndj hj' hj0 hpj

theorem pushAll (H : Head V s nodes log) {i : Nat} {nd : α} (hi : nodes[i]? = some nd) (hpl : V.pl nd ≤ log.length)
    (hown : own i log = ((V.r nd).buffer.take (V.pu nd)).map (fun o => (i, o))) :
    Head V s (nodes.set i (V.node (V.r nd) (V.r nd).buffer.length (V.pl nd)))
      (log ++ ((V.r nd).buffer.drop (V.pu nd)).map (fun o => (i, o))) := by
  refine ⟨fun e he => ?_, fun nd0 h0 => ?_, fun j ndj hj hj0 hpj => ?_⟩
  · cases log with
    | cons e0 t => exact H.log_head e he
    | nil =>
      -- the first entry ever: of the creator, which has pushed nothing yet (a subscriber has nothing to push)
      have hpu : (V.r nd).buffer.take (V.pu nd) = [] := List.map_eq_nil_iff.mp hown.symm
      by_cases h0 : i = 0
      · subst h0
        have hc := H.creator nd hi
        cases hbb : (V.r nd).buffer with
        | nil => rw [hbb] at hc; cases hc
        | cons b0 bt =>
          rw [hbb] at hc hpu he
          cases hc
          cases hpp : V.pu nd with
          | zero => rw [hpp] at he; exact (Option.some.inj he).symm
          | succ p => rw [hpp] at hpu; cases hpu
      · rw [H.fresh i nd hi h0 (Nat.le_zero.mp hpl)] at he
        simp at he
  · rcases ListAux.getElem?_set_some h0 with ⟨rfl, rfl⟩ | ⟨hne, h0'⟩
    · rw [V.r_node]; exact H.creator nd hi
    · exact H.creator nd0 h0'
  · rcases ListAux.getElem?_set_some hj with ⟨rfl, rfl⟩ | ⟨hne, hj'⟩
    · rw [V.r_node]; rw [V.pl_node] at hpj; exact H.fresh j nd hi hj0 hpj
    · exact H.fresh j ndj hj' hj0 hpj

end Head

/-- `TInv` for a system started by a creating client -/
structure TInvC (V : View α) (cuid : Nat → String) (n : Nat) (Safe : Op → Prop) (SI : List α → List LEnt → Prop) (s : Op)
    (ns : List α) (lg : List LEnt) : Prop where
  tinv : TInv V cuid n Safe SI ns lg
  head : Head V s ns lg

/-- `h`, per node and in this order: nothing pushed, nothing pulled, `RbInv`, the buffer is `[s]` at the creator and empty
    elsewhere, the creator's clock has reached `s` -/
theorem TInvC.init {s : Op} {ns : List α} (hI : SI ns []) (hs : isHdr s = false ∧ s.id.cuid = cuid 0 ∧ Safe s)
    (h : ∀ (i : Nat) (nd : α), ns[i]? = some nd → V.pu nd = 0 ∧ V.pl nd = 0 ∧ (V.r nd).RbInv ∧
      (V.r nd).buffer = (if i = 0 then [s] else []) ∧ (i = 0 → s.id.lamport ≤ (V.r nd).opId.lamport)) :
    TInvC V cuid n Safe SI s ns [] := by
  refine ⟨.init hI fun i nd hi => ?_, (fun _ he => nomatch he), fun nd h0 => ?_, fun i nd hi h0 _ => ?_⟩
  · obtain ⟨h1, h2, hrb, hb, hl⟩ := h i nd hi
    refine ⟨h1, h2, hrb, ?_⟩
    rw [hb]
    split
    · next h0 =>
      exact ⟨⟨[[s]], rfl, fun u hu => List.mem_singleton.mp hu ▸ Or.inl ⟨s, rfl, hs.1⟩⟩, List.pairwise_singleton _ _,
        fun o ho => List.mem_singleton.mp ho ▸ ⟨hs.1, h0 ▸ hs.2.1, hs.2.2, hl h0⟩⟩
    · exact ⟨unitsB_nil, .nil, fun _ ho => nomatch ho⟩
  · obtain ⟨_, _, _, hb, _⟩ := h 0 nd h0
    rw [hb, if_pos rfl]; rfl
  · obtain ⟨_, _, _, hb, _⟩ := h i nd hi
    rw [hb, if_neg h0]

namespace TInvC
variable {s : Op} {ns : List α} {lg : List LEnt} (HF : HeaderFree V cuid n guardC CO Good Safe SI) (hs : nh s = true)
  (T : TInvC V cuid n Safe SI s ns lg) {i : Nat} {nd : α} (hi : ns[i]? = some nd)
include T hi

include hs in
/-- the guard on the real side, read on the header-free side: the first log entry is not a header -/
theorem guard (hg : i ≠ 0 → 0 < V.pl nd) : guardC i (eraseL (lg.take (V.pl nd))).length :=
  fun h' => eraseL_take_pos T.head.log_head hs (hg h') (T.tinv.node i nd hi).pulled_le

include HF

theorem pushAll : TInvC V cuid n Safe SI s (ns.set i (V.node (V.r nd) (V.r nd).buffer.length (V.pl nd)))
    (lg ++ ((V.r nd).buffer.drop (V.pu nd)).map (fun o => (i, o))) :=
  have K := T.tinv.node i nd hi
  ⟨T.tinv.pushAll HF hi, T.head.pushAll hi K.pulled_le K.log_own⟩

theorem pullAll : TInvC V cuid n Safe SI s
    (ns.set i (V.node ((V.r nd).receive (pullOps lg i (V.pl nd))).1 (V.pu nd) lg.length)) lg :=
  have f1 := (receive_fields (V.r nd) (pullOps lg i (V.pl nd))).1
  ⟨T.tinv.pullAll HF hi, T.head.set hi ⟨[], by rw [f1]; simp⟩ (T.tinv.node i nd hi).pulled_le (Or.inr f1)⟩

include hs

theorem call {c : Call} (hc : CO c) (hg : i ≠ 0 → 0 < V.pl nd) :
    TInvC V cuid n Safe SI s (ns.set i (V.node ((V.r nd).call c).1 (V.pu nd) (V.pl nd))) lg := by
  obtain ⟨_, _, new, _, v4⟩ := call_view (V.r nd) (V.r nd) c rfl rfl
  exact ⟨T.tinv.call HF hi hc (T.guard hs hi hg), T.head.set hi ⟨new, v4⟩ (Nat.le_refl _) (Or.inl hg)⟩

theorem tx (tag : String) (calls : List Call) (hcs : ∀ c ∈ calls, CO c) (s' f : Bool) (hg : i ≠ 0 → 0 < V.pl nd) :
    TInvC V cuid n Safe SI s (ns.set i (V.node ((V.r nd).txCalls tag calls s' f).1 (V.pu nd) (V.pl nd))) lg := by
  refine ⟨T.tinv.tx HF hi tag calls hcs s' f (T.guard hs hi hg), ?_⟩
  rcases T.tinv.tx_cases HF hi tag calls hcs s' f (T.guard hs hi hg) with ⟨c, _, _, _, g3, _⟩ | ⟨_, ops, hb, _⟩
  · exact T.head.set hi ⟨[], by rw [g3]; simp⟩ (Nat.le_refl _) (Or.inr g3)
  · exact T.head.set hi ⟨_, hb⟩ (Nat.le_refl _) (Or.inl hg)

end TInvC
end headerFree

/-! ## quiescence is reachable from every state -/

/-- `R`: the steps of a system over nodes seen through `V`, `Rs`: zero or more of them.  By `NetBook.quiesce_by`, a node
    counting 1 while it has something left -/
theorem can_quiesce (V : View α) {R Rs : List α × List LEnt → List α × List LEnt → Prop} (refl : ∀ a, Rs a a)
    (tail : ∀ {a b c}, Rs a b → R b c → Rs a c)
    (push : ∀ (ns : List α) (lg : List LEnt) (i : Nat) (nd : α), ns[i]? = some nd →
      R (ns, lg) (ns.set i (V.node (V.r nd) (V.r nd).buffer.length (V.pl nd)),
        lg ++ ((V.r nd).buffer.drop (V.pu nd)).map (fun o => (i, o))))
    (pull : ∀ (ns : List α) (lg : List LEnt) (i : Nat) (nd : α), ns[i]? = some nd →
      R (ns, lg) (ns.set i (V.node ((V.r nd).receive (pullOps lg i (V.pl nd))).1 (V.pu nd) lg.length), lg))
    (s : List α × List LEnt) :
    ∃ s', Rs s s' ∧ ∀ nd ∈ s'.1, V.pu nd = (V.r nd).buffer.length ∧ V.pl nd = s'.2.length := by
  obtain ⟨s', hr, _, hq⟩ := NetBook.quiesce_by (P := fun _ => True) refl @tail (fun _ _ => trivial)
    (fun nd => if V.pu nd = (V.r nd).buffer.length then 0 else 1) (fun L nd => if V.pl nd = L then 0 else 1)
    (fun {t i nd} _ hi hne => ⟨_, _, push t.1 t.2 i nd hi, by
      rw [V.pu_node, V.r_node, if_pos rfl]
      exact Nat.pos_of_ne_zero hne⟩)
    (fun {t i nd} _ hi hne => ⟨_, pull t.1 t.2 i nd hi, by
      rw [V.pl_node, if_pos rfl]
      exact Nat.pos_of_ne_zero hne, by rw [V.pu_node, V.r_node, (receive_fields _ _).1]⟩)
    (s := s) trivial
  exact ⟨s', hr, fun nd hnd =>
    ⟨Decidable.of_not_not fun h => Nat.one_ne_zero ((if_neg h).symm.trans (hq nd hnd).1),
     Decidable.of_not_not fun h => Nat.one_ne_zero ((if_neg h).symm.trans (hq nd hnd).2)⟩⟩

end Orda.GTx
