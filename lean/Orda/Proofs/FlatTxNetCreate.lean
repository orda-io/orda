/-
The transaction systems of the flat datatypes (list: `LTx`; LWW map and counter: `MTx`) started by a CREATING client (C09 end
to end).  Namespace `L`: lists; `M`: maps and counters (parameter `typ`).

The system: `FNetC.L.initC` / `FNetC.M.initC` (node 0 is the creator, its buffer holds the snapshot operation; the others
are fresh subscribers) with the steps of `LTx` / `MTx` and a guard on `call` and `tx`: a subscriber acts only after it has
consumed the first log entry.  `ltx_tx_before_first_pull_diverges` / `mtx_…`: without the guard convergence fails.

The invariant is `GTx.TInvC` (Proofs/TxCore.lean): that of Proofs/ListTxNet and Proofs/MapTxNet, `LTx.TxInv` / `MTx.TxInv`, over the
invariant of the header-free system WITH creator, `FNetC.L.InvC` / `FNetC.M.InvC` (`headerFreeC`: it is closed under what
`FreeInv` asks; the snapshot operation is not a header, so it stays on that side; on the real side it is a unit of its own),
together with `GTx.Head` (log and creator's buffer start with the snapshot operation; a subscriber that has pulled nothing has
queued nothing: `HeadOK`), through which the guard on the real side gives the guard of the header-free call (`GTx.TInvC.guard`).  The
theorems are those of `TxInv`, read here.
-/
import Orda.Proofs.ListTxNet
import Orda.Proofs.MapTxNet
import Orda.Proofs.FlatNetCreate
namespace Orda.FTxNetC

/-! # lists (`Orda.LTx` with the creating client) -/
namespace L
open Orda Orda.RF Orda.LNet Orda.LTx
open Orda.FNetC.L (snapOp snapEnt initC EntOKC NodeInvC InvC)

/-! ## the system: `LTx.Step` from `FNetC.L.initC` (creator + subscribers), with the guard on call / tx -/

inductive StepC : Net → Net → Prop
  | call (net : Net) (i : Nat) (nd : Node) (c : Call) (hi : net.nodes[i]? = some nd) (hg : i ≠ 0 → 0 < nd.pulled) :
      StepC net ⟨net.nodes.set i { nd with r := (nd.r.call c).1 }, net.log⟩
  | tx (net : Net) (i : Nat) (nd : Node) (tag : String) (calls : List Call) (stopOnErr failAtEnd : Bool)
      (hi : net.nodes[i]? = some nd) (hg : i ≠ 0 → 0 < nd.pulled) :
      StepC net ⟨net.nodes.set i { nd with r := (nd.r.txCalls tag calls stopOnErr failAtEnd).1 }, net.log⟩
  | pushAll (net : Net) (i : Nat) (nd : Node) (hi : net.nodes[i]? = some nd) :
      StepC net ⟨net.nodes.set i { nd with pushed := nd.r.buffer.length },
                net.log ++ (nd.r.buffer.drop nd.pushed).map (fun o => (i, o))⟩
  | pullAll (net : Net) (i : Nat) (nd : Node) (hi : net.nodes[i]? = some nd) :
      StepC net ⟨net.nodes.set i { nd with r := (nd.r.receive (pullOps net.log i nd)).1, pulled := net.log.length },
                net.log⟩

/-- reachable from the creator `Replica.new .list (cuid 0) true` and `n - 1` fresh subscribers -/
inductive ReachC (cuid : Nat → String) (n : Nat) : Net → Prop
  | init (hc : CuidsDistinct cuid n) : ReachC cuid n (initC cuid n)
  | step {net net' : Net} : ReachC cuid n net → StepC net net' → ReachC cuid n net'

theorem StepC.toStep {net net' : Net} (h : StepC net net') : LTx.Step net net' := by
  cases h with
  | call i nd c hi hg => exact .call net i nd c hi
  | tx i nd tag calls s f hi hg => exact .tx net i nd tag calls s f hi
  | pushAll i nd hi => exact .pushAll net i nd hi
  | pullAll i nd hi => exact .pullAll net i nd hi

def guardOK (net : Net) (i : Nat) : Bool :=
  match net.nodes[i]? with
  | some nd => decide (i = 0 ∨ 0 < nd.pulled)
  | none => false

/-- the executable form: `LTx.act` + the guard -/
def actC (net : Net) : LTx.Act → Option Net
  | .call i c => if guardOK net i then LTx.act net (.call i c) else none
  | .tx i tag calls s f => if guardOK net i then LTx.act net (.tx i tag calls s f) else none
  | .pushAll i => LTx.act net (.pushAll i)
  | .pullAll i => LTx.act net (.pullAll i)

def runC (net : Net) : List LTx.Act → Option Net
  | [] => some net
  | a :: as => match actC net a with
    | some net' => runC net' as
    | none => none

theorem guard_of_ok {net : Net} {i : Nat} {nd : Node} (hn : net.nodes[i]? = some nd) (h : guardOK net i = true) :
    i ≠ 0 → 0 < nd.pulled := by
  unfold guardOK at h
  rw [hn] at h
  simp only [decide_eq_true_eq] at h
  intro h0
  rcases h with h | h
  · exact absurd h h0
  · exact h

theorem stepC_of_actC {net net' : Net} {a : LTx.Act} (h : actC net a = some net') : StepC net net' := by
  cases a with
  | call i c =>
    simp only [actC] at h
    split at h
    · next hgd =>
      simp only [LTx.act] at h
      split at h <;> cases h
      exact .call net i _ c ‹_› (guard_of_ok ‹_› hgd)
    · cases h
  | tx i tag calls s f =>
    simp only [actC] at h
    split at h
    · next hgd =>
      simp only [LTx.act] at h
      split at h <;> cases h
      exact .tx net i _ tag calls s f ‹_› (guard_of_ok ‹_› hgd)
    · cases h
  | pushAll i =>
    simp only [actC, LTx.act] at h
    split at h <;> cases h
    exact .pushAll net i _ ‹_›
  | pullAll i =>
    simp only [actC, LTx.act] at h
    split at h <;> cases h
    exact .pullAll net i _ ‹_›

theorem reachC_run {cuid : Nat → String} {n : Nat} : ∀ (as : List LTx.Act) {net net' : Net}, ReachC cuid n net →
    runC net as = some net' → ReachC cuid n net' := fun as _ _ hr h =>
  ListAux.run_induction (Q := fun _ => True) (fun _ => rfl) (fun s a _ => by simp only [runC]; cases actC s a <;> rfl)
    (fun hr _ h => .step hr (stepC_of_actC h)) as hr h fun _ _ => trivial

/-! ## the header-free side: `FNetC.L.InvC` is closed under what `LTx.FreeInv` asks -/

/-- `FNetC.L.InvC`, as `NetBook` states it -/
abbrev SNetC (cuid : Nat → String) (n : Nat) (net : Net) : Prop :=
  ∃ ap, NetBook.NetInv view (EntOKC cuid n) (FNetC.L.DtC cuid) (· = snapEnt cuid) cuid n net.nodes net.log ap

theorem headerFreeC (cuid : Nat → String) (n : Nat) : FreeInv cuid n GTx.guardC (SNetC cuid n) where
  toG := GTx.HeaderFree.of_net (V := view) (FNetC.L.closedC cuid n)
      (guard := fun hg _ => hg)
      (good := fun g => ⟨g.nh, g.cu, g.safe⟩)
      (hdr_safe := hdr_safe)
      (bump := fun d h => ⟨d.toDt.bump h, d.fresh, fun h0 => h.buffer ▸ d.creator h0⟩)
      (nopanic := fun d _ => LTx.call_no_panic _ _ d.st (size_eq_liveCount _ d.lc) _)
      (queued := fun d _ hb hcu => queued_good d.st _ hb hcu)
      (deliver := fun I hi _ _ hs => (execRemoteBase_safe _ _ (I.node _ _ hi).1.st _ hs).1)
  applied := fun ⟨_, I⟩ => ⟨_, appliedBy_of_net I FNetC.L.DtC.toDt⟩

/-- a public call on a list whose stored Size is its number of live elements never panics -/
theorem call_no_panic (r : Replica) (l : Rga) (hs : r.state = .list l) (hsz : l.size = liveCount l.nodes) (c : Call) :
    (r.call c).2.isPanic = false :=
  LTx.call_no_panic r l hs hsz c

/-! ## the invariant of the system -/

/-- the real (header-carrying) side: the snapshot operation heads the creator's buffer and the log; a subscriber that has
    pulled nothing has queued nothing (the guard).  `GTx.Head` in the terms of this system (`TxInvC.headOK`). -/
structure HeadOK (cuid : Nat → String) (net : Net) : Prop where
  log_head : ∀ e, net.log[0]? = some e → e = snapEnt cuid
  creator : ∀ nd, net.nodes[0]? = some nd → nd.r.buffer.head? = some (snapOp cuid)
  fresh : ∀ i nd, net.nodes[i]? = some nd → i ≠ 0 → nd.pulled = 0 → nd.r.buffer = []

abbrev TxInvC (cuid : Nat → String) (n : Nat) (net : Net) : Prop :=
  GTx.TInvC view cuid n (fun o => RemoteSafe o.body) (fun ns lg => SNetC cuid n ⟨ns, lg⟩) (snapOp cuid)
    net.nodes net.log

theorem net_eta (net : Net) : (⟨net.nodes, net.log⟩ : Net) = net := rfl

namespace TxInvC
variable {cuid : Nat → String} {n : Nat} {net : Net} (T : TxInvC cuid n net)
include T

theorem tinv : TxInv cuid n (SNetC cuid n) net := GTx.TInvC.tinv T

theorem headOK : HeadOK cuid net := ⟨T.head.log_head, T.head.creator, T.head.fresh⟩

theorem guard {i : Nat} {nd : Node} (hi : net.nodes[i]? = some nd) (hg : i ≠ 0 → 0 < nd.pulled) :
    GTx.guardC i (LTx.eraseL (net.log.take nd.pulled)).length := GTx.TInvC.guard rfl T hi hg

end TxInvC

theorem TxInvC.step {cuid : Nat → String} {n : Nat} {net net' : Net} (T : TxInvC cuid n net) (h : StepC net net') :
    TxInvC cuid n net' := by
  have HF := (headerFreeC cuid n).toG
  cases h with
  | call i nd c hi hg => exact GTx.TInvC.call HF rfl T hi trivial hg
  | tx i nd tag calls s f hi hg => exact GTx.TInvC.tx HF rfl T hi tag calls (fun _ _ => trivial) s f hg
  | pushAll i nd hi => exact GTx.TInvC.pushAll HF T hi
  | pullAll i nd hi => exact GTx.TInvC.pullAll HF T hi

theorem snap_safe (cuid : Nat → String) : RemoteSafe (snapOp cuid).body :=
  ⟨fun p vs e => by simp [snapOp] at e, fun p tg vs e => by simp [snapOp] at e⟩

theorem tinv_initC {cuid : Nat → String} {n : Nat} (hc : CuidsDistinct cuid n) : TxInvC cuid n (initC cuid n) :=
  .init ⟨_, (FNetC.L.inv_initC hc).toNet⟩ ⟨rfl, rfl, snap_safe cuid⟩ fun i nd hi => by
    obtain ⟨rfl, _⟩ := ListAux.range_map_node hi
    cases i with
    | zero => exact ⟨rfl, rfl, rbInv_new _ _ _, rfl, fun _ => Nat.le_refl _⟩
    | succ i => exact ⟨rfl, rfl, rbInv_new _ _ _, rfl, fun h => nomatch h⟩

theorem tinv_reach {cuid : Nat → String} {n : Nat} {net : Net} (h : ReachC cuid n net) : TxInvC cuid n net := by
  induction h with
  | init hc => exact tinv_initC hc
  | step _ hs ih => exact ih.step hs

/-! ## the theorems -/

section theorems
variable {cuid : Nat → String} {n : Nat} {net : Net}

/-- in a reachable state a transaction (ANY body) never panics: it ends with `.ok ()` or with an error -/
theorem cltx_tx_never_panics (h : ReachC cuid n net) {i : Nat} {nd : Node} (hi : net.nodes[i]? = some nd)
    (tag : String) (calls : List Call) (stopOnErr failAtEnd : Bool) (hg : i ≠ 0 → 0 < nd.pulled) :
    (nd.r.txCalls tag calls stopOnErr failAtEnd).2.2 = .ok () ∨
      ∃ c, (nd.r.txCalls tag calls stopOnErr failAtEnd).2.2 = .err c :=
  (tinv_reach h).tinv.tx_never_panics (headerFreeC cuid n).toG hi tag calls (fun _ _ => trivial) stopOnErr failAtEnd
    ((tinv_reach h).guard hi hg)

/-- a failing transaction changes nothing on its node: operation identifier, state, buffer, checkpoint are what they
    were (whatever the body did before it failed: valid and refused calls, reads, early return, failing user function) -/
theorem cltx_failed_tx_is_noop (h : ReachC cuid n net) {i : Nat} {nd : Node} (hi : net.nodes[i]? = some nd)
    (tag : String) (calls : List Call) (stopOnErr failAtEnd : Bool) (c : Nat)
    (herr : (nd.r.txCalls tag calls stopOnErr failAtEnd).2.2 = .err c) :
    let r' := (nd.r.txCalls tag calls stopOnErr failAtEnd).1
    r'.opId = nd.r.opId ∧ r'.state = nd.r.state ∧ r'.buffer = nd.r.buffer ∧ r'.cp = nd.r.cp :=
  txCalls_fail_restores nd.r ((tinv_reach h).tinv.node i nd hi).rb tag calls stopOnErr failAtEnd c herr

/-- a failing user transaction on ANY node of ANY reachable state (no guard needed; any body) leaves the log and every node —
    operation identifier, state, buffer, checkpoint, counters — unchanged -/
theorem created_ltx_failed_transaction_changes_nothing (h : ReachC cuid n net) {i : Nat} {nd : Node}
    (hi : net.nodes[i]? = some nd) (tag : String) (calls : List Call) (stopOnErr failAtEnd : Bool) (c : Nat)
    (herr : (nd.r.txCalls tag calls stopOnErr failAtEnd).2.2 = .err c) {net' : Net}
    (hnet : net' = ⟨net.nodes.set i { nd with r := (nd.r.txCalls tag calls stopOnErr failAtEnd).1 }, net.log⟩) :
    net'.log = net.log ∧ ∀ (j : Nat) (nd' : Node), net'.nodes[j]? = some nd' →
      ∃ ndj, net.nodes[j]? = some ndj ∧ nd'.r.opId = ndj.r.opId ∧ nd'.r.state = ndj.r.state ∧
        nd'.r.buffer = ndj.r.buffer ∧ nd'.r.cp = ndj.r.cp ∧ nd'.pushed = ndj.pushed ∧ nd'.pulled = ndj.pulled := by
  subst hnet
  exact ⟨rfl, (tinv_reach h).tinv.failed_noop hi tag calls stopOnErr failAtEnd c herr⟩

/-- … stated for the system: after the `tx` step of a failing transaction the log is the same and every node has the same
    state, operation identifier, buffer, checkpoint and counters as before -/
theorem cltx_failed_tx_is_noop_net (h : ReachC cuid n net) {i : Nat} {nd : Node} (hi : net.nodes[i]? = some nd)
    (tag : String) (calls : List Call) (stopOnErr failAtEnd : Bool) (c : Nat) (hg : i ≠ 0 → 0 < nd.pulled)
    (herr : (nd.r.txCalls tag calls stopOnErr failAtEnd).2.2 = .err c) {net' : Net}
    (hnet : net' = ⟨net.nodes.set i { nd with r := (nd.r.txCalls tag calls stopOnErr failAtEnd).1 }, net.log⟩) :
    StepC net net' ∧ net'.log = net.log ∧ ∀ (j : Nat) (nd' : Node), net'.nodes[j]? = some nd' →
      ∃ ndj, net.nodes[j]? = some ndj ∧ nd'.r.opId = ndj.r.opId ∧ nd'.r.state = ndj.r.state ∧
        nd'.r.buffer = ndj.r.buffer ∧ nd'.r.cp = ndj.r.cp ∧ nd'.pushed = ndj.pushed ∧ nd'.pulled = ndj.pulled := by
  subst hnet
  exact ⟨.tx net i nd tag calls stopOnErr failAtEnd hi hg,
    created_ltx_failed_transaction_changes_nothing h hi tag calls stopOnErr failAtEnd c herr rfl⟩

/-- a committed transaction appends exactly ONE unit `header :: ops` to the buffer; the header carries the first
    identifier of the transaction and announces the unit's length; `ops` (the operations of the successful calls of the
    body) contains no header, and every operation is safe to execute remotely and carries the node's client identifier -/
theorem cltx_committed_tx_is_one_unit (h : ReachC cuid n net) {i : Nat} {nd : Node} (hi : net.nodes[i]? = some nd)
    (tag : String) (calls : List Call) (stopOnErr failAtEnd : Bool) (hg : i ≠ 0 → 0 < nd.pulled)
    (hok : (nd.r.txCalls tag calls stopOnErr failAtEnd).2.2 = .ok ()) :
    let r' := (nd.r.txCalls tag calls stopOnErr failAtEnd).1
    ∃ ops : List Op,
      r'.buffer = nd.r.buffer ++ (⟨nd.r.opId.next, .transaction tag ((ops.length : Int) + 1)⟩ :: ops) ∧
      IsUnit (⟨nd.r.opId.next, .transaction tag ((ops.length : Int) + 1)⟩ :: ops) ∧
      ∀ o ∈ ops, isHdr o = false ∧ RemoteSafe o.body ∧ o.id.cuid = cuid i ∧ nd.r.opId.lamport + 1 < o.id.lamport :=
  (tinv_reach h).tinv.committed (headerFreeC cuid n) hi tag calls stopOnErr failAtEnd ((tinv_reach h).guard hi hg) hok

/-- units are contiguous in the log, in every reachable state: the log is a concatenation of units -/
theorem cltx_log_is_units (h : ReachC cuid n net) : ∃ units : List (Nat × List Op),
    net.log = units.flatMap (fun (a, u) => u.map (a, ·)) ∧ ∀ au ∈ units, IsUnit au.2 :=
  (tinv_reach h).tinv.log_is_units

/-- `receive` never refuses and never panics in the system: what a node hands to `receive` when it pulls is accepted -/
theorem cltx_receive_ok (h : ReachC cuid n net) {i : Nat} {nd : Node} (hi : net.nodes[i]? = some nd) :
    (nd.r.receive (pullOps net.log i nd)).2 = .ok () :=
  (tinv_reach h).tinv.receive_ok (headerFreeC cuid n).toG hi

/-- where unit `j` of a decomposition starts in the log -/
def unitStart (units : List (Nat × List Op)) (j : Nat) : Nat := (flatU (units.take j)).length

/-- ALL OR NOTHING, by log position: there is ONE decomposition of the log into units such that every node, at every
    moment, has consumed (`p < pulled`) either ALL positions of a unit or NONE of them — `pulled` never sits inside a unit.
    (`cltx_nodes_applied_ops` ties `pulled` to the state: the state of a node is the application of its own operations and
    of the foreign entries among the first `pulled` ones.) -/
theorem cltx_all_or_nothing_pos (h : ReachC cuid n net) : ∃ units : List (Nat × List Op),
    net.log = flatU units ∧ (∀ au ∈ units, IsUnit au.2) ∧
    ∀ (i : Nat) (nd : Node), net.nodes[i]? = some nd → ∀ j, j < units.length →
      (∀ p, unitStart units j ≤ p → p < unitStart units (j + 1) → p < nd.pulled) ∨
      (∀ p, unitStart units j ≤ p → p < unitStart units (j + 1) → ¬ p < nd.pulled) :=
  (tinv_reach h).tinv.all_or_nothing_pos

/-- node `i` has applied the log entry `e` of another node: `e` is among the entries `i` has consumed -/
def Applied (net : Net) (i : Nat) (e : LEnt) : Prop :=
  ∃ nd, net.nodes[i]? = some nd ∧ e ∈ oth i (net.log.take nd.pulled)

theorem cltx_log_nodup (h : ReachC cuid n net) : net.log.Nodup := (tinv_reach h).tinv.log_nodup

/-! `nh`, `eraseB`, `eraseL`, `AbsNode`, `Abs` are field for field those of `LTx` (in which `TxInv.abs` is stated);
`cltx_erased_satisfies_lnet_inv` is stated with these; `Abs.of` converts. -/

def nh (o : Op) : Bool := !isHdr o
def eraseB (b : List Op) : List Op := b.filter nh
def eraseL (l : List LEnt) : List LEnt := l.filter (fun e => nh e.2)

/-- node `nd0` of `ListNet` is node `nd` of this system with the headers erased -/
structure AbsNode (log : List LEnt) (nd nd0 : Node) : Prop where
  st : nd0.r.state = nd.r.state
  id : nd0.r.opId = nd.r.opId
  buf : nd0.r.buffer = eraseB nd.r.buffer
  pushed : nd0.pushed = (eraseB (nd.r.buffer.take nd.pushed)).length
  pulled : nd0.pulled = (eraseL (log.take nd.pulled)).length

/-- `net0` is `net` with the headers erased from log and buffers -/
structure Abs (net net0 : Net) : Prop where
  log : net0.log = eraseL net.log
  len : net0.nodes.length = net.nodes.length
  node : ∀ (i : Nat) (nd : Node), net.nodes[i]? = some nd → ∃ nd0, net0.nodes[i]? = some nd0 ∧ AbsNode net.log nd nd0

theorem Abs.of {net net0 : Net} (h : LTx.Abs net net0) : Abs net net0 :=
  ⟨h.log, h.len, fun i nd hi => have ⟨nd0, h0, A⟩ := h.node i nd hi; ⟨nd0, h0, A.st, A.id, A.buf, A.pushed, A.pulled⟩⟩

/-- erasing the headers from log and buffers (`Abs`) turns every reachable state into a
    state that satisfies `FNetC.L.InvC` — every step of this system is a sequence of header-free steps
    (`NetBook.NetInv.call`, `.push`, `.pull`) and clock bumps (`GTx.HeaderFree.of_net`), under which that invariant is closed -/
theorem cltx_erased_satisfies_lnet_inv {cuid : Nat → String} {n : Nat} {net : Net} (h : ReachC cuid n net) :
    ∃ net0 ap, InvC cuid n net0 ap ∧ Abs net net0 := by
  obtain ⟨net0, ⟨ap, I⟩, Ab⟩ := (tinv_reach h).tinv.abs
  exact ⟨net0, ap, .of_net I, .of Ab⟩

/-- every node's state IS the remote application of a causal sequence that is a permutation of what the operations the
    node has (own buffer, foreign entries among the first `pulled` of the log; headers denote nothing) denote -/
theorem cltx_nodes_applied_ops (h : ReachC cuid n net) : ∃ applied : Nat → List LOp,
    ∀ (i : Nat) (nd : Node), net.nodes[i]? = some nd →
      nd.r.state = .list (Rga.empty.applyAllL (applied i)) ∧ LCausal (applied i) ∧
      (applied i).Perm ((appliedOps net.log i nd).filterMap toL) :=
  (tinv_reach h).tinv.nodes_applied_ops (headerFreeC cuid n)

/-- convergence survives: two nodes that have the same operations (`LNet.SameOps`: own buffer ++ consumed foreign log
    entries, as multisets — headers included) hold the SAME list state -/
theorem cltx_same_operations_same_state (h : ReachC cuid n net) (i j : Nat) (hi : i < net.nodes.length)
    (hj : j < net.nodes.length) (hsame : SameOps net i j) : net.nodes[i].r.state = net.nodes[j].r.state :=
  (tinv_reach h).tinv.same_operations_same_state (headerFreeC cuid n) i j hi hj hsame

/-- at quiescence (`LNet.Quiescent`: every buffer completely pushed, every node has consumed the whole log) all nodes
    hold the same list state -/
theorem cltx_quiescent_converged (h : ReachC cuid n net) (hq : Quiescent net) (i j : Nat) (hi : i < net.nodes.length)
    (hj : j < net.nodes.length) : net.nodes[i].r.state = net.nodes[j].r.state :=
  (tinv_reach h).tinv.quiescent_converged (headerFreeC cuid n) hq i j hi hj

/-! ### quiescence is reachable from every state -/

inductive Reaches : Net → Net → Prop
  | refl (net : Net) : Reaches net net
  | tail {a b c : Net} : Reaches a b → StepC b c → Reaches a c

theorem reach_of_reaches {net' : Net} (hr : ReachC cuid n net) (h : Reaches net net') : ReachC cuid n net' := by
  induction h with
  | refl => exact hr
  | tail _ hs ih => exact .step ih hs

/-- quiescence is reachable: from EVERY state (reachable or not) zero or more steps lead to a quiescent one — `pushAll` by
    every node, then `pullAll` by every node; neither step has a side condition -/
theorem cltx_can_quiesce (net : Net) : ∃ net', Reaches net net' ∧ Quiescent net' :=
  LTx.can_quiesce .refl .tail .pushAll .pullAll net

end theorems
/-! ## the theorems Props/C09 states (lists) -/

section created
variable {cuid : Nat → String} {n : Nat} {net : Net}

theorem created_ltx_log_starts_with_snapshot (h : ReachC cuid n net) :
    (∀ e, net.log[0]? = some e → e = snapEnt cuid) ∧
    (∀ nd, net.nodes[0]? = some nd → nd.r.buffer.head? = some (snapOp cuid)) ∧
    (∀ i nd, net.nodes[i]? = some nd → i ≠ 0 → nd.pulled = 0 → nd.r.buffer = []) :=
  have H := (tinv_reach h).headOK
  ⟨H.log_head, H.creator, H.fresh⟩

/-- at quiescence all replicas (creator and subscribers) hold the SAME list state -/
theorem created_ltx_quiescent_converged (h : ReachC cuid n net) (hq : Quiescent net) (i j : Nat) (hi : i < net.nodes.length)
    (hj : j < net.nodes.length) : net.nodes[i].r.state = net.nodes[j].r.state :=
  cltx_quiescent_converged h hq i j hi hj

/-- the log is a concatenation of units (the snapshot operation is a unit of its own) and every node has consumed ALL or NONE of
    the entries of every unit written by another node -/
theorem created_ltx_committed_transaction_all_or_nothing (h : ReachC cuid n net) : ∃ units : List (Nat × List Op),
    net.log = units.flatMap (fun (a, u) => u.map (a, ·)) ∧ (∀ au ∈ units, IsUnit au.2) ∧
    ∀ (i : Nat) (nd : Node), net.nodes[i]? = some nd → ∀ au ∈ units, au.1 ≠ i →
      (∀ o ∈ au.2, Applied net i (au.1, o)) ∨ (∀ o ∈ au.2, ¬ Applied net i (au.1, o)) :=
  (tinv_reach h).tinv.all_or_nothing

end created

/-! ## non-vacuity (lists): the creator pushes its snapshot operation, everybody consumes it; the creator inserts `[1,2]`, pushes,
the subscribers pull; subscriber 1 COMMITS a transaction (insert "m" at 1, delete the head), subscriber 2 runs a FAILING one
(an insert, then a delete out of range, stop on error: rolled back), the creator appends 9; everything is pushed and pulled -/
namespace Ex

def cu : Nat → String
  | 0 => "a" | 1 => "b" | _ => "c"
def acts : List LTx.Act := [
  .pushAll 0, .pullAll 1, .pullAll 2, .pullAll 0,
  .call 0 (.linsert 0 [.num 1, .num 2]),
  .pushAll 0, .pullAll 1, .pullAll 2,
  .tx 1 "t1" [.linsert 1 [.str "m"], .ldelete 0] true false,
  .tx 2 "t2" [.linsert 0 [.num 7], .ldelete 9] true false,
  .call 0 (.linsert 2 [.num 9]),
  .pushAll 2, .pushAll 1, .pushAll 0,
  .pullAll 0, .pullAll 2, .pullAll 1]
def listOf (r : Replica) : Rga := match r.state with | .list l => l | _ => Rga.empty
def finalNet : Net := (runC (initC cu 3) acts).getD ⟨[], []⟩
def net9 : Net := (runC (initC cu 3) (acts.take 9)).getD ⟨[], []⟩

theorem final_run : (runC (initC cu 3) acts).isSome = true ∧ finalNet.nodes.length = 3 ∧ Quiescent finalNet ∧
    finalNet.log.map (fun e => (e.1, isHdr e.2)) =
      [(0, false), (0, false), (1, true), (1, false), (1, false), (0, false)] ∧
    (finalNet.nodes.map fun nd => (listOf nd.r).live == [.str "m", .num 2, .num 9]) = [true, true, true] := by
  unfold Quiescent
  decide +kernel

theorem cu_distinct : CuidsDistinct cu 3 := NetBook.distinct3 (by decide) (by decide) (by decide)
theorem reach_final : ReachC cu 3 finalNet := reachC_run acts (.init cu_distinct) (ListAux.some_getD final_run.1)
theorem len_final : finalNet.nodes.length = 3 := final_run.2.1
theorem quiescent_final : Quiescent finalNet := final_run.2.2.1

/-- the log: snapshot operation, the creator's insert, the committed transaction of subscriber 1 (header + 2), the creator's
    append; nothing of the failed transaction -/
theorem final_shape : finalNet.log.map (fun e => (e.1, isHdr e.2)) =
    [(0, false), (0, false), (1, true), (1, false), (1, false), (0, false)] := final_run.2.2.2.1

/-- `created_ltx_quiescent_converged` instantiated: creator vs subscriber, subscriber vs subscriber -/
example : (finalNet.nodes[0]'(by rw [len_final]; decide)).r.state = (finalNet.nodes[1]'(by rw [len_final]; decide)).r.state :=
  created_ltx_quiescent_converged reach_final quiescent_final 0 1 _ _
example : (finalNet.nodes[1]'(by rw [len_final]; decide)).r.state = (finalNet.nodes[2]'(by rw [len_final]; decide)).r.state :=
  created_ltx_quiescent_converged reach_final quiescent_final 1 2 _ _
/-- … and the common live content `["m", 2, 9]` -/
theorem final_views : (finalNet.nodes.map fun nd => (listOf nd.r).live == [.str "m", .num 2, .num 9]) = [true, true, true] :=
  final_run.2.2.2.2

/-- the FAILING transaction of subscriber 2, in the state where it is issued -/
def nd2 : Node := (net9.nodes[2]?).getD (⟨default, 0, 0⟩ : Node)
theorem run_9 : (runC (initC cu 3) (acts.take 9)).isSome = true ∧ (net9.nodes[2]?).isSome = true ∧
    (match (nd2.r.txCalls "t2" [.linsert 0 [.num 7], .ldelete 9] true false).2.2 with
      | .err _ => true | _ => false) = true := by decide +kernel
theorem reach_9 : ReachC cu 3 net9 := reachC_run (acts.take 9) (.init cu_distinct) (ListAux.some_getD run_9.1)
theorem nd2_eq : net9.nodes[2]? = some nd2 := ListAux.some_getD run_9.2.1
theorem t2_fails : ∃ c, (nd2.r.txCalls "t2" [.linsert 0 [.num 7], .ldelete 9] true false).2.2 = .err c := by
  have h := run_9.2.2
  cases hc : (nd2.r.txCalls "t2" [.linsert 0 [.num 7], .ldelete 9] true false).2.2 with
  | err c => exact ⟨c, rfl⟩
  | ok u => rw [hc] at h; cases h
  | panic w => rw [hc] at h; cases h
example : (nd2.r.txCalls "t2" [.linsert 0 [.num 7], .ldelete 9] true false).1.buffer = nd2.r.buffer ∧
    (nd2.r.txCalls "t2" [.linsert 0 [.num 7], .ldelete 9] true false).1.state = nd2.r.state := by
  obtain ⟨c, hc⟩ := t2_fails
  obtain ⟨_, h⟩ := created_ltx_failed_transaction_changes_nothing reach_9 nd2_eq "t2" _ true false c hc rfl
  obtain ⟨ndj, h1, _, h3, h4, _⟩ := h 2 _ (ListAux.getElem?_set_self' nd2_eq)
  rw [nd2_eq] at h1
  simp only [Option.some.injEq] at h1
  subst h1
  exact ⟨h4, h3⟩
example : ∃ units : List (Nat × List Op), finalNet.log = units.flatMap (fun (a, u) => u.map (a, ·)) ∧
    (∀ au ∈ units, IsUnit au.2) := by
  obtain ⟨units, h1, h2, _⟩ := created_ltx_committed_transaction_all_or_nothing reach_final
  exact ⟨units, h1, h2⟩
example : ∀ e, finalNet.log[0]? = some e → e = snapEnt cu := (created_ltx_log_starts_with_snapshot reach_final).1
/-- the guard on the executable form -/
example : (actC (initC cu 3) (.tx 1 "t" [] false false)).isSome = false ∧
    (actC (initC cu 3) (.tx 0 "t" [] false false)).isSome = true := by decide +kernel

end Ex

/-! ## why the guard (lists) -/

def badActs : List LTx.Act :=
  [.tx 1 "t" [.linsert 0 [.num 1]] true false, .pushAll 1, .pushAll 0, .pullAll 0, .pullAll 1]

/-- WITHOUT the guard (the steps of `LTx` from `initC`) convergence at quiescence is FALSE: the subscriber commits a transaction
    before its first pull; at quiescence the creator holds `[1]`, the subscriber `[]` (the snapshot delivery reset it) -/
theorem ltx_tx_before_first_pull_diverges :
    ∃ net, LTx.run (initC Ex.cu 2) badActs = some net ∧ Quiescent net ∧
      (net.nodes.map fun nd => (Ex.listOf nd.r).live == [.num 1]) = [true, false] ∧
      (net.nodes.map fun nd => (Ex.listOf nd.r).live == []) = [false, true] ∧
      (runC (initC Ex.cu 2) badActs).isSome = false := by
  refine ListAux.exists_of_getD ⟨[], []⟩ ?_
  unfold Quiescent
  decide +kernel

end L

/-! # maps and counters (`Orda.MTx` with the creating client) -/
namespace M
open Orda Orda.MNet Orda.MTx
open Orda.LTx (isHdr IsUnit flatU nh eraseB eraseL unitStart)
open Orda.FNetC.M (snapOp snapEnt initC EntOKC NodeInvC InvC)

/-! ## the system: `MTx.Step` from `FNetC.M.initC` (creator + subscribers), with the guard on call / tx -/

inductive StepC : Net → Net → Prop
  | call (net : Net) (i : Nat) (nd : Node) (c : Call) (hi : net.nodes[i]? = some nd) (hg : i ≠ 0 → 0 < nd.pulled) :
      StepC net ⟨net.nodes.set i { nd with r := (nd.r.call c).1 }, net.log⟩
  | tx (net : Net) (i : Nat) (nd : Node) (tag : String) (calls : List Call) (stopOnErr failAtEnd : Bool)
      (hi : net.nodes[i]? = some nd) (hg : i ≠ 0 → 0 < nd.pulled) :
      StepC net ⟨net.nodes.set i { nd with r := (nd.r.txCalls tag calls stopOnErr failAtEnd).1 }, net.log⟩
  | pushAll (net : Net) (i : Nat) (nd : Node) (hi : net.nodes[i]? = some nd) :
      StepC net ⟨net.nodes.set i { nd with pushed := nd.r.buffer.length },
                net.log ++ (nd.r.buffer.drop nd.pushed).map (fun o => (i, o))⟩
  | pullAll (net : Net) (i : Nat) (nd : Node) (hi : net.nodes[i]? = some nd) :
      StepC net ⟨net.nodes.set i { nd with r := (nd.r.receive (pullOps net.log i nd)).1, pulled := net.log.length },
                net.log⟩

/-- reachable from the creator `Replica.new typ (cuid 0) true` and `n - 1` fresh subscribers -/
inductive ReachC (typ : DtType) (cuid : Nat → String) (n : Nat) : Net → Prop
  | init (hc : CuidsDistinct cuid n) : ReachC typ cuid n (initC typ cuid n)
  | step {net net' : Net} : ReachC typ cuid n net → StepC net net' → ReachC typ cuid n net'

theorem StepC.toStep {net net' : Net} (h : StepC net net') : MTx.Step net net' := by
  cases h with
  | call i nd c hi hg => exact .call net i nd c hi
  | tx i nd tag calls s f hi hg => exact .tx net i nd tag calls s f hi
  | pushAll i nd hi => exact .pushAll net i nd hi
  | pullAll i nd hi => exact .pullAll net i nd hi

def guardOK (net : Net) (i : Nat) : Bool :=
  match net.nodes[i]? with
  | some nd => decide (i = 0 ∨ 0 < nd.pulled)
  | none => false

/-- the executable form: `MTx.act` + the guard -/
def actC (net : Net) : MTx.Act → Option Net
  | .call i c => if guardOK net i then MTx.act net (.call i c) else none
  | .tx i tag calls s f => if guardOK net i then MTx.act net (.tx i tag calls s f) else none
  | .pushAll i => MTx.act net (.pushAll i)
  | .pullAll i => MTx.act net (.pullAll i)

def runC (net : Net) : List MTx.Act → Option Net
  | [] => some net
  | a :: as => match actC net a with
    | some net' => runC net' as
    | none => none

theorem guard_of_ok {net : Net} {i : Nat} {nd : Node} (hn : net.nodes[i]? = some nd) (h : guardOK net i = true) :
    i ≠ 0 → 0 < nd.pulled := by
  unfold guardOK at h
  rw [hn] at h
  simp only [decide_eq_true_eq] at h
  intro h0
  rcases h with h | h
  · exact absurd h h0
  · exact h

theorem stepC_of_actC {net net' : Net} {a : MTx.Act} (h : actC net a = some net') : StepC net net' := by
  cases a with
  | call i c =>
    simp only [actC] at h
    split at h
    · next hgd =>
      simp only [MTx.act] at h
      split at h <;> cases h
      exact .call net i _ c ‹_› (guard_of_ok ‹_› hgd)
    · cases h
  | tx i tag calls s f =>
    simp only [actC] at h
    split at h
    · next hgd =>
      simp only [MTx.act] at h
      split at h <;> cases h
      exact .tx net i _ tag calls s f ‹_› (guard_of_ok ‹_› hgd)
    · cases h
  | pushAll i =>
    simp only [actC, MTx.act] at h
    split at h <;> cases h
    exact .pushAll net i _ ‹_›
  | pullAll i =>
    simp only [actC, MTx.act] at h
    split at h <;> cases h
    exact .pullAll net i _ ‹_›

theorem reachC_run {typ : DtType} {cuid : Nat → String} {n : Nat} : ∀ (as : List MTx.Act) {net net' : Net},
    ReachC typ cuid n net → runC net as = some net' → ReachC typ cuid n net' := fun as _ _ hr h =>
  ListAux.run_induction (Q := fun _ => True) (fun _ => rfl) (fun s a _ => by simp only [runC]; cases actC s a <;> rfl)
    (fun hr _ h => .step hr (stepC_of_actC h)) as hr h fun _ _ => trivial

/-! ## the header-free side: `FNetC.M.InvC` is closed under what `MTx.FreeInv` asks -/

/-- `FNetC.M.InvC`, as `NetBook` states it -/
abbrev SNetC (typ : DtType) (cuid : Nat → String) (n : Nat) (net : Net) : Prop :=
  ∃ ap, NetBook.NetInv view (EntOKC typ cuid n) (FNetC.M.DtC typ cuid) (· = snapEnt typ cuid) cuid n net.nodes net.log ap

theorem headerFreeC (typ : DtType) (cuid : Nat → String) (n : Nat) (hf : Flat typ) :
    FreeInv typ cuid n GTx.guardC (SNetC typ cuid n) where
  toG := GTx.HeaderFree.of_net (V := view) (FNetC.M.closedC hf cuid n)
      (guard := fun hg _ => hg)
      (good := fun g => ⟨g.nh, g.cu, trivial⟩)
      (hdr_safe := fun _ => trivial)
      (bump := fun d h => ⟨h.state.trans d.st, d.causal_ops, d.fresh, fun h0 => h.buffer ▸ d.creator h0⟩)
      (nopanic := fun d _ => MTx.call_no_panic _ (d.st ▸ flatState_sem hf _) _)
      (queued := fun d _ hb hcu => queued_good hf d.st d.causal_ops _ hb hcu)
      (deliver := fun I hi _ _ _ => (execRemoteBase_flat _ ((I.node _ _ hi).1.st ▸ flatState_sem hf _) _).1)
  applied := fun ⟨ap, I⟩ => ⟨fun i => opsOf (ap i), fun i nd hi =>
    have N := (InvC.of_net hf I).node i nd hi
    ⟨N.st, N.causal_ops, distinctTs_of_keys N.keys, (InvC.of_net hf I).ops_perm hi⟩⟩

/-! ## the invariant of the system -/

/-- the real (header-carrying) side: the snapshot operation heads the creator's buffer and the log; a subscriber that has
    pulled nothing has queued nothing (the guard).  `GTx.Head` in the terms of this system (`TxInvC.headOK`). -/
structure HeadOK (typ : DtType) (cuid : Nat → String) (net : Net) : Prop where
  log_head : ∀ e, net.log[0]? = some e → e = snapEnt typ cuid
  creator : ∀ nd, net.nodes[0]? = some nd → nd.r.buffer.head? = some (snapOp typ cuid)
  fresh : ∀ i nd, net.nodes[i]? = some nd → i ≠ 0 → nd.pulled = 0 → nd.r.buffer = []

abbrev TxInvC (typ : DtType) (cuid : Nat → String) (n : Nat) (net : Net) : Prop :=
  GTx.TInvC view cuid n (fun _ => True) (fun ns lg => SNetC typ cuid n ⟨ns, lg⟩) (snapOp typ cuid)
    net.nodes net.log

namespace TxInvC
variable {typ : DtType} {cuid : Nat → String} {n : Nat} {net : Net} (T : TxInvC typ cuid n net)
include T

theorem tinv : TxInv cuid n (SNetC typ cuid n) net := GTx.TInvC.tinv T

theorem headOK : HeadOK typ cuid net := ⟨T.head.log_head, T.head.creator, T.head.fresh⟩

theorem guard {i : Nat} {nd : Node} (hi : net.nodes[i]? = some nd) (hg : i ≠ 0 → 0 < nd.pulled) :
    GTx.guardC i (eraseL (net.log.take nd.pulled)).length := GTx.TInvC.guard rfl T hi hg

end TxInvC

theorem TxInvC.step {typ : DtType} {cuid : Nat → String} {n : Nat} {net net' : Net} (hf : Flat typ)
    (T : TxInvC typ cuid n net) (h : StepC net net') : TxInvC typ cuid n net' := by
  have HF := (headerFreeC typ cuid n hf).toG
  cases h with
  | call i nd c hi hg => exact GTx.TInvC.call HF rfl T hi trivial hg
  | tx i nd tag calls s f hi hg => exact GTx.TInvC.tx HF rfl T hi tag calls (fun _ _ => trivial) s f hg
  | pushAll i nd hi => exact GTx.TInvC.pushAll HF T hi
  | pullAll i nd hi => exact GTx.TInvC.pullAll HF T hi


theorem tinv_initC {typ : DtType} {cuid : Nat → String} {n : Nat} (hf : Flat typ) (hc : CuidsDistinct cuid n) :
    TxInvC typ cuid n (initC typ cuid n) :=
  .init ⟨_, (FNetC.M.inv_initC hf hc).toNet⟩ ⟨rfl, rfl, trivial⟩ fun i nd hi => by
    obtain ⟨rfl, _⟩ := ListAux.range_map_node hi
    cases i with
    | zero => exact ⟨rfl, rfl, rbInv_new _ _ _, rfl, fun _ => Nat.le_refl _⟩
    | succ i => exact ⟨rfl, rfl, rbInv_new _ _ _, rfl, fun h => nomatch h⟩

theorem tinv_reach {typ : DtType} {cuid : Nat → String} {n : Nat} {net : Net} (hf : Flat typ)
    (h : ReachC typ cuid n net) : TxInvC typ cuid n net := by
  induction h with
  | init hc => exact tinv_initC hf hc
  | step _ hs ih => exact ih.step hf hs

/-! ## the theorems -/

section theorems
variable {typ : DtType} {cuid : Nat → String} {n : Nat} {net : Net}

/-- in a reachable state a transaction (ANY body) never panics: it ends with `.ok ()` or with an error -/
theorem cmtx_tx_never_panics (hf : Flat typ) (h : ReachC typ cuid n net) {i : Nat} {nd : Node}
    (hi : net.nodes[i]? = some nd) (tag : String) (calls : List Call) (stopOnErr failAtEnd : Bool)
    (hg : i ≠ 0 → 0 < nd.pulled) :
    (nd.r.txCalls tag calls stopOnErr failAtEnd).2.2 = .ok () ∨
      ∃ c, (nd.r.txCalls tag calls stopOnErr failAtEnd).2.2 = .err c :=
  (tinv_reach hf h).tinv.tx_never_panics (headerFreeC typ cuid n hf).toG hi tag calls (fun _ _ => trivial) stopOnErr failAtEnd
    ((tinv_reach hf h).guard hi hg)

/-- a failing transaction changes nothing on its node: operation identifier, state, buffer, checkpoint are what they
    were (whatever the body did before it failed: valid and refused calls, reads, early return, failing user function) -/
theorem cmtx_failed_tx_is_noop (hf : Flat typ) (h : ReachC typ cuid n net) {i : Nat} {nd : Node}
    (hi : net.nodes[i]? = some nd) (tag : String) (calls : List Call) (stopOnErr failAtEnd : Bool) (c : Nat)
    (herr : (nd.r.txCalls tag calls stopOnErr failAtEnd).2.2 = .err c) :
    let r' := (nd.r.txCalls tag calls stopOnErr failAtEnd).1
    r'.opId = nd.r.opId ∧ r'.state = nd.r.state ∧ r'.buffer = nd.r.buffer ∧ r'.cp = nd.r.cp :=
  txCalls_fail_restores nd.r ((tinv_reach hf h).tinv.node i nd hi).rb tag calls stopOnErr failAtEnd c herr

/-- MAP and COUNTER: a failing user transaction on ANY node of ANY reachable state (no guard needed; any body) leaves the log and
    every node — operation identifier, state, buffer, checkpoint, counters — unchanged -/
theorem created_mtx_failed_transaction_changes_nothing (hf : Flat typ) (h : ReachC typ cuid n net) {i : Nat} {nd : Node}
    (hi : net.nodes[i]? = some nd) (tag : String) (calls : List Call) (stopOnErr failAtEnd : Bool) (c : Nat)
    (herr : (nd.r.txCalls tag calls stopOnErr failAtEnd).2.2 = .err c) {net' : Net}
    (hnet : net' = ⟨net.nodes.set i { nd with r := (nd.r.txCalls tag calls stopOnErr failAtEnd).1 }, net.log⟩) :
    net'.log = net.log ∧ ∀ (j : Nat) (nd' : Node), net'.nodes[j]? = some nd' →
      ∃ ndj, net.nodes[j]? = some ndj ∧ nd'.r.opId = ndj.r.opId ∧ nd'.r.state = ndj.r.state ∧
        nd'.r.buffer = ndj.r.buffer ∧ nd'.r.cp = ndj.r.cp ∧ nd'.pushed = ndj.pushed ∧ nd'.pulled = ndj.pulled := by
  subst hnet
  exact ⟨rfl, (tinv_reach hf h).tinv.failed_noop hi tag calls stopOnErr failAtEnd c herr⟩

/-- … stated for the system: after the `tx` step of a failing transaction the log is the same and every node has the same
    state, operation identifier, buffer, checkpoint and counters as before -/
theorem cmtx_failed_tx_is_noop_net (hf : Flat typ) (h : ReachC typ cuid n net) {i : Nat} {nd : Node}
    (hi : net.nodes[i]? = some nd) (tag : String) (calls : List Call) (stopOnErr failAtEnd : Bool) (c : Nat)
    (hg : i ≠ 0 → 0 < nd.pulled)
    (herr : (nd.r.txCalls tag calls stopOnErr failAtEnd).2.2 = .err c) {net' : Net}
    (hnet : net' = ⟨net.nodes.set i { nd with r := (nd.r.txCalls tag calls stopOnErr failAtEnd).1 }, net.log⟩) :
    StepC net net' ∧ net'.log = net.log ∧ ∀ (j : Nat) (nd' : Node), net'.nodes[j]? = some nd' →
      ∃ ndj, net.nodes[j]? = some ndj ∧ nd'.r.opId = ndj.r.opId ∧ nd'.r.state = ndj.r.state ∧
        nd'.r.buffer = ndj.r.buffer ∧ nd'.r.cp = ndj.r.cp ∧ nd'.pushed = ndj.pushed ∧ nd'.pulled = ndj.pulled := by
  subst hnet
  exact ⟨.tx net i nd tag calls stopOnErr failAtEnd hi hg,
    created_mtx_failed_transaction_changes_nothing hf h hi tag calls stopOnErr failAtEnd c herr rfl⟩

/-- a committed transaction appends exactly ONE unit `header :: ops` to the buffer; the header carries the first
    identifier of the transaction and announces the unit's length; `ops` (the operations of the successful calls of the
    body) contains no header: every one is an operation of the datatype (`OpOK typ`: a put or a remove for a map, an
    increase for a counter), carries the node's client identifier and is newer than the header -/
theorem cmtx_committed_tx_is_one_unit (hf : Flat typ) (h : ReachC typ cuid n net) {i : Nat} {nd : Node}
    (hi : net.nodes[i]? = some nd) (tag : String) (calls : List Call) (stopOnErr failAtEnd : Bool)
    (hg : i ≠ 0 → 0 < nd.pulled)
    (hok : (nd.r.txCalls tag calls stopOnErr failAtEnd).2.2 = .ok ()) :
    let r' := (nd.r.txCalls tag calls stopOnErr failAtEnd).1
    ∃ ops : List Op,
      r'.buffer = nd.r.buffer ++ (⟨nd.r.opId.next, .transaction tag ((ops.length : Int) + 1)⟩ :: ops) ∧
      IsUnit (⟨nd.r.opId.next, .transaction tag ((ops.length : Int) + 1)⟩ :: ops) ∧
      ∀ o ∈ ops, isHdr o = false ∧ OpOK typ o ∧ o.id.cuid = cuid i ∧ nd.r.opId.lamport + 1 < o.id.lamport :=
  (tinv_reach hf h).tinv.committed (headerFreeC typ cuid n hf) hi tag calls stopOnErr failAtEnd ((tinv_reach hf h).guard hi hg) hok

/-- units are contiguous in the log, in every reachable state: the log is a concatenation of units -/
theorem cmtx_log_is_units (hf : Flat typ) (h : ReachC typ cuid n net) : ∃ units : List (Nat × List Op),
    net.log = units.flatMap (fun (a, u) => u.map (a, ·)) ∧ ∀ au ∈ units, IsUnit au.2 :=
  (tinv_reach hf h).tinv.log_is_units

/-- `receive` never refuses and never panics in the system: what a node hands to `receive` when it pulls is accepted -/
theorem cmtx_receive_ok (hf : Flat typ) (h : ReachC typ cuid n net) {i : Nat} {nd : Node}
    (hi : net.nodes[i]? = some nd) : (nd.r.receive (pullOps net.log i nd)).2 = .ok () :=
  (tinv_reach hf h).tinv.receive_ok (headerFreeC typ cuid n hf).toG hi

/-- ALL OR NOTHING, by log position: there is ONE decomposition of the log into units such that every node, at every
    moment, has consumed (`p < pulled`) either ALL positions of a unit or NONE of them — `pulled` never sits inside a unit
    (`LTx.unitStart units j`: where unit `j` starts in the log) -/
theorem cmtx_all_or_nothing_pos (hf : Flat typ) (h : ReachC typ cuid n net) : ∃ units : List (Nat × List Op),
    net.log = flatU units ∧ (∀ au ∈ units, IsUnit au.2) ∧
    ∀ (i : Nat) (nd : Node), net.nodes[i]? = some nd → ∀ j, j < units.length →
      (∀ p, unitStart units j ≤ p → p < unitStart units (j + 1) → p < nd.pulled) ∨
      (∀ p, unitStart units j ≤ p → p < unitStart units (j + 1) → ¬ p < nd.pulled) :=
  (tinv_reach hf h).tinv.all_or_nothing_pos

/-- node `i` has applied the log entry `e` of another node: `e` is among the entries `i` has consumed -/
def Applied (net : Net) (i : Nat) (e : LEnt) : Prop :=
  ∃ nd, net.nodes[i]? = some nd ∧ e ∈ oth i (net.log.take nd.pulled)

theorem cmtx_log_nodup (hf : Flat typ) (h : ReachC typ cuid n net) : net.log.Nodup :=
  (tinv_reach hf h).tinv.log_nodup

end theorems

/-! ### the LWW map -/

section mapthms
variable {cuid : Nat → String} {n : Nat} {net : Net}

/-- in every reachable state the map of every node IS (plain equality) what the remote application of a sequence of
    operations gives, from the empty map; that sequence is `MapCausal` (every remove comes after a put of its key — also
    for a remove INSIDE a transaction of a key put earlier in the same transaction), its timestamps are pairwise
    `DistinctTs`, and it is a permutation of the operations the node has (own buffer, foreign entries among the first
    `pulled` of the log) without the headers -/
theorem cmtx_nodes_applied (h : ReachC .map cuid n net) : ∃ applied : Nat → List Op,
    ∀ (i : Nat) (nd : Node), net.nodes[i]? = some nd →
      nd.r.state = .map (mapApplyAll LwwMap.empty (applied i)) ∧ MapCausal (applied i) ∧ DistinctTs (applied i) ∧
      (applied i).Perm (eraseB (appliedOps net.log i nd)) :=
  (tinv_reach flat_map h).tinv.map_nodes_applied (headerFreeC .map cuid n flat_map)

/-- the state of every node of a map system is a well-formed map (the hypotheses `… .r.state = .map m` of the theorems
    below can always be met) -/
theorem cmtx_state_is_map (h : ReachC .map cuid n net) : ∀ nd ∈ net.nodes, ∃ m, nd.r.state = .map m ∧ m.WF :=
  (tinv_reach flat_map h).tinv.state_is_map (headerFreeC .map cuid n flat_map)

/-- C02 for the map under transactions: what a node answers is a function of the operations it has (`appliedOps`: its
    buffer and the consumed log entries of the others, headers included — they count for nothing) alone: every key holds
    what the timestamp rule `Spec.mapGet` says, `Size` is the number of live keys -/
theorem cmtx_reads_are_spec (h : ReachC .map cuid n net) {i : Nat} {nd : Node} (m : LwwMap)
    (hi : net.nodes[i]? = some nd) (hm : nd.r.state = .map m) :
    (∀ k, m.get k = Spec.mapGet (appliedOps net.log i nd) k) ∧
    m.size = ((Spec.mapView (appliedOps net.log i nd)).length : Int) :=
  (tinv_reach flat_map h).tinv.reads_are_spec (headerFreeC .map cuid n flat_map) m hi hm

/-- convergence survives (map): two nodes that have the same operations (`MNet.SameOps`: own buffer ++ consumed foreign
    log entries, as multisets — headers included) answer every read alike: `get` of every key, `Size`, and the JSON view
    in the four forms of `MNet.mnet_same_operations_same_reads` (pointwise lookup in `live`, `live` up to a permutation,
    EQUAL `sortedView`, EQUAL `jsonView`) -/
theorem cmtx_same_operations_same_reads (h : ReachC .map cuid n net) (i j : Nat) (hi : i < net.nodes.length)
    (hj : j < net.nodes.length) (mi mj : LwwMap) (hmi : net.nodes[i].r.state = .map mi)
    (hmj : net.nodes[j].r.state = .map mj) (hsame : SameOps net i j) :
    (∀ k, mi.get k = mj.get k) ∧ mi.size = mj.size ∧
    (∀ k, alFind k mi.live = alFind k mj.live) ∧ mi.live.Perm mj.live ∧ sortedView mi = sortedView mj ∧
    jsonView mi = jsonView mj :=
  (tinv_reach flat_map h).tinv.same_operations_same_reads (headerFreeC .map cuid n flat_map) i j hi hj mi mj hmi hmj hsame

/-- at quiescence (`MNet.Quiescent`: every buffer completely pushed, every node has consumed the whole log) all nodes
    answer every read alike -/
theorem cmtx_quiescent_converged (h : ReachC .map cuid n net) (hq : Quiescent net) (i j : Nat)
    (hi : i < net.nodes.length) (hj : j < net.nodes.length) (mi mj : LwwMap)
    (hmi : net.nodes[i].r.state = .map mi) (hmj : net.nodes[j].r.state = .map mj) :
    (∀ k, mi.get k = mj.get k) ∧ mi.size = mj.size ∧
    (∀ k, alFind k mi.live = alFind k mj.live) ∧ mi.live.Perm mj.live ∧ sortedView mi = sortedView mj ∧
    jsonView mi = jsonView mj :=
  cmtx_same_operations_same_reads h i j hi hj mi mj hmi hmj ((tinv_reach flat_map h).tinv.sameOps_of_quiescent hq hi hj)

end mapthms

/-! ### the counter -/

section counterthms
variable {cuid : Nat → String} {n : Nat} {net : Net}

theorem cctx_nodes_applied (h : ReachC .counter cuid n net) : ∃ applied : Nat → List Op,
    ∀ (i : Nat) (nd : Node), net.nodes[i]? = some nd →
      nd.r.state = .counter ((applied i).foldl counterApply 0) ∧
      (applied i).Perm (eraseB (appliedOps net.log i nd)) :=
  (tinv_reach flat_counter h).tinv.ctr_nodes_applied (headerFreeC .counter cuid n flat_counter)

/-- the value of a counter node is a function of the operations it has (`appliedOps`: own buffer and consumed foreign log
    entries, headers included — they count for nothing) alone: the sum of the increments, with 32-bit wrap -/
theorem cctx_value_is_spec (h : ReachC .counter cuid n net) {i : Nat} {nd : Node} (hi : net.nodes[i]? = some nd) :
    nd.r.state = DState.counter (Spec.counter (appliedOps net.log i nd)) :=
  (tinv_reach flat_counter h).tinv.value_is_spec (headerFreeC .counter cuid n flat_counter) hi

/-- convergence survives (counter): two nodes that have the same operations hold the SAME state (plain equality) -/
theorem cctx_same_operations_same_state (h : ReachC .counter cuid n net) (i j : Nat) (hi : i < net.nodes.length)
    (hj : j < net.nodes.length) (hsame : SameOps net i j) : net.nodes[i].r.state = net.nodes[j].r.state :=
  (tinv_reach flat_counter h).tinv.ctr_same_operations_same_state (headerFreeC .counter cuid n flat_counter) i j hi hj hsame

theorem cctx_quiescent_converged (h : ReachC .counter cuid n net) (hq : Quiescent net) (i j : Nat)
    (hi : i < net.nodes.length) (hj : j < net.nodes.length) : net.nodes[i].r.state = net.nodes[j].r.state :=
  cctx_same_operations_same_state h i j hi hj ((tinv_reach flat_counter h).tinv.sameOps_of_quiescent hq hi hj)

end counterthms

/-! ### quiescence is reachable from every state -/

section quiesce
variable {typ : DtType} {cuid : Nat → String} {n : Nat} {net : Net}

inductive Reaches : Net → Net → Prop
  | refl (net : Net) : Reaches net net
  | tail {a b c : Net} : Reaches a b → StepC b c → Reaches a c

theorem reach_of_reaches {net' : Net} (hr : ReachC typ cuid n net) (h : Reaches net net') : ReachC typ cuid n net' := by
  induction h with
  | refl => exact hr
  | tail _ hs ih => exact .step ih hs

/-- quiescence is reachable: from EVERY state (reachable or not) zero or more steps lead to a quiescent one — `pushAll` by
    every node, then `pullAll` by every node; neither step has a side condition -/
theorem cmtx_can_quiesce (net : Net) : ∃ net', Reaches net net' ∧ Quiescent net' :=
  MTx.can_quiesce .refl .tail .pushAll .pullAll net

end quiesce
/-! ## the theorems Props/C09 states (maps, counters) -/

section created
variable {typ : DtType} {cuid : Nat → String} {n : Nat} {net : Net}

/-! `AbsNode`, `Abs` are field for field those of `MTx` (in which `TxInv.abs` is stated); `cmtx_erased_satisfies_mnet_inv`
is stated with these; `Abs.of` converts. -/

/-- node `nd0` of `MapNet` is node `nd` of this system with the headers erased -/
structure AbsNode (log : List LEnt) (nd nd0 : Node) : Prop where
  st : nd0.r.state = nd.r.state
  id : nd0.r.opId = nd.r.opId
  buf : nd0.r.buffer = eraseB nd.r.buffer
  pushed : nd0.pushed = (eraseB (nd.r.buffer.take nd.pushed)).length
  pulled : nd0.pulled = (eraseL (log.take nd.pulled)).length

/-- `net0` is `net` with the headers erased from log and buffers -/
structure Abs (net net0 : Net) : Prop where
  log : net0.log = eraseL net.log
  len : net0.nodes.length = net.nodes.length
  node : ∀ (i : Nat) (nd : Node), net.nodes[i]? = some nd → ∃ nd0, net0.nodes[i]? = some nd0 ∧ AbsNode net.log nd nd0

theorem Abs.of {net net0 : Net} (h : MTx.Abs net net0) : Abs net net0 :=
  ⟨h.log, h.len, fun i nd hi => have ⟨nd0, h0, A⟩ := h.node i nd hi; ⟨nd0, h0, A.st, A.id, A.buf, A.pushed, A.pulled⟩⟩

/-- erasing the headers from log and buffers (`Abs`) turns every reachable state into a
    state that satisfies `FNetC.M.InvC` — every step of this system is a sequence of header-free steps
    (`NetBook.NetInv.call`, `.push`, `.pull`) and clock bumps (`GTx.HeaderFree.of_net`), under which that invariant is closed -/
theorem cmtx_erased_satisfies_mnet_inv (hf : Flat typ) (h : ReachC typ cuid n net) :
    ∃ net0 ap, InvC typ cuid n net0 ap ∧ Abs net net0 := by
  obtain ⟨net0, ⟨ap, I⟩, Ab⟩ := (tinv_reach hf h).tinv.abs
  exact ⟨net0, ap, .of_net hf I, .of Ab⟩

theorem created_mtx_log_starts_with_snapshot (hf : Flat typ) (h : ReachC typ cuid n net) :
    (∀ e, net.log[0]? = some e → e = snapEnt typ cuid) ∧
    (∀ nd, net.nodes[0]? = some nd → nd.r.buffer.head? = some (snapOp typ cuid)) ∧
    (∀ i nd, net.nodes[i]? = some nd → i ≠ 0 → nd.pulled = 0 → nd.r.buffer = []) :=
  have H := (tinv_reach hf h).headOK
  ⟨H.log_head, H.creator, H.fresh⟩

/-- MAP: at quiescence all replicas (creator and subscribers) answer every read alike -/
theorem created_mtx_quiescent_converged (h : ReachC .map cuid n net) (hq : Quiescent net) (i j : Nat)
    (hi : i < net.nodes.length) (hj : j < net.nodes.length) (mi mj : LwwMap)
    (hmi : net.nodes[i].r.state = .map mi) (hmj : net.nodes[j].r.state = .map mj) :
    (∀ k, mi.get k = mj.get k) ∧ mi.size = mj.size ∧
    (∀ k, alFind k mi.live = alFind k mj.live) ∧ mi.live.Perm mj.live ∧ sortedView mi = sortedView mj ∧
    jsonView mi = jsonView mj :=
  cmtx_quiescent_converged h hq i j hi hj mi mj hmi hmj

/-- COUNTER: at quiescence all replicas hold the SAME state -/
theorem created_ctx_quiescent_converged (h : ReachC .counter cuid n net) (hq : Quiescent net) (i j : Nat)
    (hi : i < net.nodes.length) (hj : j < net.nodes.length) : net.nodes[i].r.state = net.nodes[j].r.state :=
  cctx_quiescent_converged h hq i j hi hj

/-- MAP and COUNTER: the log is a concatenation of units (the snapshot operation is a unit of its own) and every node has consumed
    ALL or NONE of the entries of every unit written by another node -/
theorem created_mtx_committed_transaction_all_or_nothing (hf : Flat typ) (h : ReachC typ cuid n net) :
    ∃ units : List (Nat × List Op),
    net.log = units.flatMap (fun (a, u) => u.map (a, ·)) ∧ (∀ au ∈ units, IsUnit au.2) ∧
    ∀ (i : Nat) (nd : Node), net.nodes[i]? = some nd → ∀ au ∈ units, au.1 ≠ i →
      (∀ o ∈ au.2, Applied net i (au.1, o)) ∨ (∀ o ∈ au.2, ¬ Applied net i (au.1, o)) :=
  (tinv_reach hf h).tinv.all_or_nothing

end created

/-! ## non-vacuity (map, counter): as for lists — a committed transaction of subscriber 1, a failing one of subscriber 2 -/
namespace Ex

def cu : Nat → String
  | 0 => "a" | 1 => "b" | _ => "c"
def acts : List MTx.Act := [
  .pushAll 0, .pullAll 1, .pullAll 2, .pullAll 0,
  .call 0 (.mput "x" (.num 1)),
  .pushAll 0, .pullAll 1, .pullAll 2,
  .tx 1 "t1" [.mput "y" (.str "v"), .mremove "x"] true false,
  .tx 2 "t2" [.mput "z" (.num 3), .mremove "nokey"] true false,
  .call 0 (.mput "w" (.num 9)),
  .pushAll 2, .pushAll 1, .pushAll 0,
  .pullAll 0, .pullAll 2, .pullAll 1]
def cacts : List MTx.Act := [
  .pushAll 0, .pullAll 1, .pullAll 2, .pullAll 0,
  .tx 1 "t1" [.inc 5, .inc 2] true false,
  .tx 2 "t2" [.inc 100, .mput "k" (.num 1)] true false,
  .call 0 (.inc (-3)),
  .pushAll 2, .pushAll 1, .pushAll 0,
  .pullAll 0, .pullAll 2, .pullAll 1]
def mapOf (r : Replica) : LwwMap := match r.state with | .map m => m | _ => LwwMap.empty
def valOf (r : Replica) : Int := match r.state with | .counter v => v | _ => 0
def finalNet : Net := (runC (initC .map cu 3) acts).getD ⟨[], []⟩
def cfinalNet : Net := (runC (initC .counter cu 3) cacts).getD ⟨[], []⟩
def net9 : Net := (runC (initC .map cu 3) (acts.take 9)).getD ⟨[], []⟩

theorem final_run : (runC (initC .map cu 3) acts).isSome = true ∧ finalNet.nodes.length = 3 ∧ Quiescent finalNet ∧
    finalNet.log.map (fun e => (e.1, isHdr e.2)) =
      [(0, false), (0, false), (1, true), (1, false), (1, false), (0, false)] ∧
    (finalNet.nodes.map fun nd => jsonView (mapOf nd.r) == .obj [("w", .num 9), ("y", .str "v")]) =
      [true, true, true] := by
  unfold Quiescent
  decide +kernel
theorem cfinal_run : (runC (initC .counter cu 3) cacts).isSome = true ∧ cfinalNet.nodes.length = 3 ∧
    Quiescent cfinalNet ∧ cfinalNet.nodes.map (fun nd => valOf nd.r) = [4, 4, 4] := by
  unfold Quiescent
  decide +kernel

theorem cu_distinct : CuidsDistinct cu 3 := L.Ex.cu_distinct
theorem reach_final : ReachC .map cu 3 finalNet := reachC_run acts (.init cu_distinct) (ListAux.some_getD final_run.1)
theorem reach_cfinal : ReachC .counter cu 3 cfinalNet :=
  reachC_run cacts (.init cu_distinct) (ListAux.some_getD cfinal_run.1)
theorem len_final : finalNet.nodes.length = 3 := final_run.2.1
theorem len_cfinal : cfinalNet.nodes.length = 3 := cfinal_run.2.1
theorem quiescent_final : Quiescent finalNet := final_run.2.2.1
theorem quiescent_cfinal : Quiescent cfinalNet := cfinal_run.2.2.1

theorem final_shape : finalNet.log.map (fun e => (e.1, isHdr e.2)) =
    [(0, false), (0, false), (1, true), (1, false), (1, false), (0, false)] := final_run.2.2.2.1

/-- `created_mtx_quiescent_converged` instantiated: creator vs subscriber, subscriber vs subscriber -/
example : ∀ mi mj, (finalNet.nodes[0]'(by rw [len_final]; decide)).r.state = .map mi →
    (finalNet.nodes[1]'(by rw [len_final]; decide)).r.state = .map mj → jsonView mi = jsonView mj :=
  fun mi mj h1 h2 => (created_mtx_quiescent_converged reach_final quiescent_final 0 1 _ _ mi mj h1 h2).2.2.2.2.2
example : ∀ mi mj, (finalNet.nodes[1]'(by rw [len_final]; decide)).r.state = .map mi →
    (finalNet.nodes[2]'(by rw [len_final]; decide)).r.state = .map mj → jsonView mi = jsonView mj :=
  fun mi mj h1 h2 => (created_mtx_quiescent_converged reach_final quiescent_final 1 2 _ _ mi mj h1 h2).2.2.2.2.2
/-- … and the common view `{"w":9,"y":"v"}` -/
theorem final_views : (finalNet.nodes.map fun nd => jsonView (mapOf nd.r) == .obj [("w", .num 9), ("y", .str "v")]) =
    [true, true, true] := final_run.2.2.2.2

/-- counter: `created_ctx_quiescent_converged` instantiated; the common value 5 + 2 - 3 (the failed `inc 100` is rolled back) -/
example : (cfinalNet.nodes[0]'(by rw [len_cfinal]; decide)).r.state = (cfinalNet.nodes[1]'(by rw [len_cfinal]; decide)).r.state :=
  created_ctx_quiescent_converged reach_cfinal quiescent_cfinal 0 1 _ _
theorem cfinal_values : cfinalNet.nodes.map (fun nd => valOf nd.r) = [4, 4, 4] := cfinal_run.2.2.2

/-- the FAILING transaction of subscriber 2 (map), in the state where it is issued -/
def nd2 : Node := (net9.nodes[2]?).getD (⟨default, 0, 0⟩ : Node)
theorem run_9 : (runC (initC .map cu 3) (acts.take 9)).isSome = true ∧ (net9.nodes[2]?).isSome = true ∧
    (match (nd2.r.txCalls "t2" [.mput "z" (.num 3), .mremove "nokey"] true false).2.2 with
      | .err _ => true | _ => false) = true := by decide +kernel
theorem reach_9 : ReachC .map cu 3 net9 := reachC_run (acts.take 9) (.init cu_distinct) (ListAux.some_getD run_9.1)
theorem nd2_eq : net9.nodes[2]? = some nd2 := ListAux.some_getD run_9.2.1
theorem t2_fails : ∃ c, (nd2.r.txCalls "t2" [.mput "z" (.num 3), .mremove "nokey"] true false).2.2 = .err c := by
  have h := run_9.2.2
  cases hc : (nd2.r.txCalls "t2" [.mput "z" (.num 3), .mremove "nokey"] true false).2.2 with
  | err c => exact ⟨c, rfl⟩
  | ok u => rw [hc] at h; cases h
  | panic w => rw [hc] at h; cases h
example : (nd2.r.txCalls "t2" [.mput "z" (.num 3), .mremove "nokey"] true false).1.buffer = nd2.r.buffer ∧
    (nd2.r.txCalls "t2" [.mput "z" (.num 3), .mremove "nokey"] true false).1.state = nd2.r.state := by
  obtain ⟨c, hc⟩ := t2_fails
  obtain ⟨_, h⟩ := created_mtx_failed_transaction_changes_nothing flat_map reach_9 nd2_eq "t2" _ true false c hc rfl
  obtain ⟨ndj, h1, _, h3, h4, _⟩ := h 2 _ (ListAux.getElem?_set_self' nd2_eq)
  rw [nd2_eq] at h1
  simp only [Option.some.injEq] at h1
  subst h1
  exact ⟨h4, h3⟩
example : ∃ units : List (Nat × List Op), finalNet.log = units.flatMap (fun (a, u) => u.map (a, ·)) ∧
    (∀ au ∈ units, IsUnit au.2) := by
  obtain ⟨units, h1, h2, _⟩ := created_mtx_committed_transaction_all_or_nothing flat_map reach_final
  exact ⟨units, h1, h2⟩
example : ∀ e, finalNet.log[0]? = some e → e = snapEnt .map cu :=
  (created_mtx_log_starts_with_snapshot flat_map reach_final).1

end Ex

/-! ## why the guard (map) -/

def badActs : List MTx.Act :=
  [.tx 1 "t" [.mput "k" (.num 1)] true false, .pushAll 1, .pushAll 0, .pullAll 0, .pullAll 1]

/-- WITHOUT the guard (the steps of `MTx` from `initC`) convergence at quiescence is FALSE: the creator ends with `{"k":1}`, the
    subscriber with `{}` -/
theorem mtx_tx_before_first_pull_diverges :
    ∃ net, MTx.run (initC .map Ex.cu 2) badActs = some net ∧ Quiescent net ∧
      (net.nodes.map fun nd => jsonView (Ex.mapOf nd.r) == .obj [("k", .num 1)]) = [true, false] ∧
      (net.nodes.map fun nd => jsonView (Ex.mapOf nd.r) == .obj []) = [false, true] ∧
      (runC (initC .map Ex.cu 2) badActs).isSome = false := by
  refine ListAux.exists_of_getD ⟨[], []⟩ ?_
  unfold Quiescent
  decide +kernel

end M

end Orda.FTxNetC
