/-
Rollback / replay: the rollback data of a replica (`rbOpId`, `rbSnap`, `rbOps`) always reproduces the
current operation id and state (`RbInv`); consequences for transactions (C09): a failed transaction
restores the replica, a committed one is queued as one unit, a remote unit is applied all-or-nothing.
Then `receive` without its fuel (`SN.receive_cons`), and as ONE run of `applyUnit.go` over a list that the operations alone
determine (`RunOf`, `receive_run`): what every delivery keeps, `receive` keeps (`receive_preserves`), and two replicas that
every delivery keeps related stay related (`receive_rel`).  The later modules read `receive` through these.
-/
import Orda.Proofs.ReplicaApi
namespace Orda

/-- what Rollback would compute: replay of rbOps from the rollback snapshot -/
def Replica.rbResult (r : Replica) : Replica × Outcome Unit :=
  ({ r with opId := r.rbOpId, state := r.rbSnap }).replayAll r.rbOps

/-- rollback invariant: replaying the rollback operations on the rollback snapshot succeeds and
    yields exactly the current operation id and state -/
def Replica.RbInv (r : Replica) : Prop :=
  ∃ r', r.rbResult = (r', .ok ()) ∧ r'.opId = r.opId ∧ r'.state = r.state

/-! ### local execution with targets already filled in

`execLocal` reads the position and the values of a body and ignores its target fields; the body it returns is the same with
the targets filled in, so executing that again gives the same result: replaying the recorded operation reproduces the
state. -/

theorem execLocal_ok {s : DState} {ts : Ts} {b b' : OpBody} {s' : DState} {ret : Ret}
    (h : execLocal s ts b = .ok (s', b', ret)) :
    b'.isMeta = false ∧ b.isMeta = false ∧ execLocal s ts b' = .ok (s', b', ret) := by
  unfold execLocal at h
  split at h
  case h_1 | h_2 => cases h; exact ⟨rfl, rfl, rfl⟩
  case h_12 => cases h
  all_goals
    split at h <;> cases h
    next he => exact ⟨rfl, rfl, by simp only [execLocal, he]⟩

theorem execLocal_isMeta (s : DState) (ts : Ts) (b b' : OpBody) (s' : DState) (ret : Ret)
    (h : execLocal s ts b = .ok (s', b', ret)) : b'.isMeta = false ∧ b.isMeta = false :=
  ⟨(execLocal_ok h).1, (execLocal_ok h).2.1⟩

/-! ### frames: the core (id, state) of one replica inside the other fields of another

`r1.frame r = r1` says that `r1` differs from `r` in id and state at most; that is how the lemmas below state what a step
leaves alone, and `frame_fields` reads it field by field. -/

/-- core (id, state) of `r`, every other field of `f` -/
def Replica.frame (r f : Replica) : Replica := { f with opId := r.opId, state := r.state }

@[simp] theorem frame_self (r : Replica) : r.frame r = r := rfl
@[simp] theorem frame_opId (r f : Replica) : (r.frame f).opId = r.opId := rfl
@[simp] theorem frame_state (r f : Replica) : (r.frame f).state = r.state := rfl
@[simp] theorem frame_rbOps (r f : Replica) : (r.frame f).rbOps = f.rbOps := rfl
@[simp] theorem frame_rbSnap (r f : Replica) : (r.frame f).rbSnap = f.rbSnap := rfl
@[simp] theorem frame_rbOpId (r f : Replica) : (r.frame f).rbOpId = f.rbOpId := rfl
@[simp] theorem frame_buffer (r f : Replica) : (r.frame f).buffer = f.buffer := rfl
@[simp] theorem frame_cp (r f : Replica) : (r.frame f).cp = f.cp := rfl
@[simp] theorem frame_typ (r f : Replica) : (r.frame f).typ = f.typ := rfl
@[simp] theorem frame_frame (r f g : Replica) : (r.frame f).frame g = r.frame g := rfl

/-- `r1.frame r = r1`, field by field -/
theorem frame_fields {r1 r : Replica} (h : r1.frame r = r1) :
    r1.typ = r.typ ∧ r1.buffer = r.buffer ∧ r1.cp = r.cp ∧ r1.rbOpId = r.rbOpId ∧
      r1.rbSnap = r.rbSnap ∧ r1.rbOps = r.rbOps := by
  rw [← h]; simp

theorem frame_of_core {r f : Replica} (h1 : r.opId = f.opId) (h2 : r.state = f.state) : r.frame f = f := by
  cases f; cases r; simp_all [Replica.frame]

theorem frame_congr {a b f : Replica} (h1 : a.opId = b.opId) (h2 : a.state = b.state) : a.frame f = b.frame f := by
  unfold Replica.frame; rw [h1, h2]

theorem execLocalBase_frame (r f : Replica) (b : OpBody) :
    (r.frame f).execLocalBase b = ((r.execLocalBase b).1.frame f, (r.execLocalBase b).2) := by
  unfold Replica.execLocalBase
  simp only [frame_opId, frame_state]
  split
  · rfl
  · split <;> rfl

theorem execRemoteBase_frame (r f : Replica) (o : Op) :
    (r.frame f).execRemoteBase o = ((r.execRemoteBase o).1.frame f, (r.execRemoteBase o).2) := by
  rw [execRemoteBase_eq, execRemoteBase_eq]; rfl

theorem replay_frame (r f : Replica) (o : Op) :
    (r.frame f).replay o = ((r.replay o).1.frame f, (r.replay o).2) := by
  unfold Replica.replay
  simp only [frame_opId, execLocalBase_frame, execRemoteBase_frame]
  split
  · rcases h : r.execLocalBase o.body with ⟨r', (_ | _ | _)⟩ <;> simp
  · rcases h : r.execRemoteBase o with ⟨r', (_ | _)⟩ <;> simp

theorem replayAll_frame (r f : Replica) (ops : List Op) :
    (r.frame f).replayAll ops = ((r.replayAll ops).1.frame f, (r.replayAll ops).2) := by
  induction ops generalizing r with
  | nil => rfl
  | cons o os ih =>
    simp only [Replica.replayAll, replay_frame]
    rcases h : r.replay o with ⟨r', (_ | _ | _)⟩ <;> simp [ih]
/-! ### replay chains on cores -/

/-- some replica with core `(i, s)`: replay does not look at the other fields (`replayAll_of_core`) -/
def Replica.ofCore (i : OpId) (s : DState) : Replica := ⟨.counter, i, s, [], ⟨0, 0⟩, i, s, []⟩

def Replays (i : OpId) (s : DState) (ops : List Op) (i' : OpId) (s' : DState) : Prop :=
  ∃ r', (Replica.ofCore i s).replayAll ops = (r', .ok ()) ∧ r'.opId = i' ∧ r'.state = s'

theorem replayAll_of_core (r : Replica) (ops : List Op) :
    r.replayAll ops = (((Replica.ofCore r.opId r.state).replayAll ops).1.frame r,
      ((Replica.ofCore r.opId r.state).replayAll ops).2) := by
  have := replayAll_frame (Replica.ofCore r.opId r.state) r ops
  rwa [frame_of_core (r := Replica.ofCore r.opId r.state) (f := r) rfl rfl] at this

theorem replays_iff (r : Replica) (ops : List Op) (i' : OpId) (s' : DState) :
    Replays r.opId r.state ops i' s' ↔
      ∃ r', r.replayAll ops = (r', .ok ()) ∧ r'.opId = i' ∧ r'.state = s' := by
  rw [replayAll_of_core r ops]
  unfold Replays
  constructor
  · rintro ⟨r', h, h1, h2⟩
    exact ⟨r'.frame r, by simp [h], by simp [h1], by simp [h2]⟩
  · rintro ⟨r', h, h1, h2⟩
    simp only [Prod.mk.injEq] at h
    refine ⟨((Replica.ofCore r.opId r.state).replayAll ops).1, ?_, ?_, ?_⟩
    · rw [← h.2]
    · rw [← h1, ← h.1]; rfl
    · rw [← h2, ← h.1]; rfl

theorem replays_nil (i : OpId) (s : DState) : Replays i s [] i s := ⟨_, rfl, rfl, rfl⟩

theorem replayAll_append (r : Replica) (l1 l2 : List Op) :
    r.replayAll (l1 ++ l2) =
      match r.replayAll l1 with
      | (r', .ok ()) => r'.replayAll l2
      | (r', e) => (r', e) := by
  induction l1 generalizing r with
  | nil => simp [Replica.replayAll]
  | cons o os ih =>
    simp only [List.cons_append, Replica.replayAll]
    rcases h : r.replay o with ⟨r', (_ | _ | _)⟩ <;> simp [ih]

theorem replays_append {i s l1 i1 s1 l2 i2 s2} (h1 : Replays i s l1 i1 s1) (h2 : Replays i1 s1 l2 i2 s2) :
    Replays i s (l1 ++ l2) i2 s2 := by
  obtain ⟨r1, e1, a1, b1⟩ := h1
  subst a1 b1
  rw [replays_iff] at h2
  obtain ⟨r2, e2, a2, b2⟩ := h2
  exact ⟨r2, by rw [replayAll_append, e1]; simpa using e2, a2, b2⟩

theorem RbInv_iff (r : Replica) : r.RbInv ↔ Replays r.rbOpId r.rbSnap r.rbOps r.opId r.state := by
  unfold Replica.RbInv Replica.rbResult
  exact (replays_iff { r with opId := r.rbOpId, state := r.rbSnap } r.rbOps r.opId r.state).symm

theorem execLocalBase_eq (r : Replica) (b : OpBody) : r.execLocalBase b =
    if b.isMeta then ({ r with opId := r.opId.next }, .ok (⟨r.opId.next, b⟩, .none)) else
    match execLocal r.state r.opId.next.ts b with
    | .ok (s', b', ret) => ({ r with opId := r.opId.next, state := s' }, .ok (⟨r.opId.next, b'⟩, ret))
    | .err c => (r, .err c)
    | .panic w => ({ r with opId := r.opId.next }, .panic w) := by
  unfold Replica.execLocalBase
  simp only [next_rollBack]
  split
  · rfl
  · rcases execLocal r.state r.opId.next.ts b with ⟨s', b', ret⟩ | c | w <;> rfl

theorem replays_local (r r1 : Replica) (b : OpBody) (op : Op) (ret : Ret)
    (h : r.execLocalBase b = (r1, .ok (op, ret))) :
    Replays r.opId r.state [op] r1.opId r1.state := by
  rw [replays_iff]
  rw [execLocalBase_eq] at h
  split at h
  · simp only [Prod.mk.injEq, Outcome.ok.injEq] at h
    obtain ⟨h1, h2, h3⟩ := h
    subst h1 h2
    simp [Replica.replayAll, Replica.replay, execLocalBase_eq, OpId.next, *]
  · rename_i hm
    split at h <;> simp only [Prod.mk.injEq, Outcome.ok.injEq, reduceCtorEq, and_false] at h
    rename_i s' b' ret' he
    obtain ⟨h1, h2, h3⟩ := h
    subst h1 h2
    obtain ⟨hm', _, he'⟩ := execLocal_ok he
    have hc : r.opId.cuid = r.opId.next.cuid := rfl
    simp [Replica.replayAll, Replica.replay, execLocalBase_eq, hm', he', ← hc]

theorem replays_meta (i : OpId) (s : DState) (b : OpBody) (hb : b.isMeta = true) :
    Replays i s [⟨i.next, b⟩] i.next s := by
  have hc : i.cuid = i.next.cuid := rfl
  refine ⟨{ Replica.ofCore i s with opId := i.next }, ?_, rfl, rfl⟩
  simp [Replica.ofCore, Replica.replayAll, Replica.replay, execLocalBase_eq, hb, ← hc]

/-! ### what `execLocalBase` / `execRemoteBase` do to a replica -/

theorem execLocalBase_ok {r r1 : Replica} {b : OpBody} {op : Op} {ret : Ret}
    (h : r.execLocalBase b = (r1, .ok (op, ret))) :
    r1.opId = r.opId.next ∧ op.id = r.opId.next ∧ r1.frame r = r1 := by
  rw [execLocalBase_eq] at h
  split at h
  · simp only [Prod.mk.injEq, Outcome.ok.injEq] at h
    obtain ⟨h1, h2, _⟩ := h
    subst h1 h2
    exact ⟨rfl, rfl, rfl⟩
  · split at h <;> simp only [Prod.mk.injEq, Outcome.ok.injEq, reduceCtorEq, and_false] at h
    obtain ⟨h1, h2, _⟩ := h
    subst h1 h2
    exact ⟨rfl, rfl, rfl⟩

theorem execLocalBase_err {r r1 : Replica} {b : OpBody} {c : Nat}
    (h : r.execLocalBase b = (r1, .err c)) : r1 = r := by
  rw [execLocalBase_eq] at h
  split at h
  · simp at h
  · split at h <;> simp only [Prod.mk.injEq, reduceCtorEq, and_false] at h
    exact h.1.symm

theorem execRemoteBase_fst (r : Replica) (o : Op) :
    (r.execRemoteBase o).1.opId = r.opId.syncLamport o.id.lamport ∧
      (r.execRemoteBase o).1.frame r = (r.execRemoteBase o).1 := by
  rw [execRemoteBase_eq]; exact ⟨rfl, rfl⟩

theorem replays_remote {r r1 : Replica} {o : Op} (hc : o.id.cuid ≠ r.opId.cuid)
    (h : r.execRemoteBase o = (r1, none)) : Replays r.opId r.state [o] r1.opId r1.state := by
  rw [replays_iff]
  refine ⟨r1, ?_, rfl, rfl⟩
  simp [Replica.replayAll, Replica.replay, Ne.symm hc, h]

/-! ### the invariant along the public steps -/

theorem rbInv_new (typ : DtType) (cuid : String) (create : Bool) : (Replica.new typ cuid create).RbInv := by
  rw [RbInv_iff]
  cases create
  · exact replays_nil _ _
  · exact replays_meta _ _ _ rfl

theorem rbInv_call (r : Replica) (c : Call) (h : r.RbInv) (hp : (r.call c).2.isPanic = false) :
    (r.call c).1.RbInv := by
  have s := call_case r c
  generalize r.call c = x at s hp ⊢
  cases s with
  | done _ | err _ _ => exact h
  | panic _ _ => cases hp
  | @ok b _ s' b' ret hq he =>
    rw [RbInv_iff] at h ⊢
    refine replays_append h (replays_local r { r with opId := r.opId.next, state := s' } b ⟨r.opId.next, b'⟩ ret ?_)
    rw [execLocalBase_eq, prepare_notMeta hq, if_neg Bool.false_ne_true, he]

/-! ### transactions -/

/-- `r1` with a committed transaction recorded for rollback and queued: the header under `id`, then the body's operations -/
abbrev Replica.committed (r1 : Replica) (id : OpId) (tag : String) (ops : List Op) : Replica :=
  { r1 with rbOps := r1.rbOps ++ (⟨id, .transaction tag (ops.length + 1)⟩ :: ops),
            buffer := r1.buffer ++ (⟨id, .transaction tag (ops.length + 1)⟩ :: ops).map Op.wire }

theorem txCalls_eq (r : Replica) (tag : String) (calls : List Call) (stop fail : Bool) :
    r.txCalls tag calls stop fail =
      match Replica.txCalls.body stop { r with opId := r.opId.next } [] [] calls with
      | (r1, ops, outs, stopped, pan) =>
        match pan with
        | some w => (r1, outs, .panic w)
        | none =>
          if stopped || fail then
            match r1.rollback with
            | (r2, .ok ()) => (r2, outs, .err Err.transaction)
            | (r2, .err c) => (r2, outs, .err c)
            | (r2, .panic w) => (r2, outs, .panic w)
          else
            (r1.committed r.opId.next tag ops, outs, .ok ()) := rfl

/-- one round of a transaction body is the call itself with the queueing withheld: `r.call c` decides; the core moves as the
    call moves it; what the call would have recorded for rollback is collected instead -/
theorem body_cons (stop : Bool) (r : Replica) (acc : List Op) (outs : List (Outcome Ret)) (c : Call) (cs : List Call) :
    Replica.txCalls.body stop r acc outs (c :: cs) =
      match (r.call c).2 with
      | .ok v => Replica.txCalls.body stop ((r.call c).1.frame r) (acc ++ (r.call c).1.rbOps.drop r.rbOps.length)
          (outs ++ [.ok v]) cs
      | .err e => if stop then (r, acc, outs ++ [.err e], true, none)
          else Replica.txCalls.body stop r acc (outs ++ [.err e]) cs
      | .panic w => ((r.call c).1.frame r, acc, outs ++ [.panic w], true, some w) := by
  rw [Replica.txCalls.body]
  have s := call_case r c
  generalize r.call c = x at s ⊢
  cases s with
  | @done o hp => rw [hp]; rcases o with v | e | w <;> simp
  | ok hp he =>
    rw [hp]
    simp only [execLocalBase_eq, prepare_notMeta hp, Bool.false_eq_true, if_false, he, Replica.queued, List.drop_left]
    rfl
  | err hp he => rw [hp]; simp only [execLocalBase_eq, prepare_notMeta hp, Bool.false_eq_true, if_false, he]
  | panic hp he => rw [hp]; simp only [execLocalBase_eq, prepare_notMeta hp, Bool.false_eq_true, if_false, he]; rfl

/-- what the body of a transaction has done when it did not panic -/
structure BodyOk (r r1 : Replica) (acc ops : List Op) : Prop where
  frame : r1.frame r = r1
  new : ∃ new : List Op, ops = acc ++ new ∧ Replays r.opId r.state new r1.opId r1.state ∧
    new.map (·.id.seq) = List.range' (r.opId.seq + 1) new.length ∧
    r1.opId = { r.opId with lamport := r.opId.lamport + new.length, seq := r.opId.seq + new.length } ∧
    ∀ o ∈ new, o.id.cuid = r.opId.cuid

theorem bodyOk_refl (r : Replica) (acc : List Op) : BodyOk r r acc acc :=
  ⟨rfl, [], by simp, replays_nil _ _, rfl, rfl, by simp⟩

theorem BodyOk.trans {r r1 r2 : Replica} {acc ops ops' : List Op} (h1 : BodyOk r r1 acc ops) (h2 : BodyOk r1 r2 ops ops') :
    BodyOk r r2 acc ops' := by
  obtain ⟨f1, n1, e1, p1, s1, i1, c1⟩ := h1
  obtain ⟨f2, n2, e2, p2, s2, i2, c2⟩ := h2
  refine ⟨by rw [← f2, ← f1]; rfl, n1 ++ n2, by rw [e2, e1, List.append_assoc], replays_append p1 p2, ?_, ?_, ?_⟩
  · rw [List.map_append, s1, s2, i1, List.length_append, ← List.range'_append_1, Nat.add_right_comm]
  · rw [i2, i1, List.length_append]; simp only [Nat.add_assoc]
  · intro o ho
    rcases List.mem_append.mp ho with ho | ho
    · exact c1 o ho
    · rw [c2 o ho, i1]

/-- an accepted call as one round of a body: what it recorded for rollback is the round's operation, if it made one -/
theorem BodyOk.call (r : Replica) (c : Call) (acc : List Op) {v : Ret} (h : (r.call c).2 = .ok v) :
    BodyOk r ((r.call c).1.frame r) acc (acc ++ (r.call c).1.rbOps.drop r.rbOps.length) := by
  have s := call_case r c
  generalize r.call c = x at s h
  cases s with
  | done hp => simp only [frame_self, List.drop_length, List.append_nil]; exact bodyOk_refl r acc
  | @ok b post s' b' ret hp he =>
    have hb : r.execLocalBase b = ({ r with opId := r.opId.next, state := s' }, .ok (⟨r.opId.next, b'⟩, ret)) := by
      rw [execLocalBase_eq, prepare_notMeta hp, if_neg Bool.false_ne_true, he]
    simp only [Replica.queued, List.drop_left]
    exact ⟨rfl, [⟨r.opId.next, b'⟩], rfl, replays_local _ _ _ _ _ hb, rfl, rfl, fun o ho => List.mem_singleton.mp ho ▸ rfl⟩
  | err _ _ => cases h
  | panic _ _ => cases h

theorem body_ok (stop : Bool) (calls : List Call) : ∀ (r : Replica) (acc : List Op) (outs : List (Outcome Ret))
    {r1 ops outs' stopped}, Replica.txCalls.body stop r acc outs calls = (r1, ops, outs', stopped, none) →
    BodyOk r r1 acc ops := by
  induction calls with
  | nil =>
    intro r acc outs r1 ops outs' stopped h
    simp only [Replica.txCalls.body, Prod.mk.injEq] at h
    obtain ⟨rfl, rfl, _⟩ := h
    exact bodyOk_refl _ _
  | cons c cs ih =>
    intro r acc outs r1 ops outs' stopped h
    rw [body_cons] at h
    split at h
    · next v hv => exact (BodyOk.call r c acc hv).trans (ih _ _ _ h)
    · split at h
      · simp only [Prod.mk.injEq] at h
        obtain ⟨rfl, rfl, _⟩ := h
        exact bodyOk_refl _ _
      · exact ih _ _ _ h
    · simp at h

theorem body_panic (stop : Bool) (calls : List Call) : ∀ (r : Replica) (acc : List Op) (outs : List (Outcome Ret))
    {r1 ops outs' stopped w}, Replica.txCalls.body stop r acc outs calls = (r1, ops, outs', stopped, some w) →
    ∃ o ∈ outs', o.isPanic = true := by
  induction calls with
  | nil => intro r acc outs r1 ops outs' stopped w h; simp [Replica.txCalls.body] at h
  | cons c cs ih =>
    intro r acc outs r1 ops outs' stopped w h
    rw [body_cons] at h
    split at h
    · exact ih _ _ _ h
    · split at h
      · simp at h
      · exact ih _ _ _ h
    · simp only [Prod.mk.injEq] at h
      obtain ⟨_, _, h3, _⟩ := h
      subst h3
      exact ⟨_, List.mem_append_right _ (List.mem_singleton.2 rfl), rfl⟩

theorem body_frame (stop : Bool) (f : Replica) (calls : List Call) : ∀ (r : Replica) (acc : List Op)
    (outs : List (Outcome Ret)),
    Replica.txCalls.body stop (r.frame f) acc outs calls =
      ((Replica.txCalls.body stop r acc outs calls).1.frame f, (Replica.txCalls.body stop r acc outs calls).2) := by
  induction calls with
  | nil => intro r acc outs; rfl
  | cons c cs ih =>
    intro r acc outs
    obtain ⟨nr, a⟩ := call_agree r (r.frame f) c rfl rfl
    have e : ((r.frame f).call c).1.frame (r.frame f) = ((r.call c).1.frame r).frame f :=
      frame_congr (f := f) a.opId a.state
    rw [body_cons, body_cons, a.out, e, a.rbOps_f, a.rbOps_r, List.drop_left, List.drop_left]
    split
    · exact ih _ _ _
    · split
      · rfl
      · exact ih _ _ _
    · rfl

theorem rollback_of_rbInv {r r1 : Replica} (h : r.RbInv) (hf : r1.frame r = r1) :
    ∃ r2, r1.rollback = (r2, .ok ()) ∧ r2.opId = r.opId ∧ r2.state = r.state ∧ r2.buffer = r.buffer ∧
      r2.cp = r.cp ∧ r2.rbOpId = r.opId ∧ r2.rbSnap = r.state ∧ r2.rbOps = [] := by
  obtain ⟨f1, f2, f3, f4, f5, f6⟩ := frame_fields hf
  obtain ⟨x, hx, hx1, hx2⟩ := h
  have key : ({ r1 with opId := r1.rbOpId, state := r1.rbSnap } : Replica).replayAll r1.rbOps =
      (x.frame r1, .ok ()) := by
    have e : ({ r1 with opId := r1.rbOpId, state := r1.rbSnap } : Replica) =
        ({ r with opId := r.rbOpId, state := r.rbSnap } : Replica).frame r1 := by
      simp [Replica.frame, f4, f5]
    unfold Replica.rbResult at hx
    rw [e, f6, replayAll_frame, hx]
  unfold Replica.rollback
  simp only [key]
  exact ⟨_, rfl, hx1, hx2, f2, f3, hx1, hx2, rfl⟩

theorem rbInv_of_rb_eq {r : Replica} (h1 : r.rbOpId = r.opId) (h2 : r.rbSnap = r.state) (h3 : r.rbOps = []) :
    r.RbInv := by
  rw [RbInv_iff, h1, h2, h3]; exact replays_nil _ _

theorem txCalls_cases (r : Replica) (tag : String) (calls : List Call) (stop fail : Bool) :
    ∃ r1 ops outs stopped pan,
      Replica.txCalls.body stop { r with opId := r.opId.next } [] [] calls = (r1, ops, outs, stopped, pan) ∧
      ((∃ w, pan = some w ∧ r.txCalls tag calls stop fail = (r1, outs, .panic w)) ∨
       (pan = none ∧ (stopped || fail) = true ∧
          r.txCalls tag calls stop fail =
            (match r1.rollback with
             | (r2, .ok ()) => (r2, outs, .err Err.transaction)
             | (r2, .err c) => (r2, outs, .err c)
             | (r2, .panic w) => (r2, outs, .panic w))) ∨
       (pan = none ∧ (stopped || fail) = false ∧
          r.txCalls tag calls stop fail =
            (r1.committed r.opId.next tag ops, outs, .ok ()))) := by
  rw [txCalls_eq]
  rcases hb : Replica.txCalls.body stop { r with opId := r.opId.next } [] [] calls with ⟨r1, ops, outs, stopped, pan⟩
  refine ⟨r1, ops, outs, stopped, pan, rfl, ?_⟩
  cases pan with
  | some w => exact Or.inl ⟨w, rfl, rfl⟩
  | none =>
    cases hs : (stopped || fail)
    · exact Or.inr (Or.inr ⟨rfl, rfl, by simp [hs]⟩)
    · exact Or.inr (Or.inl ⟨rfl, rfl, by simp [hs]⟩)

/-- how a transaction ends on a replica with sound rollback data: in a panic of one of its calls,
    restored to where it began, or committed with the body's operations queued behind a header -/
theorem txCalls_shape (r : Replica) (h : r.RbInv) (tag : String) (calls : List Call) (stop fail : Bool) :
    (∃ w, (r.txCalls tag calls stop fail).2.2 = .panic w ∧
      ∃ o ∈ (r.txCalls tag calls stop fail).2.1, o.isPanic = true) ∨
    ((r.txCalls tag calls stop fail).2.2 = .err Err.transaction ∧
      ∃ r2, (r.txCalls tag calls stop fail).1 = r2 ∧ r2.opId = r.opId ∧ r2.state = r.state ∧
        r2.buffer = r.buffer ∧ r2.cp = r.cp ∧ r2.rbOpId = r.opId ∧ r2.rbSnap = r.state ∧ r2.rbOps = []) ∨
    ((r.txCalls tag calls stop fail).2.2 = .ok () ∧
      ∃ r1 ops, BodyOk { r with opId := r.opId.next } r1 [] ops ∧
        (r.txCalls tag calls stop fail).1 =
          r1.committed r.opId.next tag ops) := by
  obtain ⟨r1, ops, outs, stopped, pan, hb, hc⟩ := txCalls_cases r tag calls stop fail
  rcases hc with ⟨w, hw, e⟩ | ⟨hpan, _, e⟩ | ⟨hpan, _, e⟩
  · subst hw
    rw [e]
    exact Or.inl ⟨w, rfl, body_panic _ _ _ _ _ hb⟩
  · subst hpan
    obtain ⟨r2, hr, g⟩ := rollback_of_rbInv h (body_ok _ _ _ _ _ hb).frame
    rw [e, hr]
    exact Or.inr (Or.inl ⟨rfl, r2, rfl, g⟩)
  · subst hpan
    rw [e]
    exact Or.inr (Or.inr ⟨rfl, r1, ops, body_ok _ _ _ _ _ hb, rfl⟩)

theorem rbInv_txCalls (r : Replica) (tag : String) (calls : List Call) (stop fail : Bool) (h : r.RbInv)
    (hp : (r.txCalls tag calls stop fail).2.2.isPanic = false) :
    (r.txCalls tag calls stop fail).1.RbInv := by
  rcases txCalls_shape r h tag calls stop fail with ⟨w, e, _⟩ | ⟨_, r2, e, g1, g2, _, _, g5, g6, g7⟩ |
    ⟨_, r1, ops, ⟨hf, new, hnew, hrep, _⟩, e⟩
  · rw [e] at hp; cases hp
  · rw [e]; exact rbInv_of_rb_eq (g5.trans g1.symm) (g6.trans g2.symm) g7
  · obtain ⟨_, _, _, f4, f5, f6⟩ := frame_fields hf
    rw [List.nil_append] at hnew
    subst hnew
    rw [e, RbInv_iff]
    simp only [f4, f5, f6]
    rw [RbInv_iff] at h
    exact replays_append h (replays_append (l1 := [_]) (replays_meta _ _ _ rfl) hrep)

/-- C09, local half: a transaction that ends with an error leaves id, state, pending operations and
    checkpoint exactly as they were (for ANY body: valid and invalid calls, reads, early return) -/
theorem txCalls_fail_restores (r : Replica) (h : r.RbInv) (tag : String) (calls : List Call)
    (stop fail : Bool) (c : Nat) (herr : (r.txCalls tag calls stop fail).2.2 = .err c) :
    let r' := (r.txCalls tag calls stop fail).1
    r'.opId = r.opId ∧ r'.state = r.state ∧ r'.buffer = r.buffer ∧ r'.cp = r.cp := by
  rcases txCalls_shape r h tag calls stop fail with ⟨w, e, _⟩ | ⟨_, r2, e, g1, g2, g3, g4, _⟩ | ⟨e, _⟩
  · rw [e] at herr; cases herr
  · simp only [e]; exact ⟨g1, g2, g3, g4⟩
  · rw [e] at herr; cases herr

/-- under the rollback invariant a transaction never ends in a panic unless one of its own calls panicked -/
theorem txCalls_panic_only_from_body (r : Replica) (h : r.RbInv) (tag : String) (calls : List Call)
    (stop fail : Bool) (w : String) (hpan : (r.txCalls tag calls stop fail).2.2 = .panic w) :
    ∃ o ∈ (r.txCalls tag calls stop fail).2.1, o.isPanic = true := by
  rcases txCalls_shape r h tag calls stop fail with ⟨_, _, ho⟩ | ⟨e, _⟩ | ⟨e, _⟩
  · exact ho
  · rw [e] at hpan; cases hpan
  · rw [e] at hpan; cases hpan

theorem wire_id (o : Op) : o.wire.id = o.id := rfl

/-- C09: a committed transaction is queued as ONE contiguous unit that announces its own length -/
theorem txCalls_commit_unit (r : Replica) (tag : String) (calls : List Call) (stop fail : Bool)
    (hok : (r.txCalls tag calls stop fail).2.2 = .ok ()) :
    let r' := (r.txCalls tag calls stop fail).1
    ∃ unit : List Op, r'.buffer = r.buffer ++ unit ∧
      (unit.head?.map (·.body)) = some (.transaction tag unit.length) ∧
      unit.map (·.id.seq) = List.range' (r.opId.seq + 1) unit.length ∧
      r'.opId.seq = r.opId.seq + unit.length := by
  obtain ⟨r1, ops, outs, stopped, pan, hb, hc⟩ := txCalls_cases r tag calls stop fail
  rcases hc with ⟨w', hw, e⟩ | ⟨hpan', _, e⟩ | ⟨hpan', _, e⟩
  · rw [e] at hok; simp at hok
  · rw [e] at hok
    rcases hr : r1.rollback with ⟨r2, (_ | _ | _)⟩ <;> rw [hr] at hok <;> simp at hok
  · subst hpan'
    obtain ⟨hf, new, hnew, hrep, hseq, hid, _⟩ := body_ok _ _ _ _ _ hb
    obtain ⟨_, f2, _⟩ := frame_fields hf
    simp only [List.nil_append] at hnew
    subst hnew
    simp only [e]
    refine ⟨(⟨r.opId.next, .transaction tag (ops.length + 1)⟩ :: ops).map Op.wire, by rw [f2], ?_, ?_, ?_⟩
    · simp [Op.wire, OpBody.wire]
    · simp only [List.map_map, List.length_map, List.length_cons, List.map_cons, List.range'_succ]
      congr 1
    · rw [hid]; simp [OpId.next]; omega

/-! ### remote units -/

theorem applyUnit_go_cons (r : Replica) (o : Op) (os : List Op) :
    Replica.applyUnit.go r (o :: os) =
      match r.execRemoteBase o with
      | (r', none) => Replica.applyUnit.go { r' with rbOps := r'.rbOps ++ [o] } os
      | (r', some w) => (r', .panic w) := by
  rw [Replica.applyUnit.go]
  rfl

/-- applying a unit, uniformly in the replica: nothing to do, refused unchanged, or executed — a unit of one operation whole
    (it needs no header), a longer one without its header -/
theorem applyUnit_shape (unit : List Op) :
    (unit = [] ∧ ∀ r : Replica, r.applyUnit unit = (r, .ok ())) ∨
      (∀ r : Replica, r.applyUnit unit = (r, .err Err.transaction)) ∨
      (unit.length = 1 ∧ ∀ r : Replica, r.applyUnit unit = Replica.applyUnit.go r unit) ∨
      (2 ≤ unit.length ∧ ∀ r : Replica, r.applyUnit unit = Replica.applyUnit.go r unit.tail) := by
  match unit with
  | [] => exact Or.inl ⟨rfl, fun _ => rfl⟩
  | [o] => exact Or.inr (Or.inr (Or.inl ⟨rfl, fun _ => rfl⟩))
  | hd :: a :: tl =>
    have key : ∀ r : Replica, r.applyUnit (hd :: a :: tl) =
        match hd.body with
        | .transaction _ n =>
          if n ≠ ((hd :: a :: tl).length : Int) then (r, .err Err.transaction)
          else Replica.applyUnit.go r (a :: tl)
        | _ => (r, .err Err.transaction) := fun _ => rfl
    by_cases htx : ∃ tag n, hd.body = .transaction tag n
    · obtain ⟨tag, n, hb⟩ := htx
      simp only [hb] at key
      by_cases hn : n ≠ ((hd :: a :: tl).length : Int)
      · exact Or.inr (Or.inl fun r => by rw [key, if_pos hn])
      · exact Or.inr (Or.inr (Or.inr ⟨Nat.le_add_left 2 _, fun r => by rw [key, if_neg hn]; rfl⟩))
    · refine Or.inr (Or.inl fun r => ?_)
      rw [key]
      split
      · next hb => exact absurd ⟨_, _, hb⟩ htx
      · rfl

theorem applyUnit_go_not_err (ops : List Op) : ∀ (r : Replica) (c : Nat), (Replica.applyUnit.go r ops).2 ≠ .err c := by
  induction ops with
  | nil => intro r c; simp [Replica.applyUnit.go]
  | cons o os ih =>
    intro r c
    rw [applyUnit_go_cons]
    rcases r.execRemoteBase o with ⟨r', (_ | w)⟩
    · exact ih _ _
    · simp

/-- C09, remote half: one announced unit is applied completely or not at all: if `applyUnit` reports
    an error the replica is unchanged -/
theorem applyUnit_err_unchanged (r : Replica) (unit : List Op) (c : Nat)
    (h : (r.applyUnit unit).2 = .err c) : (r.applyUnit unit).1 = r := by
  rcases applyUnit_shape unit with ⟨_, e⟩ | e | ⟨_, e⟩ | ⟨_, e⟩
  · rw [e]
  · rw [e]
  · rw [e] at h; exact absurd h (applyUnit_go_not_err _ _ _)
  · rw [e] at h; exact absurd h (applyUnit_go_not_err _ _ _)

def Op.unitLen (o : Op) : Nat :=
  match o.body with
  | .transaction _ n => n.toNat
  | _ => 1

/-- the header check of `receive` -/
def Op.badHeader (o : Op) (avail : Nat) : Bool :=
  match o.body with
  | .transaction _ n => n < 1 || n.toNat > avail
  | _ => false

theorem Op.unitLen_tx {o : Op} {tag : String} {n : Int} (h : o.body = .transaction tag n) :
    o.unitLen = n.toNat := by
  unfold Op.unitLen; rw [h]

theorem Op.badHeader_tx {o : Op} {tag : String} {n : Int} (h : o.body = .transaction tag n) (k : Nat) :
    o.badHeader k = (decide (n < 1) || decide (n.toNat > k)) := by
  unfold Op.badHeader; rw [h]

theorem Op.unitLen_other {o : Op} (h : ∀ tag n, o.body ≠ .transaction tag n) : o.unitLen = 1 := by
  unfold Op.unitLen
  split
  · next hb => exact absurd hb (h _ _)
  · rfl

theorem Op.badHeader_other {o : Op} (h : ∀ tag n, o.body ≠ .transaction tag n) (k : Nat) :
    o.badHeader k = false := by
  unfold Op.badHeader
  split
  · next hb => exact absurd hb (h _ _)
  · rfl

theorem receive_go_succ (fuel : Nat) (r : Replica) (o : Op) (rest : List Op) :
    Replica.receive.go (fuel + 1) r (o :: rest) =
      if o.badHeader (o :: rest).length then (r, .err Err.transaction)
      else
        match r.applyUnit ((o :: rest).take o.unitLen) with
        | (r', .ok ()) => Replica.receive.go fuel r' ((o :: rest).drop o.unitLen)
        | (r', e) => (r', e) := by
  rw [Replica.receive.go]
  split
  · next hb => rw [Op.badHeader_tx hb, Op.unitLen_tx hb]; rfl
  · next hb => rw [Op.badHeader_other hb, Op.unitLen_other hb]; rfl

theorem receive_go_nil (fuel : Nat) (r : Replica) : Replica.receive.go fuel r [] = (r, .ok ()) := by
  cases fuel <;> rfl

theorem receive_go_zero (r : Replica) (o : Op) (rest : List Op) :
    Replica.receive.go 0 r (o :: rest) = (r, .panic "fuel") := rfl

theorem unitLen_pos {o : Op} {k : Nat} (h : o.badHeader k = false) : 1 ≤ o.unitLen := by
  unfold Op.badHeader at h
  unfold Op.unitLen
  split
  · rename_i tag n hb
    rw [hb] at h
    simp at h
    omega
  · exact Nat.le_refl _

/-! ### `receive` without fuel (in the namespace `SN` of the snapshot files, which read `receive` through these) -/

namespace SN

theorem unitLen_le {o : Op} {k : Nat} (h : o.badHeader k = false) (hk : 1 ≤ k) : o.unitLen ≤ k := by
  unfold Op.badHeader at h
  unfold Op.unitLen
  split <;> simp_all

theorem badHeader_mono {o : Op} {k k' : Nat} (h : o.badHeader k = false) (hk : k ≤ k') :
    o.badHeader k' = false := by
  unfold Op.badHeader at h ⊢
  split <;> simp_all
  omega

theorem units_induction {P : List Op → Prop} (nil : P [])
    (cons : ∀ o rest, (o.badHeader (o :: rest).length = false → P ((o :: rest).drop o.unitLen)) → P (o :: rest))
    (ops : List Op) : P ops := by
  induction h : ops.length using Nat.strongRecOn generalizing ops with
  | _ n ih =>
    cases ops with
    | nil => exact nil
    | cons o rest =>
      refine cons o rest fun hb => ih _ ?_ _ rfl
      have := unitLen_pos hb
      rw [← h, List.length_drop]
      exact Nat.sub_lt (Nat.succ_pos _) this

theorem go_fuel (ops : List Op) : ∀ (r : Replica) (f g : Nat), ops.length ≤ f → ops.length ≤ g →
    Replica.receive.go f r ops = Replica.receive.go g r ops := by
  induction ops using units_induction with
  | nil => intro r f g _ _; rw [receive_go_nil, receive_go_nil]
  | cons o rest ih =>
    intro r f g hf hg
    obtain ⟨f, rfl⟩ : ∃ f', f = f' + 1 := ⟨f - 1, (Nat.sub_add_cancel (Nat.le_trans (Nat.succ_pos _) hf)).symm⟩
    obtain ⟨g, rfl⟩ : ∃ g', g = g' + 1 := ⟨g - 1, (Nat.sub_add_cancel (Nat.le_trans (Nat.succ_pos _) hg)).symm⟩
    rw [receive_go_succ, receive_go_succ]
    split
    · rfl
    · next hb =>
      have hb := Bool.eq_false_iff.2 hb
      have hpos := unitLen_pos hb
      have hlen : ((o :: rest).drop o.unitLen).length ≤ rest.length := by
        rw [List.length_drop, List.length_cons]; omega
      rcases r.applyUnit ((o :: rest).take o.unitLen) with ⟨r', (_ | c | w)⟩
      · exact ih hb r' f g (Nat.le_trans hlen (Nat.le_of_succ_le_succ hf))
          (Nat.le_trans hlen (Nat.le_of_succ_le_succ hg))
      · rfl
      · rfl

theorem receive_nil (r : Replica) : r.receive [] = (r, .ok ()) := rfl

theorem receive_cons (r : Replica) (o : Op) (rest : List Op) :
    r.receive (o :: rest) =
      if o.badHeader (o :: rest).length then (r, .err Err.transaction)
      else
        match r.applyUnit ((o :: rest).take o.unitLen) with
        | (r', .ok ()) => r'.receive ((o :: rest).drop o.unitLen)
        | (r', e) => (r', e) := by
  show Replica.receive.go (rest.length + 1) r (o :: rest) = _
  rw [receive_go_succ]
  split
  · rfl
  · next hb =>
    have hpos := unitLen_pos (Bool.eq_false_iff.2 hb)
    rcases r.applyUnit ((o :: rest).take o.unitLen) with ⟨r', (_ | c | w)⟩
    · refine go_fuel _ r' _ _ ?_ (Nat.le_refl _)
      rw [List.length_drop, List.length_cons]; omega
    · rfl
    · rfl

end SN

/-! ### `receive` as one run over what it executes -/

theorem applyUnit_go_nil (r : Replica) : Replica.applyUnit.go r [] = (r, .ok ()) := by
  rw [Replica.applyUnit.go]

theorem applyUnit_go_append (l1 l2 : List Op) : ∀ r : Replica, Replica.applyUnit.go r (l1 ++ l2) =
    match Replica.applyUnit.go r l1 with
    | (r', .ok ()) => Replica.applyUnit.go r' l2
    | x => x := by
  induction l1 with
  | nil => intro r; rw [List.nil_append, applyUnit_go_nil]
  | cons o os ih =>
    intro r
    rw [List.cons_append, applyUnit_go_cons, applyUnit_go_cons]
    rcases r.execRemoteBase o with ⟨r', (_ | w)⟩
    · exact ih _
    · rfl

/-- what `receive` answers after the run over the executed operations: a refused header shows only if the run went through -/
def closeOut (refused : Bool) : Outcome Unit → Outcome Unit
  | .ok () => if refused then .err Err.transaction else .ok ()
  | e => e

theorem closeOut_isPanic (b : Bool) (e : Outcome Unit) : (closeOut b e).isPanic = e.isPanic := by
  rcases e with _ | _ | _ <;> cases b <;> rfl

theorem closeOut_ok {b : Bool} {e : Outcome Unit} (h : closeOut b e = .ok ()) : e = .ok () ∧ b = false := by
  rcases e with _ | _ | _ <;> cases b <;> first | exact ⟨rfl, rfl⟩ | cases h

/-- `receive ops` is ONE run over `run`, whatever the replica: the operations it executes, in order (a unit of one operation
    whole, a longer one without its header, nothing from the first refused unit on; `refused`: there is one).  An operation
    that is a unit of its own wherever it stands is executed unless a unit is refused. -/
structure RunOf (ops run : List Op) (refused : Bool) : Prop where
  mem : ∀ o ∈ run, o ∈ ops
  all : refused = false → ∀ o ∈ ops, o.unitLen = 1 → o ∈ run
  eq : ∀ r : Replica, r.receive ops = ((Replica.applyUnit.go r run).1, closeOut refused (Replica.applyUnit.go r run).2)

theorem receive_run (ops : List Op) : ∃ run refused, RunOf ops run refused := by
  induction ops using SN.units_induction with
  | nil => exact ⟨[], false, by simp, by simp, fun r => by rw [applyUnit_go_nil]; rfl⟩
  | cons o rest ih =>
    have stop : (∀ r : Replica, r.receive (o :: rest) = (r, .err Err.transaction)) → RunOf (o :: rest) [] true :=
      fun h => ⟨by simp, Bool.noConfusion, fun r => by rw [h, applyUnit_go_nil]; rfl⟩
    cases hb : o.badHeader (o :: rest).length with
    | true => exact ⟨_, _, stop fun r => by rw [SN.receive_cons, if_pos hb]⟩
    | false =>
      obtain ⟨run, b, t⟩ := ih hb
      obtain ⟨k, hk⟩ : ∃ k, o.unitLen = k + 1 := ⟨o.unitLen - 1, by have := unitLen_pos hb; omega⟩
      have hcons : ∀ r : Replica, r.receive (o :: rest) =
          match r.applyUnit (o :: rest.take k) with
          | (r', .ok ()) => r'.receive (rest.drop k)
          | (r', e) => (r', e) := fun r => by
        rw [SN.receive_cons, if_neg (by rw [hb]; exact Bool.false_ne_true), hk, List.take_succ_cons, List.drop_succ_cons]
      rw [hk, List.drop_succ_cons] at t
      -- `u`: what is executed of the unit, all of it or all but the header
      have exec : ∀ u : List Op, (∀ x ∈ u, x ∈ o :: rest) → (∀ x ∈ o :: rest.take k, x.unitLen = 1 → x ∈ u) →
          (∀ r : Replica, r.applyUnit (o :: rest.take k) = Replica.applyUnit.go r u) → RunOf (o :: rest) (u ++ run) b := by
        intro u hu hux e
        refine ⟨fun x hx => (List.mem_append.1 hx).elim (hu x)
          (fun h => List.mem_cons_of_mem _ (List.mem_of_mem_drop (t.mem x h))), fun hbf x hx h1 => ?_, fun r => ?_⟩
        · rw [← List.take_append_drop k rest, ← List.cons_append, List.mem_append] at hx
          exact List.mem_append.2 (hx.imp (fun h => hux x h h1) (fun h => t.all hbf x h h1))
        · rw [hcons, e, applyUnit_go_append]
          rcases Replica.applyUnit.go r u with ⟨r', (_ | c | w)⟩
          · exact t.eq r'
          · rfl
          · rfl
      rcases applyUnit_shape (o :: rest.take k) with ⟨e, _⟩ | e | ⟨_, e⟩ | ⟨h2, e⟩
      · cases e
      · exact ⟨_, _, stop fun r => by rw [hcons, e]⟩
      · exact ⟨_, _, exec _ (fun x hx => (List.mem_cons.1 hx).elim (fun h => h ▸ List.mem_cons_self)
          (fun h => List.mem_cons_of_mem _ (List.mem_of_mem_take h))) (fun x hx _ => hx) e⟩
      · refine ⟨_, _, exec _ (fun x hx => List.mem_cons_of_mem _ (List.mem_of_mem_take hx)) (fun x hx h1 => ?_) e⟩
        rcases List.mem_cons.1 hx with rfl | hx
        · rw [List.length_cons, List.length_take] at h2; omega
        · exact hx

theorem receive_single (r : Replica) (o : Op) (rest : List Op) (h : ∀ tag n, o.body ≠ .transaction tag n) :
    r.receive (o :: rest) =
      match Replica.applyUnit.go r [o] with
      | (r', .ok ()) => r'.receive rest
      | (r', e) => (r', e) := by
  rw [SN.receive_cons, Op.badHeader_other h, Op.unitLen_other h]
  rfl

/-- a unit whose header announces a length that is not positive or exceeds what was received is refused
    before anything of it is applied (and never loops or panics) -/
theorem receive_bad_header (r : Replica) (hd : Op) (rest : List Op) (tag : String) (n : Int)
    (hb : hd.body = .transaction tag n) (hbad : n < 1 ∨ n.toNat > (hd :: rest).length) :
    r.receive (hd :: rest) = (r, .err Err.transaction) := by
  have : hd.badHeader (hd :: rest).length = true := by
    rw [Op.badHeader_tx hb]; simpa using hbad
  rw [SN.receive_cons, if_pos this]

theorem receive_unit (r : Replica) (id : OpId) (tag : String) (ops rest : List Op) (hne : ops ≠ []) :
    r.receive (⟨id, .transaction tag ((ops.length + 1 : Nat) : Int)⟩ :: (ops ++ rest)) =
      match Replica.applyUnit.go r ops with
      | (r', .ok ()) => r'.receive rest
      | (r', e) => (r', e) := by
  obtain ⟨a, tl, rfl⟩ := List.exists_cons_of_ne_nil hne
  have hb : Op.badHeader ⟨id, .transaction tag (((a :: tl).length + 1 : Nat) : Int)⟩
      (⟨id, .transaction tag (((a :: tl).length + 1 : Nat) : Int)⟩ :: (a :: tl ++ rest)).length = false := by
    simp only [Op.badHeader, Int.toNat_natCast, Bool.or_eq_false_iff, decide_eq_false_iff_not, List.length_cons,
      List.length_append]
    exact ⟨by omega, by omega⟩
  have hu : Op.unitLen ⟨id, .transaction tag (((a :: tl).length + 1 : Nat) : Int)⟩ = (a :: tl).length + 1 :=
    Int.toNat_natCast _
  have hap : r.applyUnit (⟨id, .transaction tag (((a :: tl).length + 1 : Nat) : Int)⟩ :: a :: tl) =
      Replica.applyUnit.go r (a :: tl) := by
    simp only [Replica.applyUnit]
    exact if_neg (fun h => h rfl)
  rw [SN.receive_cons, hb, hu, List.take_succ_cons, List.drop_succ_cons, List.take_left, List.drop_left, hap]
  rfl

theorem applyUnit_go_preserves (P : Replica → Prop) (hexec : ∀ r o, P r → P (r.execRemoteBase o).1)
    (hrb : ∀ (r : Replica) l, P r → P { r with rbOps := l }) (ops : List Op) :
    ∀ r, P r → P (Replica.applyUnit.go r ops).1 := by
  induction ops with
  | nil => intro r h; exact h
  | cons o os ih =>
    intro r h
    rw [applyUnit_go_cons]
    have := hexec r o h
    revert this
    rcases r.execRemoteBase o with ⟨r', (_ | w)⟩ <;> intro this
    · exact ih _ (hrb _ _ this)
    · exact this

theorem receive_preserves (P : Replica → Prop) (hexec : ∀ r o, P r → P (r.execRemoteBase o).1)
    (hrb : ∀ (r : Replica) l, P r → P { r with rbOps := l }) (r : Replica) (ops : List Op) (h : P r) :
    P (r.receive ops).1 := by
  obtain ⟨run, b, t⟩ := receive_run ops
  rw [t.eq]
  exact applyUnit_go_preserves P hexec hrb run r h

theorem receive_fields (r : Replica) (ops : List Op) :
    (r.receive ops).1.buffer = r.buffer ∧ (r.receive ops).1.opId.seq = r.opId.seq ∧
      (r.receive ops).1.opId.cuid = r.opId.cuid ∧ (r.receive ops).1.cp = r.cp := by
  refine receive_preserves (fun r' => r'.buffer = r.buffer ∧ r'.opId.seq = r.opId.seq ∧
      r'.opId.cuid = r.opId.cuid ∧ r'.cp = r.cp) ?_ ?_ r ops ⟨rfl, rfl, rfl, rfl⟩
  · intro r' o ⟨h1, h2, h3, h4⟩
    obtain ⟨hid, hf⟩ := execRemoteBase_fst r' o
    obtain ⟨_, f2, f3, _⟩ := frame_fields hf
    obtain ⟨s1, s2, _⟩ := syncLamport_fields r'.opId o.id.lamport
    exact ⟨f2.trans h1, by rw [hid, s2, h2], by rw [hid, s1, h3], f3.trans h4⟩
  · intro r' l h; exact h

theorem execRemoteBase_cuid (r : Replica) (o : Op) : (r.execRemoteBase o).1.opId.cuid = r.opId.cuid := by
  rw [(execRemoteBase_fst r o).1]; exact (syncLamport_fields _ _).1

theorem applyUnit_go_rbInv (ops : List Op) : ∀ (r : Replica), r.RbInv →
    (∀ o ∈ ops, o.id.cuid ≠ r.opId.cuid) → (Replica.applyUnit.go r ops).2.isPanic = false →
    (Replica.applyUnit.go r ops).1.RbInv := by
  induction ops with
  | nil => intro r h _ _; exact h
  | cons o os ih =>
    intro r h hf hp
    obtain ⟨hf0, hfs⟩ := List.forall_mem_cons.mp hf
    have hcu := execRemoteBase_cuid r o
    have hfr := (execRemoteBase_fst r o).2
    rw [applyUnit_go_cons] at hp ⊢
    rcases he : r.execRemoteBase o with ⟨r', (_ | w)⟩ <;> rw [he] at hp hcu hfr <;> dsimp only at hcu hfr
    · obtain ⟨_, _, _, f4, f5, f6⟩ := frame_fields hfr
      refine ih _ ?_ (fun o' ho' => hcu ▸ hfs o' ho') hp
      rw [RbInv_iff] at h ⊢
      simp only [f4, f5, f6]
      exact replays_append h (replays_remote hf0 he)
    · cases hp

/-- `hforeign`: replay re-executes an operation locally or remotely according to its client id, so a
    received operation must carry another client's -/
theorem rbInv_receive (r : Replica) (ops : List Op) (h : r.RbInv)
    (hforeign : ∀ o ∈ ops, o.id.cuid ≠ r.opId.cuid)
    (hp : (r.receive ops).2.isPanic = false) : (r.receive ops).1.RbInv := by
  obtain ⟨run, b, t⟩ := receive_run ops
  rw [t.eq] at hp ⊢
  exact applyUnit_go_rbInv run r h (fun o ho => hforeign o (t.mem o ho)) (by rwa [closeOut_isPanic] at hp)

/-! ### two replicas fed the same operations -/

section rel
variable (R : Replica → Replica → Prop)
  (hexec : ∀ a b o, R a b → (a.execRemoteBase o).2 = (b.execRemoteBase o).2 ∧
    R (a.execRemoteBase o).1 (b.execRemoteBase o).1)
  (hrb : ∀ a b l, R a b → R { a with rbOps := a.rbOps ++ l } { b with rbOps := b.rbOps ++ l })
include hexec hrb

/-- a relation that every delivery keeps (with equal outcomes) and that does not look at what is appended to `rbOps` is
    kept by whole units and by `receive`, with equal outcomes: the common form of "the result depends only on the state",
    "… only on state and clock" -/
theorem applyUnit_go_rel (ops : List Op) : ∀ a b, R a b →
    (Replica.applyUnit.go a ops).2 = (Replica.applyUnit.go b ops).2 ∧
      R (Replica.applyUnit.go a ops).1 (Replica.applyUnit.go b ops).1 := by
  induction ops with
  | nil => exact fun _ _ h => ⟨rfl, h⟩
  | cons o os ih =>
    intro a b h
    obtain ⟨h1, h2⟩ := hexec a b o h
    rw [applyUnit_go_cons, applyUnit_go_cons]
    rcases ha : a.execRemoteBase o with ⟨a', (_ | w)⟩ <;> rcases hb : b.execRemoteBase o with ⟨b', (_ | w')⟩ <;>
      rw [ha, hb] at h1 h2 <;> cases h1
    · exact ih _ _ (hrb _ _ [o] h2)
    · exact ⟨rfl, h2⟩

theorem receive_rel (ops : List Op) (a b : Replica) (h : R a b) :
    (a.receive ops).2 = (b.receive ops).2 ∧ R (a.receive ops).1 (b.receive ops).1 := by
  obtain ⟨run, rf, t⟩ := receive_run ops
  obtain ⟨h1, h2⟩ := applyUnit_go_rel R hexec hrb run a b h
  rw [t.eq, t.eq]
  exact ⟨congrArg (closeOut rf) h1, h2⟩
end rel

end Orda
