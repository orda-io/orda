/-
C19 (pure half): the edit script that `jsonDiff` generates for (src, tgt) rewrites src into tgt (`apply_diff`).

`PD.Eff ops p s t` = "in every context tree whose subtree at `p` is `s`, applying `ops` succeeds and
the result is the same tree with the subtree at `p` replaced by `t`".  `Eff` composes along `++`, a
direct operation at `p ++ [k]` has an effect on the container at `p`, and an effect at
`p ++ [k]` is an effect on the container at `p`.  Simultaneous induction on the fuel for
`jdiff` / `jdiffArr` / `jdiffObj`.  No condition on the context tree is needed; the only place where
sortedness of keys matters is the object that is being merged.  What the generated operations carry are
sub-values of the target (`DPatch.carried`).
-/
import Orda.Proofs.JsonCanon
import Std.Data.String.ToNat
namespace Orda

namespace PD

theorem toString_toNat (i : Nat) : (toString i).toNat? = some i := Nat.toNat?_repr i

theorem upd_eq_set (l : List JVal) (i : Nat) (c : JVal) (h : i < l.length) :
    l.take i ++ [c] ++ l.drop (i + 1) = l.set i c := by
  simp [List.set_eq_take_append_cons_drop, h]

theorem getElem?_lt {l : List JVal} {i : Nat} {c : JVal} (h : l[i]? = some c) : i < l.length := by
  have := List.getElem?_eq_some_iff.mp h
  exact this.1

/-! ### plain trees: subtree at a path, replacing the subtree at a path -/

def getAt : List String → JVal → Option JVal
  | [], v => some v
  | k :: rest, .obj kvs =>
    match alFind k kvs with
    | some c => getAt rest c
    | none => none
  | k :: rest, .arr l =>
    match k.toNat? with
    | some i =>
      match l[i]? with
      | some c => getAt rest c
      | none => none
    | none => none
  | _ :: _, _ => none

def setAt (new : JVal) : List String → JVal → Option JVal
  | [], _ => some new
  | k :: rest, .obj kvs =>
    match alFind k kvs with
    | some c => (setAt new rest c).map (fun c' => .obj (objPut k c' kvs))
    | none => none
  | k :: rest, .arr l =>
    match k.toNat? with
    | some i =>
      match l[i]? with
      | some c => (setAt new rest c).map (fun c' => .arr (l.take i ++ [c'] ++ l.drop (i + 1)))
      | none => none
    | none => none
  | _ :: _, _ => none

theorem setAt_spec (new : JVal) : ∀ (p : List String) (root s : JVal), getAt p root = some s →
    ∃ r, setAt new p root = some r ∧ getAt p r = some new ∧ ∀ t, setAt t p r = setAt t p root
  | [], _, _, _ => ⟨new, rfl, rfl, fun _ => rfl⟩
  | k :: rest, .obj kvs, s, h => by
    simp only [getAt] at h
    split at h
    · next c hc =>
      obtain ⟨c', h1, h2, h3⟩ := setAt_spec new rest c s h
      refine ⟨.obj (objPut k c' kvs), ?_, ?_, fun t => ?_⟩
      · simp only [setAt, hc, h1, Option.map_some]
      · simp only [getAt, alFind_objPut_self, h2]
      · simp only [setAt, alFind_objPut_self, hc, h3, objPut_objPut]
    · cases h
  | k :: rest, .arr l, s, h => by
    simp only [getAt] at h
    split at h
    · next i hi =>
      split at h
      · next c hc =>
        obtain ⟨c', h1, h2, h3⟩ := setAt_spec new rest c s h
        have hl := getElem?_lt hc
        have hu : ∀ (l : List JVal) (x : JVal), i < l.length →
            l.take i ++ [x] ++ l.drop (i + 1) = l.set i x := fun l x => upd_eq_set l i x
        refine ⟨.arr (l.set i c'), ?_, ?_, fun t => ?_⟩
        · simp only [setAt, hi, hc, h1, Option.map_some, hu l c' hl]
        · simp only [getAt, hi, List.getElem?_set_self hl, h2]
        · simp only [setAt, hi, hc, List.getElem?_set_self hl, h3, hu _ _ hl,
            hu _ _ (List.length_set ▸ hl), List.set_set]
      · cases h
    · cases h
  | _ :: _, .null, _, h => nomatch h
  | _ :: _, .bool _, _, h => nomatch h
  | _ :: _, .num _, _, h => nomatch h
  | _ :: _, .str _, _, h => nomatch h

theorem getAt_cons (k : String) (rest : List String) (v : JVal) :
    getAt (k :: rest) v = (getAt [k] v).bind (getAt rest) := by
  cases v with
  | obj kvs => simp only [getAt]; cases alFind k kvs <;> rfl
  | arr l =>
    simp only [getAt]
    cases k.toNat? with
    | none => rfl
    | some i => dsimp only; cases l[i]? <;> rfl
  | _ => rfl

theorem setAt_cons (new : JVal) (k : String) (rest : List String) (v : JVal) :
    setAt new (k :: rest) v =
      (getAt [k] v).bind fun c => (setAt new rest c).bind fun c' => setAt c' [k] v := by
  cases v with
  | obj kvs =>
    simp only [getAt, setAt]
    cases alFind k kvs with
    | none => rfl
    | some c => dsimp only [Option.bind_some]; cases setAt new rest c <;> rfl
  | arr l =>
    simp only [getAt, setAt]
    cases k.toNat? with
    | none => rfl
    | some i =>
      dsimp only
      cases l[i]? with
      | none => rfl
      | some c => dsimp only [Option.bind_some]; cases setAt new rest c <;> rfl
  | _ => rfl

theorem applyAt_cons (op : PatchOp) (k : String) {rest : List String} (h : rest ≠ []) (v : JVal) :
    applyAt op (k :: rest) v =
      (getAt [k] v).bind fun c => (applyAt op rest c).bind fun c' => setAt c' [k] v := by
  cases v with
  | obj kvs =>
    rw [applyAt.eq_8 op k rest kvs (fun e => h e)]  -- the arm `k :: rest, .obj kvs` with `rest ≠ []`
    simp only [getAt, setAt]
    cases alFind k kvs with
    | none => rfl
    | some c => dsimp only [Option.bind_some]; cases applyAt op rest c <;> rfl
  | arr l =>
    rw [applyAt.eq_9 op k rest l (fun e => h e)]  -- the arm `k :: rest, .arr l` with `rest ≠ []`
    simp only [getAt, setAt]
    cases k.toNat? with
    | none => rfl
    | some i =>
      dsimp only
      cases l[i]? with
      | none => rfl
      | some c => dsimp only [Option.bind_some]; cases applyAt op rest c <;> rfl
  | _ =>
    cases rest with
    | nil => exact absurd rfl h
    | cons _ _ => rfl

/-- a function that goes down one segment the way `setAt` does acts below a prefix `p` on the subtree
    found there -/
theorem descend (F : List String → JVal → Option JVal) (q : List String)
    (hF : ∀ k rest v, F (k :: (rest ++ q)) v =
      (getAt [k] v).bind fun c => (F (rest ++ q) c).bind fun c' => setAt c' [k] v) :
    ∀ (p : List String) (root : JVal),
      F (p ++ q) root = (getAt p root).bind fun c => (F q c).bind fun c' => setAt c' p root
  | [], root => by simp [getAt, setAt]
  | k :: rest, root => by
    rw [List.cons_append, hF, getAt_cons k rest]
    cases hc : getAt [k] root with
    | none => rfl
    | some c => simp only [Option.bind_some, descend F q hF rest c, setAt_cons _ k rest, hc, Option.bind_assoc]

theorem getAt_append (q : List String) : ∀ (p : List String) (root : JVal),
    getAt (p ++ q) root = (getAt p root).bind (getAt q)
  | [], _ => rfl
  | k :: rest, root => by
    rw [List.cons_append, getAt_cons, getAt_cons k rest, Option.bind_assoc]
    exact congrArg _ (funext (getAt_append q rest))

theorem setAt_append (new : JVal) (q p : List String) (root : JVal) :
    setAt new (p ++ q) root =
      (getAt p root).bind (fun c => (setAt new q c).bind (fun c' => setAt c' p root)) :=
  descend (setAt new) q (fun k rest => setAt_cons new k (rest ++ q)) p root

theorem applyAt_append (op : PatchOp) (k : String) (p : List String) (root : JVal) :
    applyAt op (p ++ [k]) root =
      (getAt p root).bind (fun c => (applyAt op [k] c).bind (fun c' => setAt c' p root)) :=
  descend (applyAt op) [k] (fun a rest => applyAt_cons op a (by simp)) p root

/-! ### effects of operation lists -/

theorem applyPatch_append (o1 o2 : List PatchOp) : ∀ root,
    applyPatch (o1 ++ o2) root = (applyPatch o1 root).bind (applyPatch o2) := by
  induction o1 with
  | nil => intro root; rfl
  | cons op ops ih =>
    intro root
    simp only [List.cons_append, applyPatch]
    cases applyAt op op.path root with
    | none => rfl
    | some r => exact ih r

/- The left disjunct is not an instance of the right one.  In a context object whose keys do not increase, `setAt s p root`
   need not be `root` (`objPut` inserts before the first greater key, and that may stand before the old binding), so "no
   operation" (`Eff.nil`) must say `root' = root` outright.  That is what lets `Eff` do without any condition on the context. -/
/-- `root'` is `root` with the subtree at `p` replaced by `t` (nothing to do, or an explicit update) -/
def Upd (p : List String) (t root root' : JVal) : Prop :=
  (getAt p root = some t ∧ root' = root) ∨ setAt t p root = some root'

theorem Upd.getAt {p : List String} {s t root root' : JVal} (hg : getAt p root = some s)
    (h : Upd p t root root') : getAt p root' = some t := by
  rcases h with ⟨h1, rfl⟩ | h
  · exact h1
  · obtain ⟨r, hr, h2, -⟩ := setAt_spec t p root s hg
    cases hr.symm.trans h
    exact h2

theorem Upd.trans {p : List String} {s m t root r1 r2 : JVal} (hg : PD.getAt p root = some s)
    (h1 : Upd p m root r1) (h2 : Upd p t r1 r2) : Upd p t root r2 := by
  rcases h1 with ⟨-, rfl⟩ | s1
  · exact h2
  · obtain ⟨r, hr, hget, hset⟩ := setAt_spec m p root s hg
    cases hr.symm.trans s1
    rcases h2 with ⟨g2, rfl⟩ | s2
    · cases hget.symm.trans g2
      exact Or.inr s1
    · exact Or.inr ((hset t).symm.trans s2)

/-- in every context whose subtree at `p` is `s`, the operations succeed and replace it by `t` -/
def Eff (ops : List PatchOp) (p : List String) (s t : JVal) : Prop :=
  ∀ root, getAt p root = some s → ∃ root', applyPatch ops root = some root' ∧ Upd p t root root'

theorem Eff.nil (p : List String) (s : JVal) : Eff [] p s s :=
  fun root h => ⟨root, rfl, Or.inl ⟨h, rfl⟩⟩

theorem Eff.append {o1 o2 : List PatchOp} {p : List String} {s m t : JVal}
    (h1 : Eff o1 p s m) (h2 : Eff o2 p m t) : Eff (o1 ++ o2) p s t := by
  intro root h
  obtain ⟨r1, a1, u1⟩ := h1 root h
  obtain ⟨r2, a2, u2⟩ := h2 r1 (u1.getAt h)
  exact ⟨r2, by rw [applyPatch_append, a1]; exact a2, u1.trans h u2⟩

theorem Eff.cons {op : PatchOp} {ops : List PatchOp} {p : List String} {s m t : JVal}
    (h1 : Eff [op] p s m) (h2 : Eff ops p m t) : Eff (op :: ops) p s t :=
  Eff.append (o1 := [op]) h1 h2

theorem Eff.direct {op : PatchOp} {p : List String} {k : String} {c c' : JVal}
    (hp : op.path = p ++ [k]) (h : applyAt op [k] c = some c') : Eff [op] p c c' := by
  intro root hg
  obtain ⟨r, hr, -, -⟩ := setAt_spec c' p root c hg
  refine ⟨r, ?_, Or.inr hr⟩
  simp only [applyPatch, hp, applyAt_append, hg, h, hr, Option.bind_some]

/-- `replace` at a non-root path -/
theorem Eff.replace {p : List String} (hp : p ≠ []) (s t : JVal) : Eff [.replace p t] p s t := by
  obtain ⟨q, k, rfl⟩ : ∃ q k, p = q ++ [k] :=
    ⟨p.dropLast, p.getLast hp, (List.dropLast_concat_getLast hp).symm⟩
  intro root hg
  obtain ⟨r, hr, -, -⟩ := setAt_spec t _ root s hg
  refine ⟨r, ?_, Or.inr hr⟩
  rw [getAt_append] at hg
  rw [setAt_append] at hr
  cases hc : getAt q root with
  | none => rw [hc] at hg; cases hg
  | some c =>
    rw [hc] at hg hr
    have key : applyAt (.replace (q ++ [k]) t) [k] c = setAt t [k] c := by
      cases c with
      | obj kvs =>
        simp only [Option.bind_some, getAt] at hg
        split at hg
        · next c0 h0 => simp only [applyAt, setAt, h0, Option.map_some]
        · cases hg
      | arr l =>
        simp only [Option.bind_some, getAt] at hg
        split at hg
        · next i hi =>
          split at hg
          · next c0 h0 => simp only [applyAt, setAt, hi, h0, getElem?_lt h0, if_true, Option.map_some]
          · cases hg
        · cases hg
      | _ => cases hg
    simpa only [applyPatch, PatchOp.path, applyAt_append, hc, key, Option.bind_some,
      Option.bind_fun_some] using hr

theorem Eff.down {ops : List PatchOp} {p : List String} {k : String} {s t : JVal} (F : JVal → JVal)
    (hget : getAt [k] (F s) = some s) (hset : setAt t [k] (F s) = some (F t))
    (h : Eff ops (p ++ [k]) s t) : Eff ops p (F s) (F t) := by
  intro root hg
  have hg' : getAt (p ++ [k]) root = some s := by rw [getAt_append, hg]; exact hget
  obtain ⟨r, ha, hu⟩ := h root hg'
  refine ⟨r, ha, ?_⟩
  rcases hu with ⟨g1, e1⟩ | s1
  · cases hg'.symm.trans g1
    exact Or.inl ⟨hg, e1⟩
  · rw [setAt_append, hg] at s1
    simp only [Option.bind_some, hset] at s1
    exact Or.inr s1

theorem Eff.down_obj {ops : List PatchOp} {p : List String} {k : String} {s t : JVal}
    (h : Eff ops (p ++ [k]) s t) (pre post : List (String × JVal)) (hpre : ∀ x ∈ pre, x.1 < k) :
    Eff ops p (.obj (pre ++ (k, s) :: post)) (.obj (pre ++ (k, t) :: post)) := by
  have hf : alFind k (pre ++ (k, s) :: post) = some s := by
    rw [alFind_append k _ pre fun x hx => String.ne_of_lt (hpre x hx)]; simp only [alFind, if_true]
  refine Eff.down (fun v => .obj (pre ++ (k, v) :: post)) ?_ ?_ h
  · simp only [getAt, hf]
  · simp only [setAt, hf, Option.map_some, objPut_append k _ _ pre hpre, objPut, if_true]

theorem Eff.down_arr {ops : List PatchOp} {p : List String} {s t : JVal} (pre post : List JVal)
    (h : Eff ops (p ++ [toString pre.length]) s t) :
    Eff ops p (.arr (pre ++ s :: post)) (.arr (pre ++ t :: post)) := by
  refine Eff.down (fun v => .arr (pre ++ v :: post)) ?_ ?_ h
  · simp [getAt]
  · simp [setAt]

/-! ### the three phases of the array comparison -/

theorem Eff.removes (p : List String) : ∀ (l2 l1 : List JVal),
    Eff (List.replicate l2.length (PatchOp.remove (p ++ [toString l1.length]))) p (.arr (l1 ++ l2)) (.arr l1)
  | [], l1 => by simpa using Eff.nil p (.arr l1)
  | x :: xs, l1 => by
    have hd : Eff [PatchOp.remove (p ++ [toString l1.length])] p (.arr (l1 ++ x :: xs)) (.arr (l1 ++ xs)) := by
      refine Eff.direct (k := toString l1.length) rfl ?_
      rw [applyAt.eq_7, toString_toNat]  -- `[k], .arr l`, `remove`
      simp
    exact Eff.cons hd (Eff.removes p xs l1)

theorem Eff.appends (p : List String) : ∀ (l2 l1 : List JVal),
    Eff (l2.map (fun t => PatchOp.add (p ++ ["-"]) t)) p (.arr l1) (.arr (l1 ++ l2))
  | [], l1 => by simpa using Eff.nil p (.arr l1)
  | x :: xs, l1 => by
    have hd : Eff [PatchOp.add (p ++ ["-"]) x] p (.arr l1) (.arr (l1 ++ [x])) :=
      Eff.direct (k := "-") rfl (by simp [applyAt])
    have := Eff.cons hd (Eff.appends p xs (l1 ++ [x]))
    simpa using this

theorem Eff.arr_phases {mid : List PatchOp} {p : List String} {a b : List JVal} {n : Nat}
    (hn : n ≤ a.length) (h : Eff mid p (.arr (a.take n)) (.arr (b.take n))) :
    Eff (List.replicate (a.length - n) (PatchOp.remove (p ++ [toString n])) ++ mid ++
      (b.drop n).map (fun t => PatchOp.add (p ++ ["-"]) t)) p (.arr a) (.arr b) := by
  have e1 := Eff.removes p (a.drop n) (a.take n)
  rw [List.take_append_drop, List.length_drop, List.length_take_of_le hn] at e1
  have e3 := Eff.appends p (b.drop n) (b.take n)
  rw [List.take_append_drop] at e3
  exact (e1.append h).append e3

/-! ### operations on a key of a sorted object -/

theorem lt_of_sorted {pre post : List (String × JVal)} {k : String} {v : JVal}
    (h : ((pre ++ (k, v) :: post).map (·.1)).Pairwise (· < ·)) : ∀ x ∈ pre, x.1 < k := by
  rw [List.map_append, List.pairwise_append] at h
  exact fun x hx => h.2.2 _ (List.mem_map_of_mem hx) _ List.mem_cons_self

theorem sorted_remove {pre post : List (String × JVal)} {x : String × JVal}
    (h : ((pre ++ x :: post).map (·.1)).Pairwise (· < ·)) : ((pre ++ post).map (·.1)).Pairwise (· < ·) :=
  h.sublist (((List.sublist_cons_self x post).append_left pre).map _)

theorem sorted_insert {pre post : List (String × JVal)} {k : String} (v : JVal)
    (h : ((pre ++ post).map (·.1)).Pairwise (· < ·)) (hpre : ∀ x ∈ pre, x.1 < k)
    (hpost : ∀ a ∈ post.map (·.1), k < a) : ((pre ++ (k, v) :: post).map (·.1)).Pairwise (· < ·) := by
  rw [List.map_append, List.pairwise_append] at h ⊢
  rw [List.map_cons]
  refine ⟨h.1, List.pairwise_cons.2 ⟨hpost, h.2.1⟩, fun a ha b hb => ?_⟩
  rcases List.mem_cons.1 hb with rfl | hb
  · obtain ⟨x, hx, rfl⟩ := List.mem_map.1 ha
    exact hpre x hx
  · exact h.2.2 a ha b hb

theorem Eff.obj_remove (p : List String) {pre post : List (String × JVal)} {k : String} (s : JVal)
    (hk : ∀ x ∈ pre, x.1 < k) :
    Eff [PatchOp.remove (p ++ [k])] p (.obj (pre ++ (k, s) :: post)) (.obj (pre ++ post)) := by
  refine Eff.direct (k := k) rfl ?_
  -- `applyAt.eq_4`: the arm `[k], .obj kvs` for `remove`
  rw [applyAt.eq_4, alFind_append k _ pre fun x hx => String.ne_of_lt (hk x hx), objDel_append k _ pre hk]
  simp only [alFind, objDel, if_true, Option.isSome_some]

theorem Eff.obj_add (p : List String) {pre post : List (String × JVal)} {k : String} (t : JVal)
    (hk : ∀ x ∈ pre, x.1 < k) (hpost : ∀ a ∈ post.map (·.1), k < a) :
    Eff [PatchOp.add (p ++ [k]) t] p (.obj (pre ++ post)) (.obj (pre ++ (k, t) :: post)) := by
  refine Eff.direct (k := k) rfl ?_
  rw [applyAt.eq_2, objPut_append k t _ pre hk, objPut_head k t post hpost]  -- `[k], .obj kvs`, `add`

/-! ### sizes and sortedness of parts -/

theorem nodesList_take (n : Nat) : ∀ l : List JVal, JVal.nodesList (l.take n) ≤ JVal.nodesList l := by
  induction n with
  | zero => intro l; simp [JVal.nodesList]
  | succ n ih =>
    intro l
    cases l with
    | nil => simp
    | cons x xs =>
      have := ih xs
      simp only [List.take_succ_cons, JVal.nodesList]
      omega

theorem sorted_snoc {pre post : List (String × JVal)} {x : String × JVal}
    (h : ((pre ++ x :: post).map (·.1)).Pairwise (· < ·)) : ((pre ++ [x] ++ post).map (·.1)).Pairwise (· < ·) := by
  rwa [← List.append_cons]

theorem sorted_replace {pre ss : List (String × JVal)} {k : String} {s : JVal}
    (h : ((pre ++ (k, s) :: ss).map (·.1)).Pairwise (· < ·)) (t : JVal) :
    ((pre ++ [(k, t)] ++ ss).map (·.1)).Pairwise (· < ·) := by
  simpa using h

theorem lt_tail {pre ss : List (String × JVal)} {k k' : String} {s : JVal}
    (hS : ((pre ++ (k, s) :: ss).map (·.1)).Pairwise (· < ·)) (hgt : k' < k) :
    ∀ a ∈ ((k, s) :: ss).map (·.1), k' < a := by
  rw [List.map_append, List.pairwise_append, List.map_cons, List.pairwise_cons] at hS
  intro a ha
  rcases List.mem_cons.1 ha with rfl | ha
  · exact hgt
  · exact String.lt_trans hgt (hS.2.1.1 a ha)

/-! ### the two larger steps of the comparison, given the effects of the recursive calls -/

theorem Eff.jdiff_leaf {fuel : Nat} {p : List String} {s t : JVal} (hA : ¬ ∃ a b, s = .arr a ∧ t = .arr b)
    (hO : ¬ ∃ a b, s = .obj a ∧ t = .obj b) (hp : p ≠ [] ∨ s = t) : Eff (jdiff (fuel + 1) p s t) p s t := by
  -- the last arm of `jdiff`: not two arrays, not two objects
  rw [jdiff.eq_4 p s t fuel (fun a b h1 h2 => hA ⟨a, b, h1, h2⟩) (fun a b h1 h2 => hO ⟨a, b, h1, h2⟩)]
  rcases hp with hp | rfl
  · have hemp : p.isEmpty = false := by
      cases p with
      | nil => exact absurd rfl hp
      | cons _ _ => rfl
    split
    · rw [hemp]; exact Eff.replace hp s t
    · split
      · next hb => cases (beq_iff_eq _ _).mp hb; exact Eff.nil _ _
      · exact Eff.replace hp s t
  · rw [if_neg (fun h => h rfl), if_pos ((beq_iff_eq s s).mpr rfl)]
    exact Eff.nil _ _

theorem Eff.jdiffObj_both {fuel : Nat} {p : List String} {pre ss ts : List (String × JVal)} {k k' : String}
    {s t : JVal} (hS : ((pre ++ (k, s) :: ss).map (·.1)).Pairwise (· < ·))
    (hT : ((pre ++ (k', t) :: ts).map (·.1)).Pairwise (· < ·))
    (heq : k = k' → Eff (jdiff fuel (p ++ [k]) s t) (p ++ [k]) s t ∧
      Eff (jdiffObj fuel p ss ts) p (.obj (pre ++ [(k', t)] ++ ss)) (.obj (pre ++ [(k', t)] ++ ts)))
    (hlt : k < k' → Eff (jdiffObj fuel p ss ((k', t) :: ts)) p (.obj (pre ++ ss)) (.obj (pre ++ (k', t) :: ts)))
    (hgt : k' < k → Eff (jdiffObj fuel p ((k, s) :: ss) ts) p (.obj (pre ++ [(k', t)] ++ (k, s) :: ss))
      (.obj (pre ++ [(k', t)] ++ ts))) :
    Eff (jdiffObj (fuel + 1) p ((k, s) :: ss) ((k', t) :: ts)) p (.obj (pre ++ (k, s) :: ss))
      (.obj (pre ++ (k', t) :: ts)) := by
  rw [jdiffObj.eq_5]
  split
  · next e =>
    obtain ⟨e1, e2⟩ := heq e
    subst e
    rw [← List.append_cons, ← List.append_cons] at e2
    exact (e1.down_obj pre ss (lt_of_sorted hS)).append e2
  · next hne =>
    split
    · next h => exact (Eff.obj_remove p s (lt_of_sorted hS)).cons (hlt h)
    · next hnlt =>
      have h := str_lt_of_not hne hnlt
      have e2 := hgt h
      rw [← List.append_cons, ← List.append_cons] at e2
      exact (Eff.obj_add p t (lt_of_sorted hT) (lt_tail hS h)).cons e2

/-! ### the simultaneous induction on the fuel

Arrays and objects are compared from left to right; `pre` is the part already rewritten.  At the root (`p = []`)
a `replace` is impossible, so there the two values are equal, two arrays or two objects. -/

mutual
theorem eff_jdiff : ∀ (fuel : Nat) (p : List String) (s t : JVal),
    (p ≠ [] ∨ s = t ∨ (∃ a b, s = .arr a ∧ t = .arr b) ∨ ∃ a b, s = .obj a ∧ t = .obj b) →
    s.Canonical → t.Canonical → s.nodes + t.nodes < fuel → Eff (jdiff fuel p s t) p s t
  | 0, _, _, _, _, _, _, hn => absurd hn (Nat.not_lt_zero _)
  | fuel + 1, p, s, t, hp, hs, ht, hn => by
    by_cases hA : ∃ a b, s = .arr a ∧ t = .arr b
    · obtain ⟨a, b, rfl, rfl⟩ := hA
      rw [jdiff.eq_2]
      split
      · next hb => cases (beq_iff_eq _ _).mp hb; exact Eff.nil _ _
      · simp only [JVal.nodes] at hn
        refine Eff.arr_phases (Nat.min_le_left _ _) (eff_jdiffArr fuel p [] _ _ ?_
          (fun v hv => (canonicalList_iff a).mp hs v (List.mem_of_mem_take hv))
          (fun v hv => (canonicalList_iff b).mp ht v (List.mem_of_mem_take hv)) ?_)
        · simp only [List.length_take]; omega
        · have := nodesList_take (min a.length b.length) a
          have := nodesList_take (min a.length b.length) b
          omega
    by_cases hO : ∃ a b, s = .obj a ∧ t = .obj b
    · obtain ⟨a, b, rfl, rfl⟩ := hO
      rw [jdiff.eq_3]
      split
      · next hb => cases (beq_iff_eq _ _).mp hb; exact Eff.nil _ _
      · simp only [JVal.nodes] at hn
        exact eff_jdiffObj fuel p [] a b hs.2 ht.2 hs.1 ht.1 (by omega)
    exact Eff.jdiff_leaf hA hO (hp.imp_right fun h => h.elim id fun h => (h.elim hA hO).elim)
theorem eff_jdiffArr : ∀ (fuel : Nat) (p : List String) (pre ss ts : List JVal), ss.length = ts.length →
    (∀ v ∈ ss, v.Canonical) → (∀ v ∈ ts, v.Canonical) →
    JVal.nodesList ss + JVal.nodesList ts < fuel →
    Eff (jdiffArr fuel p pre.length ss ts) p (.arr (pre ++ ss)) (.arr (pre ++ ts))
  | 0, _, _, _, _, _, _, _, hn => absurd hn (Nat.not_lt_zero _)
  | _ + 1, p, pre, [], [], _, _, _, _ => Eff.nil p _
  | fuel + 1, p, pre, s :: ss, t :: ts, hlen, hcs, hct, hn => by
    rw [jdiffArr.eq_2]
    simp only [JVal.nodesList] at hn
    have e1 := eff_jdiff fuel _ s t (Or.inl (List.concat_ne_nil (toString pre.length) p)) (hcs s List.mem_cons_self)
      (hct t List.mem_cons_self) (by omega)
    have e2 := eff_jdiffArr fuel p (pre ++ [t]) ss ts (Nat.succ.inj hlen)
      (fun v hv => hcs v (List.mem_cons_of_mem _ hv)) (fun v hv => hct v (List.mem_cons_of_mem _ hv)) (by omega)
    rw [List.length_append, List.length_singleton, ← List.append_cons, ← List.append_cons] at e2
    exact (e1.down_arr pre ss).append e2
theorem eff_jdiffObj : ∀ (fuel : Nat) (p : List String) (pre ss ts : List (String × JVal)),
    ((pre ++ ss).map (·.1)).Pairwise (· < ·) → ((pre ++ ts).map (·.1)).Pairwise (· < ·) →
    JVal.CanonicalKvs ss → JVal.CanonicalKvs ts → JVal.nodesKvs ss + JVal.nodesKvs ts < fuel →
    Eff (jdiffObj fuel p ss ts) p (.obj (pre ++ ss)) (.obj (pre ++ ts))
  | 0, _, _, _, _, _, _, _, _, hn => absurd hn (Nat.not_lt_zero _)
  | _ + 1, p, pre, [], [], _, _, _, _, _ => Eff.nil p _
  | fuel + 1, p, pre, [], (k, t) :: ts, hS, hT, hcs, hct, hn => by
    rw [jdiffObj.eq_3]
    simp only [JVal.nodesKvs] at hn
    have hk := lt_of_sorted hT
    have e2 := eff_jdiffObj fuel p (pre ++ [(k, t)]) [] ts
      (sorted_snoc (sorted_insert t hS hk fun _ h => (List.not_mem_nil h).elim)) (sorted_snoc hT) hcs hct.2
      (by simp only [JVal.nodesKvs]; omega)
    rw [List.append_nil, ← List.append_cons] at e2
    exact (Eff.obj_add p t hk fun _ h => (List.not_mem_nil h).elim).cons e2
  | fuel + 1, p, pre, (k, s) :: ss, [], hS, hT, hcs, hct, hn => by
    rw [jdiffObj.eq_4]
    simp only [JVal.nodesKvs] at hn
    exact (Eff.obj_remove p s (lt_of_sorted hS)).cons
      (eff_jdiffObj fuel p pre ss [] (sorted_remove hS) hT hcs.2 hct (by simp only [JVal.nodesKvs]; omega))
  | fuel + 1, p, pre, (k, s) :: ss, (k', t) :: ts, hS, hT, hcs, hct, hn => by
    simp only [JVal.nodesKvs] at hn
    refine Eff.jdiffObj_both hS hT (fun e => ⟨?_, ?_⟩) (fun _ => ?_) (fun h => ?_)
    · exact eff_jdiff fuel _ s t (Or.inl (List.concat_ne_nil _ _)) hcs.1 hct.1 (by omega)
    · exact eff_jdiffObj fuel p (pre ++ [(k', t)]) ss ts (e ▸ sorted_replace hS t) (sorted_snoc hT) hcs.2 hct.2
        (by omega)
    · exact eff_jdiffObj fuel p pre ss ((k', t) :: ts) (sorted_remove hS) hT hcs.2 hct
        (by simp only [JVal.nodesKvs]; omega)
    · exact eff_jdiffObj fuel p (pre ++ [(k', t)]) ((k, s) :: ss) ts
        (sorted_snoc (sorted_insert t hS (lt_of_sorted hT) (lt_tail hS h))) (sorted_snoc hT) hcs hct.2
        (by simp only [JVal.nodesKvs]; omega)
end

/-! ### carried values -/

theorem hasNullList_iff : ∀ l : List JVal, JVal.hasNullList l = false ↔ ∀ v ∈ l, v.hasNull = false
  | [] => by simp [JVal.hasNullList]
  | x :: xs => by simp [JVal.hasNullList, hasNullList_iff xs]

end PD

namespace DPatch

theorem hasNullKvs_iff : ∀ kvs : List (String × JVal), JVal.hasNullKvs kvs = false ↔ ∀ x ∈ kvs, x.2.hasNull = false
  | [] => by simp [JVal.hasNullKvs]
  | (k, v) :: r => by simp [JVal.hasNullKvs, hasNullKvs_iff r]

/-- what an operation carries satisfies `P` -/
def Carr (P : JVal → Prop) (op : PatchOp) : Prop :=
  match op with
  | .add _ v => P v
  | .replace _ v => P v
  | .remove _ => True

/-- a predicate on values that passes to the members of arrays and objects -/
structure SubClosed (P : JVal → Prop) : Prop where
  arr : ∀ l, P (.arr l) → ∀ v ∈ l, P v
  obj : ∀ kvs, P (.obj kvs) → ∀ x ∈ kvs, P x.2

section carried
variable {P : JVal → Prop} (hP : SubClosed P)

def Carrs (P : JVal → Prop) (ops : List PatchOp) : Prop := ∀ op ∈ ops, Carr P op

theorem carrs_nil : Carrs P [] := fun _ h => nomatch h
theorem carrs_cons {op : PatchOp} {ops : List PatchOp} : Carrs P (op :: ops) ↔ Carr P op ∧ Carrs P ops :=
  List.forall_mem_cons
theorem carrs_append {o1 o2 : List PatchOp} : Carrs P (o1 ++ o2) ↔ Carrs P o1 ∧ Carrs P o2 :=
  List.forall_mem_append

include hP in
theorem carried_all :
    (∀ fuel p s t, P t → Carrs P (jdiff fuel p s t)) ∧
    (∀ fuel p ss ts, (∀ x ∈ ts, P x.2) → Carrs P (jdiffObj fuel p ss ts)) ∧
    (∀ fuel p i ss ts, (∀ v ∈ ts, P v) → Carrs P (jdiffArr fuel p i ss ts)) := by
  apply jdiff.mutual_induct
  -- `jdiff`: no fuel; two arrays, equal or not; two objects, equal or not; any other pair (the four leaves of its two `if`s)
  case case1 => exact fun _ _ _ _ => by rw [jdiff]; exact carrs_nil
  case case2 => exact fun fuel p a b hb _ => by rw [jdiff.eq_2, if_pos hb]; exact carrs_nil
  case case3 =>
    intro fuel p a b hb size ih ht
    have hb' := hP.arr b ht
    rw [jdiff.eq_2, if_neg hb]
    refine carrs_append.2 ⟨carrs_append.2 ⟨fun op hop => ?_, ih fun v hv => hb' v (List.mem_of_mem_take hv)⟩, fun op hop => ?_⟩
    · rw [List.eq_of_mem_replicate hop]; trivial
    · obtain ⟨v, hv, rfl⟩ := List.mem_map.mp hop
      exact hb' v (List.mem_of_mem_drop hv)
  case case4 => exact fun fuel p a b hb _ => by rw [jdiff.eq_3, if_pos hb]; exact carrs_nil
  case case5 => exact fun fuel p a b hb ih ht => by rw [jdiff.eq_3, if_neg hb]; exact ih (hP.obj b ht)
  case case6 =>
    intro n p s t hA hO h1 h2 ht
    rw [jdiff.eq_4 p s t n hA hO, if_pos h1, if_pos h2]; exact carrs_cons.2 ⟨ht, carrs_nil⟩
  case case7 =>
    intro n p s t hA hO h1 h2 ht
    rw [jdiff.eq_4 p s t n hA hO, if_pos h1, if_neg h2]; exact carrs_cons.2 ⟨ht, carrs_nil⟩
  case case8 =>
    intro n p s t hA hO h1 h2 _
    rw [jdiff.eq_4 p s t n hA hO, if_neg h1, if_pos h2]; exact carrs_nil
  case case9 =>
    intro n p s t hA hO h1 h2 ht
    rw [jdiff.eq_4 p s t n hA hO, if_neg h1, if_neg h2]; exact carrs_cons.2 ⟨ht, carrs_nil⟩
  -- `jdiffObj`: no fuel; both empty; key only in the target; only in the source; the same key; the smaller key first
  case case10 => exact fun _ _ _ _ => by rw [jdiffObj]; exact carrs_nil
  case case11 => exact fun _ _ _ => by rw [jdiffObj]; exact carrs_nil
  case case12 =>
    intro fuel p k t ts ih ht
    rw [jdiffObj]; exact carrs_cons.2 ⟨ht _ List.mem_cons_self, ih fun x hx => ht x (List.mem_cons_of_mem _ hx)⟩
  case case13 => exact fun fuel p k s ss ih ht => by rw [jdiffObj]; exact carrs_cons.2 ⟨trivial, ih ht⟩
  case case14 =>
    intro fuel p s ss k' t ts ih1 ih2 ht
    rw [jdiffObj, if_pos rfl]
    exact carrs_append.2 ⟨ih1 (ht _ List.mem_cons_self), ih2 fun x hx => ht x (List.mem_cons_of_mem _ hx)⟩
  case case15 =>
    intro fuel p k s ss k' t ts h1 h2 ih ht
    rw [jdiffObj, if_neg h1, if_pos h2]; exact carrs_cons.2 ⟨trivial, ih ht⟩
  case case16 =>
    intro fuel p k s ss k' t ts h1 h2 ih ht
    rw [jdiffObj, if_neg h1, if_neg h2]
    exact carrs_cons.2 ⟨ht _ List.mem_cons_self, ih fun x hx => ht x (List.mem_cons_of_mem _ hx)⟩
  -- `jdiffArr`: no fuel; both non-empty; otherwise
  case case17 => exact fun _ _ _ _ _ => by rw [jdiffArr]; exact carrs_nil
  case case18 =>
    intro fuel p i s ss t ts ih1 ih2 ht
    rw [jdiffArr]
    exact carrs_append.2 ⟨ih1 (ht _ List.mem_cons_self), ih2 fun x hx => ht x (List.mem_cons_of_mem _ hx)⟩
  case case19 => exact fun n p i ss ts h _ => by rw [jdiffArr.eq_3 _ _ _ _ _ h]; exact carrs_nil

include hP in
/-- the values carried by the generated operations are sub-values of the target -/
theorem carried (src tgt : JVal) (h : P tgt) : ∀ op ∈ jsonDiff src tgt, Carr P op :=
  (carried_all hP).1 _ [] src tgt h

end carried

end DPatch

/-- the edit script generated for (src, tgt) rewrites src into tgt, for canonical values that are equal, two arrays or
    two objects (for other pairs jsondiff emits an operation on the root itself, which has no reading on plain trees) -/
theorem apply_jsonDiff {s t : JVal} (hs : s.Canonical) (ht : t.Canonical)
    (h : s = t ∨ (∃ a b, s = .arr a ∧ t = .arr b) ∨ ∃ a b, s = .obj a ∧ t = .obj b) :
    applyPatch (jsonDiff s t) s = some t := by
  obtain ⟨r, ha, hu⟩ := PD.eff_jdiff (s.nodes + t.nodes + 1) [] s t (Or.inr h) hs ht (Nat.lt_succ_self _) s rfl
  rw [jsonDiff, ha]
  -- at the root both ways of updating give the target itself
  rcases hu with ⟨g, rfl⟩ | hset
  · exact g
  · exact hset.symm

/-- C19 (pure half): the edit script generated for (src, tgt) rewrites src into tgt — for ANY canonical
    source and target OBJECTS (nested objects/arrays of primitives, type changes at any path, array
    growth and shrinkage, keys of any shape) -/
theorem apply_diff (src tgt : List (String × JVal)) (hs : (JVal.obj src).Canonical) (ht : (JVal.obj tgt).Canonical) :
    applyPatch (jsonDiff (.obj src) (.obj tgt)) (.obj src) = some (.obj tgt) :=
  apply_jsonDiff hs ht (Or.inr (Or.inr ⟨src, tgt, rfl, rfl⟩))

theorem diff_nil_iff (src tgt : List (String × JVal)) (hs : (JVal.obj src).Canonical) (ht : (JVal.obj tgt).Canonical) :
    jsonDiff (.obj src) (.obj tgt) = [] ↔ src = tgt := by
  constructor
  · intro h
    have := apply_diff src tgt hs ht
    rw [h] at this
    simp only [applyPatch, Option.some.injEq, JVal.obj.injEq] at this
    exact this
  · intro h
    subst h
    unfold jsonDiff
    rw [jdiff.eq_3]
    simp [(beq_iff_eq (.obj src) (.obj src)).mpr rfl]

theorem apply_diff_chain (a b c : List (String × JVal)) (ha : (JVal.obj a).Canonical) (hb : (JVal.obj b).Canonical)
    (hc : (JVal.obj c).Canonical) :
    (applyPatch (jsonDiff (.obj a) (.obj b)) (.obj a)).bind (applyPatch (jsonDiff (.obj b) (.obj c))) = some (.obj c) := by
  rw [apply_diff a b ha hb]
  exact apply_diff b c hb hc

theorem diff_values_no_null (src tgt : JVal) (h : tgt.hasNull = false) :
    ∀ op ∈ jsonDiff src tgt, match op with
      | .add _ v => v.hasNull = false
      | .replace _ v => v.hasNull = false
      | .remove _ => True :=
  DPatch.carried (P := fun v => v.hasNull = false)
    ⟨fun l h => (PD.hasNullList_iff l).mp h, fun kvs h => (DPatch.hasNullKvs_iff kvs).mp h⟩ src tgt h

end Orda
