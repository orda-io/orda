/-
Convergence of the JSON document's array operations (`Doc.insertRemoteInArray`, `Doc.updateRemoteInArray`,
`Doc.deleteRemoteInArray`), for values of every nesting depth.

Order: a remote insert moves the slot order identifiers of its array exactly as the insertion loop of the flat
list, updates and deletes leave every order alone; so `foldIds_converge` (Proofs/RgaBatch.lean) gives
`arr_order_converge`.
Payload: batches are sequences of elementary operations (`EOp`, `flat`).  An applicable one is a remote step
`DC.RStep` on the lookup function, and `DC.abs` after it is a function `absE` of `DC.abs` before.  Independent
operations commute exactly; so do two inserts into one array when both arrival orders are causal, and two deletes
of one slot; two updates of one slot commute up to `DC.Sim`, an update and a delete only up to `ASim`, which
forgets WHICH tombstoned child a slot holds (`Ex.upd_upd_not_docEq`, `Ex.upd_del_not_sim`: the finer relations
fail).  `Exch.perm_fold_equiv` makes this `arr_converge_asim`.  A multi-target batch is `DocEq` to the sequence of its
single-target operations (`flat`, `applyAllA_flat`): `arr_converge`.  On one slot the payload rule is that of the flat list.
-/
import Orda.Proofs.RgaFull
import Orda.Proofs.DocArrBase
import Orda.Proofs.DocConv
namespace Orda
namespace DA
open DC

/-! `Ts` derives `BEq` and `DecidableEq` side by side, so core's `Decidable (x ∈ l)`, which asks `LawfulBEq`, does not apply. -/

def memB (x : Ts) (cs : List Ts) : Bool := cs.any (fun y => decide (y = x))

theorem memB_iff {x : Ts} {cs : List Ts} : memB x cs = true ↔ x ∈ cs := by
  simp [memB]

instance (x : Ts) (l : List Ts) : Decidable (x ∈ l) := decidable_of_iff (memB x l = true) memB_iff

/-! ## remote array operations as data -/

inductive AOp where
  | ins (p a ts : Ts) (vs : List JVal)
  | del (p : Ts) (tgs : List Ts) (ts : Ts)
  | upd (p : Ts) (ts : Ts) (tgs : List Ts) (vs : List JVal)

/-- remote application; an error / a panic leaves the document alone (as `execRemote` does) -/
def applyA (d : Doc) : AOp → Doc
  | .ins p a ts vs => match d.insertRemoteInArray p a ts vs with
    | .ok d' => d'
    | _ => d
  | .del p tgs ts => match d.deleteRemoteInArray p tgs ts with
    | .ok d' => d'
    | _ => d
  | .upd p ts tgs vs => match d.updateRemoteInArray p ts tgs vs with
    | .ok d' => d'
    | _ => d

def applyAllA (d : Doc) (ops : List AOp) : Doc := ops.foldl applyA d

def AOp.parent : AOp → Ts
  | .ins p _ _ _ => p
  | .del p _ _ => p
  | .upd p _ _ _ => p

def AOp.ts : AOp → Ts
  | .ins _ _ ts _ => ts
  | .del _ _ ts => ts
  | .upd _ ts _ _ => ts

/-- the slots of the array `p` (empty when `p` is not an array of the document) -/
def slotsOf (d : Doc) (p : Ts) : List (Ts × Ts) :=
  match d.findArr p with
  | some (_, sl, _) => sl
  | none => []

/-- the slot ORDER identifiers of the array `p` -/
def slotIds (d : Doc) (p : Ts) : List Ts := (slotsOf d p).map (·.1)

theorem findArr_none_of_find {d : Doc} {p : Ts} (h : d.find p = none) : d.findArr p = none := by
  unfold Doc.findArr; rw [h]

theorem findArr_congr {a b : Doc} {p : Ts} (h : a.find p = b.find p) : a.findArr p = b.findArr p := by
  unfold Doc.findArr; rw [h]

theorem slotsOf_congr {a b : Doc} {p : Ts} (h : a.find p = b.find p) : slotsOf a p = slotsOf b p := by
  unfold slotsOf; rw [findArr_congr h]

theorem slotsOf_of_findArr {d : Doc} {p : Ts} {pn : DNode} {sl : List (Ts × Ts)} {size : Int}
    (h : d.findArr p = some (pn, sl, size)) : slotsOf d p = sl := by
  unfold slotsOf; rw [h]

/-! ## the operations on the lookup function -/

def mapArr (k : List (Ts × Ts) → Int → List (Ts × Ts) × Int) (o : Option DNode) : Option DNode :=
  o.map fun n => match n.kind with
    | .arr sl s => { n with kind := .arr (k sl s).1 (k sl s).2 }
    | _ => n

/-- what a remote insert does to slots and size -/
def insK (a : Ts) (cs : List Ts) (sl : List (Ts × Ts)) (s : Int) : List (Ts × Ts) × Int :=
  match insertAfterId (fun (x : Ts × Ts) => x.1) a (cs.map fun c => (c, c)) sl with
  | some sl' => (sl', s + cs.length)
  | none => (sl, s)

theorem upd_congr_at {x : Ts} {g h : Option DNode → Option DNode} {F : Ts → Option DNode}
    (e : g (F x) = h (F x)) : upd x g F = upd x h F := by
  funext c; unfold upd; by_cases hc : c = x <;> simp [hc, e]

theorem upd_upd (x : Ts) (g h : Option DNode → Option DNode) (F : Ts → Option DNode) :
    upd x g (upd x h F) = upd x (fun o => g (h o)) F := by
  funext c
  by_cases e : c = x
  · subst e; simp [upd]
  · simp [upd, e]

theorem find_setArr {d : Doc} {p : Ts} {pn : DNode} {sl sl' : List (Ts × Ts)} {s s' : Int}
    (hp : d.find p = some pn) (hk : pn.kind = .arr sl s) :
    (d.set { pn with kind := .arr sl' s' }).find = upd p (mapArr fun _ _ => (sl', s')) d.find := by
  have hpc := find_some_c hp
  funext c
  rw [find_set]
  unfold upd
  by_cases e : c = p
  · subst e
    simp only [hpc, if_true, hp, mapArr, Option.map_some, hk]
  · have : ¬ pn.c = c := by rw [hpc]; exact fun e' => e e'.symm
    simp [e, this]

theorem mapArr_id_at {k : List (Ts × Ts) → Int → List (Ts × Ts) × Int} {n : DNode}
    (h : ∀ sl s, n.kind = .arr sl s → k sl s = (sl, s)) : mapArr k (some n) = some n := by
  obtain ⟨nc, nd, np, nk⟩ := n
  cases nk with
  | elem v => rfl
  | obj m s => rfl
  | arr sl s =>
    simp only [mapArr, Option.map_some, h sl s rfl]

/-! ### the insert and the single-target update, once their lookups have succeeded -/

theorem applyA_ins {d : Doc} {p a ts t' : Ts} {vs : List JVal} {pn : DNode} {sl : List (Ts × Ts)} {sz : Int}
    {ns : List DNode} {cs : List Ts} (hp : d.findArr p = some (pn, sl, sz))
    (hc : createMany p ts vs = .ok (ns, cs, t')) :
    applyA d (.ins p a ts vs) =
      match insertAfterId (fun (s : Ts × Ts) => s.1) a (cs.map fun c => (c, c)) sl with
      | some sl' => (d.addAll ns).set { pn with kind := .arr sl' (sz + cs.length) }
      | none => d.addAll ns := by
  simp only [applyA, Doc.insertRemoteInArray, hp, hc]
  cases insertAfterId (fun (s : Ts × Ts) => s.1) a (cs.map fun c => (c, c)) sl <;> rfl

theorem findArr_addAll {d : Doc} {p : Ts} {pn : DNode} {sl : List (Ts × Ts)} {sz : Int} {ns : List DNode}
    (hf : Fresh d ns) (hp : d.findArr p = some (pn, sl, sz)) : (d.addAll ns).findArr p = some (pn, sl, sz) :=
  have ⟨h1, h2⟩ := findArr_some_iff.mp hp
  findArr_some_iff.mpr ⟨find_addAll_old hf h1, h2⟩

theorem applyA_upd1 {d : Doc} {p tg t t' c : Ts} {v : JVal} {pn : DNode} {sl : List (Ts × Ts)} {sz : Int}
    {ns : List DNode} (hp : d.findArr p = some (pn, sl, sz)) (hc : createNode p t v = .ok (ns, c, t'))
    (hf : Fresh d ns) :
    applyA d (.upd p t [tg] [v]) =
      match sl.find? (fun s => s.1 = tg) with
      | none => d.addAll ns
      | some s =>
        if !(d.addAll ns).isTomb s.2 && ((d.addAll ns).timeOf s.2).cmp c == .lt then
          ((d.addAll ns).set { pn with kind := .arr (setSlotChild tg c sl) sz }).funeral s.2 c
        else (d.addAll ns).funeral c s.2 := by
  simp only [applyA, Doc.updateRemoteInArray, hp, Doc.updateRemoteInArray.go, hc, findArr_addAll hf hp]
  cases sl.find? (fun s => s.1 = tg) with
  | none => rfl
  | some s =>
    simp only
    by_cases hw : (!(d.addAll ns).isTomb s.2 && ((d.addAll ns).timeOf s.2).cmp c == Ordering.lt) = true
    · simp only [hw, if_true]
    · simp only [hw, Bool.false_eq_true, if_false]

theorem ins_find {d : Doc} {p a ts t' : Ts} {vs : List JVal} {pn : DNode} {sl : List (Ts × Ts)} {sz : Int}
    {ns : List DNode} {cs : List Ts} (hp : d.findArr p = some (pn, sl, sz))
    (hc : createMany p ts vs = .ok (ns, cs, t')) (hpn : p ∉ ids ns) :
    (applyA d (.ins p a ts vs)).find = upd p (mapArr (insK a cs)) (U ns d.find) := by
  obtain ⟨hp1, hk⟩ := findArr_some_iff.mp hp
  have hp2 : (d.addAll ns).find p = some pn := by rw [find_addAll_not_mem hpn]; exact hp1
  have hUp : U ns d.find p = some pn := by rw [U_old hpn]; exact hp1
  rw [applyA_ins hp hc]
  cases hi : insertAfterId (fun (s : Ts × Ts) => s.1) a (cs.map fun c => (c, c)) sl with
  | some sl' =>
    simp only
    rw [find_setArr hp2 hk, find_addAll_U]
    apply upd_congr_at
    rw [hUp]
    simp only [mapArr, Option.map_some, hk, insK, hi]
  | none =>
    simp only
    rw [find_addAll_U]
    funext c
    by_cases e : c = p
    · subst e
      rw [upd_same, hUp, mapArr_id_at]
      intro sl0 s0 h0
      rw [hk] at h0
      simp only [DKind.arr.injEq] at h0
      obtain ⟨rfl, rfl⟩ := h0
      simp only [insK, hi]
    · rw [upd_other _ _ e]

def loopSl (an : Ts) (cs : List Ts) (sl : List (Ts × Ts)) : List (Ts × Ts) :=
  (insertAfterId (fun (x : Ts × Ts) => x.1) an (cs.map fun c => (c, c)) sl).getD sl

theorem loopSl_ids (an : Ts) (cs : List Ts) (sl : List (Ts × Ts)) :
    (loopSl an cs sl).map (·.1) = stepIds (sl.map (·.1)) an cs := by
  have h := insertAfterId_map (fun (x : Ts × Ts) => x.1) id (fun (x : Ts × Ts) => x.1) (fun _ => rfl) an
    (cs.map fun c => (c, c)) sl
  rw [List.map_map, show ((fun (x : Ts × Ts) => x.1) ∘ fun c => (c, c)) = id from rfl, List.map_id] at h
  unfold loopSl stepIds
  rw [← h]
  cases insertAfterId (fun (x : Ts × Ts) => x.1) an (cs.map fun c => (c, c)) sl <;> rfl

/-! ### single-target delete and update on the lookup function -/

def szK (k : Int) (sl : List (Ts × Ts)) (s : Int) : List (Ts × Ts) × Int := (sl, s - k)
def setK (tg c : Ts) (sl : List (Ts × Ts)) (s : Int) : List (Ts × Ts) × Int := (setSlotChild tg c sl, s)

theorem find_makeTomb_kind {d : Doc} {x t p : Ts} {pn : DNode} (h : d.find p = some pn) :
    ∃ pn', (d.makeTomb x t).find p = some pn' ∧ pn'.kind = pn.kind ∧ pn'.c = pn.c ∧ pn'.parent = pn.parent := by
  rw [find_makeTomb]
  by_cases e : p = x
  · subst e; simp only [if_true, h, Option.map_some]; exact ⟨_, rfl, rfl, rfl, rfl⟩
  · simp only [e, if_false]; exact ⟨pn, h, rfl, rfl, rfl⟩

theorem findArr_makeTomb {d : Doc} {x t p : Ts} {pn : DNode} {sl : List (Ts × Ts)} {sz : Int}
    (h : d.findArr p = some (pn, sl, sz)) : ∃ pn', (d.makeTomb x t).findArr p = some (pn', sl, sz) := by
  obtain ⟨h1, h2⟩ := findArr_some_iff.mp h
  obtain ⟨pn', h3, h4, _⟩ := find_makeTomb_kind (x := x) (t := t) h1
  exact ⟨pn', findArr_some_iff.mpr ⟨h3, by rw [h4, h2]⟩⟩

theorem find_setSize {d : Doc} {p : Ts} {pn : DNode} {sl : List (Ts × Ts)} {sz : Int} (k : Int)
    (h : d.findArr p = some (pn, sl, sz)) :
    (d.set { pn with kind := .arr sl (sz - k) }).find = upd p (mapArr (szK k)) d.find := by
  obtain ⟨h1, h2⟩ := findArr_some_iff.mp h
  rw [find_setArr h1 h2]
  apply upd_congr_at
  rw [h1]
  simp only [mapArr, Option.map_some, h2, szK]

theorem mapArr_szK_zero (o : Option DNode) : mapArr (szK 0) o = o := by
  cases o with
  | none => rfl
  | some n =>
    apply mapArr_id_at
    intro sl s _
    simp [szK]

theorem upd_mapArr_szK_zero (p : Ts) (F : Ts → Option DNode) : upd p (mapArr (szK 0)) F = F := by
  funext c
  by_cases e : c = p
  · subst e; rw [upd_same, mapArr_szK_zero]
  · rw [upd_other _ _ e]

/-- the tombstone flag / the LWW time read off a table entry -/
def tombO : Option DNode → Bool
  | some n => n.d.isSome
  | none => false
def timeO (c : Ts) : Option DNode → Ts
  | some n => n.d.getD n.c
  | none => c

theorem isTomb_eq_tombO (d : Doc) (c : Ts) : d.isTomb c = tombO (d.find c) := by
  unfold Doc.isTomb tombO; cases d.find c <;> rfl
theorem timeOf_eq_timeO (d : Doc) (c : Ts) : d.timeOf c = timeO c (d.find c) := by
  unfold Doc.timeOf timeO; cases d.find c <;> rfl

theorem tombO_mapArr (k : List (Ts × Ts) → Int → List (Ts × Ts) × Int) (o : Option DNode) :
    tombO (mapArr k o) = tombO o := by
  cases o with
  | none => rfl
  | some n =>
    obtain ⟨nc, nd, np, nk⟩ := n
    cases nk <;> rfl

theorem timeO_mapArr (c : Ts) (k : List (Ts × Ts) → Int → List (Ts × Ts) × Int) (o : Option DNode) :
    timeO c (mapArr k o) = timeO c o := by
  cases o with
  | none => rfl
  | some n =>
    obtain ⟨nc, nd, np, nk⟩ := n
    cases nk <;> rfl

/-- what a remote delete stamped `t` does to the node of the slot's child -/
def delG (t c : Ts) (o : Option DNode) : Option DNode :=
  if !tombO o then setD t o else if (timeO c o).cmp t == .lt then setD t o else o

theorem del_go_cons (slots : List (Ts × Ts)) (tg : Ts) (tgs : List Ts) (t : Ts) (d : Doc) (k : Int) :
    Doc.deleteRemoteInArray.go slots (tg :: tgs) t d k =
      match slots.find? (fun s => s.1 = tg) with
      | none => Doc.deleteRemoteInArray.go slots tgs t.nextDelim d k
      | some s => Doc.deleteRemoteInArray.go slots tgs t.nextDelim
          (if !d.isTomb s.2 || (d.timeOf s.2).cmp t == .lt then d.makeTomb s.2 t else d)
          (k + if d.isTomb s.2 then 0 else 1) := by
  simp only [Doc.deleteRemoteInArray.go]
  cases slots.find? (fun s => s.1 = tg) with
  | none => rfl
  | some s =>
    simp only
    cases d.isTomb s.2
    · simp only [Bool.not_false, Bool.true_or, if_true, Bool.false_eq_true, if_false]
    · simp only [Bool.not_true, Bool.false_or, Bool.false_eq_true, if_false, if_true, Int.add_zero]
      split <;> rfl

theorem find_delStep (d : Doc) (x t : Ts) :
    (if !d.isTomb x || (d.timeOf x).cmp t == .lt then d.makeTomb x t else d).find = upd x (delG t x) d.find := by
  have e : delG t x (d.find x) =
      if !d.isTomb x || (d.timeOf x).cmp t == .lt then setD t (d.find x) else d.find x := by
    rw [isTomb_eq_tombO, timeOf_eq_timeO]
    unfold delG
    cases tombO (d.find x) <;> cases (timeO x (d.find x)).cmp t == .lt <;> rfl
  split
  · next h => rw [find_makeTomb_upd]; exact upd_congr_at (by rw [e, if_pos h])
  · next h =>
    funext c
    by_cases ec : c = x
    · subst ec; rw [upd_same, e, if_neg h]
    · rw [upd_other _ _ ec]

theorem findArr_delStep {d : Doc} {x t p : Ts} {pn : DNode} {sl : List (Ts × Ts)} {sz : Int}
    (h : d.findArr p = some (pn, sl, sz)) :
    ∃ pn', (if !d.isTomb x || (d.timeOf x).cmp t == .lt then d.makeTomb x t else d).findArr p =
      some (pn', sl, sz) := by
  split
  · exact findArr_makeTomb h
  · exact ⟨pn, h⟩

theorem del1_find {d : Doc} {p tg t : Ts} {pn : DNode} {sl : List (Ts × Ts)} {sz : Int} {s : Ts × Ts}
    (hp : d.findArr p = some (pn, sl, sz)) (hs : sl.find? (fun x => x.1 = tg) = some s) :
    (applyA d (.del p [tg] t)).find =
      upd p (mapArr (szK (if d.isTomb s.2 then 0 else 1))) (upd s.2 (delG t s.2) d.find) := by
  obtain ⟨pn', h3⟩ := findArr_delStep (x := s.2) (t := t) hp
  simp only [applyA, Doc.deleteRemoteInArray, hp]
  rw [del_go_cons, hs]
  simp only [Doc.deleteRemoteInArray.go, h3]
  rw [find_setSize _ h3, find_delStep, Int.zero_add]

theorem del1_find_none {d : Doc} {p tg t : Ts} {pn : DNode} {sl : List (Ts × Ts)} {sz : Int}
    (hp : d.findArr p = some (pn, sl, sz)) (hs : sl.find? (fun x => x.1 = tg) = none) :
    (applyA d (.del p [tg] t)).find = d.find := by
  simp only [applyA, Doc.deleteRemoteInArray, hp]
  rw [del_go_cons, hs]
  simp only [Doc.deleteRemoteInArray.go, hp]
  rw [find_setSize 0 hp, upd_mapArr_szK_zero]

/-! ## order -/

/-! ### updates and deletes never change any slot order -/

/-- the slots of an array node -/
def arrV : Option DNode → Option (List (Ts × Ts))
  | some n => match n.kind with
    | .arr sl _ => some sl
    | _ => none
  | none => none

/-- the slot order identifiers of `q`, `none` when `q` is not an array of the document -/
def idsOf (d : Doc) (q : Ts) : Option (List Ts) := (arrV (d.find q)).map (List.map (·.1))

theorem slotsOf_eq_arrV (d : Doc) (q : Ts) : slotsOf d q = (arrV (d.find q)).getD [] := by
  unfold slotsOf Doc.findArr arrV
  cases d.find q with
  | none => rfl
  | some n =>
    obtain ⟨nc, nd, np, nk⟩ := n
    cases nk <;> rfl

theorem slotIds_eq_idsOf (d : Doc) (q : Ts) : slotIds d q = (idsOf d q).getD [] := by
  unfold slotIds idsOf
  rw [slotsOf_eq_arrV]
  cases arrV (d.find q) <;> rfl

theorem findArr_isSome_iff (d : Doc) (q : Ts) : (d.findArr q).isSome = (idsOf d q).isSome := by
  unfold Doc.findArr idsOf arrV
  cases d.find q with
  | none => rfl
  | some n =>
    obtain ⟨nc, nd, np, nk⟩ := n
    cases nk <;> rfl

theorem arrV_setD (t : Ts) (o : Option DNode) : arrV (setD t o) = arrV o := by
  cases o with
  | none => rfl
  | some n => rfl

theorem arrV_fun1 (t : Ts) (o : Option DNode) : arrV (fun1 t o) = arrV o := by
  cases o with
  | none => rfl
  | some n =>
    obtain ⟨nc, nd, np, nk⟩ := n
    cases nk <;> rfl

theorem arrV_makeTomb (d : Doc) (x t q : Ts) : arrV ((d.makeTomb x t).find q) = arrV (d.find q) := by
  rw [find_makeTomb_upd]
  by_cases e : q = x
  · subst e; rw [upd_same, arrV_setD]
  · rw [upd_other _ _ e]

theorem arrV_funeral (d : Doc) (x t q : Ts) : arrV ((d.funeral x t).find q) = arrV (d.find q) := by
  rw [find_funeral_upd]
  by_cases e : q = x
  · subst e; rw [upd_same, arrV_fun1]
  · rw [upd_other _ _ e]

theorem arrV_setArr {d : Doc} {p : Ts} {pn : DNode} {sl sl' : List (Ts × Ts)} {s s' : Int}
    (hp : d.findArr p = some (pn, sl, s)) (q : Ts) :
    arrV ((d.set { pn with kind := .arr sl' s' }).find q) = if q = p then some sl' else arrV (d.find q) := by
  obtain ⟨h1, h2⟩ := findArr_some_iff.mp hp
  rw [find_setArr h1 h2]
  by_cases e : q = p
  · subst e
    rw [upd_same, h1, if_pos rfl]
    simp only [mapArr, Option.map_some, h2, arrV]
  · rw [upd_other _ _ e, if_neg e]

theorem arrV_of_findArr {d : Doc} {p : Ts} {pn : DNode} {sl : List (Ts × Ts)} {s : Int}
    (hp : d.findArr p = some (pn, sl, s)) : arrV (d.find p) = some sl := by
  obtain ⟨h1, h2⟩ := findArr_some_iff.mp hp
  rw [h1]; simp only [arrV, h2]

theorem findArr_of_arrV {d : Doc} {p : Ts} {sl : List (Ts × Ts)} (h : arrV (d.find p) = some sl) :
    ∃ pn sz, d.findArr p = some (pn, sl, sz) := by
  cases hf : d.find p with
  | none => rw [hf] at h; simp [arrV] at h
  | some n =>
    rw [hf] at h
    obtain ⟨nc, nd, np, nk⟩ := n
    cases nk with
    | elem v => simp [arrV] at h
    | obj m s => simp [arrV] at h
    | arr sl' sz =>
      simp only [arrV, Option.some.injEq] at h
      subst h
      exact ⟨_, sz, findArr_some_iff.mpr ⟨hf, rfl⟩⟩

theorem arrV_setSize {d : Doc} {p : Ts} {pn : DNode} {sl : List (Ts × Ts)} {s : Int}
    (hp : d.findArr p = some (pn, sl, s)) (s' : Int) (q : Ts) :
    arrV ((d.set { pn with kind := .arr sl s' }).find q) = arrV (d.find q) := by
  rw [arrV_setArr hp]
  split
  · next e => rw [e, arrV_of_findArr hp]
  · rfl

theorem del_go_ind {P : Doc → Prop} (hT : ∀ d x t, P d → P (d.makeTomb x t)) (slots : List (Ts × Ts)) :
    ∀ (tgs : List Ts) (t : Ts) (d : Doc) (k : Int), P d → P (Doc.deleteRemoteInArray.go slots tgs t d k).1
  | [], _, _, _, h => h
  | tg :: tgs, t, d, k, h => by
      simp only [Doc.deleteRemoteInArray.go]
      split
      · exact del_go_ind hT slots tgs _ d k h
      · split
        · exact del_go_ind hT slots tgs _ _ _ (hT _ _ _ h)
        · split
          · exact del_go_ind hT slots tgs _ _ _ (hT _ _ _ h)
          · exact del_go_ind hT slots tgs _ d k h

theorem applyA_del_ind {P : Doc → Prop} {p : Ts} (hT : ∀ d x t, P d → P (d.makeTomb x t))
    (hS : ∀ d pn sl sz s', d.findArr p = some (pn, sl, sz) → P d → P (d.set { pn with kind := .arr sl s' }))
    {d : Doc} (tgs : List Ts) (t : Ts) (h : P d) : P (applyA d (.del p tgs t)) := by
  simp only [applyA, Doc.deleteRemoteInArray]
  cases hp : d.findArr p with
  | none => exact h
  | some x =>
    obtain ⟨pn, slots, size⟩ := x
    simp only
    have hgo := del_go_ind hT slots tgs t d 0 h
    generalize Doc.deleteRemoteInArray.go slots tgs t d 0 = r at hgo
    obtain ⟨d1, k⟩ := r
    simp only at hgo ⊢
    cases hp1 : d1.findArr p with
    | none => exact hgo
    | some y => obtain ⟨pn', sl', size'⟩ := y; exact hS _ _ _ _ _ hp1 hgo

theorem del_go_arrV (slots : List (Ts × Ts)) (tgs : List Ts) (t : Ts) (d : Doc) (k : Int) (q : Ts) :
    arrV ((Doc.deleteRemoteInArray.go slots tgs t d k).1.find q) = arrV (d.find q) :=
  del_go_ind (P := fun d' => arrV (d'.find q) = arrV (d.find q))
    (fun _ _ _ h => (arrV_makeTomb ..).trans h) slots tgs t d k rfl

theorem del_arrV (d : Doc) (p : Ts) (tgs : List Ts) (t q : Ts) :
    arrV ((applyA d (.del p tgs t)).find q) = arrV (d.find q) :=
  applyA_del_ind (P := fun d' => arrV (d'.find q) = arrV (d.find q))
    (fun _ _ _ h => (arrV_makeTomb ..).trans h) (fun _ _ _ _ s' hp h => (arrV_setSize hp s' q).trans h) tgs t rfl

theorem del_idsOf (d : Doc) (p : Ts) (tgs : List Ts) (t q : Ts) :
    idsOf (applyA d (.del p tgs t)) q = idsOf d q := by
  unfold idsOf; rw [del_arrV]

theorem del_slotIds (d : Doc) (p : Ts) (tgs : List Ts) (t q : Ts) :
    slotIds (applyA d (.del p tgs t)) q = slotIds d q := by
  rw [slotIds_eq_idsOf, slotIds_eq_idsOf, del_idsOf]

theorem setSlotChild_ids (o c : Ts) : ∀ sl : List (Ts × Ts), (setSlotChild o c sl).map (·.1) = sl.map (·.1)
  | [] => rfl
  | s :: ss => by
      unfold setSlotChild
      split
      · next h => simp [h]
      · simp [setSlotChild_ids o c ss]

theorem createNode_ids_key {parent ts c ts' : Ts} {v : JVal} {ns : List DNode}
    (h : createNode parent ts v = .ok (ns, c, ts')) : (∀ x ∈ ids ns, x.key = ts.key) ∧ ts'.key = ts.key := by
  obtain ⟨_, _, _, h4, h5, _⟩ := createNode_ids h
  constructor
  · intro x hx
    obtain ⟨n, hn, rfl⟩ := List.mem_map.mp hx
    obtain ⟨a, b, c, _⟩ := h5 n hn
    simp only [Ts.key, a, b, c]
  · rw [h4]; rfl

theorem idsOf_addAll {d : Doc} {ns : List DNode} {q : Ts} (h : q ∉ ids ns) :
    idsOf (d.addAll ns) q = idsOf d q := by
  unfold idsOf; rw [find_addAll_not_mem h]

/-- induction along the remote update loop: `P` survives the entry of a created block (at a timestamp with the `Ts.key` of
    the first), the rewrite of a slot's child, and a funeral -/
theorem upd_go_ind {P : Doc → Prop} {p t0 : Ts}
    (hA : ∀ d t v ns c t', t.key = t0.key → createNode p t v = .ok (ns, c, t') → P d → P (d.addAll ns))
    (hS : ∀ d pn sl sz tg c, d.findArr p = some (pn, sl, sz) → P d →
      P (d.set { pn with kind := .arr (setSlotChild tg c sl) sz }))
    (hF : ∀ d x t, P d → P (d.funeral x t)) :
    ∀ (tgs : List Ts) (vs : List JVal) (t : Ts) (d d' : Doc), t.key = t0.key →
      Doc.updateRemoteInArray.go p tgs vs t d = .ok d' → P d → P d'
  | [], _, _, _, _, _, h, hd => by
      simp only [Doc.updateRemoteInArray.go, Outcome.ok.injEq] at h; exact h ▸ hd
  | _ :: _, [], _, _, _, _, h, _ => by simp [Doc.updateRemoteInArray.go] at h
  | tg :: tgs, v :: vs, t, d, d', ht, h, hd => by
      simp only [Doc.updateRemoteInArray.go] at h
      split at h
      · cases h
      · cases h
      · rename_i ns newC t' hc
        have ht' : t'.key = t0.key := (createNode_ids_key hc).2.trans ht
        have h0 := hA d t v ns newC t' ht hc hd
        split at h
        · cases h
        · rename_i pn sl size hp
          split at h
          · exact upd_go_ind hA hS hF tgs vs t' _ d' ht' h h0
          · split at h
            · exact upd_go_ind hA hS hF tgs vs t' _ d' ht' h (hF _ _ _ (hS _ _ _ _ _ _ hp h0))
            · exact upd_go_ind hA hS hF tgs vs t' _ d' ht' h (hF _ _ _ h0)

theorem upd_go_idsOf (p : Ts) (tgs : List Ts) (vs : List JVal) (t : Ts) (d d' : Doc)
    (h : Doc.updateRemoteInArray.go p tgs vs t d = .ok d') (q : Ts) (hq : q.key ≠ t.key) : idsOf d' q = idsOf d q := by
  refine upd_go_ind (P := fun d' => idsOf d' q = idsOf d q) (t0 := t) ?_ ?_ ?_ tgs vs t d d' rfl h rfl
  · intro d1 t1 v ns c t' ht hc h1
    exact (idsOf_addAll fun hm => hq (((createNode_ids_key hc).1 q hm).trans ht)).trans h1
  · intro d1 pn sl sz tg c hp h1
    rw [← h1]
    unfold idsOf
    rw [arrV_setArr hp]
    split
    · next e => rw [e, arrV_of_findArr hp, Option.map_some, Option.map_some, setSlotChild_ids]
    · rfl
  · intro d1 x t1 h1
    rw [← h1]; unfold idsOf; rw [arrV_funeral]

/-- `q.key ≠ t.key`: `q` is not one of the nodes the update creates -/
theorem upd_idsOf (d : Doc) (p t : Ts) (tgs : List Ts) (vs : List JVal) (q : Ts) (hq : q.key ≠ t.key) :
    idsOf (applyA d (.upd p t tgs vs)) q = idsOf d q := by
  simp only [applyA, Doc.updateRemoteInArray]
  cases hp : d.findArr p with
  | none => rfl
  | some x =>
    simp only
    cases hg : Doc.updateRemoteInArray.go p tgs vs t d with
    | ok d' => exact upd_go_idsOf p tgs vs t d d' hg q hq
    | err c => rfl
    | panic w => rfl

theorem upd_slotIds (d : Doc) (p t : Ts) (tgs : List Ts) (vs : List JVal) (q : Ts) (hq : q.key ≠ t.key) :
    slotIds (applyA d (.upd p t tgs vs)) q = slotIds d q := by
  rw [slotIds_eq_idsOf, slotIds_eq_idsOf, upd_idsOf d p t tgs vs q hq]

/-! ### a remote insert: the order of its own array and of the others -/

theorem createMany_ids_key {parent ts ts' : Ts} {vs : List JVal} {ns : List DNode} {cs : List Ts}
    (h : createMany parent ts vs = .ok (ns, cs, ts')) :
    (∀ x ∈ ids ns, x.key = ts.key) ∧ (∀ x ∈ cs, x.key = ts.key) ∧ cs.Nodup := by
  obtain ⟨hb, hnd, hcs⟩ := createArrItems_spec parent ts vs ns cs ts' h
  have h1 : ∀ x ∈ ids ns, x.key = ts.key := by
    intro x hx
    rw [hb.ids] at hx
    obtain ⟨i, _, rfl⟩ := DC.mem_delimSeq.mp hx
    rfl
  refine ⟨h1, ?_, hnd⟩
  intro x hx
  obtain ⟨nc, hnc, rfl, _, _⟩ := hcs x hx
  exact h1 _ (List.mem_map.mpr ⟨nc, hnc, rfl⟩)

theorem ins_idsOf_gen (d : Doc) (p a ts : Ts) (vs : List JVal) (q : Ts)
    (hq : ∀ ns cs t', createMany p ts vs = .ok (ns, cs, t') → q ∉ ids ns) :
    idsOf (applyA d (.ins p a ts vs)) q =
      if q = p then
        match createMany p ts vs with
        | .ok (_, cs, _) => (idsOf d q).map fun l => stepIds l a cs
        | _ => idsOf d q
      else idsOf d q := by
  cases hp : d.findArr p with
  | none =>
    have : applyA d (.ins p a ts vs) = d := by simp only [applyA, Doc.insertRemoteInArray, hp]
    rw [this]
    by_cases e : q = p
    · subst e
      have : idsOf d q = none := by
        have := findArr_isSome_iff d q
        rw [hp] at this
        cases h : idsOf d q with
        | none => rfl
        | some l => rw [h] at this; cases this
      rw [if_pos rfl, this]
      cases createMany q ts vs with
      | ok x => rfl
      | err c => rfl
      | panic w => rfl
    · rw [if_neg e]
  | some x =>
    obtain ⟨pn, sl, sz⟩ := x
    cases hc : createMany p ts vs with
    | err c =>
      have : applyA d (.ins p a ts vs) = d := by simp only [applyA, Doc.insertRemoteInArray, hp, hc]
      rw [this]; simp
    | panic w =>
      have : applyA d (.ins p a ts vs) = d := by simp only [applyA, Doc.insertRemoteInArray, hp, hc]
      rw [this]; simp
    | ok y =>
      obtain ⟨ns, cs, t'⟩ := y
      have hqn : q ∉ ids ns := hq ns cs t' hc
      obtain ⟨hp1, hk⟩ := findArr_some_iff.mp hp
      rw [applyA_ins hp hc]
      by_cases e : q = p
      · subst e
        have hp' : (d.addAll ns).findArr q = some (pn, sl, sz) :=
          findArr_some_iff.mpr ⟨(find_addAll_not_mem hqn).trans hp1, hk⟩
        rw [if_pos rfl]
        unfold idsOf
        simp only [arrV_of_findArr hp, Option.map_some, ← loopSl_ids]
        unfold loopSl
        cases insertAfterId (fun (x : Ts × Ts) => x.1) a (cs.map fun c => (c, c)) sl with
        | none => simp only; rw [arrV_of_findArr hp']; rfl
        | some sl' => simp only; rw [arrV_setArr hp', if_pos rfl]; rfl
      · rw [if_neg e]
        cases insertAfterId (fun (x : Ts × Ts) => x.1) a (cs.map fun c => (c, c)) sl with
        | none => exact idsOf_addAll hqn
        | some sl' =>
          unfold idsOf
          rw [find_set, if_neg (by rw [find_some_c hp1]; exact fun h => e h.symm), find_addAll_not_mem hqn]

theorem ins_idsOf (d : Doc) (p a ts : Ts) (vs : List JVal) (q : Ts) (hq : q.key ≠ ts.key) :
    idsOf (applyA d (.ins p a ts vs)) q =
      if q = p then
        match createMany p ts vs with
        | .ok (_, cs, _) => (idsOf d q).map fun l => stepIds l a cs
        | _ => idsOf d q
      else idsOf d q :=
  ins_idsOf_gen d p a ts vs q (fun _ _ _ hc hm => hq ((createMany_ids_key hc).1 q hm))

/-- a remote insert changes the slot ORDER identifiers of its array exactly as `Rga.ids` change under the
    flat list's `insertRemote` (`applyIns_ids`): the generic loop over `Ts`, with the children's creation
    identifiers as batch
    (`hpn`: the new identifiers do not clash with the array's own, e.g. by `Fresh d ns`) -/
theorem ins_slotIds {d : Doc} {p a ts t' : Ts} {vs : List JVal} {pn : DNode} {sl : List (Ts × Ts)} {sz : Int}
    {ns : List DNode} {cs : List Ts} (hp : d.findArr p = some (pn, sl, sz))
    (hc : createMany p ts vs = .ok (ns, cs, t')) (hpn : p ∉ ids ns) :
    slotIds (applyA d (.ins p a ts vs)) p =
      (insertAfterId id a cs (slotIds d p)).getD (slotIds d p) := by
  have h := ins_idsOf_gen d p a ts vs p fun _ _ _ hc' => by rw [hc] at hc'; cases hc'; exact hpn
  have hsl : idsOf d p = some (sl.map (·.1)) := by unfold idsOf; rw [arrV_of_findArr hp]; rfl
  rw [if_pos rfl, hc] at h
  rw [slotIds_eq_idsOf, slotIds_eq_idsOf, h, hsl]
  rfl

/-! ### the order of one array under a whole history: the fold of the generic loop over its inserts -/

/-- the insert an operation performs on the array `p` (none: another array, an update, a delete, or a value
    that cannot be created) -/
def insOn (p : Ts) : AOp → Option AIns
  | .ins p' a ts vs =>
    if p' = p then
      match createMany p' ts vs with
      | .ok (_, cs, _) => some ⟨a, cs⟩
      | _ => none
    else none
  | _ => none

theorem mem_stepIds {l : List Ts} {a : Ts} {cs : List Ts} {x : Ts} (h : x ∈ stepIds l a cs) : x ∈ cs ∨ x ∈ l := by
  unfold stepIds at h
  cases hi : insertAfterId id a cs l with
  | none => rw [hi] at h; exact Or.inr h
  | some l' => rw [hi] at h; exact List.mem_append.mp ((insertAfterId_perm id a cs l l' hi).subset h)

theorem subset_stepIds (l : List Ts) (a : Ts) (cs : List Ts) {x : Ts} (h : x ∈ l) : x ∈ stepIds l a cs := by
  unfold stepIds
  cases hi : insertAfterId id a cs l with
  | none => exact h
  | some l' => exact (insertAfterId_sublist id a cs l l' hi).subset h

/-- `p.key ≠ o.ts.key`: no operation creates a node with the identifier of `p` -/
theorem idsOf_applyAllA (p : Ts) : ∀ (ops : List AOp) (d : Doc), (∀ o ∈ ops, p.key ≠ o.ts.key) →
    idsOf (applyAllA d ops) p = (idsOf d p).map fun l => foldIds l (ops.filterMap (insOn p))
  | [], d, _ => by simp [applyAllA, foldIds]
  | o :: ops, d, hk => by
      have ih := idsOf_applyAllA p ops (applyA d o) (fun o' ho' => hk o' (by simp [ho']))
      have hko := hk o (by simp)
      have e : applyAllA d (o :: ops) = applyAllA (applyA d o) ops := rfl
      rw [e, ih]
      cases o with
      | ins p' a ts vs =>
        rw [ins_idsOf d p' a ts vs p hko]
        by_cases hp : p = p'
        · subst hp
          simp only [if_true, List.filterMap_cons, insOn]
          cases hc : createMany p ts vs with
          | ok y =>
            obtain ⟨ns, cs, t'⟩ := y
            simp only [Option.map_map, foldIds, List.foldl_cons]
            rfl
          | err c => rfl
          | panic w => rfl
        · have hp' : ¬ p' = p := fun e => hp e.symm
          simp only [hp, if_false, List.filterMap_cons, insOn, hp']
      | del p' tgs t =>
        rw [del_idsOf]
        simp only [List.filterMap_cons, insOn]
      | upd p' t tgs vs =>
        rw [upd_idsOf d p' t tgs vs p hko]
        simp only [List.filterMap_cons, insOn]

theorem slotIds_applyAllA (p : Ts) (ops : List AOp) (d : Doc) (hk : ∀ o ∈ ops, p.key ≠ o.ts.key)
    (hp : (d.findArr p).isSome) :
    slotIds (applyAllA d ops) p = foldIds (slotIds d p) (ops.filterMap (insOn p)) := by
  rw [slotIds_eq_idsOf, slotIds_eq_idsOf, idsOf_applyAllA p ops d hk]
  rw [findArr_isSome_iff] at hp
  obtain ⟨l, hl⟩ := Option.isSome_iff_exists.mp hp
  rw [hl]; rfl

theorem skipInsMany_nil {β : Type} (oOf : β → Ts) : ∀ ns : List β, skipInsMany oOf ns [] = ns
  | [] => rfl
  | n :: ns => by simp [skipInsMany, skipIns1, skipInsMany_nil oOf ns]

theorem foldIds_fresh (cs0 : List Ts) : foldIds [] [⟨Ts.oldest, cs0⟩] = cs0 := by
  simp [foldIds, stepIds, insertAfterId_oldest, skipInsMany_nil]

/-- Order convergence.  `p` is an array of `d` whose present slot order was produced by the
    inserts `M0` (`M0 = []`: an empty array; `M0 = [⟨Ts.oldest, cs0⟩]`: an array just created with the
    children `cs0`, see `arr_order_converge_fresh`).  Two histories `ops`, `ops'` of remote array
    operations (inserts, updates, deletes, on `p` or elsewhere) with the same operations, none of which
    creates a node under the identifier of `p`, and whose inserts into `p` are causal after `M0`
    (`ACausal` = `InsCausal` for batches of child identifiers), leave `p` with the same slot order.
    The proof is `foldIds_converge`, through `idsOf_applyAllA` (order = generic loop folded over the inserts
    into `p`). -/
theorem arr_order_converge (d : Doc) (p : Ts) (M0 : List AIns) (ops ops' : List AOp) (hperm : ops.Perm ops')
    (hp : (d.findArr p).isSome) (hk : ∀ o ∈ ops, p.key ≠ o.ts.key)
    (hbase : slotIds d p = foldIds [] M0)
    (hc : ACausal (M0 ++ ops.filterMap (insOn p))) (hc' : ACausal (M0 ++ ops'.filterMap (insOn p))) :
    slotIds (applyAllA d ops) p = slotIds (applyAllA d ops') p := by
  rw [slotIds_applyAllA p ops d hk hp,
    slotIds_applyAllA p ops' d (fun o ho => hk o (hperm.mem_iff.mpr ho)) hp, hbase,
    ← foldIds_append, ← foldIds_append]
  exact foldIds_converge _ _ ((hperm.filterMap _).append_left M0) hc hc'

theorem arr_order_converge_empty (d : Doc) (p : Ts) (ops ops' : List AOp) (hperm : ops.Perm ops')
    (hp : (d.findArr p).isSome) (hk : ∀ o ∈ ops, p.key ≠ o.ts.key) (hbase : slotIds d p = [])
    (hc : ACausal (ops.filterMap (insOn p))) (hc' : ACausal (ops'.filterMap (insOn p))) :
    slotIds (applyAllA d ops) p = slotIds (applyAllA d ops') p :=
  arr_order_converge d p [] ops ops' hperm hp hk hbase hc hc'

theorem arr_order_converge_fresh (d : Doc) (p : Ts) (ops ops' : List AOp) (hperm : ops.Perm ops')
    (hp : (d.findArr p).isSome) (hk : ∀ o ∈ ops, p.key ≠ o.ts.key)
    (hc : ACausal (⟨Ts.oldest, slotIds d p⟩ :: ops.filterMap (insOn p)))
    (hc' : ACausal (⟨Ts.oldest, slotIds d p⟩ :: ops'.filterMap (insOn p))) :
    slotIds (applyAllA d ops) p = slotIds (applyAllA d ops') p :=
  arr_order_converge d p [⟨Ts.oldest, slotIds d p⟩] ops ops' hperm hp hk (foldIds_fresh _).symm hc hc'

/-! ## elementary operations: an insert (whole batch), a single-target delete, a single-target update

What an elementary operation owes, by route.
On the lookup function — well-formedness, depth, keys, commutation up to `DocEq` with every independent operation (another
array, another slot): its cases of `effE` and of `EffCase` (the same cases as a relation, each with what was looked up on
the way; `effCase` ties the two), of `find_applyE`, `rstep_of_case`, `eshape_of_case` (which `SlotRw`, which further entry;
a further kind of slot rewrite is a constructor of `SlotRw` with its rows in `SlotRw.comm`), `slotK_of_case`, `effE_congr`
(what its decision reads), `eok_after`, `nodesE_cases`, `EKeysND`.  `wf_applyE`, `bounded_applyE`, `viewOK_applyE` and
`comm_docEq` then hold without another look at it.
On the abstraction — operations that meet on ONE slot, `ASim` as a congruence, convergence: its case of `absE` with the
theorem that `abs` after it is `absE` of `abs` before (`abs_ins`, `abs_del1`, `abs_upd1`, together `abs_applyE`; each is proved
from the model's function, not from `EffCase`) and of `ceq_absE`.  An operation on one slot is an `applySlot` of a step
function: its case of `fE`, `absE_slot`, `bury_cases`, `ChildFree`, and one `SComm` for every operation it can meet on a
slot (`scomm_upd_upd`, `scomm_upd_del`), which `same_slot_abs` and `applySlot_comm_eq/_ceq` turn into commutation; then its
rows in the table of pairs `comm_asim`.  `arr_converge_asim` follows.  A batch form (`AOp`) owes `flat`, `docEq_applyA`,
`nodup_applyA` and its case of `applyA_flat`; the examples decide applicability by `eokB`.
A limit.  The slot ORDER of an array is a fold of its inserts (`slotIds_applyE`: every other operation leaves `slotIds`
alone; on this rest `OrdOK`, `goodE_step` and `arr_order_converge`): an operation that reorders slots brings its own order
argument. -/

inductive EOp where
  | ins (p a ts : Ts) (vs : List JVal)
  | del1 (p tg t : Ts)
  | upd1 (p tg t : Ts) (v : JVal)

def EOp.toA : EOp → AOp
  | .ins p a ts vs => .ins p a ts vs
  | .del1 p tg t => .del p [tg] t
  | .upd1 p tg t v => .upd p t [tg] [v]

def applyE (d : Doc) (e : EOp) : Doc := applyA d e.toA

theorem applyE_del1 (d : Doc) (p tg t : Ts) : applyE d (.del1 p tg t) = applyA d (.del p [tg] t) := rfl

def EOp.p : EOp → Ts
  | .ins p _ _ _ => p
  | .del1 p _ _ => p
  | .upd1 p _ _ _ => p

def EOp.ts : EOp → Ts
  | .ins _ _ ts _ => ts
  | .del1 _ _ t => t
  | .upd1 _ _ t _ => t

/-- the target slot of a delete / update -/
def EOp.tgt : EOp → Option Ts
  | .ins _ _ _ _ => none
  | .del1 _ tg _ => some tg
  | .upd1 _ tg _ _ => some tg

/-- the nodes an operation creates -/
def nodesE : EOp → List DNode
  | .ins p _ ts vs => match createMany p ts vs with
    | .ok (ns, _, _) => ns
    | _ => []
  | .del1 _ _ _ => []
  | .upd1 p _ t v => match createNode p t v with
    | .ok (ns, _, _) => ns
    | _ => []

/-- the slot order identifiers an operation creates -/
def newSlots : EOp → List Ts
  | .ins p _ ts vs => match createMany p ts vs with
    | .ok (_, cs, _) => cs
    | _ => []
  | _ => []

def IsArr (d : Doc) (p : Ts) : Prop := (d.findArr p).isSome

/-- applicability of a remote array operation: the array exists; the value(s) can be created and the new
    identifiers are neither in the table nor among the order identifiers of the array; the anchor / the
    target is a slot of the array (causality: it was inserted before) -/
def EOK (d : Doc) : EOp → Prop
  | .ins p a ts vs => IsArr d p ∧ (∃ ns cs t', createMany p ts vs = .ok (ns, cs, t')) ∧
      Fresh d (nodesE (.ins p a ts vs)) ∧ (∀ c ∈ newSlots (.ins p a ts vs), c ∉ slotIds d p) ∧
      (a = Ts.oldest ∨ a ∈ slotIds d p)
  | .del1 p tg _ => IsArr d p ∧ tg ∈ slotIds d p
  | .upd1 p tg t v => IsArr d p ∧ (∃ ns c t', createNode p t v = .ok (ns, c, t')) ∧
      Fresh d (nodesE (.upd1 p tg t v)) ∧ tg ∈ slotIds d p

theorem EOK.isArr {d : Doc} : ∀ {e : EOp}, EOK d e → IsArr d e.p
  | .ins _ _ _ _, h => h.1
  | .del1 _ _ _, h => h.1
  | .upd1 _ _ _ _, h => h.1

theorem EOK.fresh {d : Doc} : ∀ {e : EOp}, EOK d e → Fresh d (nodesE e)
  | .ins _ _ _ _, h => h.2.2.1
  | .del1 _ _ _, _ => by intro c hc; simp [nodesE, ids] at hc
  | .upd1 _ _ _ _, h => h.2.2.1

theorem EOK.newSlots_fresh {d : Doc} : ∀ {e : EOp}, EOK d e → ∀ c ∈ newSlots e, c ∉ slotIds d e.p
  | .ins _ _ _ _, h, c, hc => h.2.2.2.1 c hc
  | .del1 _ _ _, _, c, hc => by simp [newSlots] at hc
  | .upd1 _ _ _ _, _, c, hc => by simp [newSlots] at hc

theorem EOK.anchor {d : Doc} {p a ts : Ts} {vs : List JVal} (h : EOK d (.ins p a ts vs)) :
    a = Ts.oldest ∨ a ∈ slotIds d p := h.2.2.2.2

theorem EOK.tgt_mem {d : Doc} : ∀ {e : EOp}, EOK d e → ∀ {tg : Ts}, e.tgt = some tg → tg ∈ slotIds d e.p
  | .ins _ _ _ _, _, _, h => by simp [EOp.tgt] at h
  | .del1 _ tg' _, h, tg, e => by simp only [EOp.tgt, Option.some.injEq] at e; subst e; exact h.2
  | .upd1 _ tg' _ _, h, tg, e => by simp only [EOp.tgt, Option.some.injEq] at e; subst e; exact h.2.2.2

theorem isArr_iff {d : Doc} {p : Ts} : IsArr d p ↔ ∃ pn sl sz, d.findArr p = some (pn, sl, sz) := by
  unfold IsArr
  constructor
  · intro h
    obtain ⟨⟨pn, sl, sz⟩, hx⟩ := Option.isSome_iff_exists.mp h
    exact ⟨pn, sl, sz, hx⟩
  · rintro ⟨pn, sl, sz, h⟩; rw [h]; rfl

theorem EOK.ins_inv {d : Doc} {p a ts : Ts} {vs : List JVal} (h : EOK d (.ins p a ts vs)) :
    ∃ pn sl sz ns cs t', d.findArr p = some (pn, sl, sz) ∧ createMany p ts vs = .ok (ns, cs, t') ∧
      nodesE (.ins p a ts vs) = ns ∧ newSlots (.ins p a ts vs) = cs ∧ Fresh d ns := by
  obtain ⟨harr, ⟨ns, cs, t', hc⟩, hf, _, _⟩ := h
  obtain ⟨pn, sl, sz, hp⟩ := isArr_iff.mp harr
  have hn : nodesE (.ins p a ts vs) = ns := by simp only [nodesE, hc]
  exact ⟨pn, sl, sz, ns, cs, t', hp, hc, hn, by simp only [newSlots, hc], hn ▸ hf⟩

theorem EOK.upd1_inv {d : Doc} {p tg t : Ts} {v : JVal} (h : EOK d (.upd1 p tg t v)) :
    ∃ pn sl sz ns t', d.findArr p = some (pn, sl, sz) ∧ createNode p t v = .ok (ns, t, t') ∧
      nodesE (.upd1 p tg t v) = ns ∧ Fresh d ns ∧ t ∈ ids ns := by
  obtain ⟨harr, ⟨ns, c, t', hc⟩, hf, _⟩ := h
  obtain rfl := createNode_root hc
  obtain ⟨pn, sl, sz, hp⟩ := isArr_iff.mp harr
  have hn : nodesE (.upd1 p tg c v) = ns := by simp only [nodesE, hc]
  obtain ⟨_, _, n0, rest, hns, hn0c, _⟩ := createNode_spec p c v _ hc
  simp only at hns
  exact ⟨pn, sl, sz, ns, t', hp, hc, hn, hn ▸ hf, by simp [hns, ids, hn0c]⟩

theorem root_mem_nodesE {d : Doc} {p tg t : Ts} {v : JVal} (h : EOK d (.upd1 p tg t v)) :
    t ∈ ids (nodesE (.upd1 p tg t v)) := by
  obtain ⟨_, _, _, ns, _, _, _, hn, _, hm⟩ := h.upd1_inv
  exact hn ▸ hm

/-- the effect of an applicable operation, as decided in the document `d` -/
def effE (d : Doc) : EOp → Eff
  | .ins p a ts vs => ⟨nodesE (.ins p a ts vs), p, mapArr (insK a (newSlots (.ins p a ts vs))), p, id⟩
  | .del1 p tg t =>
    match (slotsOf d p).find? (fun s => s.1 = tg) with
    | none => ⟨[], p, id, p, id⟩
    | some s =>
      if !d.isTomb s.2 then ⟨[], p, mapArr (szK 1), s.2, setD t⟩
      else if (d.timeOf s.2).cmp t == .lt then ⟨[], p, id, s.2, setD t⟩
      else ⟨[], p, id, p, id⟩
  | .upd1 p tg t v =>
    match (slotsOf d p).find? (fun s => s.1 = tg) with
    | none => ⟨nodesE (.upd1 p tg t v), p, id, p, id⟩
    | some s =>
      if !d.isTomb s.2 && (d.timeOf s.2).cmp t == .lt then
        ⟨nodesE (.upd1 p tg t v), p, mapArr (setK tg t), s.2, fun1 t⟩
      else ⟨nodesE (.upd1 p tg t v), p, id, t, fun1 s.2⟩

theorem effE_p (d : Doc) (a : EOp) : (effE d a).p = a.p := by
  cases a <;> simp only [effE] <;> (repeat' split) <;> rfl

theorem effE_ns (d : Doc) (a : EOp) : (effE d a).ns = nodesE a := by
  cases a <;> simp only [effE] <;> (repeat' split) <;> rfl

theorem comm_mapArr_setD (k : List (Ts × Ts) → Int → List (Ts × Ts) × Int) (t : Ts) :
    Comm (mapArr k) (setD t) := by
  intro o
  cases o with
  | none => rfl
  | some n =>
    obtain ⟨nc, nd, np, nk⟩ := n
    cases nk <;> rfl

theorem comm_mapArr_fun1 (k : List (Ts × Ts) → Int → List (Ts × Ts) × Int) (t : Ts) :
    Comm (mapArr k) (fun1 t) := by
  intro o
  cases o with
  | none => rfl
  | some n =>
    obtain ⟨nc, nd, np, nk⟩ := n
    cases nk <;> rfl

theorem comm_mapArr_delG (k : List (Ts × Ts) → Int → List (Ts × Ts) × Int) (t c : Ts) :
    Comm (mapArr k) (delG t c) := by
  intro o
  unfold delG
  rw [tombO_mapArr, timeO_mapArr]
  split
  · exact comm_mapArr_setD k t o
  · split
    · exact comm_mapArr_setD k t o
    · rfl

theorem slot_child_in_table {d : Doc} (hwf : d.WF) {p : Ts} {pn : DNode} {sl : List (Ts × Ts)} {sz : Int}
    (hp : d.findArr p = some (pn, sl, sz)) {s : Ts × Ts} (hs : s ∈ sl) :
    ∃ nc, d.find s.2 = some nc ∧ nc.parent = some p := by
  obtain ⟨h1, h2⟩ := findArr_some_iff.mp hp
  have := hwf.child p pn h1 s.2
  rw [h2] at this
  exact this (List.mem_map.mpr ⟨s, hs, rfl⟩)

theorem target_slot {d : Doc} {p tg : Ts} (h : tg ∈ slotIds d p) :
    ∃ s, (slotsOf d p).find? (fun s => s.1 = tg) = some s ∧ s ∈ slotsOf d p ∧ s.1 = tg := by
  unfold slotIds at h
  obtain ⟨s0, hs0, hs0t⟩ := List.mem_map.mp h
  cases hf : (slotsOf d p).find? (fun s => s.1 = tg) with
  | none =>
    have := List.find?_eq_none.mp hf s0 hs0
    simp [hs0t] at this
  | some s =>
    exact ⟨s, rfl, List.mem_of_find?_eq_some hf, by simpa using List.find?_some hf⟩

theorem slotsOf_mem_findArr {d : Doc} {p : Ts} {s : Ts × Ts} (hs : s ∈ slotsOf d p) :
    ∃ pn sz, d.findArr p = some (pn, slotsOf d p, sz) := by
  unfold slotsOf at hs ⊢
  cases hp : d.findArr p with
  | none => rw [hp] at hs; simp at hs
  | some x => obtain ⟨pn, sl, sz⟩ := x; exact ⟨pn, sz, rfl⟩

theorem slotsOf_child {d : Doc} (hwf : d.WF) {p : Ts} {s : Ts × Ts} (hs : s ∈ slotsOf d p) :
    ∃ nc, d.find s.2 = some nc ∧ nc.parent = some p := by
  obtain ⟨pn, sz, hp⟩ := slotsOf_mem_findArr hs
  exact slot_child_in_table hwf hp hs

/-- What an applicable operation on the array `p` with slots `sl` does to the lookup function, case by case: the
    cases of `effE`, each with what was looked up and decided on the way. -/
inductive EffCase (d : Doc) (p : Ts) (sl : List (Ts × Ts)) : EOp → Eff → Prop
  | ins {an ts t' : Ts} {vs : List JVal} {ns : List DNode} {cs : List Ts} (hc : createMany p ts vs = .ok (ns, cs, t'))
      (hf : Fresh d ns) : EffCase d p sl (.ins p an ts vs) ⟨ns, p, mapArr (insK an cs), p, id⟩
  | delNone {tg t : Ts} (hs : sl.find? (fun s => s.1 = tg) = none) : EffCase d p sl (.del1 p tg t) ⟨[], p, id, p, id⟩
  | delLive {tg t : Ts} {s : Ts × Ts} (hs : sl.find? (fun s => s.1 = tg) = some s) (hl : d.isTomb s.2 = false) :
      EffCase d p sl (.del1 p tg t) ⟨[], p, mapArr (szK 1), s.2, setD t⟩
  | delNewer {tg t : Ts} {s : Ts × Ts} (hs : sl.find? (fun s => s.1 = tg) = some s) (hl : d.isTomb s.2 = true)
      (hlt : (d.timeOf s.2).cmp t = .lt) : EffCase d p sl (.del1 p tg t) ⟨[], p, id, s.2, setD t⟩
  | delOlder {tg t : Ts} {s : Ts × Ts} (hs : sl.find? (fun s => s.1 = tg) = some s) (hl : d.isTomb s.2 = true)
      (hlt : (d.timeOf s.2).cmp t ≠ .lt) : EffCase d p sl (.del1 p tg t) ⟨[], p, id, p, id⟩
  | updNone {tg c t' : Ts} {v : JVal} {ns : List DNode} (hc : createNode p c v = .ok (ns, c, t')) (hf : Fresh d ns)
      (hs : sl.find? (fun s => s.1 = tg) = none) : EffCase d p sl (.upd1 p tg c v) ⟨ns, p, id, p, id⟩
  | updWin {tg c t' : Ts} {v : JVal} {ns : List DNode} {s : Ts × Ts} (hc : createNode p c v = .ok (ns, c, t'))
      (hf : Fresh d ns) (hs : sl.find? (fun s => s.1 = tg) = some s) (hl : d.isTomb s.2 = false)
      (hlt : (d.timeOf s.2).cmp c = .lt) : EffCase d p sl (.upd1 p tg c v) ⟨ns, p, mapArr (setK tg c), s.2, fun1 c⟩
  | updLose {tg c t' : Ts} {v : JVal} {ns : List DNode} {s : Ts × Ts} (hc : createNode p c v = .ok (ns, c, t'))
      (hf : Fresh d ns) (hs : sl.find? (fun s => s.1 = tg) = some s)
      (hw : ¬ (d.isTomb s.2 = false ∧ (d.timeOf s.2).cmp c = .lt)) :
      EffCase d p sl (.upd1 p tg c v) ⟨ns, p, id, c, fun1 s.2⟩

theorem effCase {d : Doc} : ∀ {a : EOp}, EOK d a → ∀ {pn : DNode} {sl : List (Ts × Ts)} {sz : Int},
    d.findArr a.p = some (pn, sl, sz) → EffCase d a.p sl a (effE d a)
  | .ins p an ts vs, ha, pn, sl, sz, _ => by
    obtain ⟨_, _, _, ns, cs, t', _, hc, hn, hcs, hf⟩ := ha.ins_inv
    simp only [effE, hn, hcs]
    exact .ins hc hf
  | .del1 p tg t, _, pn, sl, sz, hp => by
    replace hp : d.findArr p = some (pn, sl, sz) := hp
    simp only [effE, slotsOf_of_findArr hp]
    cases hs : sl.find? (fun s => s.1 = tg) with
    | none => exact .delNone hs
    | some s =>
      dsimp only
      cases hl : d.isTomb s.2
      · exact .delLive hs hl
      · by_cases hlt : (d.timeOf s.2).cmp t = .lt
        · rw [hlt]; exact .delNewer hs hl hlt
        · rw [if_neg (by simp), if_neg (by rw [_root_.beq_iff_eq]; exact hlt)]; exact .delOlder hs hl hlt
  | .upd1 p tg c v, ha, pn, sl, sz, hp => by
    replace hp : d.findArr p = some (pn, sl, sz) := hp
    obtain ⟨_, _, _, ns, t', _, hc, hn, hf, _⟩ := ha.upd1_inv
    simp only [effE, slotsOf_of_findArr hp, hn]
    cases hs : sl.find? (fun s => s.1 = tg) with
    | none => exact .updNone hc hf hs
    | some s =>
      dsimp only
      by_cases hw : d.isTomb s.2 = false ∧ (d.timeOf s.2).cmp c = .lt
      · rw [hw.1, hw.2]; exact .updWin hc hf hs hw.1 hw.2
      · rw [if_neg (by rw [Bool.and_eq_true, Bool.not_eq_true', _root_.beq_iff_eq]; exact hw)]
        exact .updLose hc hf hs hw

theorem find_applyE {d : Doc} (hwf : d.WF) : ∀ (e : EOp), EOK d e → (applyE d e).find = (effE d e).run d.find
  | .ins p a ts vs, h => by
    obtain ⟨pn, sl, sz, ns, cs, t', hp, hc, hn, hcs, hf⟩ := h.ins_inv
    simp only [effE, Eff.run, hn, hcs, upd_id]
    exact ins_find hp hc (fresh_not_mem hf (findArr_some_iff.mp hp).1)
  | .del1 p tg t, h => by
    obtain ⟨pn, sl, sz, hp⟩ := (isArr_iff (p := p)).mp h.isArr
    simp only [applyE_del1, effE, Eff.run, slotsOf_of_findArr hp]
    cases hs : sl.find? (fun s => s.1 = tg) with
    | none => simp only [del1_find_none hp hs, upd_id, U_nil]
    | some s =>
      have hg : upd s.2 (delG t s.2) d.find = if !d.isTomb s.2 || (d.timeOf s.2).cmp t == .lt then
          upd s.2 (setD t) d.find else d.find := by
        rw [← find_delStep]; split
        · rw [find_makeTomb_upd]
        · rfl
      rw [del1_find hp hs, hg]
      simp only
      cases h1 : d.isTomb s.2
      · simp only [Bool.not_false, Bool.true_or, if_true, Bool.false_eq_true, if_false, U_nil]
        exact upd_comm (Or.inr (comm_mapArr_setD _ _)) _
      · simp only [Bool.not_true, Bool.false_or, if_true, Bool.false_eq_true, if_false, upd_mapArr_szK_zero]
        split <;> simp only [upd_id, U_nil]
  | .upd1 p tg c v, h => by
    obtain ⟨pn, sl, sz, ns, t', hp, hc, hn, hf, _⟩ := h.upd1_inv
    obtain ⟨hp1, hk⟩ := findArr_some_iff.mp hp
    simp only [effE, Eff.run, slotsOf_of_findArr hp, hn]
    rw [show applyE d (.upd1 p tg c v) = _ from applyA_upd1 hp hc hf]
    cases hs : sl.find? (fun s => s.1 = tg) with
    | none => simp only [upd_id, find_addAll_U]
    | some s =>
      -- the child of the slot is in the table of `d`, hence not new: it is read as in `d`
      obtain ⟨nc, h1, _⟩ := slot_child_in_table hwf hp (List.mem_of_find?_eq_some hs)
      have hn := fresh_not_mem hf h1
      simp only [isTomb_addAll_old hn, timeOf_addAll_old hn]
      split
      · rw [find_funeral_upd, find_setArr (find_addAll_old hf hp1) hk, find_addAll_U]
        congr 1
        apply upd_congr_at
        rw [U_old (fresh_not_mem hf hp1), hp1]
        simp only [mapArr, Option.map_some, hk, setK]
      · rw [find_funeral_upd, find_addAll_U, upd_id]

/-! ### the elementary operations are remote steps (`DC.RStep`) -/

theorem mem_setSlotChild {o c : Ts} : ∀ {sl : List (Ts × Ts)} {x : Ts × Ts}, x ∈ setSlotChild o c sl →
    x = (o, c) ∨ x ∈ sl
  | [], _, h => by simp [setSlotChild] at h
  | s :: ss, x, h => by
      unfold setSlotChild at h
      split at h
      · rcases List.mem_cons.mp h with h | h
        · exact Or.inl h
        · exact Or.inr (List.mem_cons_of_mem _ h)
      · rcases List.mem_cons.mp h with h | h
        · exact Or.inr (by rw [h]; simp)
        · rcases mem_setSlotChild h with h | h
          · exact Or.inl h
          · exact Or.inr (List.mem_cons_of_mem _ h)

theorem setSlotChild_kids {o c : Ts} : ∀ {sl : List (Ts × Ts)} {s : Ts × Ts},
    sl.find? (fun x => x.1 = o) = some s → (sl.map (·.2)).Nodup → c ∉ sl.map (·.2) →
    ((setSlotChild o c sl).map (·.2)).Nodup ∧ s.2 ∉ (setSlotChild o c sl).map (·.2)
  | [], _, h, _, _ => by simp at h
  | x :: xs, s, h, hnd, hc => by
      simp only [List.map_cons, List.nodup_cons, List.mem_cons, not_or] at hnd hc
      unfold setSlotChild
      by_cases e : x.1 = o
      · simp only [List.find?_cons, e, decide_true, Option.some.injEq] at h
        subst h
        simp only [e, if_true, List.map_cons, List.nodup_cons, List.mem_cons, not_or]
        exact ⟨⟨hc.2, hnd.2⟩, fun e' => hc.1 e'.symm, hnd.1⟩
      · simp only [List.find?_cons, e, decide_false] at h
        obtain ⟨h1, h2⟩ := setSlotChild_kids (c := c) h hnd.2 hc.2
        simp only [e, if_false, List.map_cons, List.nodup_cons, List.mem_cons, not_or]
        refine ⟨⟨?_, h1⟩, ?_, h2⟩
        · intro hm
          obtain ⟨y, hy, hy2⟩ := List.mem_map.mp hm
          rcases mem_setSlotChild hy with rfl | hy'
          · exact hc.1 hy2
          · exact hnd.1 (hy2 ▸ List.mem_map.mpr ⟨y, hy', rfl⟩)
        · intro e'
          have : s ∈ xs := List.mem_of_find?_eq_some h
          exact hnd.1 (e' ▸ List.mem_map.mpr ⟨s, this, rfl⟩)

theorem old_unlinked {d1 : Doc} (hwf1 : d1.WF) {p tg c : Ts} {pn : DNode} {sl : List (Ts × Ts)} {sz : Int}
    {sx : Ts × Ts} (hp2 : d1.find p = some pn) (hk : pn.kind = .arr sl sz)
    (hs : sl.find? (fun s => s.1 = tg) = some sx) (hcn : c ∉ sl.map (·.2)) :
    ∀ q n, (d1.set { pn with kind := .arr (setSlotChild tg c sl) sz }).find q = some n → sx.2 ∉ kids n.kind := by
  have hkn : (sl.map (·.2)).Nodup := by
    have := hwf1.inj p pn hp2; rw [hk] at this; exact this
  obtain ⟨_, k2⟩ := setSlotChild_kids (c := c) hs hkn hcn
  intro q n hq hmem
  rw [find_set] at hq
  have hpc := find_some_c hp2
  by_cases e : pn.c = q
  · simp only [e, if_true, Option.some.injEq] at hq
    subst hq
    exact k2 hmem
  · simp only [e, if_false] at hq
    have hold : sx.2 ∈ kids pn.kind := by
      rw [hk]; exact List.mem_map.mpr ⟨sx, List.mem_of_find?_eq_some hs, rfl⟩
    have := wf_unique_parent hwf1 hp2 hq hold hmem
    rw [hpc] at e; exact e this

theorem nodup_upd_go (p : Ts) (tgs : List Ts) (vs : List JVal) (t : Ts) (d d' : Doc)
    (h : Doc.updateRemoteInArray.go p tgs vs t d = .ok d') (hn : (ids d.table).Nodup) : (ids d'.table).Nodup :=
  upd_go_ind (P := fun d => (ids d.table).Nodup) (t0 := t) (fun _ _ _ ns _ _ _ _ h => nodup_addAll ns h)
    (fun _ _ _ _ _ _ _ h => nodup_set _ h) (fun _ x t h => nodup_funeral x t h) tgs vs t d d' rfl h hn

theorem nodup_applyA {d : Doc} (h : (ids d.table).Nodup) : ∀ (op : AOp), (ids (applyA d op).table).Nodup
  | .ins p an ts vs => by
    simp only [applyA, Doc.insertRemoteInArray]
    cases d.findArr p with
    | none => exact h
    | some x =>
      obtain ⟨pn, sl, size⟩ := x
      simp only
      cases createMany p ts vs with
      | err c => exact h
      | panic w => exact h
      | ok y =>
        obtain ⟨ns, cs, t'⟩ := y
        simp only
        cases insertAfterId (fun (s : Ts × Ts) => s.1) an (cs.map fun c => (c, c)) sl with
        | none => exact nodup_addAll _ h
        | some sl' => exact nodup_set _ (nodup_addAll _ h)
  | .del p tgs t =>
    applyA_del_ind (P := fun d => (ids d.table).Nodup) (fun _ x t h => nodup_makeTomb x t h)
      (fun _ _ _ _ _ _ h => nodup_set _ h) tgs t h
  | .upd p t tgs vs => by
    simp only [applyA, Doc.updateRemoteInArray]
    cases hp : d.findArr p with
    | none => exact h
    | some x =>
      simp only
      cases hg : Doc.updateRemoteInArray.go p tgs vs t d with
      | ok d' => exact nodup_upd_go p tgs vs t d d' hg h
      | err c => exact h
      | panic w => exact h

theorem mapArr_some {pn : DNode} {sl : List (Ts × Ts)} {s : Int} (hk : pn.kind = .arr sl s)
    (f : List (Ts × Ts) → Int → List (Ts × Ts) × Int) :
    mapArr f (some pn) = some { pn with kind := .arr (f sl s).1 (f sl s).2 } := by
  simp only [mapArr, Option.map_some, hk]

theorem rstep_of_case {d : Doc} (hwf : d.WF) {p : Ts} {pn : DNode} {sl : List (Ts × Ts)} {sz : Int}
    (hp : d.findArr p = some (pn, sl, sz)) {a : EOp} {e : Eff} (h : EffCase d p sl a e) :
    ∃ pn K', RStep d e pn K' := by
  obtain ⟨hp1, hk⟩ := findArr_some_iff.mp hp
  have hkids : kids pn.kind = sl.map (·.2) := by rw [hk]; rfl
  have hnd : (sl.map (·.2)).Nodup := hkids ▸ hwf.inj _ pn hp1
  have hcont : ∀ v, pn.kind ≠ .elem v := fun v hv => by rw [hk] at hv; cases hv
  have hsort : ∀ sl' s', SameSort pn.kind (.arr sl' s') := fun _ _ => by rw [hk]; trivial
  have hsg : ∀ f t, Comm (mapArr f) (fun1 t) ∧ Comm (mapArr f) (setD t) := fun f t =>
    ⟨comm_mapArr_fun1 f t, comm_mapArr_setD f t⟩
  have nil : ∃ a b, Block a ([] : List DNode) b := ⟨p, p, block_nil _⟩
  have hf0 : Fresh d [] := fun _ hc => (nomatch hc)
  have hsk : ∀ {tg : Ts} {s : Ts × Ts}, sl.find? (fun s => s.1 = tg) = some s → s.2 ∈ kids pn.kind := fun hs =>
    hkids ▸ List.mem_map.mpr ⟨_, List.mem_of_find?_eq_some hs, rfl⟩
  -- nothing relinked, nothing touched
  have idle : ∀ ns, (∃ a b, Block a ns b) → Fresh d ns → ∃ pn K', RStep d ⟨ns, p, id, p, id⟩ pn K' :=
    fun ns hb hf => ⟨pn, _, rstep_keep hwf hp1 rfl hb hf hcont (Or.inl ⟨rfl, rfl⟩)⟩
  cases h with
  | @ins an ts t' vs ns cs hc hf =>
    obtain ⟨hb, hcsnd, hcs⟩ := createMany_block hc
    -- the new slots: the old ones and the roots of the batch, or (unknown anchor) the old ones
    obtain hperm | hsame : ((insK an cs sl sz).1.map (·.2)).Perm (cs ++ sl.map (·.2)) ∨ (insK an cs sl sz).1 = sl := by
      unfold insK
      cases hi : insertAfterId (fun (s : Ts × Ts) => s.1) an (cs.map fun c => (c, c)) sl with
      | none => exact Or.inr rfl
      | some sl' =>
        left
        simpa [List.map_map, Function.comp_def] using (insertAfterId_perm _ an _ sl sl' hi).map (·.2)
    · refine ⟨pn, _, hwf, hp1, mapArr_some hk _, ⟨_, _, hb⟩, hf, hsort _ _, fun c hcm => ?_, ?_,
        Or.inl ⟨rfl, rfl⟩, hsg _⟩
      · rcases List.mem_append.mp (hperm.subset hcm) with h1 | h1
        · obtain ⟨nc, hnc, e1, e2⟩ := hcs c h1
          exact Or.inr ⟨nc, hnc, e1, e2⟩
        · exact Or.inl (hkids ▸ h1)
      · show ((insK an cs sl sz).1.map (·.2)).Nodup
        rw [hperm.nodup_iff, List.nodup_append]
        refine ⟨hcsnd, hnd, ?_⟩
        -- a new child is not in the table of `d`, an old one is
        rintro x hx _ hy rfl
        obtain ⟨nc, hnc, e1, _⟩ := hcs x hx
        obtain ⟨nx, h1, _⟩ := hwf.child p pn hp1 x (hkids ▸ hy)
        exact fresh_not_mem hf h1 (e1 ▸ List.mem_map.mpr ⟨nc, hnc, rfl⟩)
    · have hkk : kids (.arr (insK an cs sl sz).1 (insK an cs sl sz).2) = kids pn.kind := by
        show ((insK an cs sl sz).1).map (·.2) = kids pn.kind
        rw [hsame, hkids]
      exact ⟨pn, _, hwf, hp1, mapArr_some hk _, ⟨_, _, hb⟩, hf, hsort _ _, fun c hc => Or.inl (hkk ▸ hc),
        hkk ▸ hwf.inj _ pn hp1, Or.inl ⟨rfl, rfl⟩, hsg _⟩
  | delNone _ => exact idle [] nil hf0
  | @delLive tg t s hs _ =>
    exact ⟨pn, _, hwf, hp1, mapArr_some hk _, nil, hf0, hsort _ _, fun x hx => Or.inl (hkids ▸ hx), hnd,
      Or.inr (Or.inr ⟨t, rfl, hsk hs⟩), hsg _⟩
  | @delNewer tg t s hs _ _ => exact ⟨pn, _, rstep_keep hwf hp1 rfl nil hf0 hcont (Or.inr (Or.inr ⟨t, rfl, hsk hs⟩))⟩
  | delOlder _ _ _ => exact idle [] nil hf0
  | updNone hc hf _ => exact idle _ ⟨_, _, (createNode_spec _ _ _ _ hc).1⟩ hf
  | @updWin tg c t' v ns s hc hf hs _ _ =>
    -- the new value wins: its root takes the slot, the old child is buried
    have hcn : c ∉ sl.map (·.2) := hkids ▸ root_unlinked hwf hc hf p pn (find_addAll_old hf hp1)
    obtain ⟨n0, hn0f, hn0p, hn0, _⟩ := root_find (d := d) hc
    obtain ⟨k1, k2⟩ := setSlotChild_kids (c := c) hs hnd hcn
    refine ⟨pn, _, hwf, hp1, mapArr_some hk _, ⟨_, _, (createNode_spec _ _ _ _ hc).1⟩, hf, hsort _ _, fun x hx => ?_, k1,
      Or.inr (Or.inl ⟨c, rfl, k2, Or.inl (hsk hs)⟩), hsg _⟩
    obtain ⟨y, hy, rfl⟩ := List.mem_map.mp hx
    rcases mem_setSlotChild hy with rfl | hy'
    · exact Or.inr ⟨n0, hn0, find_some_c hn0f, hn0p⟩
    · exact Or.inl (hkids ▸ List.mem_map.mpr ⟨y, hy', rfl⟩)
  | @updLose tg c t' v ns s hc hf hs _ =>
    -- the new value loses: its unreferenced root is buried
    have hbl := (createNode_spec _ _ _ _ hc).1
    have hunl := root_unlinked hwf hc hf
    obtain ⟨n0, hn0f, _, hn0, _⟩ := root_find (d := d) hc
    exact ⟨pn, _, rstep_keep hwf hp1 rfl ⟨_, _, hbl⟩ hf hcont (Or.inr (Or.inl ⟨s.2, rfl,
      hkids ▸ (hkids ▸ hunl p pn (find_addAll_old hf hp1) : c ∉ sl.map (·.2)),
      List.mem_map.mpr ⟨n0, hn0, find_some_c hn0f⟩, fun n hn =>
      hunl n.c n (find_addAll_new (block_ids_nodup hbl) hn)⟩))⟩

theorem rstep_applyE {d : Doc} (hwf : d.WF) (a : EOp) (ha : EOK d a) : ∃ pn K', RStep d (effE d a) pn K' :=
  let ⟨_, _, _, hp⟩ := isArr_iff.mp ha.isArr
  rstep_of_case hwf hp (effCase ha hp)

theorem wf_applyE {d : Doc} (hwf : d.WF) (a : EOp) (ha : EOK d a) : (applyE d a).WF :=
  let ⟨_, _, h⟩ := rstep_applyE hwf a ha
  h.wf_next (find_applyE hwf a ha) (nodup_applyA hwf.nodup a.toA)

theorem bounded_applyE {d : Doc} (hwf : d.WF) (hbd : Bounded d) (a : EOp) (ha : EOK d a) : Bounded (applyE d a) :=
  let ⟨_, _, h⟩ := rstep_applyE hwf a ha
  h.bounded_next (find_applyE hwf a ha) (nodup_applyA hwf.nodup a.toA) hbd

/-! ### the shape of an effect -/

/-- the rewrites the operation `a` may apply to the entry of its array: none, one live slot less, the child of its
    target slot replaced, its batch inserted -/
inductive SlotRw (a : EOp) : (Option DNode → Option DNode) → Prop
  | keep : SlotRw a id
  | oneLess : SlotRw a (mapArr (szK 1))
  | setChild {tg c : Ts} (ht : a.tgt = some tg) : SlotRw a (mapArr (setK tg c))
  | insert {an : Ts} (ht : a.tgt = none) : SlotRw a (mapArr (insK an (newSlots a)))

/-- what the effect of an operation looks like: the parent's entry is left alone or its slots/size are
    rewritten; one more entry gets `id`, a funeral or a tombstone stamp — the parent itself (then `id`),
    the child of the target slot, or the root of the new nodes -/
structure EShape (d : Doc) (a : EOp) (e : Eff) : Prop where
  sk : SlotRw a e.s
  x : (e.x = a.p ∧ e.g = id) ∨
      (∃ tg s, a.tgt = some tg ∧ (slotsOf d a.p).find? (fun s => s.1 = tg) = some s ∧ e.x = s.2) ∨
      e.x ∈ ids (nodesE a)

theorem eshape_of_case {d : Doc} {p : Ts} {sl : List (Ts × Ts)} (hsl : slotsOf d p = sl) {a : EOp} {e : Eff}
    (h : EffCase d p sl a e) : EShape d a e := by
  cases h with
  | @ins an ts t' vs ns cs hc hf =>
    have hcs : newSlots (.ins p an ts vs) = cs := by simp only [newSlots, hc]
    exact ⟨hcs ▸ .insert rfl, Or.inl ⟨rfl, rfl⟩⟩
  | delNone _ => exact ⟨.keep, Or.inl ⟨rfl, rfl⟩⟩
  | @delLive tg t s hs _ => exact ⟨.oneLess, Or.inr (Or.inl ⟨tg, s, rfl, hsl ▸ hs, rfl⟩)⟩
  | @delNewer tg t s hs _ _ => exact ⟨.keep, Or.inr (Or.inl ⟨tg, s, rfl, hsl ▸ hs, rfl⟩)⟩
  | delOlder _ _ _ => exact ⟨.keep, Or.inl ⟨rfl, rfl⟩⟩
  | updNone hc _ _ => exact ⟨.keep, Or.inl ⟨rfl, rfl⟩⟩
  | @updWin tg c t' v ns s hc _ hs _ _ =>
    exact ⟨.setChild rfl, Or.inr (Or.inl ⟨tg, s, rfl, hsl ▸ hs, rfl⟩)⟩
  | @updLose tg c t' v ns s hc _ _ _ =>
    obtain ⟨n0, hn0f, _, hn0, _⟩ := root_find (d := d) hc
    exact ⟨.keep, Or.inr (Or.inr (by simp only [nodesE, hc]; exact List.mem_map.mpr ⟨n0, hn0, find_some_c hn0f⟩))⟩

theorem eshape {d : Doc} (a : EOp) (ha : EOK d a) : EShape d a (effE d a) :=
  let ⟨_, _, _, hp⟩ := isArr_iff.mp ha.isArr
  eshape_of_case (slotsOf_of_findArr hp) (effCase ha hp)

/-! ### the slots after an operation -/

theorem arrV_g {d : Doc} {e : Eff} {pn : DNode} {K' : DKind} (h : RStep d e pn K') (o : Option DNode) :
    arrV (e.g o) = arrV o := by
  rcases h.g_cases with hg | ⟨t, hg⟩ | ⟨t, hg⟩ <;> rw [hg]
  exacts [rfl, arrV_fun1 t o, arrV_setD t o]

theorem run_arrV (e : Eff) (F : Ts → Option DNode) (hg : ∀ o, arrV (e.g o) = arrV o) (hp : e.p ∉ ids e.ns) (q : Ts) :
    arrV (e.run F q) = if q ∈ ids e.ns then arrV (nfind e.ns q) else if q = e.p then arrV (e.s (F q)) else arrV (F q) := by
  unfold Eff.run
  have h1 : arrV (upd e.x e.g (upd e.p e.s (U e.ns F)) q) = arrV (upd e.p e.s (U e.ns F) q) := by
    by_cases hx : q = e.x
    · subst hx; rw [upd_same, hg]
    · rw [upd_other _ _ hx]
  rw [h1]
  by_cases hn : q ∈ ids e.ns
  · have hqp : q ≠ e.p := fun e' => hp (e' ▸ hn)
    rw [upd_other _ _ hqp, if_pos hn]
    unfold U
    obtain ⟨n, hn'⟩ := Option.isSome_iff_exists.mp (nfind_isSome_iff.mpr hn)
    rw [hn']; rfl
  · rw [if_neg hn]
    by_cases hqp : q = e.p
    · subst hqp; rw [upd_same, U_old hn, if_pos rfl]
    · rw [upd_other _ _ hqp, U_old hn, if_neg hqp]

theorem find?_setSlotChild_ne {o c tg : Ts} (h : tg ≠ o) : ∀ sl : List (Ts × Ts),
    (setSlotChild o c sl).find? (fun s => s.1 = tg) = sl.find? (fun s => s.1 = tg)
  | [] => rfl
  | x :: xs => by
      unfold setSlotChild
      by_cases e : x.1 = o
      · have h1 : ¬ x.1 = tg := fun e' => h (e'.symm.trans e)
        have h2 : ¬ o = tg := fun e' => h e'.symm
        simp only [e, if_true, List.find?_cons, h2, decide_false]
      · simp only [e, if_false, List.find?_cons, find?_setSlotChild_ne h xs]

theorem find?_setSlotChild_same {o c : Ts} : ∀ {sl : List (Ts × Ts)} {s : Ts × Ts},
    sl.find? (fun s => s.1 = o) = some s → (setSlotChild o c sl).find? (fun s => s.1 = o) = some (o, c)
  | [], _, h => by simp at h
  | x :: xs, s, h => by
      unfold setSlotChild
      by_cases e : x.1 = o
      · simp [e]
      · simp only [List.find?_cons, e, decide_false] at h
        simp only [e, if_false, List.find?_cons, decide_false]
        exact find?_setSlotChild_same h

/-- the loop does not disturb a search that none of the new elements satisfies: the old elements keep their
    relative order (`insertAfterId_sublist`) and nothing else passes the filter (`insertAfterId_perm`) -/
theorem find?_insertAfterId {β : Type} (oOf : β → Ts) (P : β → Bool) (anchor : Ts) (ns : List β)
    (hns : ∀ n ∈ ns, P n = false) (l : List β) :
    ((insertAfterId oOf anchor ns l).getD l).find? P = l.find? P := by
  cases h : insertAfterId oOf anchor ns l with
  | none => rfl
  | some l' =>
    have hsub := (insertAfterId_sublist oOf anchor ns l l' h).filter P
    have hlen := ((insertAfterId_perm oOf anchor ns l l' h).filter P).length_eq
    have hn : ns.filter P = [] := List.filter_eq_nil_iff.mpr (by simpa using hns)
    rw [List.filter_append, hn, List.nil_append] at hlen
    rw [Option.getD_some, ← List.head?_filter, ← List.head?_filter, hsub.eq_of_length hlen.symm]

/-- what an operation does to the slots of its array -/
def slotK (d : Doc) : EOp → List (Ts × Ts) → List (Ts × Ts)
  | .ins p a ts vs, sl =>
    (insertAfterId (fun (x : Ts × Ts) => x.1) a ((newSlots (.ins p a ts vs)).map fun c => (c, c)) sl).getD sl
  | .del1 _ _ _, sl => sl
  | .upd1 _ tg t _, sl =>
    match sl.find? (fun s => s.1 = tg) with
    | none => sl
    | some s => if !d.isTomb s.2 && (d.timeOf s.2).cmp t == .lt then setSlotChild tg t sl else sl

theorem arrV_mapArr_eq (k : List (Ts × Ts) → Int → List (Ts × Ts) × Int) {n : DNode} {sl : List (Ts × Ts)}
    {sz : Int} (hk : n.kind = .arr sl sz) : arrV (mapArr k (some n)) = some (k sl sz).1 := by
  simp only [mapArr, Option.map_some, hk, arrV]

theorem slotK_of_case {d : Doc} {p : Ts} {pn : DNode} {sl : List (Ts × Ts)} {sz : Int} (hk : pn.kind = .arr sl sz)
    {a : EOp} {e : Eff} (h : EffCase d p sl a e) : arrV (e.s (some pn)) = some (slotK d a sl) := by
  have hid : arrV (id (some pn)) = some sl := by simp only [id, arrV, hk]
  cases h with
  | @ins an ts t' vs ns cs hc hf =>
    simp only [arrV_mapArr_eq _ hk, slotK, insK, newSlots, hc]
    cases insertAfterId (fun (x : Ts × Ts) => x.1) an (cs.map fun c => (c, c)) sl <;> rfl
  | delNone _ => exact hid
  | delLive _ _ => simp only [arrV_mapArr_eq _ hk, szK, slotK]
  | delNewer _ _ _ => exact hid
  | delOlder _ _ _ => exact hid
  | updNone _ _ hs => simp only [slotK, hs]; exact hid
  | updWin _ _ hs hl hlt =>
    simp only [arrV_mapArr_eq _ hk, setK, slotK, hs, hl, hlt, Bool.not_false, beq_self_eq_true, Bool.and_self, if_true]
  | @updLose tg c t' v ns s _ _ hs hw =>
    have : (!d.isTomb s.2 && (d.timeOf s.2).cmp c == .lt) = false := by
      cases hl : d.isTomb s.2
      · simp only [Bool.not_false, Bool.true_and, beq_eq_false_iff_ne]; exact fun e => hw ⟨hl, e⟩
      · rfl
    simp only [slotK, hs, this, Bool.false_eq_true, if_false]; exact hid

theorem slotsOf_applyE {d : Doc} (hwf : d.WF) {a : EOp} (ha : EOK d a) {q : Ts} (hq : (d.find q).isSome) :
    slotsOf (applyE d a) q = if q = a.p then slotK d a (slotsOf d q) else slotsOf d q := by
  obtain ⟨nq, hnq⟩ := Option.isSome_iff_exists.mp hq
  have hqn : q ∉ ids (effE d a).ns := by rw [effE_ns]; exact fresh_not_mem ha.fresh hnq
  obtain ⟨_, _, r⟩ := rstep_applyE hwf a ha
  rw [slotsOf_eq_arrV, slotsOf_eq_arrV, find_applyE hwf a ha, run_arrV _ _ (arrV_g r) r.p_old, if_neg hqn, effE_p]
  by_cases e : q = a.p
  · rw [if_pos e, if_pos e]
    subst e
    obtain ⟨pn, sl, sz, hp⟩ := isArr_iff.mp ha.isArr
    obtain ⟨hp1, hk⟩ := findArr_some_iff.mp hp
    rw [arrV_of_findArr hp, hp1, Option.getD_some]
    rw [slotK_of_case hk (effCase ha hp)]; rfl
  · rw [if_neg e, if_neg e]

theorem slotFind_applyE {d : Doc} (hwf : d.WF) {a : EOp} (ha : EOK d a) {q tg : Ts} (hq : (d.find q).isSome)
    (htg : tg ∈ slotIds d q) (hind : ¬ (a.p = q ∧ a.tgt = some tg)) :
    (slotsOf (applyE d a) q).find? (fun s => s.1 = tg) = (slotsOf d q).find? (fun s => s.1 = tg) := by
  rw [slotsOf_applyE hwf ha hq]
  by_cases e : q = a.p
  · rw [if_pos e]
    subst e
    cases a with
    | ins p an ts vs =>
      simp only [slotK]
      apply find?_insertAfterId
      intro n hn
      obtain ⟨c, hc, rfl⟩ := List.mem_map.mp hn
      simp only [decide_eq_false_iff_not]
      intro e'
      exact ha.newSlots_fresh c hc (e' ▸ htg)
    | del1 p tg' t => rfl
    | upd1 p tg' t v =>
      simp only [slotK]
      have hne : tg ≠ tg' := fun e' => hind ⟨rfl, by simp [EOp.tgt, e']⟩
      split
      · rfl
      · split
        · exact find?_setSlotChild_ne hne _
        · rfl
  · rw [if_neg e]

/-! ### applicability is preserved by other operations -/

/-- the new identifiers of two operations do not clash -/
def Disj (a b : EOp) : Prop := ∀ c, c ∈ ids (nodesE a) → c ∈ ids (nodesE b) → False

theorem Disj.symm {a b : EOp} (h : Disj a b) : Disj b a := fun c hb ha => h c ha hb

theorem nodesE_cases (e : EOp) : (nodesE e = [] ∧ newSlots e = []) ∨
    (∃ p a vs t', e = .ins p a e.ts vs ∧ createMany p e.ts vs = .ok (nodesE e, newSlots e, t')) ∨
    (newSlots e = [] ∧ ∃ p tg v c t', e = .upd1 p tg e.ts v ∧ createNode p e.ts v = .ok (nodesE e, c, t')) := by
  cases e with
  | ins p a ts vs =>
    cases hc : createMany p ts vs with
    | ok y => exact .inr (.inl ⟨p, a, vs, y.2.2, rfl, by simp only [nodesE, newSlots, EOp.ts, hc]⟩)
    | err c => exact .inl (by simp only [nodesE, newSlots, hc, and_self])
    | panic w => exact .inl (by simp only [nodesE, newSlots, hc, and_self])
  | del1 p tg t => exact .inl ⟨rfl, rfl⟩
  | upd1 p tg t v =>
    cases hc : createNode p t v with
    | ok y => exact .inr (.inr ⟨rfl, p, tg, v, y.2.1, y.2.2, rfl, by simp only [nodesE, EOp.ts, hc]⟩)
    | err c => exact .inl (by simp only [nodesE, newSlots, hc, and_self])
    | panic w => exact .inl (by simp only [nodesE, newSlots, hc, and_self])

theorem nodesE_block (e : EOp) : ∃ t', Block e.ts (nodesE e) t' := by
  rcases nodesE_cases e with ⟨h, _⟩ | ⟨p, _, vs, t', _, hc⟩ | ⟨_, p, _, v, c, t', _, hc⟩
  · exact ⟨e.ts, h ▸ block_nil _⟩
  · exact ⟨t', (createMany_block hc).1⟩
  · exact ⟨t', (createNode_spec p e.ts v _ hc).1⟩

theorem nodesE_key {e : EOp} {c : Ts} (h : c ∈ ids (nodesE e)) : c.key = e.ts.key := by
  obtain ⟨t', hb⟩ := nodesE_block e
  rw [hb.ids] at h
  obtain ⟨i, _, rfl⟩ := DC.mem_delimSeq.mp h
  rfl

theorem newSlots_sub {e : EOp} {c : Ts} (h : c ∈ newSlots e) : c ∈ ids (nodesE e) := by
  rcases nodesE_cases e with ⟨_, h0⟩ | ⟨p, _, vs, t', _, hc⟩ | ⟨h0, _⟩
  · rw [h0] at h; cases h
  · obtain ⟨nc, hnc, e1, _⟩ := (createMany_block hc).2.2 c h
    exact e1 ▸ List.mem_map_of_mem hnc
  · rw [h0] at h; cases h

/-- the insert an elementary operation performs on the array `p` -/
def insOnE (p : Ts) (e : EOp) : Option AIns :=
  match e with
  | .ins p' a _ _ => if p' = p then some ⟨a, newSlots e⟩ else none
  | _ => none

theorem insOnE_p {p : Ts} {e : EOp} (h : (insOnE p e).isSome) : e.p = p := by
  cases e with
  | ins p' a ts vs =>
    by_contra hne
    simp [insOnE, show ¬ p' = p from hne] at h
  | del1 p' tg t => simp [insOnE] at h
  | upd1 p' tg t v => simp [insOnE] at h

theorem insOnE_isArr {z : Doc} {p : Ts} {e : EOp} (he : EOK z e) (hi : (insOnE p e).isSome) : IsArr z p :=
  insOnE_p hi ▸ he.isArr

theorem slotIds_applyE {d : Doc} (hwf : d.WF) {a : EOp} (ha : EOK d a) {q : Ts} (hq : (d.find q).isSome) :
    slotIds (applyE d a) q =
      match insOnE q a with
      | some o => stepIds (slotIds d q) o.anchor o.cs
      | none => slotIds d q := by
  unfold slotIds
  rw [slotsOf_applyE hwf ha hq]
  cases a with
  | ins p an ts vs =>
    simp only [insOnE, EOp.p]
    by_cases e : q = p
    · subst e
      simp only [if_true, slotK]
      exact loopSl_ids an _ _
    · have e' : ¬ p = q := fun h => e h.symm
      simp only [e, e', if_false]
  | del1 p tg t =>
    simp only [insOnE, EOp.p, slotK]
    by_cases e : q = p <;> simp [e]
  | upd1 p tg t v =>
    simp only [insOnE, EOp.p, slotK]
    by_cases e : q = p
    · simp only [e, if_true]
      split
      · rfl
      · split
        · rw [setSlotChild_ids]
        · rfl
    · simp only [e, if_false]

theorem slotIds_applyE_sub {d : Doc} (hwf : d.WF) {a : EOp} (ha : EOK d a) {q : Ts} (hq : (d.find q).isSome)
    {x : Ts} (h : x ∈ slotIds (applyE d a) q) : x ∈ slotIds d q ∨ (q = a.p ∧ x ∈ newSlots a) := by
  rw [slotIds_applyE hwf ha hq] at h
  cases ho : insOnE q a with
  | none => rw [ho] at h; exact Or.inl h
  | some o =>
    rw [ho] at h
    have hp := (insOnE_p (by rw [ho]; rfl)).symm
    cases a with
    | ins p an ts vs =>
      have hpq : p = q := hp.symm
      simp only [insOnE, if_pos hpq, Option.some.injEq] at ho
      subst ho
      exact (mem_stepIds h).elim (fun h => Or.inr ⟨hp, h⟩) Or.inl
    | del1 p tg t => cases ho
    | upd1 p tg t v => cases ho

theorem slotIds_applyE_sup {d : Doc} (hwf : d.WF) {a : EOp} (ha : EOK d a) {q : Ts} (hq : (d.find q).isSome)
    {x : Ts} (h : x ∈ slotIds d q) : x ∈ slotIds (applyE d a) q := by
  rw [slotIds_applyE hwf ha hq]
  split
  · exact subset_stepIds _ _ _ h
  · exact h

theorem isArr_find {d : Doc} {p : Ts} (h : IsArr d p) : (d.find p).isSome := by
  obtain ⟨pn, sl, sz, hp⟩ := isArr_iff.mp h
  rw [(findArr_some_iff.mp hp).1]; rfl

theorem isArr_step {d d' : Doc} {e : Eff} {pn : DNode} {K' : DKind} (h : RStep d e pn K')
    (hf : d'.find = e.run d.find) {q : Ts} (hq : IsArr d q) : IsArr d' q := by
  obtain ⟨n, sl, sz, hp⟩ := isArr_iff.mp hq
  obtain ⟨hn, hk⟩ := findArr_some_iff.mp hp
  obtain ⟨n', hn', hs⟩ := h.sort_next hf hn (by rw [hk]; intro v hv; cases hv)
  rw [hk] at hs
  cases hk' : n'.kind <;> rw [hk'] at hs <;>
    first | exact hs.elim | exact isArr_iff.mpr ⟨n', _, _, findArr_some_iff.mpr ⟨hn', hk'⟩⟩

theorem isArr_applyE {d : Doc} (hwf : d.WF) {a : EOp} (ha : EOK d a) {q : Ts} (hq : IsArr d q) :
    IsArr (applyE d a) q :=
  let ⟨_, _, h⟩ := rstep_applyE hwf a ha
  isArr_step h (find_applyE hwf a ha) hq

theorem fresh_applyE {d : Doc} (hwf : d.WF) {a : EOp} (ha : EOK d a) {ns : List DNode} (hf : Fresh d ns)
    (hd : ∀ c, c ∈ ids (nodesE a) → c ∈ ids ns → False) : Fresh (applyE d a) ns :=
  let ⟨_, _, h⟩ := rstep_applyE hwf a ha
  h.fresh_next (find_applyE hwf a ha) hf (effE_ns d a ▸ hd)

theorem eok_after {d : Doc} (hwf : d.WF) {a b : EOp} (ha : EOK d a) (hb : EOK d b) (hd : Disj a b) :
    EOK (applyE d a) b := by
  cases b with
  | ins p an ts vs =>
    obtain ⟨h1, h2, h3, h4, h5⟩ := hb
    have hpf := isArr_find h1
    refine ⟨isArr_applyE hwf ha h1, h2, fresh_applyE hwf ha h3 hd, ?_, ?_⟩
    · intro c hc hm
      rcases slotIds_applyE_sub hwf ha hpf hm with h | ⟨_, h⟩
      · exact h4 c hc h
      · exact hd c (newSlots_sub h) (newSlots_sub hc)
    · rcases h5 with h5 | h5
      · exact Or.inl h5
      · exact Or.inr (slotIds_applyE_sup hwf ha hpf h5)
  | del1 p tg t =>
    obtain ⟨h1, h2⟩ := hb
    exact ⟨isArr_applyE hwf ha h1, slotIds_applyE_sup hwf ha (isArr_find h1) h2⟩
  | upd1 p tg t v =>
    obtain ⟨h1, h2, h3, h4⟩ := hb
    exact ⟨isArr_applyE hwf ha h1, h2, fresh_applyE hwf ha h3 hd, slotIds_applyE_sup hwf ha (isArr_find h1) h4⟩

/-! ### the slot rewrites commute -/

theorem comm_mapArr {k1 k2 : List (Ts × Ts) → Int → List (Ts × Ts) × Int}
    (h : ∀ sl s, k1 (k2 sl s).1 (k2 sl s).2 = k2 (k1 sl s).1 (k1 sl s).2) : Comm (mapArr k1) (mapArr k2) := by
  intro o
  cases o with
  | none => rfl
  | some n =>
    obtain ⟨nc, nd, np, nk⟩ := n
    cases nk with
    | elem v => rfl
    | obj m s => rfl
    | arr sl s =>
      simp only [mapArr, Option.map_some, Option.some.injEq, DNode.mk.injEq, true_and, DKind.arr.injEq]
      have := h sl s
      exact ⟨congrArg Prod.fst this, congrArg Prod.snd this⟩

theorem setSlotChild_comm {o1 o2 c1 c2 : Ts} (h : o1 ≠ o2) : ∀ sl : List (Ts × Ts),
    setSlotChild o1 c1 (setSlotChild o2 c2 sl) = setSlotChild o2 c2 (setSlotChild o1 c1 sl)
  | [] => rfl
  | x :: xs => by
      by_cases e1 : x.1 = o1
      · have e2 : ¬ x.1 = o2 := fun e => h (e1.symm.trans e)
        have e3 : ¬ o1 = o2 := h
        simp [setSlotChild, e1, e3]
      · by_cases e2 : x.1 = o2
        · have e3 : ¬ o2 = o1 := fun e => h e.symm
          simp [setSlotChild, e2, e3]
        · simp [setSlotChild, e1, e2, setSlotChild_comm h xs]

section setloop
variable (o c : Ts)

theorem setSlotChild_skipIns1 (n : Ts × Ts) (hn : n.1 ≠ o) (rest : List (Ts × Ts) → List (Ts × Ts))
    (hrest : ∀ l, setSlotChild o c (rest l) = rest (setSlotChild o c l)) :
    ∀ l, setSlotChild o c (skipIns1 (fun (x : Ts × Ts) => x.1) n rest l) =
      skipIns1 (fun (x : Ts × Ts) => x.1) n rest (setSlotChild o c l)
  | [] => by
      have := hrest []
      simp only [setSlotChild] at this
      simp [skipIns1, setSlotChild, hn, this]
  | x :: xs => by
      have ih := setSlotChild_skipIns1 n hn rest hrest xs
      by_cases e : x.1 = o
      · by_cases hg : (x.1.cmp n.1 == Ordering.gt) = true
        · have hg' : (o.cmp n.1 == Ordering.gt) = true := by rw [← e]; exact hg
          simp [skipIns1, setSlotChild, e, hg']
        · have hg' : ¬ (o.cmp n.1 == Ordering.gt) = true := by rw [← e]; exact hg
          have := hrest (x :: xs)
          simp only [setSlotChild, e, if_true] at this
          simp [skipIns1, setSlotChild, e, hg', hn, this]
      · by_cases hg : (x.1.cmp n.1 == Ordering.gt) = true
        · simp [skipIns1, setSlotChild, e, hg, ih]
        · have := hrest (x :: xs)
          simp only [setSlotChild, e, if_false] at this
          simp [skipIns1, setSlotChild, e, hg, hn, this]

theorem setSlotChild_skipInsMany : ∀ (ns : List (Ts × Ts)), (∀ n ∈ ns, n.1 ≠ o) → ∀ l,
    setSlotChild o c (skipInsMany (fun (x : Ts × Ts) => x.1) ns l) =
      skipInsMany (fun (x : Ts × Ts) => x.1) ns (setSlotChild o c l)
  | [], _, _ => rfl
  | n :: ns, h, l => by
      unfold skipInsMany
      exact setSlotChild_skipIns1 o c n (h n (by simp)) _
        (setSlotChild_skipInsMany ns (fun m hm => h m (by simp [hm]))) l

theorem setSlotChild_go (anchor : Ts) (ns : List (Ts × Ts)) (hns : ∀ n ∈ ns, n.1 ≠ o) :
    ∀ l, (insertAfterId.go (fun (x : Ts × Ts) => x.1) anchor ns l).map (setSlotChild o c) =
      insertAfterId.go (fun (x : Ts × Ts) => x.1) anchor ns (setSlotChild o c l)
  | [] => rfl
  | x :: xs => by
      have ih := setSlotChild_go anchor ns hns xs
      by_cases e : x.1 = o
      · have e1 : setSlotChild o c (x :: xs) = (o, c) :: xs := by simp [setSlotChild, e]
        rw [e1]
        by_cases ea : x.1 = anchor
        · have ea' : o = anchor := e ▸ ea
          subst ea'
          have l1 : insertAfterId.go (fun (x : Ts × Ts) => x.1) o ns (x :: xs) =
              some (x :: skipInsMany (fun (x : Ts × Ts) => x.1) ns xs) := by simp [insertAfterId.go, e]
          have l2 : insertAfterId.go (fun (x : Ts × Ts) => x.1) o ns ((o, c) :: xs) =
              some ((o, c) :: skipInsMany (fun (x : Ts × Ts) => x.1) ns xs) := by simp [insertAfterId.go]
          rw [l1, l2]
          simp [setSlotChild, e]
        · have ea' : ¬ o = anchor := fun h => ea (e.trans h)
          simp only [insertAfterId.go, ea, ea', if_false]
          cases insertAfterId.go (fun (x : Ts × Ts) => x.1) anchor ns xs with
          | none => rfl
          | some l'' => simp [setSlotChild, e]
      · have e1 : setSlotChild o c (x :: xs) = x :: setSlotChild o c xs := by simp [setSlotChild, e]
        rw [e1]
        by_cases ea : x.1 = anchor
        · simp only [insertAfterId.go, ea, if_true, Option.map_some, Option.some.injEq]
          rw [← setSlotChild_skipInsMany o c ns hns]
          simp [setSlotChild, e]
        · simp only [insertAfterId.go, ea, if_false]
          rw [← ih]
          cases insertAfterId.go (fun (x : Ts × Ts) => x.1) anchor ns xs with
          | none => rfl
          | some l'' => simp [setSlotChild, e]

theorem setSlotChild_insertAfterId (anchor : Ts) (ns : List (Ts × Ts)) (hns : ∀ n ∈ ns, n.1 ≠ o) (l : List (Ts × Ts)) :
    (insertAfterId (fun (x : Ts × Ts) => x.1) anchor ns l).map (setSlotChild o c) =
      insertAfterId (fun (x : Ts × Ts) => x.1) anchor ns (setSlotChild o c l) := by
  unfold insertAfterId
  split
  · simp [setSlotChild_skipInsMany o c ns hns]
  · exact setSlotChild_go o c anchor ns hns l

end setloop

theorem comm_setK_insK {tg c an : Ts} {cs : List Ts} (h : tg ∉ cs) :
    Comm (mapArr (setK tg c)) (mapArr (insK an cs)) := by
  apply comm_mapArr
  intro sl s
  have hns : ∀ n ∈ cs.map (fun c => (c, c)), n.1 ≠ tg := by
    intro n hn
    obtain ⟨x, hx, rfl⟩ := List.mem_map.mp hn
    exact fun e => h (e ▸ hx)
  have := setSlotChild_insertAfterId tg c an (cs.map fun c => (c, c)) hns sl
  simp only [setK, insK]
  rw [← this]
  cases insertAfterId (fun (x : Ts × Ts) => x.1) an (cs.map fun c => (c, c)) sl <;> rfl

theorem comm_szK_insK (k : Int) (an : Ts) (cs : List Ts) : Comm (mapArr (szK k)) (mapArr (insK an cs)) := by
  apply comm_mapArr
  intro sl s
  simp only [szK, insK]
  cases insertAfterId (fun (x : Ts × Ts) => x.1) an (cs.map fun c => (c, c)) sl with
  | none => rfl
  | some sl' => simp only [Prod.mk.injEq, true_and]; omega

theorem comm_szK_setK (k : Int) (tg c : Ts) : Comm (mapArr (szK k)) (mapArr (setK tg c)) := by
  apply comm_mapArr; intro sl s; rfl

theorem comm_setK_setK {tg1 tg2 c1 c2 : Ts} (h : tg1 ≠ tg2) : Comm (mapArr (setK tg1 c1)) (mapArr (setK tg2 c2)) := by
  apply comm_mapArr
  intro sl s
  simp only [setK, setSlotChild_comm h]

theorem comm_refl (g : Option DNode → Option DNode) : Comm g g := fun _ => rfl

/-! ## independent operations commute up to `DocEq` -/

/-- two operations are independent unless they address the same array and (the same target slot, or both
    are inserts) -/
def Indep (a b : EOp) : Prop := a.p = b.p → a.tgt ≠ b.tgt

theorem Indep.symm {a b : EOp} (h : Indep a b) : Indep b a := fun e e' => h e.symm e'.symm

theorem slot_child_inj {d : Doc} (hwf : d.WF) {p q tg tg' : Ts} {s s' : Ts × Ts}
    (hs : (slotsOf d p).find? (fun s => s.1 = tg) = some s)
    (hs' : (slotsOf d q).find? (fun s => s.1 = tg') = some s') (he : s.2 = s'.2) : p = q ∧ tg = tg' := by
  have hm := List.mem_of_find?_eq_some hs
  have hm' := List.mem_of_find?_eq_some hs'
  obtain ⟨pn, sz, hp⟩ := slotsOf_mem_findArr hm
  obtain ⟨qn, sz', hq⟩ := slotsOf_mem_findArr hm'
  obtain ⟨hp1, hpk⟩ := findArr_some_iff.mp hp
  obtain ⟨hq1, hqk⟩ := findArr_some_iff.mp hq
  have h1 : s.2 ∈ kids pn.kind := by rw [hpk]; exact List.mem_map.mpr ⟨s, hm, rfl⟩
  have h2 : s.2 ∈ kids qn.kind := by rw [hqk, he]; exact List.mem_map.mpr ⟨s', hm', rfl⟩
  have hpq := wf_unique_parent hwf hp1 hq1 h1 h2
  subst hpq
  refine ⟨rfl, ?_⟩
  have hnd : ((slotsOf d p).map (·.2)).Nodup := by
    have := hwf.inj p pn hp1; rw [hpk] at this; exact this
  have : s = s' := List.inj_on_of_nodup_map hnd hm hm' he
  have e1 : s.1 = tg := by simpa using List.find?_some hs
  have e2 : s'.1 = tg' := by simpa using List.find?_some hs'
  rw [← e1, ← e2, this]

theorem x_ne_child {d : Doc} (hwf : d.WF) {a : EOp} (ha : EOK d a) {q tg : Ts} {s : Ts × Ts}
    (hs : (slotsOf d q).find? (fun s => s.1 = tg) = some s) (hind : a.p = q → a.tgt ≠ some tg) :
    s.2 ≠ (effE d a).x ∨ (effE d a).g = id := by
  rcases (eshape a ha).x with ⟨_, h1⟩ | ⟨tg', s', h0, hs', h1⟩ | h1
  · exact Or.inr h1
  · left
    intro e
    rw [h1] at e
    obtain ⟨e1, e2⟩ := slot_child_inj hwf hs hs' e
    exact hind e1.symm (by rw [h0, e2])
  · left
    intro e
    obtain ⟨nc, hnc, _⟩ := slotsOf_child hwf (List.mem_of_find?_eq_some hs)
    exact fresh_not_mem ha.fresh hnc (e ▸ h1)

/-- An elementary operation decides by what it reads: the target slot of its array and the state of that slot's child. -/
theorem effE_congr {d d' : Doc} (b : EOp)
    (hs : ∀ tg, b.tgt = some tg →
      (slotsOf d' b.p).find? (fun s => s.1 = tg) = (slotsOf d b.p).find? (fun s => s.1 = tg))
    (hr : ∀ tg s, b.tgt = some tg → (slotsOf d b.p).find? (fun s => s.1 = tg) = some s → refSt d' s.2 = refSt d s.2) :
    effE d' b = effE d b := by
  have read : ∀ tg, b.tgt = some tg → ∀ s, (slotsOf d b.p).find? (fun s => s.1 = tg) = some s →
      d'.isTomb s.2 = d.isTomb s.2 ∧ d'.timeOf s.2 = d.timeOf s.2 := fun tg ht s h =>
    ⟨congrArg KeySt.tomb (hr tg s ht h), congrArg KeySt.time (hr tg s ht h)⟩
  cases b with
  | ins p an ts vs => rfl
  | del1 p tg t =>
    have e : (slotsOf d' p).find? (fun s => s.1 = tg) = (slotsOf d p).find? (fun s => s.1 = tg) := hs tg rfl
    simp only [effE, e]
    cases h : (slotsOf d p).find? (fun s => s.1 = tg) with
    | none => rfl
    | some s => obtain ⟨e1, e2⟩ := read tg rfl s h; simp only [e1, e2]
  | upd1 p tg t v =>
    have e : (slotsOf d' p).find? (fun s => s.1 = tg) = (slotsOf d p).find? (fun s => s.1 = tg) := hs tg rfl
    simp only [effE, e]
    cases h : (slotsOf d p).find? (fun s => s.1 = tg) with
    | none => rfl
    | some s => obtain ⟨e1, e2⟩ := read tg rfl s h; simp only [e1, e2]

theorem effE_stable {d : Doc} (hwf : d.WF) {a b : EOp} (ha : EOK d a) (hb : EOK d b) (hind : Indep a b) :
    effE (applyE d a) b = effE d b := by
  refine effE_congr b (fun tg ht => ?_) (fun tg s ht hs => ?_)
  · exact slotFind_applyE hwf ha (isArr_find hb.isArr) (hb.tgt_mem ht) fun ⟨e1, e2⟩ => hind e1 (e2.trans ht.symm)
  · obtain ⟨nc, hnc, _⟩ := slotsOf_child hwf (List.mem_of_find?_eq_some hs)
    obtain ⟨_, _, r⟩ := rstep_applyE hwf a ha
    exact r.refSt_next (find_applyE hwf a ha) hnc (x_ne_child hwf ha hs fun e => ht ▸ hind e)

/-- two rewrites of one entry commute when the operations have different targets and the target of each is not among
    the new slots of the other -/
theorem SlotRw.comm {a b : EOp} {sa sb : Option DNode → Option DNode} (ha : SlotRw a sa) (hb : SlotRw b sb)
    (ht : a.tgt ≠ b.tgt) (hab : ∀ tg, a.tgt = some tg → tg ∉ newSlots b) (hba : ∀ tg, b.tgt = some tg → tg ∉ newSlots a) :
    Comm sb sa := by
  cases ha with
  | keep => exact comm_id_right _
  | oneLess =>
    cases hb with
    | keep => exact comm_id_left _
    | oneLess => exact comm_refl _
    | setChild _ => exact comm_symm (comm_szK_setK _ _ _)
    | insert _ => exact comm_symm (comm_szK_insK _ _ _)
  | setChild ta =>
    cases hb with
    | keep => exact comm_id_left _
    | oneLess => exact comm_szK_setK _ _ _
    | setChild tb => exact comm_setK_setK fun e => ht (by rw [ta, tb, e])
    | insert _ => exact comm_symm (comm_setK_insK (hab _ ta))
  | insert ta =>
    cases hb with
    | keep => exact comm_id_left _
    | oneLess => exact comm_szK_insK _ _ _
    | setChild tb => exact comm_setK_insK (hba _ tb)
    | insert tb => exact absurd (by rw [ta, tb]) ht

theorem effE_s_comm {d : Doc} {a b : EOp} (ha : EOK d a) (hb : EOK d b) (hp : a.p = b.p) (ht : a.tgt ≠ b.tgt) :
    Comm (effE d b).s (effE d a).s :=
  (eshape a ha).sk.comm (eshape b hb).sk ht (fun _ ta hm => hb.newSlots_fresh _ hm (hp ▸ ha.tgt_mem ta))
    fun _ tb hm => ha.newSlots_fresh _ hm (hp ▸ hb.tgt_mem tb)

/-- Two applicable remote array operations whose new identifiers do not clash and that are
    independent (different arrays, or different target slots, or an insert and an update/delete) commute
    EXACTLY: the same node under every identifier. -/
theorem comm_docEq {d : Doc} (hwf : d.WF) {a b : EOp} (ha : EOK d a) (hb : EOK d b) (hd : Disj a b)
    (hind : Indep a b) : DocEq (applyE (applyE d a) b) (applyE (applyE d b) a) := by
  obtain ⟨_, _, ra⟩ := rstep_applyE hwf a ha
  obtain ⟨_, _, rb⟩ := rstep_applyE hwf b hb
  intro c
  rw [find_applyE (wf_applyE hwf a ha) b (eok_after hwf ha hb hd), find_applyE hwf a ha, effE_stable hwf ha hb hind,
    find_applyE (wf_applyE hwf b hb) a (eok_after hwf hb ha hd.symm), find_applyE hwf b hb,
    effE_stable hwf hb ha hind.symm]
  refine congrFun (rstep_comm ra rb (fun c h1 h2 => hd c (effE_ns d a ▸ h1) (effE_ns d b ▸ h2)) ?_ ?_) c
  · by_cases e : (effE d a).p = (effE d b).p
    · right
      rw [effE_p, effE_p] at e
      exact effE_s_comm ha hb e (hind e)
    · exact Or.inl e
  · -- the touched entries: children of different slots, or an old entry and a new one
    rcases (eshape b hb).x with ⟨_, h1⟩ | ⟨tg, s, h0, hs, h1⟩ | h1
    · exact Or.inr (Or.inr h1)
    · rcases x_ne_child hwf ha hs (fun e e' => hind e (by rw [e', h0])) with h | h
      · exact Or.inl (h1 ▸ h)
      · exact Or.inr (Or.inl h)
    · left
      intro e
      rcases ra.x_cases with h | h
      · obtain ⟨n, hn⟩ := Option.isSome_iff_exists.mp h
        exact fresh_not_mem hb.fresh hn (e ▸ h1)
      · exact hd _ (effE_ns d a ▸ h) (e ▸ h1)

/-! ## two inserts into the same array commute up to `DocEq` when both arrival orders are causal -/

theorem perm_eq_of_map_eq {α β : Type} (f : α → β) {l l' : List α} (hp : l.Perm l') (hm : l.map f = l'.map f)
    (hnd : (l.map f).Nodup) : l = l' :=
  RF.eq_of_map_eq hm fun _ ha _ hb => List.inj_on_of_nodup_map hnd ha (hp.mem_iff.mpr hb)

theorem insK_of_anchor {an : Ts} {cs : List Ts} {sl : List (Ts × Ts)} (s : Int)
    (h : an = Ts.oldest ∨ an ∈ sl.map (·.1)) : insK an cs sl s = (loopSl an cs sl, s + cs.length) := by
  have := insertAfterId_isSome (fun (x : Ts × Ts) => x.1) an (cs.map fun c => (c, c)) sl h
  unfold insK loopSl
  cases hi : insertAfterId (fun (x : Ts × Ts) => x.1) an (cs.map fun c => (c, c)) sl with
  | none => rw [hi] at this; cases this
  | some sl' => rfl

theorem loopSl_perm {an : Ts} {cs : List Ts} {sl : List (Ts × Ts)}
    (h : an = Ts.oldest ∨ an ∈ sl.map (·.1)) : (loopSl an cs sl).Perm ((cs.map fun c => (c, c)) ++ sl) := by
  have := insertAfterId_isSome (fun (x : Ts × Ts) => x.1) an (cs.map fun c => (c, c)) sl h
  unfold loopSl
  cases hi : insertAfterId (fun (x : Ts × Ts) => x.1) an (cs.map fun c => (c, c)) sl with
  | none => rw [hi] at this; cases this
  | some sl' => exact insertAfterId_perm _ an _ sl sl' hi

theorem loopSl_anchor {an an' : Ts} {cs : List Ts} {sl : List (Ts × Ts)}
    (h : an' = Ts.oldest ∨ an' ∈ sl.map (·.1)) : an' = Ts.oldest ∨ an' ∈ (loopSl an cs sl).map (·.1) :=
  h.imp id fun h => loopSl_ids an cs sl ▸ subset_stepIds _ _ _ h

/-- insert / insert, same array.  `M0`: the inserts that produced the present order of the array.
    When both arrival orders are causal after `M0`, the two results are the same table (`DocEq`). -/
theorem comm_docEq_ins_ins {d : Doc} (hwf : d.WF) {p a1 t1 a2 t2 : Ts} {vs1 vs2 : List JVal}
    (ha : EOK d (.ins p a1 t1 vs1)) (hb : EOK d (.ins p a2 t2 vs2))
    (hd : Disj (.ins p a1 t1 vs1) (.ins p a2 t2 vs2)) (M0 : List AIns)
    (hbase : slotIds d p = foldIds [] M0)
    (hc : ACausal (M0 ++ [⟨a1, newSlots (.ins p a1 t1 vs1)⟩, ⟨a2, newSlots (.ins p a2 t2 vs2)⟩]))
    (hc' : ACausal (M0 ++ [⟨a2, newSlots (.ins p a2 t2 vs2)⟩, ⟨a1, newSlots (.ins p a1 t1 vs1)⟩])) :
    DocEq (applyE (applyE d (.ins p a1 t1 vs1)) (.ins p a2 t2 vs2))
      (applyE (applyE d (.ins p a2 t2 vs2)) (.ins p a1 t1 vs1)) := by
  obtain ⟨pn, sl, sz, hp⟩ := (isArr_iff (p := p)).mp ha.isArr
  obtain ⟨hp1, hk⟩ := findArr_some_iff.mp hp
  have hids : sl.map (·.1) = foldIds [] M0 := by rw [← hbase]; unfold slotIds; rw [slotsOf_of_findArr hp]
  have hanA : a1 = Ts.oldest ∨ a1 ∈ sl.map (·.1) := by
    have := ha.anchor; unfold slotIds at this; rwa [slotsOf_of_findArr hp] at this
  have hanB : a2 = Ts.oldest ∨ a2 ∈ sl.map (·.1) := by
    have := hb.anchor; unfold slotIds at this; rwa [slotsOf_of_findArr hp] at this
  have effA : ∀ d', effE d' (.ins p a1 t1 vs1) =
      ⟨nodesE (.ins p a1 t1 vs1), p, mapArr (insK a1 (newSlots (.ins p a1 t1 vs1))), p, id⟩ := fun _ => rfl
  have effB : ∀ d', effE d' (.ins p a2 t2 vs2) =
      ⟨nodesE (.ins p a2 t2 vs2), p, mapArr (insK a2 (newSlots (.ins p a2 t2 vs2))), p, id⟩ := fun _ => rfl
  -- from here on the two operations are opaque
  generalize EOp.ins p a1 t1 vs1 = A at *
  generalize EOp.ins p a2 t2 vs2 = B at *
  have fold2 : ∀ x y : AIns, stepIds (stepIds (foldIds [] M0) x.anchor x.cs) y.anchor y.cs =
      foldIds [] (M0 ++ [x, y]) := fun x y => by rw [foldIds_append]; rfl
  -- the two slot lists coincide: same elements, same order identifiers, and these are distinct
  have hslots : loopSl a2 (newSlots B) (loopSl a1 (newSlots A) sl) =
      loopSl a1 (newSlots A) (loopSl a2 (newSlots B) sl) := by
    apply perm_eq_of_map_eq (·.1)
    · have h1 := (loopSl_perm (cs := newSlots B) (loopSl_anchor (an := a1) (cs := newSlots A) hanB)).trans
        ((loopSl_perm (cs := newSlots A) hanA).append_left _)
      have h2 := (loopSl_perm (cs := newSlots A) (loopSl_anchor (an := a2) (cs := newSlots B) hanA)).trans
        ((loopSl_perm (cs := newSlots B) hanB).append_left _)
      refine h1.trans (List.Perm.trans ?_ h2.symm)
      rw [← List.append_assoc, ← List.append_assoc]
      exact List.Perm.append_right _ List.perm_append_comm
    · rw [loopSl_ids, loopSl_ids, loopSl_ids, loopSl_ids, hids, fold2 ⟨a1, _⟩ ⟨a2, _⟩, fold2 ⟨a2, _⟩ ⟨a1, _⟩]
      exact foldIds_converge _ _ (List.Perm.append_left M0 (List.Perm.swap _ _ _)) hc hc'
    · rw [loopSl_ids, loopSl_ids, hids, fold2 ⟨a1, _⟩ ⟨a2, _⟩]
      exact hc.ids_nodup
  have key : (applyE (applyE d A) B).find = (applyE (applyE d B) A).find := by
    rw [find_applyE (wf_applyE hwf A ha) B (eok_after hwf ha hb hd), find_applyE hwf A ha,
      find_applyE (wf_applyE hwf B hb) A (eok_after hwf hb ha hd.symm), find_applyE hwf B hb]
    simp only [effA, effB]
    simp only [Eff.run, upd_id]
    have hpA : p ∉ ids (nodesE A) := fresh_not_mem ha.fresh hp1
    have hpB : p ∉ ids (nodesE B) := fresh_not_mem hb.fresh hp1
    rw [upd_U hpB, upd_U hpA, U_comm (fun c h1 h2 => hd c h1 h2)]
    funext c
    by_cases e : c = p
    · subst e
      rw [upd_same, upd_same, upd_same, upd_same, U_old hpA, U_old hpB, hp1]
      simp only [mapArr, Option.map_some, hk, Option.some.injEq, DNode.mk.injEq, true_and, DKind.arr.injEq]
      rw [insK_of_anchor sz hanA, insK_of_anchor sz hanB]
      simp only
      rw [insK_of_anchor _ (loopSl_anchor hanB), insK_of_anchor _ (loopSl_anchor hanA)]
      simp only [hslots, true_and]
      omega
    · rw [upd_other _ _ e, upd_other _ _ e, upd_other _ _ e, upd_other _ _ e]
  intro c
  rw [key]

/-! ## the observable abstraction (`DC.abs`) under array operations

`absE` is written with four rewrites of an `Abs`: `setArr`, `setEntry` (here), `kill`, `union` (DocConv).  `abs_setArr` and
`abs_makeTombArr` say which operations on the table they are; `abs_funeral`, `abs_addAll` are DocConv's. -/

/-- rewrite the entries and the size of the array `p` -/
def setArr (A : Abs) (p : Ts) (par : Option Ts) (E : List Ent) (s : Int) : Abs :=
  { A with
    shape := fun c => if c = p then some (par, .arr E) else A.shape c
    size := fun c => if c = p then s else A.size c }

theorem shapeOf_arr {d : Doc} {p : Ts} {pn : DNode} {sl : List (Ts × Ts)} {s : Int}
    (hp : d.find p = some pn) (hk : pn.kind = .arr sl s) :
    shapeOf d p = some (pn.parent, .arr (sl.map (entOf d))) := by
  unfold shapeOf
  rw [hp]
  simp only [hk]
  rfl

theorem sizeOf_arr {d : Doc} {p : Ts} {pn : DNode} {sl : List (Ts × Ts)} {s : Int}
    (hp : d.find p = some pn) (hk : pn.kind = .arr sl s) : sizeOf' d p = s := by
  unfold sizeOf'
  rw [hp]
  simp only [hk]

theorem abs_setArr {d : Doc} {p : Ts} {pn : DNode} {sl sl' : List (Ts × Ts)} {s s' : Int}
    (hp : d.find p = some pn) (hk : pn.kind = .arr sl s) :
    abs (d.set { pn with kind := .arr sl' s' }) = setArr (abs d) p pn.parent (sl'.map (entOf d)) s' := by
  have hr : ∀ ch, refSt (d.set { pn with kind := .arr sl' s' }) ch = refSt d ch :=
    refSt_set_hdr hp rfl rfl
  have hfp : (d.set { pn with kind := .arr sl' s' }).find p = some { pn with kind := .arr sl' s' } := by
    rw [find_set, if_pos (find_some_c hp)]
  -- away from `p` nothing changes
  have off : ∀ c, c ≠ p → _ := fun c hc =>
    abs_local (a := d.set { pn with kind := .arr sl' s' }) (b := d) (c := c)
      (by rw [find_set, if_neg fun e : pn.c = c => hc (e.symm.trans (find_some_c hp))]) fun _ _ ch _ => hr ch
  refine Abs.ext' (fun c => ?_) (fun c => ?_) (fun c k => ?_) (fun c => ?_) <;> by_cases hc : c = p
  · subst hc; simp only [abs, setArr, if_true, shapeOf, hfp, hr]; rfl
  · simp only [setArr, if_neg hc]; exact (off c hc).1
  · subst hc; simp only [abs, setArr, deadOf, hfp, hp, hk]
  · exact (off c hc).2.1
  · subst hc; simp only [abs, setArr, keyOf', hfp, hp, hk]
  · exact (off c hc).2.2.1 k
  · subst hc; simp only [abs, setArr, if_true, sizeOf', hfp]
  · simp only [setArr, if_neg hc]; exact (off c hc).2.2.2

/-- replace child and state of the first entry `tg` -/
def setEntry (tg c : Ts) (st : KeySt) : List Ent → List Ent
  | [] => []
  | e :: es => if e.1 = tg then (tg, c, st) :: es else e :: setEntry tg c st es

theorem map_entOf_setEntry {d d' : Doc} {tg x : Ts} {st : KeySt} : ∀ {sl : List (Ts × Ts)} {sx : Ts × Ts},
    sl.find? (fun s => s.1 = tg) = some sx → sx.2 = x → (sl.map (·.2)).Nodup →
    refSt d' x = st → (∀ y, y ≠ x → refSt d' y = refSt d y) →
    sl.map (entOf d') = setEntry tg x st (sl.map (entOf d))
  | [], _, h, _, _, _, _ => by simp at h
  | y :: ys, sx, h, hx, hnd, h1, h2 => by
      simp only [List.map_cons, List.nodup_cons] at hnd
      by_cases e : y.1 = tg
      · simp only [List.find?_cons, e, decide_true, Option.some.injEq] at h
        subst h
        have : setEntry tg x st (List.map (entOf d) (y :: ys)) = (tg, x, st) :: ys.map (entOf d) := by
          simp [setEntry, entOf, e]
        rw [this]
        simp only [List.map_cons, List.cons.injEq]
        constructor
        · simp only [entOf, e, hx, h1]
        · apply List.map_congr_left
          intro z hz
          have : z.2 ≠ x := by
            intro e'
            exact hnd.1 (List.mem_map.mpr ⟨z, hz, by rw [e', hx]⟩)
          simp only [entOf, h2 _ this]
      · simp only [List.find?_cons, e, decide_false] at h
        have hyx : y.2 ≠ x := by
          intro e'
          have : sx ∈ ys := List.mem_of_find?_eq_some h
          exact hnd.1 (List.mem_map.mpr ⟨sx, this, by rw [hx, e']⟩)
        have : setEntry tg x st (List.map (entOf d) (y :: ys)) =
            entOf d y :: setEntry tg x st (ys.map (entOf d)) := by
          simp [setEntry, entOf, e]
        rw [this, ← map_entOf_setEntry h hx hnd.2 h1 h2]
        simp only [List.map_cons, List.cons.injEq, and_true]
        simp only [entOf, h2 _ hyx]

theorem abs_makeTombArr {d : Doc} {p x tg : Ts} {pn : DNode} {sl : List (Ts × Ts)} {s : Int} {sx : Ts × Ts} (t : Ts)
    (hp : d.find p = some pn) (hk : pn.kind = .arr sl s)
    (hs : sl.find? (fun s => s.1 = tg) = some sx) (hx : sx.2 = x)
    (hex : ∃ nx, d.find x = some nx)
    (huniq : ∀ q n, d.find q = some n → x ∈ kids n.kind → q = p)
    (hnd : (sl.map (·.2)).Nodup) :
    abs (d.makeTomb x t) =
      kill (setArr (abs d) p pn.parent (setEntry tg x ⟨true, t, none⟩ (sl.map (entOf d))) s) (some x) := by
  obtain ⟨nx, hnx⟩ := hex
  have hfo : ∀ c, c ≠ x → (d.makeTomb x t).find c = d.find c := fun c hc => by rw [find_makeTomb, if_neg hc]
  have hr : ∀ ch, ch ≠ x → refSt (d.makeTomb x t) ch = refSt d ch := fun ch hch => refSt_of_find (hfo ch hch)
  have hrx : refSt (d.makeTomb x t) x = ⟨true, t, none⟩ := by
    simp [refSt, Doc.isTomb, Doc.timeOf, find_makeTomb, hnx]
  -- nobody but `p` references `x`
  have hkids : ∀ q n, d.find q = some n → q ≠ p → ∀ y ∈ kids n.kind, y ≠ x :=
    fun q n hq hqp y hy e => hqp (huniq q n hq (e ▸ hy))
  have hshp : shapeOf d p = some (pn.parent, .arr (sl.map (entOf d))) := shapeOf_arr hp hk
  rw [abs_bury_gen (d := d) (t := t) hfo (Or.inl (by rw [find_makeTomb, if_pos rfl]))]
  refine Abs.ext' (fun c => ?_) (fun c => ?_) (fun q k => ?_) (fun c => ?_)
  · show reSt _ (if c = x ∧ Shape.isElem (shapeOf d x) = true then none else shapeOf d c) =
      if c = x ∧ Shape.isElem ((setArr (abs d) p pn.parent _ s).shape x) = true then none
      else (setArr (abs d) p pn.parent _ s).shape c
    by_cases hcp : c = p
    · subst hcp
      have h1 : ¬ (c = x ∧ Shape.isElem (shapeOf d x) = true) := fun ⟨e, h⟩ => by rw [← e, hshp] at h; cases h
      have h2 : ¬ (c = x ∧ Shape.isElem ((setArr (abs d) c pn.parent
          (setEntry tg x ⟨true, t, none⟩ (sl.map (entOf d))) s).shape x) = true) := fun ⟨e, h⟩ => by
        rw [← e] at h; simp [setArr, Shape.isElem] at h
      rw [if_neg h1, if_neg h2, hshp]
      simp only [setArr, if_true, reSt, List.map_map, Function.comp_def]
      rw [← map_entOf_setEntry hs hx hnd hrx hr]; rfl
    · have he : Shape.isElem ((setArr (abs d) p pn.parent
          (setEntry tg x ⟨true, t, none⟩ (sl.map (entOf d))) s).shape x) = Shape.isElem (shapeOf d x) := by
        simp only [setArr]
        split
        · next e => rw [e, hshp]; rfl
        · rfl
      rw [he]
      simp only [setArr, if_neg hcp]
      show reSt _ (if c = x ∧ Shape.isElem (shapeOf d x) = true then none else shapeOf d c) =
        if c = x ∧ Shape.isElem (shapeOf d x) = true then none else shapeOf d c
      split
      · rfl
      · exact reSt_shapeOf fun n sl' s' hn hk' y hy =>
          hr _ (hkids c n hn hcp y.2 (hk' ▸ List.mem_map.mpr ⟨y, hy, rfl⟩))
  · show (kill (abs d) (some x)).dead c = _
    simp only [kill, setArr, abs]
    by_cases e : x = p
    · simp [e, hshp, Shape.isCont]
    · simp [e]
  · show (occupant d q k).map (refSt (d.makeTomb x t)) = keyOf' d q k
    rw [keyOf'_eq_occupant]
    cases ho : occupant d q k with
    | none => rfl
    | some ch =>
      obtain ⟨n, m, s', hn, hk', hal⟩ := occupant_some ho
      have : ch ≠ x := fun e => by
        have := huniq q n hn (e ▸ hk' ▸ alFind_mem_vals hal)
        subst this; rw [hp] at hn; cases hn; rw [hk] at hk'; cases hk'
      exact congrArg some (hr ch this)
  · show sizeOf' d c = _
    simp only [kill, setArr]
    split
    · next e => rw [e, sizeOf_arr hp hk]
    · rfl

/-! ### the abstract operations -/

/-- what one delete / update does to ONE slot: new child, new state, change of the size, node to bury -/
structure SStep where
  c : Ts
  st : KeySt
  dsize : Int
  bury : Option Ts
deriving DecidableEq

/-- delete dominates: a live slot is always tombstoned; a tombstone keeps the newest delete stamp -/
def aDelStep (t : Ts) (c : Ts) (st : KeySt) : SStep :=
  if !st.tomb then ⟨c, ⟨true, t, none⟩, -1, st.occ⟩
  else if st.time.cmp t == .lt then ⟨c, ⟨true, t, none⟩, 0, none⟩
  else ⟨c, st, 0, none⟩

/-- a tombstone is not revived; on a live slot the newer value wins, the loser is buried -/
def aUpdStep (newC : Ts) (c : Ts) (st : KeySt) : SStep :=
  if !st.tomb && st.time.cmp newC == .lt then ⟨newC, ⟨false, newC, some newC⟩, 0, st.occ⟩
  else ⟨c, st, 0, some newC⟩

def applySlot (A : Abs) (p tg : Ts) (f : Ts → KeySt → SStep) : Abs :=
  match A.shape p with
  | some (par, .arr E) =>
    match E.find? (fun e => e.1 = tg) with
    | some e =>
      kill (setArr A p par (setEntry tg (f e.2.1 e.2.2).c (f e.2.1 e.2.2).st E) (A.size p + (f e.2.1 e.2.2).dsize))
        (f e.2.1 e.2.2).bury
    | none => A
  | _ => A

def newEnt (c : Ts) : Ent := (c, c, ⟨false, c, some c⟩)

theorem erase_newEnt (c : Ts) : (erase (newEnt c)).1 = c := rfl

def insSlots (A : Abs) (p an : Ts) (cs : List Ts) : Abs :=
  match A.shape p with
  | some (par, .arr E) =>
    match insertAfterId (fun (e : Ent) => e.1) an (cs.map newEnt) E with
    | some E' => setArr A p par E' (A.size p + cs.length)
    | none => A
  | _ => A

/-- the abstract operation: a function of the abstraction only -/
def absE (e : EOp) (A : Abs) : Abs :=
  match e with
  | .ins p an _ _ => insSlots (union A (abs ⟨nodesE e⟩)) p an (newSlots e)
  | .del1 p tg t => applySlot A p tg (aDelStep t)
  | .upd1 p tg t _ => applySlot (union A (abs ⟨nodesE e⟩)) p tg (aUpdStep t)

theorem applySlot_eq {A : Abs} {p tg : Ts} (f : Ts → KeySt → SStep) {par : Option Ts} {E : List Ent} {e : Ent}
    (hA : A.shape p = some (par, .arr E)) (he : E.find? (fun e => e.1 = tg) = some e) :
    applySlot A p tg f =
      kill (setArr A p par (setEntry tg (f e.2.1 e.2.2).c (f e.2.1 e.2.2).st E) (A.size p + (f e.2.1 e.2.2).dsize))
        (f e.2.1 e.2.2).bury := by
  simp only [applySlot, hA, he]

theorem setArr_same {A : Abs} {p : Ts} {par : Option Ts} {E : List Ent}
    (h : A.shape p = some (par, .arr E)) : setArr A p par E (A.size p) = A := by
  apply Abs.ext'
  · intro c
    simp only [setArr]
    by_cases e : c = p
    · subst e; rw [if_pos rfl, h]
    · rw [if_neg e]
  · intro c; rfl
  · intro c k; rfl
  · intro c
    simp only [setArr]
    by_cases e : c = p
    · subst e; rw [if_pos rfl]
    · rw [if_neg e]

theorem setArr_setArr (A : Abs) (p : Ts) (par par' : Option Ts) (E E' : List Ent) (s s' : Int) :
    setArr (setArr A p par E s) p par' E' s' = setArr A p par' E' s' := by
  apply Abs.ext'
  · intro c
    simp only [setArr]
    by_cases e : c = p <;> simp [e]
  · intro c; rfl
  · intro c k; rfl
  · intro c
    simp only [setArr]
    by_cases e : c = p <;> simp [e]

theorem setArr_kill {B : Abs} {p : Ts} {par0 : Option Ts} {E0 : List Ent} (hB : B.shape p = some (par0, .arr E0))
    (x : Option Ts) (par : Option Ts) (E : List Ent) (s : Int) :
    setArr (kill B x) p par E s = kill (setArr B p par E s) x := by
  cases x with
  | none => rfl
  | some x =>
    apply Abs.ext'
    · intro c
      simp only [setArr, kill]
      by_cases e : c = p
      · subst e
        by_cases ex : c = x
        · subst ex; simp [Shape.isElem]
        · simp [ex]
      · simp only [e, if_false]
        by_cases ex : x = p
        · subst ex
          simp [e]
        · simp [ex]
    · intro c
      simp only [setArr, kill]
      by_cases ec : c = x
      · subst ec
        by_cases ex : c = p
        · subst ex
          simp [hB, Shape.isCont]
        · simp [ex]
      · simp [ec]
    · intro c k; rfl
    · intro c; rfl

theorem setEntry_same {tg : Ts} : ∀ {E : List Ent} {e : Ent}, E.find? (fun e => e.1 = tg) = some e →
    setEntry tg e.2.1 e.2.2 E = E
  | [], _, h => by simp at h
  | y :: ys, e, h => by
      unfold setEntry
      by_cases hy : y.1 = tg
      · simp only [List.find?_cons, hy, decide_true, Option.some.injEq] at h
        subst h
        simp only [hy, if_true, List.cons.injEq, and_true]
        rw [← hy]
      · simp only [List.find?_cons, hy, decide_false] at h
        simp only [hy, if_false, setEntry_same h]

theorem find?_map_entOf (d : Doc) (tg : Ts) : ∀ sl : List (Ts × Ts),
    (sl.map (entOf d)).find? (fun e => e.1 = tg) = (sl.find? (fun s => s.1 = tg)).map (entOf d)
  | [] => rfl
  | y :: ys => by
      simp only [List.map_cons, List.find?_cons]
      by_cases e : y.1 = tg
      · have : (entOf d y).1 = tg := e
        simp [e, this]
      · have : ¬ (entOf d y).1 = tg := e
        simp only [e, this, decide_false]
        exact find?_map_entOf d tg ys

theorem map_entOf_setSlotChild (d : Doc) (tg c : Ts) : ∀ sl : List (Ts × Ts),
    (setSlotChild tg c sl).map (entOf d) = setEntry tg c (refSt d c) (sl.map (entOf d))
  | [] => rfl
  | y :: ys => by
      unfold setSlotChild
      by_cases e : y.1 = tg
      · simp [e, setEntry, entOf]
      · simp [e, setEntry, entOf, map_entOf_setSlotChild d tg c ys]

theorem refSt_new {d : Doc} {ns : List DNode} (hnd : (ids ns).Nodup) {n : DNode} (hn : n ∈ ns) (hl : n.d = none) :
    refSt (d.addAll ns) n.c = ⟨false, n.c, some n.c⟩ := by
  have := find_addAll_new (d := d) hnd hn
  unfold refSt Doc.isTomb Doc.timeOf
  simp [this, hl]

/-- The second alternative of `hs` is the slot whose child is the array itself: `Doc.WF` does not exclude it (acyclicity is
    `Ranked`), so `abs_del1`, `comm_docEq_del_del` and `del_batch` carry the case `s.2 = p`. -/
theorem kill_of_tomb {d : Doc} {x : Ts} (h : d.isTomb x = true) (B : Abs)
    (hs : B.shape x = shapeOf d x ∨ ∃ par E, B.shape x = some (par, .arr E) ∧ Shape.isCont (shapeOf d x) = true)
    (hd : B.dead x = deadOf d x) : kill B (some x) = B := by
  obtain ⟨h1, h2⟩ := tomb_shape h
  apply kill_noop
  · rcases hs with hs | ⟨par, E, hs, _⟩
    · rw [hs]; exact h1
    · rw [hs]; rfl
  · rw [hd]
    rcases h2 with h2 | h2
    · exact Or.inl h2
    · rcases hs with hs | ⟨par, E, hs, hc⟩
      · right; rw [hs]; exact h2
      · rw [hc] at h2; cases h2

/-! ### the concrete operation is the abstract one -/

theorem refSt_makeTomb {d : Doc} {x : Ts} (t : Ts) (hex : ∃ nx, d.find x = some nx) :
    refSt (d.makeTomb x t) x = ⟨true, t, none⟩ ∧ ∀ y, y ≠ x → refSt (d.makeTomb x t) y = refSt d y := by
  obtain ⟨nx, hnx⟩ := hex
  constructor
  · have hfx : (d.makeTomb x t).find x = some { nx with d := some t } := by
      rw [find_makeTomb]; simp [hnx]
    unfold refSt Doc.isTomb Doc.timeOf
    simp [hfx]
  · intro y hy
    apply refSt_of_find
    rw [find_makeTomb]; simp [hy]

theorem refSt_occ_live {d : Doc} {c : Ts} (h : d.isTomb c = false) : (refSt d c).occ = some c := by
  simp [refSt, h]

theorem refSt_occ_some {d : Doc} {c y : Ts} (h : (refSt d c).occ = some y) : y = c := by
  simp only [refSt] at h
  split at h
  · cases h
  · simp only [Option.some.injEq] at h; exact h.symm

theorem refSt_inv (d : Doc) (c : Ts) : (refSt d c).occ = if (refSt d c).tomb then none else some c := rfl

theorem abs_del1 {d : Doc} (hwf : d.WF) {p tg t : Ts} (h : EOK d (.del1 p tg t)) :
    abs (applyE d (.del1 p tg t)) = absE (.del1 p tg t) (abs d) := by
  obtain ⟨pn, sl, sz, hp⟩ := (isArr_iff (p := p)).mp h.isArr
  obtain ⟨hp1, hk⟩ := findArr_some_iff.mp hp
  obtain ⟨sx, hsx, hsm, _⟩ := target_slot (p := p) (h.tgt_mem rfl)
  rw [slotsOf_of_findArr hp] at hsx hsm
  have hshape : (abs d).shape p = some (pn.parent, .arr (sl.map (entOf d))) := shapeOf_arr hp1 hk
  have hsize : (abs d).size p = sz := sizeOf_arr hp1 hk
  have hfind : (sl.map (entOf d)).find? (fun e => e.1 = tg) = some (entOf d sx) := by
    rw [find?_map_entOf, hsx]; rfl
  have hex := slot_child_in_table hwf hp hsm
  have hex' : ∃ nx, d.find sx.2 = some nx := by obtain ⟨nc, h1, _⟩ := hex; exact ⟨nc, h1⟩
  have hmem : sx.2 ∈ kids pn.kind := by rw [hk]; exact List.mem_map.mpr ⟨sx, hsm, rfl⟩
  have huniq : ∀ q n, d.find q = some n → sx.2 ∈ kids n.kind → q = p :=
    fun q n hq hm => wf_unique_parent hwf hq hp1 hm hmem
  have hnd : (sl.map (·.2)).Nodup := by
    have := hwf.inj p pn hp1; rw [hk] at this; exact this
  obtain ⟨hrx, hr⟩ := refSt_makeTomb t hex'
  have hE : sl.map (entOf (d.makeTomb sx.2 t)) = setEntry tg sx.2 ⟨true, t, none⟩ (sl.map (entOf d)) :=
    map_entOf_setEntry hsx rfl hnd hrx hr
  have hmt := abs_makeTombArr t hp1 hk hsx rfl hex' huniq hnd
  have hB : (setArr (abs d) p pn.parent (setEntry tg sx.2 ⟨true, t, none⟩ (sl.map (entOf d))) sz).shape p =
      some (pn.parent, .arr (setEntry tg sx.2 ⟨true, t, none⟩ (sl.map (entOf d)))) := by
    simp [setArr]
  -- the child tombstoned, the size `sz - k` stored
  obtain ⟨pn', h3⟩ := findArr_makeTomb (x := sx.2) (t := t) hp
  have core : ∀ k : Int, abs ((d.makeTomb sx.2 t).set { pn' with kind := .arr sl (sz - k) }) =
      kill (setArr (abs d) p pn.parent (setEntry tg sx.2 ⟨true, t, none⟩ (sl.map (entOf d))) (sz - k))
        (some sx.2) := by
    intro k
    obtain ⟨h31, h32⟩ := findArr_some_iff.mp h3
    obtain ⟨pn'', h33, _, _, h34⟩ := find_makeTomb_kind (x := sx.2) (t := t) hp1
    have hpar : pn'.parent = pn.parent := by
      rw [h31] at h33; simp only [Option.some.injEq] at h33; rw [h33]; exact h34
    rw [abs_setArr h31 h32, hmt, hE, setArr_kill hB, setArr_setArr, hpar]
  rw [show absE (.del1 p tg t) (abs d) = applySlot (abs d) p tg (aDelStep t) from rfl,
    applySlot_eq _ hshape hfind, hsize]
  simp only [applyE, EOp.toA, applyA, Doc.deleteRemoteInArray, hp, Doc.deleteRemoteInArray.go, hsx, entOf]
  by_cases h1 : d.isTomb sx.2 = true
  · simp only [h1, Bool.not_true, Bool.false_eq_true, if_false]
    by_cases h2 : ((d.timeOf sx.2).cmp t == Ordering.lt) = true
    · -- a newer stamp on a tombstone: burying the child again changes nothing
      have hstep : aDelStep t sx.2 (refSt d sx.2) = ⟨sx.2, ⟨true, t, none⟩, 0, none⟩ := by
        simp only [aDelStep, refSt, h1, Bool.not_true, Bool.false_eq_true, if_false, h2, if_true]
      simp only [h2, if_true, h3]
      rw [core 0, hstep]
      simp only [Int.sub_zero, Int.add_zero]
      apply kill_of_tomb h1
      · by_cases e : sx.2 = p
        · right
          refine ⟨pn.parent, setEntry tg sx.2 ⟨true, t, none⟩ (sl.map (entOf d)),
            by simp only [setArr]; rw [if_pos e], ?_⟩
          have : shapeOf d sx.2 = some (pn.parent, .arr (sl.map (entOf d))) := by rw [e]; exact hshape
          rw [this]; rfl
        · left
          simp only [setArr]; rw [if_neg e]; rfl
      · rfl
    · have hstep : aDelStep t sx.2 (refSt d sx.2) = ⟨sx.2, refSt d sx.2, 0, none⟩ := by
        simp only [aDelStep, refSt, h1, Bool.not_true, Bool.false_eq_true, if_false, h2]
      simp only [h2, Bool.false_eq_true, if_false, hp]
      rw [abs_setArr hp1 hk, hstep]
      simp only [Int.sub_zero, Int.add_zero, kill]
      have := setEntry_same hfind
      simp only [entOf] at this
      rw [this]
  · have h1' : d.isTomb sx.2 = false := by simpa using h1
    have hstep : aDelStep t sx.2 (refSt d sx.2) = ⟨sx.2, ⟨true, t, none⟩, -1, some sx.2⟩ := by
      simp only [aDelStep, refSt, h1', Bool.not_false, if_true, Bool.false_eq_true, if_false]
    simp only [h1', Bool.not_false, if_true, h3]
    rw [core (0 + 1), hstep]
    rfl

theorem abs_upd1 {d : Doc} (hwf : d.WF) {p tg c : Ts} {v : JVal} (h : EOK d (.upd1 p tg c v)) :
    abs (applyE d (.upd1 p tg c v)) = absE (.upd1 p tg c v) (abs d) := by
  obtain ⟨pn, sl, sz, ns, t', hp, hc, hn, hf, _⟩ := h.upd1_inv
  obtain ⟨hp1, hk⟩ := findArr_some_iff.mp hp
  have hb : Block c ns t' := (createNode_spec p c v _ hc).1
  have hwf1 : (d.addAll ns).WF := wf_addAll hwf hb hf
  have hp2 : (d.addAll ns).find p = some pn := find_addAll_old hf hp1
  have hunl := root_unlinked hwf hc hf
  obtain ⟨sx, hsx, hsm, _⟩ := target_slot (p := p) (h.tgt_mem rfl)
  rw [slotsOf_of_findArr hp] at hsx hsm
  have hshape : (abs (d.addAll ns)).shape p = some (pn.parent, .arr (sl.map (entOf (d.addAll ns)))) :=
    shapeOf_arr hp2 hk
  have hsize : (abs (d.addAll ns)).size p = sz := sizeOf_arr hp2 hk
  have hfind : (sl.map (entOf (d.addAll ns))).find? (fun e => e.1 = tg) = some (entOf (d.addAll ns) sx) := by
    rw [find?_map_entOf, hsx]; rfl
  rw [show absE (.upd1 p tg c v) (abs d) = applySlot (abs (d.addAll ns)) p tg (aUpdStep c) by
      simp only [absE, hn, abs_addAll hwf hb hf],
    applySlot_eq _ hshape hfind, hsize,
    show applyE d (.upd1 p tg c v) = _ from applyA_upd1 hp hc hf, hsx]
  simp only [entOf]
  by_cases hw : (!(d.addAll ns).isTomb sx.2 && ((d.addAll ns).timeOf sx.2).cmp c == Ordering.lt) = true
  · have hstep : aUpdStep c sx.2 (refSt (d.addAll ns) sx.2) =
        ⟨c, ⟨false, c, some c⟩, 0, (refSt (d.addAll ns) sx.2).occ⟩ := if_pos hw
    obtain ⟨n0, hn0, _, hn0m, hn0d⟩ := root_find (d := d) hc
    have hcn : c ∉ sl.map (·.2) := by
      have := hunl p pn hp2; rwa [hk] at this
    have hrc : refSt (d.addAll ns) c = ⟨false, c, some c⟩ :=
      find_some_c hn0 ▸ refSt_new (d := d) (block_ids_nodup hb) hn0m hn0d
    have hlive : (d.addAll ns).isTomb sx.2 = false := by
      cases hh : (d.addAll ns).isTomb sx.2 with
      | false => rfl
      | true => simp [hh] at hw
    rw [if_pos hw, hstep, abs_funeral _ _ (old_unlinked hwf1 hp2 hk hsx hcn), abs_setArr hp2 hk,
      map_entOf_setSlotChild, hrc, refSt_occ_live hlive, Int.add_zero]
  · have hstep : aUpdStep c sx.2 (refSt (d.addAll ns) sx.2) = ⟨sx.2, refSt (d.addAll ns) sx.2, 0, some c⟩ :=
      if_neg hw
    rw [if_neg hw, hstep, abs_funeral _ _ hunl, Int.add_zero]
    have := setEntry_same hfind
    simp only [entOf] at this
    rw [this, ← hsize, setArr_same hshape]

theorem abs_ins {d : Doc} (hwf : d.WF) {p an ts : Ts} {vs : List JVal} (h : EOK d (.ins p an ts vs)) :
    abs (applyE d (.ins p an ts vs)) = absE (.ins p an ts vs) (abs d) := by
  obtain ⟨pn, sl, sz, ns, cs, t', hp, hc, hn, hcs, hf⟩ := h.ins_inv
  obtain ⟨hp1, hk⟩ := findArr_some_iff.mp hp
  obtain ⟨hb, _, hroots⟩ := createMany_block hc
  have hp2 : (d.addAll ns).find p = some pn := find_addAll_old hf hp1
  have hA1 : abs (d.addAll ns) = union (abs d) (abs ⟨ns⟩) := abs_addAll hwf hb hf
  have hshape : (abs (d.addAll ns)).shape p = some (pn.parent, .arr (sl.map (entOf (d.addAll ns)))) :=
    shapeOf_arr hp2 hk
  have hsize : (abs (d.addAll ns)).size p = sz := sizeOf_arr hp2 hk
  have hnew : (cs.map fun c => (c, c)).map (entOf (d.addAll ns)) = cs.map newEnt := by
    rw [List.map_map]
    apply List.map_congr_left
    intro c hcm
    obtain ⟨nc, hnc, e1, _⟩ := hroots c hcm
    have := refSt_new (d := d) (block_ids_nodup hb) hnc (hb.live nc hnc)
    rw [e1] at this
    simp only [Function.comp, entOf, newEnt, this]
  have hloop := insertAfterId_map (fun (x : Ts × Ts) => x.1) (fun (e : Ent) => e.1) (entOf (d.addAll ns))
    (fun _ => rfl) an (cs.map fun c => (c, c)) sl
  rw [hnew] at hloop
  simp only [absE, hn, hcs, ← hA1, insSlots, hshape, ← hloop, hsize]
  rw [show applyE d (.ins p an ts vs) = _ from applyA_ins hp hc]
  cases hi : insertAfterId (fun (s : Ts × Ts) => s.1) an (cs.map fun c => (c, c)) sl with
  | none => rfl
  | some sl' =>
    simp only [Option.map_some]
    rw [abs_setArr hp2 hk]

theorem abs_applyE {d : Doc} (hwf : d.WF) : ∀ (e : EOp), EOK d e → abs (applyE d e) = absE e (abs d)
  | .ins _ _ _ _, h => abs_ins hwf h
  | .del1 _ _ _, h => abs_del1 hwf h
  | .upd1 _ _ _ _, h => abs_upd1 hwf h

/-! ## `ASim` (Proofs/DocConv.lean) under the operations -/

theorem ceq_symm {A B : Abs} (h : CEq A B) : CEq B A :=
  ⟨fun c => (h.shape c).symm, fun c => (h.dead c).symm, fun c k => (h.key c k).symm, fun c => (h.size c).symm⟩
theorem ceq_trans {A B C : Abs} (h1 : CEq A B) (h2 : CEq B C) : CEq A C :=
  ⟨fun c => (h1.shape c).trans (h2.shape c), fun c => (h1.dead c).trans (h2.dead c),
   fun c k => (h1.key c k).trans (h2.key c k), fun c => (h1.size c).trans (h2.size c)⟩
theorem asim_refl (a : Doc) : ASim a a := ceq_refl _
theorem asim_symm {a b : Doc} (h : ASim a b) : ASim b a := ceq_symm h
theorem asim_trans {a b c : Doc} (h1 : ASim a b) (h2 : ASim b c) : ASim a c := ceq_trans h1 h2
theorem asim_equivalence : Equivalence ASim := ⟨asim_refl, asim_symm, asim_trans⟩
theorem asim_of_docEq {a b : Doc} (h : DocEq a b) : ASim a b := asim_of_sim (sim_of_docEq h)

theorem isElem_cshape (s : Option (Option Ts × Shape)) : Shape.isElem (cshape s) = Shape.isElem s := by
  cases s with
  | none => rfl
  | some x => obtain ⟨par, sh⟩ := x; cases sh <;> rfl

theorem isCont_cshape (s : Option (Option Ts × Shape)) : Shape.isCont (cshape s) = Shape.isCont s := by
  cases s with
  | none => rfl
  | some x => obtain ⟨par, sh⟩ := x; cases sh <;> rfl

theorem cshape_or (a b : Option (Option Ts × Shape)) : cshape (a.or b) = (cshape a).or (cshape b) := by
  cases a with
  | none => rfl
  | some x => obtain ⟨par, sh⟩ := x; cases sh <;> rfl

theorem cshape_arr_inv {a b : Option (Option Ts × Shape)} (h : cshape a = cshape b) {par : Option Ts}
    {EA : List Ent} (ha : a = some (par, .arr EA)) :
    ∃ EB, b = some (par, .arr EB) ∧ EA.map erase = EB.map erase := by
  subst ha
  cases b with
  | none => simp [cshape] at h
  | some x =>
    obtain ⟨par', sh⟩ := x
    cases sh with
    | elem v => simp [cshape] at h
    | obj => simp [cshape] at h
    | arr EB =>
      simp only [cshape, Option.some.injEq, Prod.mk.injEq, Shape.arr.injEq] at h
      exact ⟨EB, by rw [h.1], h.2⟩

theorem ceq_kill {A B : Abs} (h : CEq A B) (x : Option Ts) : CEq (kill A x) (kill B x) := by
  cases x with
  | none => exact h
  | some x =>
    have he : Shape.isElem (A.shape x) = Shape.isElem (B.shape x) := by
      rw [← isElem_cshape, h.shape x, isElem_cshape]
    have hc : Shape.isCont (A.shape x) = Shape.isCont (B.shape x) := by
      rw [← isCont_cshape, h.shape x, isCont_cshape]
    refine ⟨?_, ?_, h.key, h.size⟩
    · intro c
      simp only [kill, he]
      split
      · rfl
      · exact h.shape c
    · intro c
      simp only [kill, hc, h.dead]

theorem ceq_union {A B : Abs} (h : CEq A B) (N : Abs) : CEq (union A N) (union B N) := by
  refine ⟨?_, ?_, ?_, ?_⟩
  · intro c; simp only [union, cshape_or, h.shape c]
  · intro c; simp only [union, h.dead c]
  · intro c k; simp only [union, h.key c k]
  · intro c; simp only [union, h.size c]

theorem ceq_setArr {A B : Abs} (h : CEq A B) (p : Ts) (par : Option Ts) {E E' : List Ent}
    (hE : E.map erase = E'.map erase) (s : Int) : CEq (setArr A p par E s) (setArr B p par E' s) := by
  refine ⟨?_, h.dead, h.key, ?_⟩
  · intro c
    simp only [setArr]
    by_cases e : c = p
    · simp only [e, if_true, cshape, hE]
    · simp only [e, if_false]; exact h.shape c
  · intro c
    simp only [setArr]
    by_cases e : c = p
    · simp only [e, if_true]
    · simp only [e, if_false]; exact h.size c

theorem find?_erase {tg : Ts} : ∀ {EA EB : List Ent}, EA.map erase = EB.map erase →
    ∀ {eA : Ent}, EA.find? (fun e => e.1 = tg) = some eA →
    ∃ eB, EB.find? (fun e => e.1 = tg) = some eB ∧ eB.2.2 = eA.2.2
  | [], _, _, _, h => by simp at h
  | x :: xs, [], h, _, _ => by simp at h
  | x :: xs, y :: ys, h, eA, hf => by
      simp only [List.map_cons, List.cons.injEq] at h
      have h1 : x.1 = y.1 := by have := congrArg (fun e : Ent => e.1) h.1; exact this
      have h2 : x.2.2 = y.2.2 := by have := congrArg (fun e : Ent => e.2.2) h.1; exact this
      by_cases e : x.1 = tg
      · simp only [List.find?_cons, e, decide_true, Option.some.injEq] at hf
        subst hf
        refine ⟨y, by simp [← h1, e], h2.symm⟩
      · simp only [List.find?_cons, e, decide_false] at hf
        obtain ⟨eB, h3, h4⟩ := find?_erase h.2 hf
        have : ¬ y.1 = tg := by rw [← h1]; exact e
        exact ⟨eB, by simp [this, h3], h4⟩

theorem find?_erase_none {tg : Ts} : ∀ {EA EB : List Ent}, EA.map erase = EB.map erase →
    EA.find? (fun e => e.1 = tg) = none → EB.find? (fun e => e.1 = tg) = none
  | [], [], _, _ => rfl
  | [], _ :: _, h, _ => by simp at h
  | x :: xs, [], h, _ => by simp at h
  | x :: xs, y :: ys, h, hf => by
      simp only [List.map_cons, List.cons.injEq] at h
      have h1 : x.1 = y.1 := by have := congrArg (fun e : Ent => e.1) h.1; exact this
      by_cases e : x.1 = tg
      · simp [e] at hf
      · simp only [List.find?_cons, e, decide_false] at hf
        have : ¬ y.1 = tg := by rw [← h1]; exact e
        simp only [List.find?_cons, this, decide_false]
        exact find?_erase_none h.2 hf

theorem setEntry_erase {tg c c' : Ts} {st : KeySt} : ∀ {EA EB : List Ent}, EA.map erase = EB.map erase →
    (setEntry tg c st EA).map erase = (setEntry tg c' st EB).map erase
  | [], [], _ => rfl
  | [], _ :: _, h => by simp at h
  | x :: xs, [], h => by simp at h
  | x :: xs, y :: ys, h => by
      simp only [List.map_cons, List.cons.injEq] at h
      have h1 : x.1 = y.1 := by have := congrArg (fun e : Ent => e.1) h.1; exact this
      by_cases e : x.1 = tg
      · have e' : y.1 = tg := by rw [← h1]; exact e
        simp [setEntry, e, e', erase, h.2]
      · have e' : ¬ y.1 = tg := by rw [← h1]; exact e
        simp [setEntry, e, e', h.1, setEntry_erase (c := c) (c' := c') (st := st) h.2]

/-- the decisions of a slot step do not depend on the identity of the child -/
def ChildFree (f : Ts → KeySt → SStep) : Prop :=
  ∀ c c' st, (f c st).st = (f c' st).st ∧ (f c st).dsize = (f c' st).dsize ∧ (f c st).bury = (f c' st).bury

theorem childFree_del (t : Ts) : ChildFree (aDelStep t) := by
  intro c c' st
  unfold aDelStep
  split
  · exact ⟨rfl, rfl, rfl⟩
  · split <;> exact ⟨rfl, rfl, rfl⟩

theorem childFree_upd (n : Ts) : ChildFree (aUpdStep n) := by
  intro c c' st
  unfold aUpdStep
  split <;> exact ⟨rfl, rfl, rfl⟩

theorem ceq_shape_arr {A B : Abs} (h : CEq A B) (p : Ts) :
    (∃ par EA EB, A.shape p = some (par, .arr EA) ∧ B.shape p = some (par, .arr EB) ∧
      EA.map erase = EB.map erase) ∨
    ((∀ par E, A.shape p ≠ some (par, .arr E)) ∧ ∀ par E, B.shape p ≠ some (par, .arr E)) := by
  by_cases hA : ∃ par E, A.shape p = some (par, .arr E)
  · obtain ⟨par, EA, hA⟩ := hA
    obtain ⟨EB, hB, hE⟩ := cshape_arr_inv (h.shape p) hA
    exact Or.inl ⟨par, EA, EB, hA, hB, hE⟩
  · have nA : ∀ par E, A.shape p ≠ some (par, .arr E) := fun par E e => hA ⟨par, E, e⟩
    exact Or.inr ⟨nA, cshape_not_arr (h.shape p) nA ▸ nA⟩

theorem applySlot_not_arr {A : Abs} {p : Ts} (h : ∀ par E, A.shape p ≠ some (par, .arr E)) (tg : Ts)
    (f : Ts → KeySt → SStep) : applySlot A p tg f = A := by
  unfold applySlot
  split
  · next heq => exact absurd heq (h _ _)
  · rfl

theorem insSlots_not_arr {A : Abs} {p : Ts} (h : ∀ par E, A.shape p ≠ some (par, .arr E)) (an : Ts)
    (cs : List Ts) : insSlots A p an cs = A := by
  unfold insSlots
  split
  · next heq => exact absurd heq (h _ _)
  · rfl

theorem ceq_applySlot {A B : Abs} (h : CEq A B) (p tg : Ts) {f : Ts → KeySt → SStep} (hf : ChildFree f) :
    CEq (applySlot A p tg f) (applySlot B p tg f) := by
  rcases ceq_shape_arr h p with ⟨par, EA, EB, hA, hB, hE⟩ | ⟨nA, nB⟩
  · unfold applySlot
    rw [hA, hB]
    simp only
    cases hfa : EA.find? (fun e => e.1 = tg) with
    | none => rw [find?_erase_none hE hfa]; exact h
    | some eA =>
      obtain ⟨eB, hfb, hst⟩ := find?_erase hE hfa
      rw [hfb]
      simp only
      rw [hst]
      obtain ⟨h1, h2, h3⟩ := hf eB.2.1 eA.2.1 eA.2.2
      rw [h2, h3, h.size p]
      apply ceq_kill
      apply ceq_setArr h
      rw [h1]
      exact setEntry_erase hE
  · rw [applySlot_not_arr nA, applySlot_not_arr nB]; exact h

theorem ceq_insSlots {A B : Abs} (h : CEq A B) (p an : Ts) (cs : List Ts) :
    CEq (insSlots A p an cs) (insSlots B p an cs) := by
  rcases ceq_shape_arr h p with ⟨par, EA, EB, hA, hB, hE⟩ | ⟨nA, nB⟩
  · unfold insSlots
    rw [hA, hB]
    simp only
    have lA := insertAfterId_map (fun (e : Ent) => e.1) (fun (e : Ent) => e.1) erase (fun _ => rfl) an
      (cs.map newEnt) EA
    have lB := insertAfterId_map (fun (e : Ent) => e.1) (fun (e : Ent) => e.1) erase (fun _ => rfl) an
      (cs.map newEnt) EB
    rw [hE] at lA
    have hl := lA.trans lB.symm
    cases hiA : insertAfterId (fun (e : Ent) => e.1) an (cs.map newEnt) EA with
    | none =>
      rw [hiA] at hl
      cases hiB : insertAfterId (fun (e : Ent) => e.1) an (cs.map newEnt) EB with
      | none => exact h
      | some E' => rw [hiB] at hl; simp at hl
    | some E' =>
      rw [hiA] at hl
      cases hiB : insertAfterId (fun (e : Ent) => e.1) an (cs.map newEnt) EB with
      | none => rw [hiB] at hl; simp at hl
      | some E'' =>
        rw [hiB] at hl
        simp only [Option.map_some, Option.some.injEq] at hl
        simp only
        rw [h.size p]
        exact ceq_setArr h p par hl _
  · rw [insSlots_not_arr nA, insSlots_not_arr nB]; exact h

theorem ceq_absE (e : EOp) {A B : Abs} (h : CEq A B) : CEq (absE e A) (absE e B) := by
  cases e with
  | ins p an ts vs => exact ceq_insSlots (ceq_union h _) _ _ _
  | del1 p tg t => exact ceq_applySlot h _ _ (childFree_del t)
  | upd1 p tg t v => exact ceq_applySlot (ceq_union h _) _ _ (childFree_upd t)

theorem asim_congr {z z' : Doc} (hz : z.WF) (hz' : z'.WF) {e : EOp} (h1 : EOK z e) (h2 : EOK z' e)
    (h : ASim z z') : ASim (applyE z e) (applyE z' e) := by
  unfold ASim
  rw [abs_applyE hz e h1, abs_applyE hz' e h2]
  exact ceq_absE e h

theorem sim_congr {z z' : Doc} (hz : z.WF) (hz' : z'.WF) {e : EOp} (h1 : EOK z e) (h2 : EOK z' e)
    (h : Sim z z') : Sim (applyE z e) (applyE z' e) := by
  unfold Sim at *
  rw [abs_applyE hz e h1, abs_applyE hz' e h2, h]

/-! ## two operations on the SAME slot -/

/-- what two steps on one slot do together: final child and state, total size change, the two burials -/
structure SComm (f1 f2 : Ts → KeySt → SStep) (c0 : Ts) (st0 : KeySt) : Prop where
  st : (f2 (f1 c0 st0).c (f1 c0 st0).st).st = (f1 (f2 c0 st0).c (f2 c0 st0).st).st
  dsize : (f1 c0 st0).dsize + (f2 (f1 c0 st0).c (f1 c0 st0).st).dsize =
    (f2 c0 st0).dsize + (f1 (f2 c0 st0).c (f2 c0 st0).st).dsize
  bury : ((f1 c0 st0).bury = (f1 (f2 c0 st0).c (f2 c0 st0).st).bury ∧
      (f2 (f1 c0 st0).c (f1 c0 st0).st).bury = (f2 c0 st0).bury) ∨
    ((f1 c0 st0).bury = (f2 c0 st0).bury ∧
      (f2 (f1 c0 st0).c (f1 c0 st0).st).bury = (f1 (f2 c0 st0).c (f2 c0 st0).st).bury)

-- `aDelStep`, `aUpdStep` and `later` decide by this test (`aDelStep_eq`, `aUpdStep_eq`): the case splits below name one
-- Boolean per comparison
def ltb (a b : Ts) : Bool := a.cmp b == .lt

theorem ltb_trans {a b c : Ts} (h1 : ltb a b = true) (h2 : ltb b c = true) : ltb a c = true := by
  unfold ltb at *
  simp only [_root_.beq_iff_eq] at *
  exact cmp_lt_trans a b c h1 h2

theorem ltb_asymm {a b : Ts} (h1 : ltb a b = true) : ltb b a = false := by
  unfold ltb at *
  simp only [_root_.beq_iff_eq] at h1
  cases h : b.cmp a == Ordering.lt with
  | false => rfl
  | true =>
    simp only [_root_.beq_iff_eq] at h
    exact absurd (cmp_lt_trans _ _ _ h1 h) (cmp_lt_irrefl a)

theorem ltb_total {a b : Ts} (h : a.cmp b ≠ .eq) : (ltb a b = true ∧ ltb b a = false) ∨ (ltb b a = true ∧ ltb a b = false) := by
  rcases cmp_lt_or_gt h with h1 | h1
  · left; exact ⟨by simp [ltb, h1], ltb_asymm (by simp [ltb, h1])⟩
  · right; exact ⟨by simp [ltb, h1], ltb_asymm (by simp [ltb, h1])⟩

/-- negative transitivity of the strict weak order -/
theorem ltb_neg_trans {a b c : Ts} (h1 : ltb a b = false) (h2 : ltb b c = false) : ltb a c = false := by
  cases h : ltb a c with
  | false => rfl
  | true =>
    exfalso
    unfold ltb at *
    simp only [_root_.beq_iff_eq, beq_eq_false_iff_ne, ne_eq] at *
    -- a < c, ¬ a < b, ¬ b < c
    have hba : b.cmp a ≠ .gt := fun e => h1 ((cmp_gt_iff_lt b a).mp e)
    have : b.cmp c = .lt := RF.cmp_lt_of_le_of_lt hba h
    exact h2 this

theorem aDelStep_eq (t c : Ts) (st : KeySt) : aDelStep t c st =
    if !st.tomb then ⟨c, ⟨true, t, none⟩, -1, st.occ⟩
    else if ltb st.time t then ⟨c, ⟨true, t, none⟩, 0, none⟩ else ⟨c, st, 0, none⟩ := rfl

theorem aUpdStep_eq (n c : Ts) (st : KeySt) : aUpdStep n c st =
    if !st.tomb && ltb st.time n then ⟨n, ⟨false, n, some n⟩, 0, st.occ⟩ else ⟨c, st, 0, some n⟩ := rfl

theorem scomm_upd_upd {n1 n2 : Ts} (hne : n1.cmp n2 ≠ .eq) (c0 : Ts) (st0 : KeySt) :
    SComm (aUpdStep n1) (aUpdStep n2) c0 st0 ∧
      (aUpdStep n2 (aUpdStep n1 c0 st0).c (aUpdStep n1 c0 st0).st).c =
        (aUpdStep n1 (aUpdStep n2 c0 st0).c (aUpdStep n2 c0 st0).st).c := by
  obtain ⟨tomb, τ, occ⟩ := st0
  rcases ltb_total hne with ⟨h12, h21⟩ | ⟨h21, h12⟩
  · cases tomb
    · by_cases a1 : ltb τ n1 = true <;> by_cases a2 : ltb τ n2 = true
      · refine ⟨⟨?_, ?_, ?_⟩, ?_⟩ <;> simp [aUpdStep_eq, a1, a2, h12, h21]
      · exact absurd (ltb_trans a1 h12) a2
      · refine ⟨⟨?_, ?_, ?_⟩, ?_⟩ <;> simp [aUpdStep_eq, a1, a2, h21]
      · refine ⟨⟨?_, ?_, ?_⟩, ?_⟩ <;> simp [aUpdStep_eq, a1, a2]
    · refine ⟨⟨?_, ?_, ?_⟩, ?_⟩ <;> simp [aUpdStep_eq]
  · cases tomb
    · by_cases a1 : ltb τ n1 = true <;> by_cases a2 : ltb τ n2 = true
      · refine ⟨⟨?_, ?_, ?_⟩, ?_⟩ <;> simp [aUpdStep_eq, a1, a2, h12, h21]
      · refine ⟨⟨?_, ?_, ?_⟩, ?_⟩ <;> simp [aUpdStep_eq, a1, a2, h12]
      · exact absurd (ltb_trans a2 h21) a1
      · refine ⟨⟨?_, ?_, ?_⟩, ?_⟩ <;> simp [aUpdStep_eq, a1, a2]
    · refine ⟨⟨?_, ?_, ?_⟩, ?_⟩ <;> simp [aUpdStep_eq]

/-- update / delete of one slot: same state, same size, same burials in both orders — whatever the
    timestamps (delete dominates); only the tombstoned child differs -/
theorem scomm_upd_del (n t : Ts) (c0 : Ts) (st0 : KeySt) : SComm (aUpdStep n) (aDelStep t) c0 st0 := by
  obtain ⟨tomb, τ, occ⟩ := st0
  cases tomb
  · by_cases a1 : ltb τ n = true
    · refine ⟨?_, ?_, ?_⟩ <;> simp [aUpdStep_eq, aDelStep_eq, a1]
    · refine ⟨?_, ?_, ?_⟩ <;> simp [aUpdStep_eq, aDelStep_eq, a1]
  · by_cases a2 : ltb τ t = true
    · refine ⟨?_, ?_, ?_⟩ <;> simp [aUpdStep_eq, aDelStep_eq, a2]
    · refine ⟨?_, ?_, ?_⟩ <;> simp [aUpdStep_eq, aDelStep_eq, a2]

theorem scomm_symm {f1 f2 : Ts → KeySt → SStep} {c0 : Ts} {st0 : KeySt} (h : SComm f1 f2 c0 st0) :
    SComm f2 f1 c0 st0 := by
  obtain ⟨h1, h2, h3⟩ := h
  refine ⟨h1.symm, h2.symm, ?_⟩
  rcases h3 with ⟨a, b⟩ | ⟨a, b⟩
  · exact Or.inl ⟨b.symm, a.symm⟩
  · exact Or.inr ⟨a.symm, b.symm⟩

theorem kill_shape_arr {B : Abs} (x : Option Ts) {p : Ts} {par : Option Ts} {E : List Ent}
    (h : B.shape p = some (par, .arr E)) : (kill B x).shape p = some (par, .arr E) := by
  cases x with
  | none => exact h
  | some x =>
    simp only [kill]
    by_cases e : p = x
    · subst e; simp [h, Shape.isElem]
    · simp [e, h]

theorem kill_size (B : Abs) (x : Option Ts) : (kill B x).size = B.size := by
  cases x <;> rfl

theorem find?_setEntry {tg c : Ts} {st : KeySt} : ∀ {E : List Ent} {e : Ent},
    E.find? (fun e => e.1 = tg) = some e → (setEntry tg c st E).find? (fun e => e.1 = tg) = some (tg, c, st)
  | [], _, h => by simp at h
  | y :: ys, e, h => by
      unfold setEntry
      by_cases hy : y.1 = tg
      · simp [hy]
      · simp only [List.find?_cons, hy, decide_false] at h
        simp only [hy, if_false, List.find?_cons, decide_false]
        exact find?_setEntry h

theorem setEntry_setEntry (tg c1 c2 : Ts) (st1 st2 : KeySt) : ∀ E : List Ent,
    setEntry tg c2 st2 (setEntry tg c1 st1 E) = setEntry tg c2 st2 E
  | [] => rfl
  | y :: ys => by
      by_cases hy : y.1 = tg
      · simp [setEntry, hy]
      · simp [setEntry, hy, setEntry_setEntry tg c1 c2 st1 st2 ys]

theorem applySlot_applySlot {A : Abs} {p tg : Ts} (f1 f2 : Ts → KeySt → SStep) {par : Option Ts} {E : List Ent}
    {e : Ent} (hA : A.shape p = some (par, .arr E)) (he : E.find? (fun e => e.1 = tg) = some e) :
    applySlot (applySlot A p tg f1) p tg f2 =
      kill (kill (setArr A p par
        (setEntry tg (f2 (f1 e.2.1 e.2.2).c (f1 e.2.1 e.2.2).st).c (f2 (f1 e.2.1 e.2.2).c (f1 e.2.1 e.2.2).st).st E)
        (A.size p + (f1 e.2.1 e.2.2).dsize + (f2 (f1 e.2.1 e.2.2).c (f1 e.2.1 e.2.2).st).dsize))
        (f1 e.2.1 e.2.2).bury) (f2 (f1 e.2.1 e.2.2).c (f1 e.2.1 e.2.2).st).bury := by
  rw [applySlot_eq f1 hA he]
  have hB : (setArr A p par (setEntry tg (f1 e.2.1 e.2.2).c (f1 e.2.1 e.2.2).st E)
      (A.size p + (f1 e.2.1 e.2.2).dsize)).shape p =
      some (par, .arr (setEntry tg (f1 e.2.1 e.2.2).c (f1 e.2.1 e.2.2).st E)) := by simp [setArr]
  rw [applySlot_eq f2 (kill_shape_arr _ hB) (find?_setEntry he)]
  simp only [kill_size]
  rw [setArr_kill hB, setArr_setArr, setEntry_setEntry]
  simp [setArr]

theorem applySlot_comm_ceq {A : Abs} {p tg : Ts} {f1 f2 : Ts → KeySt → SStep} {par : Option Ts} {E : List Ent}
    {e : Ent} (hA : A.shape p = some (par, .arr E)) (he : E.find? (fun e => e.1 = tg) = some e)
    (hc : SComm f1 f2 e.2.1 e.2.2) :
    CEq (applySlot (applySlot A p tg f1) p tg f2) (applySlot (applySlot A p tg f2) p tg f1) := by
  rw [applySlot_applySlot f1 f2 hA he, applySlot_applySlot f2 f1 hA he]
  obtain ⟨h1, h2, h3⟩ := hc
  have hsz : A.size p + (f1 e.2.1 e.2.2).dsize + (f2 (f1 e.2.1 e.2.2).c (f1 e.2.1 e.2.2).st).dsize =
      A.size p + (f2 e.2.1 e.2.2).dsize + (f1 (f2 e.2.1 e.2.2).c (f2 e.2.1 e.2.2).st).dsize := by omega
  rw [hsz, h1]
  have hbase := ceq_setArr (ceq_refl A) p par
    (setEntry_erase (tg := tg) (c := (f2 (f1 e.2.1 e.2.2).c (f1 e.2.1 e.2.2).st).c)
      (c' := (f1 (f2 e.2.1 e.2.2).c (f2 e.2.1 e.2.2).st).c)
      (st := (f1 (f2 e.2.1 e.2.2).c (f2 e.2.1 e.2.2).st).st) (rfl : E.map erase = E.map erase))
    (A.size p + (f2 e.2.1 e.2.2).dsize + (f1 (f2 e.2.1 e.2.2).c (f2 e.2.1 e.2.2).st).dsize)
  -- each step buries the same node in both orders, or the two steps exchange their burials
  rcases h3 with ⟨a, b⟩ | ⟨a, b⟩
  · rw [a, b, kill_comm]
    exact ceq_kill (ceq_kill hbase _) _
  · rw [a, b]
    exact ceq_kill (ceq_kill hbase _) _

theorem applySlot_comm_eq {A : Abs} {p tg : Ts} {f1 f2 : Ts → KeySt → SStep} {par : Option Ts} {E : List Ent}
    {e : Ent} (hA : A.shape p = some (par, .arr E)) (he : E.find? (fun e => e.1 = tg) = some e)
    (hc : SComm f1 f2 e.2.1 e.2.2)
    (hch : (f2 (f1 e.2.1 e.2.2).c (f1 e.2.1 e.2.2).st).c = (f1 (f2 e.2.1 e.2.2).c (f2 e.2.1 e.2.2).st).c) :
    applySlot (applySlot A p tg f1) p tg f2 = applySlot (applySlot A p tg f2) p tg f1 := by
  rw [applySlot_applySlot f1 f2 hA he, applySlot_applySlot f2 f1 hA he]
  obtain ⟨h1, h2, h3⟩ := hc
  have hsz : A.size p + (f1 e.2.1 e.2.2).dsize + (f2 (f1 e.2.1 e.2.2).c (f1 e.2.1 e.2.2).st).dsize =
      A.size p + (f2 e.2.1 e.2.2).dsize + (f1 (f2 e.2.1 e.2.2).c (f2 e.2.1 e.2.2).st).dsize := by omega
  rw [hsz, h1, hch]
  rcases h3 with ⟨a, b⟩ | ⟨a, b⟩
  · rw [a, b, kill_comm]
  · rw [a, b]

theorem union_setArr {B N : Abs} {S : Ts → Prop} (hN : Supp N S) {p : Ts} (hp : ¬ S p) (par : Option Ts)
    (E : List Ent) (s : Int) : union (setArr B p par E s) N = setArr (union B N) p par E s := by
  obtain ⟨_, _, _, h4⟩ := hN p hp
  apply Abs.ext'
  · intro c
    simp only [union, setArr]
    by_cases e : c = p <;> simp [e]
  · intro c; rfl
  · intro c k; rfl
  · intro c
    simp only [union, setArr]
    by_cases e : c = p
    · subst e; simp [h4]
    · simp [e]

theorem union_kill {B N : Abs} {S : Ts → Prop} (hN : Supp N S) {x : Option Ts} (hx : ∀ y, x = some y → ¬ S y) :
    union (kill B x) N = kill (union B N) x :=
  DC.union_kill fun y hy => ⟨(hN y (hx y hy)).1, (hN y (hx y hy)).2.1⟩

theorem union_shape_some {B N : Abs} {p : Ts} {x : Option Ts × Shape} (h : B.shape p = some x) :
    (union B N).shape p = some x := by
  simp [union, h]

theorem union_applySlot {B N : Abs} {S : Ts → Prop} (hN : Supp N S) {p tg : Ts} (hp : ¬ S p)
    (f : Ts → KeySt → SStep) {par : Option Ts} {E : List Ent} {e : Ent}
    (hB : B.shape p = some (par, .arr E)) (he : E.find? (fun e => e.1 = tg) = some e)
    (hb : ∀ y, (f e.2.1 e.2.2).bury = some y → ¬ S y) :
    union (applySlot B p tg f) N = applySlot (union B N) p tg f := by
  rw [applySlot_eq f hB he, applySlot_eq f (union_shape_some hB) he, union_kill hN hb, union_setArr hN hp]
  have : (union B N).size p = B.size p := by
    simp [union, (hN p hp).2.2.2]
  rw [this]

/-- the slot step of a delete / an update (`absE_slot`); an insert has no target slot, its case is the step that changes
    nothing -/
def fE : EOp → Ts → KeySt → SStep
  | .ins _ _ _ _ => fun c st => ⟨c, st, 0, none⟩
  | .del1 _ _ t => aDelStep t
  | .upd1 _ _ t _ => aUpdStep t

theorem absE_slot {e : EOp} {tg : Ts} (h : e.tgt = some tg) (A : Abs) :
    absE e A = applySlot (union A (abs ⟨nodesE e⟩)) e.p tg (fE e) := by
  cases e with
  | ins p an ts vs => simp [EOp.tgt] at h
  | del1 p tg' t =>
    simp only [EOp.tgt, Option.some.injEq] at h
    subst h
    simp only [absE, nodesE, abs_mk_nil, union_empty, EOp.p, fE]
  | upd1 p tg' t v =>
    simp only [EOp.tgt, Option.some.injEq] at h
    subst h
    simp only [absE, EOp.p, fE]

theorem bury_cases {d : Doc} {e : EOp} (hok : EOK d e) {c y : Ts} {st : KeySt}
    (h : (fE e c st).bury = some y) : st.occ = some y ∨ y ∈ ids (nodesE e) := by
  cases e with
  | ins p an ts vs => simp [fE] at h
  | del1 p tg t =>
    simp only [fE, aDelStep] at h
    split at h
    · exact Or.inl h
    · split at h <;> simp at h
  | upd1 p tg t v =>
    simp only [fE, aUpdStep] at h
    split at h
    · exact Or.inl h
    · simp only [Option.some.injEq] at h
      subst h
      exact Or.inr (root_mem_nodesE hok)

/-- both arrival orders of two operations on the same slot, as two abstract steps on one abstraction -/
theorem same_slot_abs {d : Doc} (hwf : d.WF) {a b : EOp} (ha : EOK d a) (hb : EOK d b) (hd : Disj a b)
    {tg : Ts} (hp : a.p = b.p) (hta : a.tgt = some tg) (htb : b.tgt = some tg) :
    ∃ (A2 : Abs) (par : Option Ts) (E : List Ent) (e : Ent),
      A2.shape a.p = some (par, .arr E) ∧ E.find? (fun e => e.1 = tg) = some e ∧
      abs (applyE (applyE d a) b) = applySlot (applySlot A2 a.p tg (fE a)) a.p tg (fE b) ∧
      abs (applyE (applyE d b) a) = applySlot (applySlot A2 a.p tg (fE b)) a.p tg (fE a) := by
  obtain ⟨pn, sl, sz, hpa⟩ := isArr_iff.mp ha.isArr
  obtain ⟨hp1, hk⟩ := findArr_some_iff.mp hpa
  obtain ⟨sx, hsx, hsm, _⟩ := target_slot (ha.tgt_mem hta)
  rw [slotsOf_of_findArr hpa] at hsx hsm
  have hshape : (abs d).shape a.p = some (pn.parent, .arr (sl.map (entOf d))) := shapeOf_arr hp1 hk
  have hfind : (sl.map (entOf d)).find? (fun e => e.1 = tg) = some (entOf d sx) := by
    rw [find?_map_entOf, hsx]; rfl
  obtain ⟨nc, hnc, _⟩ := slot_child_in_table hwf hpa hsm
  have hNa : Supp (abs ⟨nodesE a⟩) (fun c => c ∈ ids (nodesE a)) := supp_abs_mk _
  have hNb : Supp (abs ⟨nodesE b⟩) (fun c => c ∈ ids (nodesE b)) := supp_abs_mk _
  have hpna : a.p ∉ ids (nodesE a) := fresh_not_mem ha.fresh hp1
  have hpnb : a.p ∉ ids (nodesE b) := fresh_not_mem hb.fresh hp1
  -- the burials of one operation are not new nodes of the other
  have hbury : ∀ {x y : EOp}, EOK d x → EOK d y → Disj x y →
      ∀ z, (fE x (entOf d sx).2.1 (entOf d sx).2.2).bury = some z → z ∉ ids (nodesE y) := by
    intro x y hx hy hxy z hz
    rcases bury_cases hx hz with h | h
    · have : z = sx.2 := refSt_occ_some h
      rw [this]; exact fresh_not_mem hy.fresh hnc
    · exact fun h' => hxy z h h'
  have e1 : abs (applyE (applyE d a) b) =
      applySlot (applySlot (union (union (abs d) (abs ⟨nodesE a⟩)) (abs ⟨nodesE b⟩)) a.p tg (fE a)) a.p tg (fE b) := by
    rw [abs_applyE (wf_applyE hwf a ha) b (eok_after hwf ha hb hd), abs_applyE hwf a ha,
      absE_slot hta, absE_slot htb, ← hp]
    rw [union_applySlot hNb hpnb (fE a) (union_shape_some hshape) hfind (hbury ha hb hd)]
  have e2 : abs (applyE (applyE d b) a) =
      applySlot (applySlot (union (union (abs d) (abs ⟨nodesE b⟩)) (abs ⟨nodesE a⟩)) a.p tg (fE b)) a.p tg (fE a) := by
    rw [abs_applyE (wf_applyE hwf b hb) a (eok_after hwf hb ha hd.symm), abs_applyE hwf b hb,
      absE_slot hta, absE_slot htb, ← hp]
    rw [union_applySlot hNa hpna (fE b) (union_shape_some hshape) hfind (hbury hb ha hd.symm)]
  rw [union_comm (abs d) hNb hNa (fun c h1 h2 => hd c h2 h1)] at e2
  exact ⟨_, _, _, _, union_shape_some (union_shape_some hshape), hfind, e1, e2⟩

/-- update / update of one slot: observationally equal (`DC.Sim`) — the newer value wins, the
    loser and the old child are buried in both orders -/
theorem comm_sim_upd_upd {d : Doc} (hwf : d.WF) {p tg t1 t2 : Ts} {v1 v2 : JVal} (ha : EOK d (.upd1 p tg t1 v1))
    (hb : EOK d (.upd1 p tg t2 v2)) (hd : Disj (.upd1 p tg t1 v1) (.upd1 p tg t2 v2)) (hne : t1.cmp t2 ≠ .eq) :
    Sim (applyE (applyE d (.upd1 p tg t1 v1)) (.upd1 p tg t2 v2))
      (applyE (applyE d (.upd1 p tg t2 v2)) (.upd1 p tg t1 v1)) := by
  obtain ⟨A2, par, E, e, h1, h2, e1, e2⟩ := same_slot_abs hwf ha hb hd rfl rfl rfl
  unfold Sim
  rw [e1, e2]
  obtain ⟨hc, hch⟩ := scomm_upd_upd hne e.2.1 e.2.2
  exact applySlot_comm_eq h1 h2 hc hch

/-- update / delete of one slot: equivalent up to the identity of the tombstoned child (`ASim`),
    whatever the two timestamps — the delete dominates -/
theorem comm_asim_upd_del {d : Doc} (hwf : d.WF) {p tg t1 t2 : Ts} {v : JVal} (ha : EOK d (.upd1 p tg t1 v))
    (hb : EOK d (.del1 p tg t2)) :
    ASim (applyE (applyE d (.upd1 p tg t1 v)) (.del1 p tg t2)) (applyE (applyE d (.del1 p tg t2)) (.upd1 p tg t1 v)) := by
  have hd : Disj (.upd1 p tg t1 v) (.del1 p tg t2) := by intro c _ h; simp [nodesE, ids] at h
  obtain ⟨A2, par, E, e, h1, h2, e1, e2⟩ := same_slot_abs hwf ha hb hd rfl rfl rfl
  unfold ASim
  rw [e1, e2]
  exact applySlot_comm_ceq h1 h2 (scomm_upd_del t1 t2 e.2.1 e.2.2)

/-! ### delete / delete of one slot commute EXACTLY -/

theorem tombO_delG (t c : Ts) {o : Option DNode} (h : o.isSome) : tombO (delG t c o) = true := by
  obtain ⟨n, rfl⟩ := Option.isSome_iff_exists.mp h
  unfold delG
  by_cases h1 : tombO (some n) = true
  · simp only [h1, Bool.not_true, Bool.false_eq_true, if_false]
    split
    · rfl
    · exact h1
  · simp only [h1, Bool.not_false, if_true]
    rfl

theorem delG_isSome (t c : Ts) {o : Option DNode} (h : o.isSome) : (delG t c o).isSome := by
  obtain ⟨n, rfl⟩ := Option.isSome_iff_exists.mp h
  unfold delG
  split
  · rfl
  · split <;> rfl

/-- the later of two stamps (the first when `Ts.cmp` cannot tell) -/
def later (a b : Ts) : Ts := if ltb a b then b else a

theorem later_comm {t1 t2 : Ts} (hne : t1.cmp t2 ≠ .eq) : later t1 t2 = later t2 t1 := by
  unfold later
  rcases ltb_total hne with ⟨a, b⟩ | ⟨a, b⟩ <;> simp only [a, b, if_true, Bool.false_eq_true, if_false]

theorem later_later {t1 t2 : Ts} (hne : t1.cmp t2 ≠ .eq) (τ : Ts) :
    later (later τ t1) t2 = later (later τ t2) t1 := by
  by_cases a1 : ltb τ t1 = true <;> by_cases a2 : ltb τ t2 = true
  · simp only [later, a1, a2, if_true]; exact later_comm hne
  · -- `τ < t1`, not `τ < t2`: then not `t1 < t2`
    have : ltb t1 t2 = false := by
      cases h : ltb t1 t2 with
      | false => rfl
      | true => exact absurd (ltb_trans a1 h) a2
    simp only [later, a1, a2, this, if_true, Bool.false_eq_true, if_false]
  · have : ltb t2 t1 = false := by
      cases h : ltb t2 t1 with
      | false => rfl
      | true => exact absurd (ltb_trans a2 h) a1
    simp only [later, a1, a2, this, if_true, Bool.false_eq_true, if_false]
  · simp only [later, a1, a2, Bool.false_eq_true, if_false]

/-- a remote delete leaves the later stamp on the node; `c` plays no part (`timeO c` falls back on it only
    for a missing node) -/
theorem delG_some (t c : Ts) (n : DNode) :
    delG t c (some n) = some { n with d := some (match n.d with | none => t | some τ => later τ t) } := by
  obtain ⟨nc, nd, np, nk⟩ := n
  cases nd with
  | none => rfl
  | some τ =>
    by_cases h : (τ.cmp t == Ordering.lt) = true
    · simp only [delG, later, ltb, tombO, timeO, Option.isSome_some, Option.getD_some, Bool.not_true,
        Bool.false_eq_true, if_false, h, if_true, setD, Option.map_some]
    · simp only [delG, later, ltb, tombO, timeO, Option.isSome_some, Option.getD_some, Bool.not_true,
        Bool.false_eq_true, if_false, h]

theorem delG_comm {t1 t2 : Ts} (hne : t1.cmp t2 ≠ .eq) (c : Ts) (o : Option DNode) :
    delG t2 c (delG t1 c o) = delG t1 c (delG t2 c o) := by
  cases o with
  | none => rfl
  | some n =>
    rw [delG_some, delG_some, delG_some, delG_some]
    cases n.d with
    | none => exact congrArg (fun x => some { n with d := some x }) (later_comm hne)
    | some τ => exact congrArg (fun x => some { n with d := some x }) (later_later hne τ)

/-- delete / delete of one slot: the same table in both orders — the child keeps the greatest
    stamp, the size drops once -/
theorem comm_docEq_del_del {d : Doc} (hwf : d.WF) {p tg t1 t2 : Ts} (ha : EOK d (.del1 p tg t1))
    (hne : t1.cmp t2 ≠ .eq) :
    DocEq (applyE (applyE d (.del1 p tg t1)) (.del1 p tg t2)) (applyE (applyE d (.del1 p tg t2)) (.del1 p tg t1)) := by
  obtain ⟨pn, sl, sz, hp⟩ := (isArr_iff (p := p)).mp ha.isArr
  obtain ⟨s, hs, hsm, _⟩ := target_slot (p := p) (ha.tgt_mem rfl)
  rw [slotsOf_of_findArr hp] at hs hsm
  obtain ⟨nc, hnc, _⟩ := slot_child_in_table hwf hp hsm
  -- after one delete (stamp `t`), the array has the same slots and the child is a tombstone
  have after : ∀ t, ∃ pn' sz', (applyE d (.del1 p tg t)).findArr p = some (pn', sl, sz') ∧
      (applyE d (.del1 p tg t)).isTomb s.2 = true := by
    intro t
    have hf := del1_find (t := t) hp hs
    rw [← applyE_del1] at hf
    have hv : arrV ((applyE d (.del1 p tg t)).find p) = some sl := by
      have := del_arrV d p [tg] t p
      rw [arrV_of_findArr hp] at this
      exact this
    obtain ⟨pn', sz', hp'⟩ := findArr_of_arrV hv
    refine ⟨pn', sz', hp', ?_⟩
    rw [isTomb_eq_tombO, hf]
    have hsome : (d.find s.2).isSome := by rw [hnc]; rfl
    by_cases e : s.2 = p
    · rw [e, upd_same, tombO_mapArr, ← e, upd_same]
      exact tombO_delG t s.2 hsome
    · rw [upd_other _ _ e, upd_same]
      exact tombO_delG t s.2 hsome
  have key : ∀ ta tb, (applyE (applyE d (.del1 p tg ta)) (.del1 p tg tb)).find =
      upd p (mapArr (szK (if d.isTomb s.2 then 0 else 1))) (upd s.2 (fun o => delG tb s.2 (delG ta s.2 o)) d.find) := by
    intro ta tb
    obtain ⟨pn', sz', hp', htomb⟩ := after ta
    rw [applyE_del1, del1_find hp' hs, htomb, applyE_del1, del1_find hp hs]
    simp only [if_true]
    rw [upd_mapArr_szK_zero]
    rw [upd_comm (Or.inr (comm_symm (comm_mapArr_delG _ tb s.2))), upd_upd]
  intro c
  rw [key t1 t2, key t2 t1]
  congr 2
  funext o
  exact delG_comm hne s.2 o

theorem comm_sim_del_del {d : Doc} (hwf : d.WF) {p tg t1 t2 : Ts} (ha : EOK d (.del1 p tg t1))
    (hne : t1.cmp t2 ≠ .eq) :
    Sim (applyE (applyE d (.del1 p tg t1)) (.del1 p tg t2)) (applyE (applyE d (.del1 p tg t2)) (.del1 p tg t1)) :=
  sim_of_docEq (comm_docEq_del_del hwf ha hne)

/-! ## permutations of a list of elementary operations -/

def applyAllE (d : Doc) (l : List EOp) : Doc := l.foldl applyE d

theorem applyAllE_append (z : Doc) (l1 l2 : List EOp) :
    applyAllE z (l1 ++ l2) = applyAllE (applyAllE z l1) l2 := by
  simp [applyAllE, List.foldl_append]

theorem applyAllE_pair (d : Doc) (a b : EOp) : applyAllE d [a, b] = applyE (applyE d a) b := rfl

/-- two operations may arrive in either order: their new identifiers do not clash, and when they address
    the same slot their timestamps are distinguishable by `Ts.cmp` -/
def Compat (a b : EOp) : Prop :=
  Disj a b ∧ (a.p = b.p → a.tgt = b.tgt → a.tgt ≠ none → a.ts.cmp b.ts ≠ .eq)

theorem Compat.disj {a b : EOp} (h : Compat a b) : Disj a b := h.1

theorem Compat.stamps {a b : EOp} (h : Compat a b) {tg : Ts} (hp : a.p = b.p) (ha : a.tgt = some tg)
    (hb : b.tgt = some tg) : a.ts.cmp b.ts ≠ .eq :=
  h.2 hp (ha.trans hb.symm) (ha ▸ Option.some_ne_none tg)

theorem Compat.symm {a b : EOp} (h : Compat a b) : Compat b a :=
  ⟨h.disj.symm, fun e1 e2 e3 e => h.2 e1.symm e2.symm (by rw [← e2]; exact e3) (cmp_eq_symm _ _ e)⟩

/-- every array that is about to receive inserts has an order produced by a causal history `M0`, after
    which the pending inserts are causal in every arrival order -/
def OrdOK (z : Doc) (l : List EOp) : Prop :=
  ∀ p, (∃ e ∈ l, (insOnE p e).isSome) →
    ∃ M0, slotIds z p = foldIds [] M0 ∧ ∀ l', l'.Perm (l.filterMap (insOnE p)) → ACausal (M0 ++ l')

/-- a well-formed document ready for the operations `l` in any order -/
def GoodE (z : Doc) (l : List EOp) : Prop :=
  z.WF ∧ (∀ e ∈ l, EOK z e) ∧ l.Pairwise Compat ∧ OrdOK z l

theorem GoodE.wf {z : Doc} {l : List EOp} (h : GoodE z l) : z.WF := h.1
theorem GoodE.ok {z : Doc} {l : List EOp} (h : GoodE z l) {e : EOp} (he : e ∈ l) : EOK z e := h.2.1 e he
theorem GoodE.head {z : Doc} {x : EOp} {l : List EOp} (h : GoodE z (x :: l)) : EOK z x := h.ok List.mem_cons_self
theorem GoodE.compat {z : Doc} {l : List EOp} (h : GoodE z l) : l.Pairwise Compat := h.2.2.1
theorem GoodE.ord {z : Doc} {l : List EOp} (h : GoodE z l) : OrdOK z l := h.2.2.2

theorem goodE_perm {z : Doc} {l l' : List EOp} (hp : l.Perm l') (h : GoodE z l) : GoodE z l' := by
  obtain ⟨h1, h2, h3, h4⟩ := h
  refine ⟨h1, fun e he => h2 e (hp.mem_iff.mpr he), ?_, ?_⟩
  · exact (List.Perm.pairwise_iff (fun hab => hab.symm) hp).mp h3
  · intro p ⟨e, he, hi⟩
    obtain ⟨M0, hb, hc⟩ := h4 p ⟨e, hp.mem_iff.mpr he, hi⟩
    exact ⟨M0, hb, fun l'' hl'' => hc l'' (hl''.trans (hp.filterMap _).symm)⟩

theorem goodE_step {z : Doc} {x : EOp} {l : List EOp} (h : GoodE z (x :: l)) : GoodE (applyE z x) l := by
  obtain ⟨hwf, hok, hpw, hord⟩ := h
  rw [List.pairwise_cons] at hpw
  have hx := hok x (by simp)
  refine ⟨wf_applyE hwf x hx, ?_, hpw.2, ?_⟩
  · intro e he
    exact eok_after hwf hx (hok e (List.mem_cons_of_mem _ he)) (hpw.1 e he).1
  · intro p ⟨e, he, hi⟩
    obtain ⟨M0, hb, hc⟩ := hord p ⟨e, List.mem_cons_of_mem _ he, hi⟩
    have hpz := isArr_find (insOnE_isArr (hok e (List.mem_cons_of_mem _ he)) hi)
    rw [slotIds_applyE hwf hx hpz]
    cases hix : insOnE p x with
    | none =>
      refine ⟨M0, hb, ?_⟩
      intro l' hl'
      apply hc
      simp only [List.filterMap_cons, hix]
      exact hl'
    | some o =>
      refine ⟨M0 ++ [o], ?_, ?_⟩
      · simp only
        rw [hb, foldIds_append]; rfl
      · intro l' hl'
        have := hc (o :: l') (by simp only [List.filterMap_cons, hix]; exact hl'.cons o)
        simpa using this

theorem goodE_append {l1 : List EOp} : ∀ {z : Doc} {l2 : List EOp}, GoodE z (l1 ++ l2) →
    GoodE (applyAllE z l1) l2 := by
  induction l1 with
  | nil => intro z l2 h; exact h
  | cons x l ih => intro z l2 h; exact ih (goodE_step h)

/-- The table of pairs.  Independent operations: `comm_docEq`.  Same array and same `tgt`: two inserts (`none` twice) by
    `comm_docEq_ins_ins` (`OrdOK` supplies the two causal histories), two deletes by `comm_docEq_del_del` (exact, on the
    lookup function), update and delete by `comm_asim_upd_del`, two updates by `comm_sim_upd_upd` (these two through
    `same_slot_abs`). -/
theorem comm_asim {z : Doc} {x y : EOp} {l : List EOp} (h : GoodE z (x :: y :: l)) :
    ASim (applyE (applyE z x) y) (applyE (applyE z y) x) := by
  have hwf := h.wf
  have hx : EOK z x := h.head
  have hy : EOK z y := h.ok (by simp)
  have hxy : Compat x y := (List.pairwise_cons.mp h.compat).1 y (by simp)
  by_cases hind : Indep x y
  · exact asim_of_docEq (comm_docEq hwf hx hy hxy.disj hind)
  · unfold Indep at hind
    have hp : x.p = y.p := by
      by_contra hne; exact hind (fun e => absurd e hne)
    have ht : x.tgt = y.tgt := by
      by_contra hne; exact hind (fun _ => hne)
    cases x with
    | ins p1 a1 t1 vs1 =>
      cases y with
      | ins p2 a2 t2 vs2 =>
        simp only [EOp.p] at hp
        subst hp
        obtain ⟨M0, hb, hc⟩ := h.ord p1 ⟨EOp.ins p1 a1 t1 vs1, by simp, by simp [insOnE]⟩
        have hf : (EOp.ins p1 a1 t1 vs1 :: EOp.ins p1 a2 t2 vs2 :: l).filterMap (insOnE p1) =
            ⟨a1, newSlots (.ins p1 a1 t1 vs1)⟩ :: ⟨a2, newSlots (.ins p1 a2 t2 vs2)⟩ :: l.filterMap (insOnE p1) := by
          simp [insOnE]
        -- both orders of the two batches, followed by the rest, are causal after `M0`: so are their prefixes
        have c1' : ACausal (M0 ++ [⟨a1, newSlots (.ins p1 a1 t1 vs1)⟩, ⟨a2, newSlots (.ins p1 a2 t2 vs2)⟩]) :=
          ACausal.prefix (N := l.filterMap (insOnE p1)) (by rw [List.append_assoc]; exact hc _ (by rw [hf]; rfl))
        have c2' : ACausal (M0 ++ [⟨a2, newSlots (.ins p1 a2 t2 vs2)⟩, ⟨a1, newSlots (.ins p1 a1 t1 vs1)⟩]) :=
          ACausal.prefix (N := l.filterMap (insOnE p1))
            (by rw [List.append_assoc]; exact hc _ (by rw [hf]; exact List.Perm.swap _ _ _))
        exact asim_of_docEq (comm_docEq_ins_ins hwf hx hy hxy.disj M0 hb c1' c2')
      | del1 p2 tg2 t2 => simp [EOp.tgt] at ht
      | upd1 p2 tg2 t2 v2 => simp [EOp.tgt] at ht
    | del1 p1 tg1 t1 =>
      cases y with
      | ins p2 a2 t2 vs2 => simp [EOp.tgt] at ht
      | del1 p2 tg2 t2 =>
        simp only [EOp.p] at hp
        simp only [EOp.tgt, Option.some.injEq] at ht
        subst hp; subst ht
        exact asim_of_sim (comm_sim_del_del hwf hx (hxy.stamps rfl rfl rfl))
      | upd1 p2 tg2 t2 v2 =>
        simp only [EOp.p] at hp
        simp only [EOp.tgt, Option.some.injEq] at ht
        subst hp; subst ht
        exact asim_symm (comm_asim_upd_del hwf hy hx)
    | upd1 p1 tg1 t1 v1 =>
      cases y with
      | ins p2 a2 t2 vs2 => simp [EOp.tgt] at ht
      | del1 p2 tg2 t2 =>
        simp only [EOp.p] at hp
        simp only [EOp.tgt, Option.some.injEq] at ht
        subst hp; subst ht
        exact comm_asim_upd_del hwf hx hy
      | upd1 p2 tg2 t2 v2 =>
        simp only [EOp.p] at hp
        simp only [EOp.tgt, Option.some.injEq] at ht
        subst hp; subst ht
        exact asim_of_sim (comm_sim_upd_upd hwf hx hy hxy.disj (hxy.stamps rfl rfl rfl))

theorem goodE_applyAll {l : List EOp} : ∀ {d : Doc}, GoodE d l → (applyAllE d l).WF := by
  induction l with
  | nil => intro d h; exact h.wf
  | cons x l ih => intro d h; exact ih (goodE_step h)

/-- Convergence.  Two replicas that start from `ASim`-equivalent well-formed documents and apply
    the same remote array operations (inserts, single-target updates and deletes; applicable in the start
    document, pairwise compatible, the pending inserts of every array causal in every order) in two
    different orders end in `ASim`-equivalent documents. -/
theorem arr_converge_asim {d d' : Doc} {l l' : List EOp} (hp : l.Perm l') (h : GoodE d l) (h' : GoodE d' l)
    (hs : ASim d d') : ASim (applyAllE d l) (applyAllE d' l') :=
  Exch.perm_fold_equiv applyE ASim asim_equivalence GoodE
    (fun _ _ _ hp h => goodE_perm hp h) (fun _ _ _ h => goodE_step h)
    (fun _ _ _ _ h1 h2 h => asim_congr h1.wf h2.wf h1.head h2.head h)
    (fun _ _ _ _ h => comm_asim h)
    l l' hp d d' h h' hs

theorem arr_converge_asim_same {d : Doc} {l l' : List EOp} (hp : l.Perm l') (h : GoodE d l) :
    ASim (applyAllE d l) (applyAllE d l') := arr_converge_asim hp h h (asim_refl d)

/-! ### what `view` needs (`DC.ViewOK`: no duplicate keys, bounded depth, an object root) is preserved -/

/-- the values of the operation have no duplicate keys -/
def EKeysND : EOp → Prop
  | .ins _ _ _ vs => JKeysNDList vs
  | .del1 _ _ _ => True
  | .upd1 _ _ _ v => JKeysND v

theorem nodesKeysND_nodesE (e : EOp) (h : EKeysND e) : NodesKeysND (nodesE e) := by
  rcases nodesE_cases e with ⟨h0, _⟩ | ⟨p, a, vs, t', he, hc⟩ | ⟨_, p, tg, v, c, t', he, hc⟩
  · rw [h0]; exact fun n hn => nomatch hn
  · rw [he] at h; exact createArrItems_keysND p e.ts vs _ _ t' hc h
  · rw [he] at h; exact createNode_keysND p e.ts v _ hc h

/-- an array parent never gets an object kind -/
theorem rstep_arr_keys {d : Doc} {a : EOp} (ha : EOK d a) {pn : DNode} {K' : DKind} (h : RStep d (effE d a) pn K') :
    ∀ m s, K' = .obj m s → (m.map (·.1)).Nodup := by
  intro m s hK
  obtain ⟨pn0, sl, sz, hp⟩ := isArr_iff.mp ha.isArr
  obtain ⟨hp1, hk1⟩ := findArr_some_iff.mp hp
  cases Option.some.inj (h.hp.symm.trans (effE_p d a ▸ hp1))
  have := h.sort
  rw [hk1, hK] at this
  exact this.elim

theorem isObj_applyE {d : Doc} (hwf : d.WF) {a : EOp} (ha : EOK d a) {q : Ts} (hq : IsObj d q) :
    IsObj (applyE d a) q :=
  let ⟨_, _, h⟩ := rstep_applyE hwf a ha
  h.isObj_next (find_applyE hwf a ha) hq

theorem viewOK_applyE {d : Doc} (hwf : d.WF) (hv : ViewOK d) (e : EOp) (he : EOK d e) (hk : EKeysND e) :
    ViewOK (applyE d e) :=
  let ⟨_, _, h⟩ := rstep_applyE hwf e he
  h.viewOK_next (find_applyE hwf e he) (nodup_applyA hwf.nodup e.toA) hv
    (effE_ns d e ▸ nodesKeysND_nodesE e hk) (rstep_arr_keys he h)

theorem viewOK_applyAllE {l : List EOp} : ∀ {d : Doc}, GoodE d l → ViewOK d → (∀ e ∈ l, EKeysND e) →
    ViewOK (applyAllE d l) := by
  induction l with
  | nil => intro d _ hv _; exact hv
  | cons x l ih =>
    intro d h hv hk
    exact ih (goodE_step h) (viewOK_applyE h.wf hv x h.head (hk x (by simp)))
      (fun o ho => hk o (List.mem_cons_of_mem _ ho))

/-- Convergence of views.  Two application orders of the same remote array operations show the same
    key-sorted JSON (`JVal.canon` sorts object keys; array order is untouched) below any node that is
    visible in the first result (a container or a live element) … -/
theorem arr_converge_viewAt {d : Doc} {l l' : List EOp} (hp : l.Perm l') (h : GoodE d l) (hv : ViewOK d)
    (hk : ∀ e ∈ l, EKeysND e) {c : Ts} (hc : (shapeOf (applyAllE d l) c).isSome) :
    ((applyAllE d l).viewAt c).canon = ((applyAllE d l').viewAt c).canon := by
  have h' := goodE_perm hp h
  have hk' : ∀ e ∈ l', EKeysND e := fun e he => hk e (hp.mem_iff.mpr he)
  have v1 := viewOK_applyAllE h hv hk
  have v2 := viewOK_applyAllE h' hv hk'
  exact asim_viewAt_canon (arr_converge_asim_same hp h) (goodE_applyAll h) v1.keys v2.keys
    v1.bounded v2.bounded hc

/-- … in particular as a whole -/
theorem arr_converge_view {d : Doc} {l l' : List EOp} (hp : l.Perm l') (h : GoodE d l) (hv : ViewOK d)
    (hk : ∀ e ∈ l, EKeysND e) : (applyAllE d l).view.canon = (applyAllE d l').view.canon := by
  obtain ⟨par, hr⟩ := isObj_iff.mp (viewOK_applyAllE h hv hk).root
  exact arr_converge_viewAt hp h hv hk (by rw [hr]; rfl)

/-! ## payload: what a remote update / delete does to the targeted slot

The state of a slot is the state of its current child: `refSt d c = ⟨isTomb c, timeOf c, live occupant⟩`
(`DC.KeySt`); the visible value of a live slot is `viewAt c`.  `slot_step`: a remote single-target
delete / update replaces child and state of the (first) slot `tg` by `aDelStep t` / `aUpdStep t` of the
old child and state — nothing else of the slot list changes (`slotsOf_applyE`).  `del_eff` / `upd_eff`:
read as a node of the flat list (`stR`), these steps ARE `RF.Eff.del t` / `RF.Eff.upd v t`, i.e. `delF` /
`updF` of Proofs/Rga.lean: delete dominates (a live slot is tombstoned whatever the stamps), a
tombstone keeps the greatest delete stamp, a tombstone is never revived, on a live slot the update with
the newer stamp wins.  What differs from the flat list is not observable through `Ts.cmp`: an update
creates a NEW child (the slot keeps its order identifier, `timeOf` becomes the new child's creation
identifier) and buries the old one (an element leaves the table, a container stays as a tombstone with its
subtree); the loser of an update is buried the same way; the stamps of a multi-target update are
`t, t + #nodes(v₁), …` where the flat list has `t, t+1, …` (same `Ts.key`). -/

/-- the slot as a node of the flat list: order identifier, visible value `w` unless tombstoned, LWW time -/
def stR (o : Ts) (w : JVal) (st : KeySt) : RNode := ⟨o, if st.tomb then none else some w, st.time⟩

theorem del_eff (t c o : Ts) (w w' : JVal) (st : KeySt) :
    stR o w' (aDelStep t c st).st = (RF.Eff.del t).app (stR o w st) := by
  obtain ⟨tomb, τ, occ⟩ := st
  cases tomb
  · simp [stR, aDelStep, RF.Eff.app, delF, RNode.isLive]
  · by_cases h : (τ.cmp t == Ordering.lt) = true
    · simp [stR, aDelStep, RF.Eff.app, delF, RNode.isLive, h]
    · simp [stR, aDelStep, RF.Eff.app, delF, RNode.isLive, h]

theorem upd_eff (n c o : Ts) (w v : JVal) (st : KeySt) :
    stR o (if !st.tomb && st.time.cmp n == .lt then v else w) (aUpdStep n c st).st =
      (RF.Eff.upd v n).app (stR o w st) := by
  obtain ⟨tomb, τ, occ⟩ := st
  cases tomb
  · by_cases h : (τ.cmp n == Ordering.lt) = true
    · simp [stR, aUpdStep, RF.Eff.app, updF, h]
    · simp [stR, aUpdStep, RF.Eff.app, updF, h]
  · simp [stR, aUpdStep, RF.Eff.app, updF]

/-- The slot step.  After an applicable single-target delete / update of the slot `tg` of `p`, the
    slot `tg` holds the child and the state computed by `aDelStep t` / `aUpdStep t` from the child and the
    state it held before. -/
theorem slot_step {d : Doc} (hwf : d.WF) {e : EOp} (he : EOK d e) {tg : Ts} (ht : e.tgt = some tg) :
    ∃ s s', (slotsOf d e.p).find? (fun x => x.1 = tg) = some s ∧
      (slotsOf (applyE d e) e.p).find? (fun x => x.1 = tg) = some s' ∧
      s'.2 = (fE e s.2 (refSt d s.2)).c ∧ refSt (applyE d e) s'.2 = (fE e s.2 (refSt d s.2)).st := by
  obtain ⟨pn, sl, sz, hp⟩ := isArr_iff.mp he.isArr
  obtain ⟨hp1, hk⟩ := findArr_some_iff.mp hp
  obtain ⟨sx, hsx, hsm, _⟩ := target_slot (he.tgt_mem ht)
  have hsx0 := hsx
  rw [slotsOf_of_findArr hp] at hsx hsm
  have hshape : (abs d).shape e.p = some (pn.parent, .arr (sl.map (entOf d))) := shapeOf_arr hp1 hk
  have hfind : (sl.map (entOf d)).find? (fun x => x.1 = tg) = some (entOf d sx) := by
    rw [find?_map_entOf, hsx]; rfl
  have hpn : e.p ∉ ids (nodesE e) := fresh_not_mem he.fresh hp1
  have h1 := abs_applyE hwf e he
  rw [absE_slot ht, applySlot_eq (fE e) (union_shape_some hshape) hfind] at h1
  have h2 : (abs (applyE d e)).shape e.p = some (pn.parent, .arr
      (setEntry tg (fE e sx.2 (refSt d sx.2)).c (fE e sx.2 (refSt d sx.2)).st (sl.map (entOf d)))) := by
    rw [h1]
    apply kill_shape_arr
    simp [setArr, entOf]
  obtain ⟨pn', sl', sz', hp'⟩ := isArr_iff.mp (isArr_applyE hwf he he.isArr)
  obtain ⟨hp1', hk'⟩ := findArr_some_iff.mp hp'
  have h3 : (abs (applyE d e)).shape e.p = some (pn'.parent, .arr (sl'.map (entOf (applyE d e)))) :=
    shapeOf_arr hp1' hk'
  rw [h3] at h2
  simp only [Option.some.injEq, Prod.mk.injEq, Shape.arr.injEq] at h2
  have h4 := congrArg (fun E : List Ent => E.find? (fun x => x.1 = tg)) h2.2
  simp only [find?_map_entOf, find?_setEntry hfind] at h4
  cases hs' : sl'.find? (fun x => x.1 = tg) with
  | none => rw [hs'] at h4; simp at h4
  | some s' =>
    rw [hs'] at h4
    simp only [Option.map_some, Option.some.injEq, entOf, Prod.mk.injEq] at h4
    exact ⟨sx, s', hsx0, by rw [slotsOf_of_findArr hp']; exact hs', h4.2.1, h4.2.2⟩

/-- a winning update: the slot shows exactly the value sent -/
theorem upd1_win_viewAt {d : Doc} (hwf : d.WF) (hbd : Bounded d) {p tg t : Ts} {v : JVal}
    (he : EOK d (.upd1 p tg t v)) {s : Ts × Ts} (hs : (slotsOf d p).find? (fun x => x.1 = tg) = some s)
    (hlive : d.isTomb s.2 = false) (hlt : (d.timeOf s.2).cmp t = .lt) :
    (applyE d (.upd1 p tg t v)).viewAt t = v ∧ (applyE d (.upd1 p tg t v)).isTomb t = false ∧
      (slotsOf (applyE d (.upd1 p tg t v)) p).find? (fun x => x.1 = tg) = some (tg, t) := by
  obtain ⟨pn, sl, sz, ns, t', hp, hc, hn, hf, _⟩ := he.upd1_inv
  obtain ⟨hpn, _⟩ := findArr_some_iff.mp hp
  obtain ⟨nc, hnc, _⟩ := slotsOf_child hwf (List.mem_of_find?_eq_some hs)
  have hb : Block t ns t' := (createNode_spec p t v _ hc).1
  have hnd := block_ids_nodup hb
  have heff : effE d (.upd1 p tg t v) = ⟨ns, p, mapArr (setK tg t), s.2, fun1 t⟩ := by
    simp only [effE, hs, hlive, hlt, hn]
    simp
  have hpres : Present (applyE d (.upd1 p tg t v)) ns := by
    intro n hnm
    have hmem : n.c ∈ ids ns := List.mem_map.mpr ⟨n, hnm, rfl⟩
    rw [find_applyE hwf _ he, heff]
    simp only [Eff.run]
    have h1 : n.c ≠ s.2 := fun e => fresh_not_mem hf hnc (e ▸ hmem)
    have h2 : n.c ≠ p := fun e => fresh_not_mem hf hpn (e ▸ hmem)
    rw [upd_other _ _ h1, upd_other _ _ h2]
    simp only [U, nfind_of_mem hnd hnm, Option.some_or]
  obtain ⟨F, hF⟩ := viewOf_createNode _ p t v _ hc hpres
  obtain ⟨rk, hrk, hbound⟩ := bounded_applyE hwf hbd _ he
  obtain ⟨_, hl⟩ := created_root_live hc hpres
  refine ⟨?_, hl, ?_⟩
  · unfold Doc.viewAt
    have := hbound t
    rw [viewOf_stable hrk ((applyE d (.upd1 p tg t v)).table.length + 1)
      ((applyE d (.upd1 p tg t v)).table.length + 1 + F) t (by omega) (by omega)]
    exact hF _ (by omega)
  · rw [slotsOf_applyE hwf he (isArr_find (p := p) he.isArr)]
    simp only [EOp.p, if_true, slotK, hs, hlive, hlt]
    simp only [Bool.not_false, beq_self_eq_true, Bool.and_self, if_true]
    exact find?_setSlotChild_same hs

/-! ## non-vacuity, examples, counterexamples (by evaluation of the executable model) -/

/-! ### decidable sufficient conditions (for concrete instances) -/

theorem disj_of_all {a b : EOp}
    (h : (ids (nodesE a)).all (fun c => !(memB c (ids (nodesE b)))) = true) : Disj a b := by
  intro c h1 h2
  have := List.all_eq_true.mp h c h1
  rw [memB_iff.mpr h2] at this
  cases this

def eokB (d : Doc) (e : EOp) : Bool :=
  match e with
  | .ins p a ts vs =>
    (d.findArr p).isSome && (match createMany p ts vs with | .ok _ => true | _ => false) &&
      (ids (nodesE e)).all (fun c => (d.find c).isNone) && (newSlots e).all (fun c => !memB c (slotIds d p)) &&
      (decide (a = Ts.oldest) || memB a (slotIds d p))
  | .del1 p tg _ => (d.findArr p).isSome && memB tg (slotIds d p)
  | .upd1 p tg t v =>
    (d.findArr p).isSome && (match createNode p t v with | .ok _ => true | _ => false) &&
      (ids (nodesE e)).all (fun c => (d.find c).isNone) && memB tg (slotIds d p)

theorem eok_of_B {d : Doc} {e : EOp} (h : eokB d e = true) : EOK d e := by
  cases e with
  | ins p a ts vs =>
    simp only [eokB, Bool.and_eq_true, Bool.or_eq_true, decide_eq_true_eq] at h
    obtain ⟨⟨⟨⟨h1, h2⟩, h3⟩, h4⟩, h5⟩ := h
    refine ⟨h1, ?_, DC.Ex.fresh_of_all h3, ?_, ?_⟩
    · cases hc : createMany p ts vs with
      | ok y => obtain ⟨ns, cs, t'⟩ := y; exact ⟨ns, cs, t', rfl⟩
      | err c => rw [hc] at h2; cases h2
      | panic w => rw [hc] at h2; cases h2
    · intro c hc hm
      have := List.all_eq_true.mp h4 c hc
      rw [memB_iff.mpr hm] at this
      cases this
    · rcases h5 with h5 | h5
      · exact Or.inl h5
      · exact Or.inr (memB_iff.mp h5)
  | del1 p tg t =>
    simp only [eokB, Bool.and_eq_true] at h
    exact ⟨h.1, memB_iff.mp h.2⟩
  | upd1 p tg t v =>
    simp only [eokB, Bool.and_eq_true] at h
    obtain ⟨⟨⟨h1, h2⟩, h3⟩, h4⟩ := h
    refine ⟨h1, ?_, DC.Ex.fresh_of_all h3, memB_iff.mp h4⟩
    cases hc : createNode p t v with
    | ok y => obtain ⟨ns, c, t'⟩ := y; exact ⟨ns, c, t', rfl⟩
    | err c => rw [hc] at h2; cases h2
    | panic w => rw [hc] at h2; cases h2

def compatB (a b : EOp) : Bool :=
  (ids (nodesE a)).all (fun c => !memB c (ids (nodesE b))) &&
    decide (a.p = b.p → a.tgt = b.tgt → a.tgt ≠ none → a.ts.cmp b.ts ≠ .eq)

theorem compat_of_B {a b : EOp} (h : compatB a b = true) : Compat a b := by
  simp only [compatB, Bool.and_eq_true, decide_eq_true_eq] at h
  exact ⟨disj_of_all h.1, h.2⟩

theorem pairwise_compat_of_B {l : List EOp} (h : l.Pairwise (fun a b => compatB a b = true)) :
    l.Pairwise Compat := h.imp compat_of_B

instance (d : Doc) (p : Ts) : Decidable (IsArr d p) := by unfold IsArr; infer_instance

theorem not_sim_of_slots {a b : Doc} {p : Ts} (ha : IsArr a p) (h : slotsOf a p ≠ slotsOf b p) : ¬ Sim a b := by
  intro hs
  apply h
  have hsh : shapeOf a p = shapeOf b p := congrArg (fun A => A.shape p) hs
  obtain ⟨pn, sl, sz, hp⟩ := isArr_iff.mp ha
  obtain ⟨hp1, hk⟩ := findArr_some_iff.mp hp
  rw [shapeOf_arr hp1 hk] at hsh
  rw [slotsOf_of_findArr hp]
  unfold shapeOf at hsh
  cases hb : b.find p with
  | none => rw [hb] at hsh; simp at hsh
  | some nb =>
    rw [hb] at hsh
    obtain ⟨bc, bd, bp, bk⟩ := nb
    cases bk with
    | elem v => simp only at hsh; split at hsh <;> simp at hsh
    | obj m s => simp at hsh
    | arr slb sb =>
      simp only [Option.some.injEq, Prod.mk.injEq, Shape.arr.injEq] at hsh
      have hb' : b.findArr p = some (⟨bc, bd, bp, .arr slb sb⟩, slb, sb) := findArr_some_iff.mpr ⟨hb, rfl⟩
      rw [slotsOf_of_findArr hb']
      have h1 := congrArg (List.map fun e : Ent => (e.1, e.2.1)) hsh.2
      simpa [List.map_map, Function.comp_def, entOf] using h1

theorem perm_pair {α : Type} {a b : α} {l : List α} (h : l.Perm [a, b]) : l = [a, b] ∨ l = [b, a] := by
  match l, h.length_eq, h with
  | [x, y], _, h =>
    have hx : x = a ∨ x = b := by simpa using h.subset List.mem_cons_self
    rcases hx with rfl | rfl
    · exact Or.inl (by rw [List.perm_singleton.mp h.cons_inv])
    · exact Or.inr (by rw [List.perm_singleton.mp (h.trans (List.Perm.swap _ _ _)).cons_inv])

namespace Ex

def tA : Ts := ⟨0, 1, "a", 0⟩
def tB : Ts := ⟨0, 2, "b", 0⟩
def tC : Ts := ⟨0, 3, "c", 0⟩
def tD : Ts := ⟨0, 4, "d", 0⟩
def tE : Ts := ⟨0, 5, "e", 0⟩
def root : Ts := Ts.oldest
def base : Doc := applyOp Doc.empty (.put root "a" (.arr [.num 1, .obj [("x", .num 5)], .arr [.num 7]]) tA)
def arr : Ts := tA
def s0 : Ts := ⟨0, 1, "a", 1⟩
def s1 : Ts := ⟨0, 1, "a", 2⟩
def s2 : Ts := ⟨0, 1, "a", 4⟩
theorem base_wf : base.WF :=
  wf_op wf_doc_empty _ ⟨⟨_, _, _, rfl, rfl⟩, ⟨_, _, _, rfl⟩, DC.Ex.fresh_of_all (by decide +kernel)⟩
def i1 : EOp := .ins arr s0 tB [.arr [.num 1, .num 2], .str "z"]
def i2 : EOp := .ins arr s0 tC [.num 99]
def u : EOp := .upd1 arr s1 tD (.num 10)
def dl : EOp := .del1 arr s1 tE
def ops : List EOp := [i1, i2, u, dl]
def ops' : List EOp := [dl, u, i2, i1]

def m0 : AIns := ⟨Ts.oldest, [s0, s1, s2]⟩
def o1 : AIns := ⟨s0, newSlots i1⟩
def o2 : AIns := ⟨s0, newSlots i2⟩

theorem causal3 {m a b : AIns}
    (h : ∀ o ∈ [m, a, b], o.cs ≠ [] ∧ (∀ x ∈ o.cs, x.key = o.ts0.key) ∧ o.cs.Nodup ∧ o.ts0.key ≠ Ts.oldest.key)
    (hd : m.ts0.key ≠ a.ts0.key ∧ m.ts0.key ≠ b.ts0.key ∧ a.ts0.key ≠ b.ts0.key) (hm : m.anchor = Ts.oldest)
    (ha : a.anchor ∈ m.cs ∧ m.ts0.cmp a.ts0 = .lt) (hb : b.anchor ∈ m.cs ∧ m.ts0.cmp b.ts0 = .lt) :
    ACausal [m, a, b] where
  nonempty := fun o ho => (h o ho).1
  samekey := fun o ho => (h o ho).2.1
  nodup := fun o ho => (h o ho).2.2.1
  notHead := fun o ho => (h o ho).2.2.2
  distinct := by simp [hd]
  anchored := by
    intro i hi
    match i, hi with
    | 0, _ => exact Or.inl hm
    | 1, _ => exact Or.inr ⟨0, by omega, ha⟩
    | 2, _ => exact Or.inr ⟨0, by omega, hb⟩

theorem causal12 : ACausal [m0, o1, o2] :=
  causal3 (by decide +kernel) (by decide +kernel) rfl (by decide +kernel) (by decide +kernel)

theorem causal21 : ACausal [m0, o2, o1] :=
  causal3 (by decide +kernel) (by decide +kernel) rfl (by decide +kernel) (by decide +kernel)

theorem ordOK {l : List EOp} (hp : ∀ e ∈ l, e.p = arr) (hf : l.filterMap (insOnE arr) = [o1, o2]) :
    OrdOK base l := by
  intro p ⟨e, he, hi⟩
  obtain rfl : arr = p := (hp e he).symm.trans (insOnE_p hi)
  refine ⟨[m0], by decide +kernel, fun l' hl' => ?_⟩
  rw [hf] at hl'
  rcases perm_pair hl' with rfl | rfl
  · exact causal12
  · exact causal21

/-! #### the hypotheses of the convergence theorems are satisfiable: `GoodE base ops` — a nested batch
    insert, a concurrent insert at the same place, an update and a delete of the same slot -/

theorem good : GoodE base ops :=
  ⟨base_wf, fun e he => eok_of_B (by revert e; decide +kernel), pairwise_compat_of_B (by decide +kernel),
    ordOK (by decide +kernel) (by decide +kernel)⟩

example : ASim (applyAllE base ops) (applyAllE base ops') :=
  arr_converge_asim_same (List.reverse_perm ops).symm good

theorem base_viewOK : ViewOK base :=
  viewOK_op wf_doc_empty viewOK_empty _ ⟨⟨_, _, _, rfl, rfl⟩, ⟨_, _, _, rfl⟩, DC.Ex.fresh_of_all (by decide +kernel)⟩
    (by simp [OpKeysND, JKeysND, JKeysNDList, JKeysNDKvs])

example : (applyAllE base ops).view.canon = (applyAllE base ops').view.canon :=
  arr_converge_view (List.reverse_perm ops).symm good base_viewOK (by
    intro e he
    simp only [ops, List.mem_cons, List.mem_nil_iff, or_false] at he
    rcases he with rfl | rfl | rfl | rfl <;> simp [EKeysND, i1, i2, u, dl, JKeysND, JKeysNDList])

/-- … and what the two replicas show -/
example : ((applyAllE base ops).view ==
    .obj [("a", .arr [.num 1, .num 99, .arr [.num 1, .num 2], .str "z", .arr [.num 7]])]) = true ∧
    ((applyAllE base ops').view == (applyAllE base ops).view) = true := by decide +kernel

/-! #### nested values inserted in one batch: the order identifiers are the children's creation
    identifiers, NOT consecutive delimiters -/
example : newSlots i1 = [tB, ⟨0, 2, "b", 3⟩] := by decide +kernel
example : slotIds (applyE base i1) arr = [s0, tB, ⟨0, 2, "b", 3⟩, s1, s2] := by decide +kernel

/-! #### concurrent inserts at the same place: the newer batch comes first, in both arrival orders -/
example : slotIds (applyAllE base [i1, i2]) arr = [s0, tC, tB, ⟨0, 2, "b", 3⟩, s1, s2] ∧
    slotIds (applyAllE base [i2, i1]) arr = [s0, tC, tB, ⟨0, 2, "b", 3⟩, s1, s2] := by decide +kernel

/-- the same by `arr_order_converge_fresh` (batches, an update and a delete mixed in) -/
example : slotIds (applyAllA base [.ins arr s0 tB [.arr [.num 1, .num 2], .str "z"], .upd arr tD [s1] [.num 10],
      .ins arr s0 tC [.num 99], .del arr [s1, s2] tE]) arr =
    slotIds (applyAllA base [.del arr [s1, s2] tE, .ins arr s0 tC [.num 99], .upd arr tD [s1] [.num 10],
      .ins arr s0 tB [.arr [.num 1, .num 2], .str "z"]]) arr := by
  apply arr_order_converge_fresh
  · exact List.reverse_perm _ |>.symm
  · decide +kernel
  · decide +kernel
  · have : ([AOp.ins arr s0 tB [.arr [.num 1, .num 2], .str "z"], .upd arr tD [s1] [.num 10],
        .ins arr s0 tC [.num 99], .del arr [s1, s2] tE]).filterMap (insOn arr) = [o1, o2] := by decide +kernel
    rw [this]
    have : slotIds base arr = [s0, s1, s2] := by decide +kernel
    rw [this]
    exact causal12
  · have : ([AOp.del arr [s1, s2] tE, .ins arr s0 tC [.num 99], .upd arr tD [s1] [.num 10],
        .ins arr s0 tB [.arr [.num 1, .num 2], .str "z"]]).filterMap (insOn arr) = [o2, o1] := by decide +kernel
    rw [this]
    have : slotIds base arr = [s0, s1, s2] := by decide +kernel
    rw [this]
    exact causal21

/-! #### update and delete of the same slot, both arrival orders: same view, same size, but the slot is
    left with DIFFERENT tombstoned children — `DC.Sim` fails, `ASim` holds (`comm_asim_upd_del`) -/
def ud : Doc := applyAllE base [u, dl]
def du : Doc := applyAllE base [dl, u]
example : (ud.view == du.view) = true ∧ sizeOf' ud arr = 2 ∧ sizeOf' du arr = 2 := by decide +kernel
example : slotsOf ud arr = [(s0, s0), (s1, tD), (s2, s2)] ∧ slotsOf du arr = [(s0, s0), (s1, s1), (s2, s2)] := by
  decide +kernel
theorem upd_del_not_sim : ¬ Sim ud du := not_sim_of_slots (p := arr) (by decide +kernel) (by decide +kernel)
example : ASim ud du := by
  rw [ud, du, applyAllE_pair, applyAllE_pair]
  exact comm_asim_upd_del base_wf (good.ok (e := u) (by simp [ops])) (good.ok (e := dl) (by simp [ops]))
/-- the delete dominates even when it is OLDER than the update (the flat list does the same: `delF`) -/
example : ((applyAllE base [.upd1 arr s1 tE (.num 10), .del1 arr s1 tD]).view ==
    (applyAllE base [.del1 arr s1 tD, .upd1 arr s1 tE (.num 10)]).view) = true ∧
    (applyAllE base [.upd1 arr s1 tE (.num 10), .del1 arr s1 tD]).timeOf tE = tD := by decide +kernel

/-! #### two updates of the same slot whose old child is a container: the buried container keeps the
    stamp of the update that buried it — `DocEq` fails, `DC.Sim` holds (`comm_sim_upd_upd`) -/
def u' : EOp := .upd1 arr s1 tE (.num 20)
def uu : Doc := applyAllE base [u, u']
def uu' : Doc := applyAllE base [u', u]
example : DC.Ex.dOf uu s1 = some (some tD) ∧ DC.Ex.dOf uu' s1 = some (some tE) := by decide +kernel
theorem upd_upd_not_docEq : ¬ DocEq uu uu' := DC.Ex.not_docEq_of_dOf s1 (by decide +kernel)
theorem u'_ok : EOK base u' := eok_of_B (by decide +kernel)
example : Sim uu uu' := by
  rw [uu, uu', applyAllE_pair, applyAllE_pair]
  exact comm_sim_upd_upd base_wf (good.ok (e := u) (by simp [ops])) u'_ok (disj_of_all (by decide +kernel))
    (by decide +kernel)
example : (uu.view == uu'.view) = true := by decide +kernel

/-! #### the payload rule is the flat list's (`del_eff`, `upd_eff`); what differs is invisible to `Ts.cmp`:
    the second value of a two-target update is created at `tD + #nodes(first value)` (here `tD+2`), where
    the flat list stamps `tD+1` — same `Ts.key`, same LWW decisions -/
example : let d := applyA base (.upd arr tD [s0, s1] [.arr [.num 1], .num 2])
    slotsOf d arr = [(s0, tD), (s1, ⟨0, 4, "d", 2⟩), (s2, s2)] ∧ d.timeOf ⟨0, 4, "d", 2⟩ = ⟨0, 4, "d", 2⟩ ∧
    (⟨0, 4, "d", 2⟩ : Ts).cmp ⟨0, 4, "d", 1⟩ = .eq := by decide +kernel
/-- `slot_step` on the instance: the slot `s1` after the update `u` holds the child `tD`, live, time `tD` -/
example : (slotsOf (applyE base u) arr).find? (fun x => x.1 = s1) = some (s1, tD) ∧
    refSt (applyE base u) tD = ⟨false, tD, some tD⟩ ∧
    aUpdStep tD s1 (refSt base s1) = ⟨tD, ⟨false, tD, some tD⟩, 0, some s1⟩ := by decide +kernel

/-! #### a delete of a slot whose child is a container keeps the container (and its subtree) in the table;
    an insert into the deleted inner array still applies, in both orders, and stays invisible -/
example : let d := applyE base (.del1 arr s2 tD)
    (d.find s2).isSome = true ∧ d.isTomb s2 = true ∧ (d.find ⟨0, 1, "a", 5⟩).isSome = true := by decide +kernel
example : ((applyAllE base [.del1 arr s2 tD, .ins s2 Ts.oldest tE [.num 8]]).view ==
    (applyAllE base [.ins s2 Ts.oldest tE [.num 8], .del1 arr s2 tD]).view) = true ∧
    slotIds (applyAllE base [.del1 arr s2 tD, .ins s2 Ts.oldest tE [.num 8]]) s2 = [tE, ⟨0, 1, "a", 5⟩] := by decide +kernel

end Ex

/-! ## multi-target operations: a batch is the sequence of its single-target operations -/

/-! ### the operations respect `DocEq` and keep the identifiers of the table distinct -/

theorem docEq_del_go (slots : List (Ts × Ts)) : ∀ (tgs : List Ts) (t : Ts) (a b : Doc) (k : Int),
    DocEq a b → DocEq (Doc.deleteRemoteInArray.go slots tgs t a k).1 (Doc.deleteRemoteInArray.go slots tgs t b k).1 ∧
      (Doc.deleteRemoteInArray.go slots tgs t a k).2 = (Doc.deleteRemoteInArray.go slots tgs t b k).2
  | [], _, _, _, _, h => ⟨h, rfl⟩
  | tg :: tgs, t, a, b, k, h => by
      simp only [Doc.deleteRemoteInArray.go]
      cases slots.find? (fun s => s.1 = tg) with
      | none => exact docEq_del_go slots tgs _ a b k h
      | some s =>
        simp only
        rw [docEq_isTomb h s.2, docEq_timeOf h s.2]
        by_cases h1 : (!b.isTomb s.2) = true
        · simp only [h1, if_true]
          exact docEq_del_go slots tgs _ _ _ _ (docEq_makeTomb h _ _)
        · simp only [h1, Bool.false_eq_true, if_false]
          by_cases h2 : ((b.timeOf s.2).cmp t == Ordering.lt) = true
          · simp only [h2, if_true]
            exact docEq_del_go slots tgs _ _ _ _ (docEq_makeTomb h _ _)
          · simp only [h2, Bool.false_eq_true, if_false]
            exact docEq_del_go slots tgs _ a b k h

def OEq : Outcome Doc → Outcome Doc → Prop
  | .ok a, .ok b => DocEq a b
  | .err c, .err c' => c = c'
  | .panic w, .panic w' => w = w'
  | _, _ => False

theorem OEq.getD {ra rb : Outcome Doc} (h : OEq ra rb) {a b : Doc} (hab : DocEq a b) :
    DocEq (match (generalizing := false) ra with | .ok d' => d' | _ => a)
      (match (generalizing := false) rb with | .ok d' => d' | _ => b) := by
  cases ra <;> cases rb <;> simp only [OEq] at h
  · exact h
  · exact hab
  · exact hab

theorem docEq_upd_go (p : Ts) : ∀ (tgs : List Ts) (vs : List JVal) (t : Ts) (a b : Doc), DocEq a b →
    OEq (Doc.updateRemoteInArray.go p tgs vs t a) (Doc.updateRemoteInArray.go p tgs vs t b)
  | [], _, _, _, _, h => by simp only [Doc.updateRemoteInArray.go, OEq]; exact h
  | _ :: _, [], _, _, _, _ => by simp only [Doc.updateRemoteInArray.go, OEq]
  | tg :: tgs, v :: vs, t, a, b, h => by
      simp only [Doc.updateRemoteInArray.go]
      cases createNode p t v with
      | err c => simp only [OEq]
      | panic w => simp only [OEq]
      | ok y =>
        obtain ⟨ns, newC, t'⟩ := y
        simp only
        have h1 := docEq_addAll h ns
        rw [docEq_findArr h1 p]
        cases (b.addAll ns).findArr p with
        | none => simp only [OEq]
        | some x =>
          obtain ⟨pn, sl, size⟩ := x
          simp only
          cases sl.find? (fun s => s.1 = tg) with
          | none => exact docEq_upd_go p tgs vs t' _ _ h1
          | some s =>
            simp only
            rw [docEq_isTomb h1 s.2, docEq_timeOf h1 s.2]
            by_cases hw : (!(b.addAll ns).isTomb s.2 && ((b.addAll ns).timeOf s.2).cmp newC == Ordering.lt) = true
            · simp only [hw, if_true]
              exact docEq_upd_go p tgs vs t' _ _ (docEq_funeral (docEq_set h1 _) _ _)
            · simp only [hw, Bool.false_eq_true, if_false]
              exact docEq_upd_go p tgs vs t' _ _ (docEq_funeral h1 _ _)

theorem docEq_applyA {a b : Doc} (h : DocEq a b) : ∀ (op : AOp), DocEq (applyA a op) (applyA b op)
  | .ins p an ts vs => by
    simp only [applyA, Doc.insertRemoteInArray]
    rw [docEq_findArr h p]
    cases b.findArr p with
    | none => exact h
    | some x =>
      obtain ⟨pn, sl, size⟩ := x
      simp only
      cases createMany p ts vs with
      | err c => exact h
      | panic w => exact h
      | ok y =>
        obtain ⟨ns, cs, t'⟩ := y
        simp only
        have h1 := docEq_addAll h ns
        cases insertAfterId (fun (s : Ts × Ts) => s.1) an (cs.map fun c => (c, c)) sl with
        | none => exact h1
        | some sl' => exact docEq_set h1 _
  | .del p tgs t => by
    simp only [applyA, Doc.deleteRemoteInArray]
    rw [docEq_findArr h p]
    cases b.findArr p with
    | none => exact h
    | some x =>
      obtain ⟨pn, slots, size⟩ := x
      simp only
      obtain ⟨h1, h2⟩ := docEq_del_go slots tgs t a b 0 h
      generalize Doc.deleteRemoteInArray.go slots tgs t a 0 = ra at h1 h2
      generalize Doc.deleteRemoteInArray.go slots tgs t b 0 = rb at h1 h2
      obtain ⟨da, ka⟩ := ra
      obtain ⟨db, kb⟩ := rb
      simp only at h1 h2 ⊢
      subst h2
      rw [docEq_findArr h1 p]
      cases db.findArr p with
      | none => exact h1
      | some y =>
        obtain ⟨pn', sl', size'⟩ := y
        exact docEq_set h1 _
  | .upd p t tgs vs => by
    simp only [applyA, Doc.updateRemoteInArray]
    rw [docEq_findArr h p]
    cases b.findArr p with
    | none => exact h
    | some x =>
      simp only
      exact (docEq_upd_go p tgs vs t a b h).getD h

theorem docEq_applyAllA : ∀ (L : List AOp) {a b : Doc}, DocEq a b → DocEq (applyAllA a L) (applyAllA b L)
  | [], _, _, h => h
  | op :: L, _, _, h => docEq_applyAllA L (docEq_applyA h op)

theorem docEq_applyAllE : ∀ (l : List EOp) {a b : Doc}, DocEq a b → DocEq (applyAllE a l) (applyAllE b l)
  | [], _, _, h => h
  | e :: l, _, _, h => docEq_applyAllE l (docEq_applyA h e.toA)

theorem nodup_applyAllA : ∀ (L : List AOp) {d : Doc}, (ids d.table).Nodup → (ids (applyAllA d L).table).Nodup
  | [], _, h => h
  | op :: L, _, h => nodup_applyAllA L (nodup_applyA h op)

/-! ### the single-target operations of a batch -/

def flatDel (p : Ts) : List Ts → Ts → List EOp
  | [], _ => []
  | tg :: tgs, t => .del1 p tg t :: flatDel p tgs t.nextDelim

/-- the `i`-th value is created at the timestamp left by the `i-1` values before it -/
def flatUpd (p : Ts) : List Ts → List JVal → Ts → List EOp
  | tg :: tgs, v :: vs, t =>
    .upd1 p tg t v :: flatUpd p tgs vs (match createNode p t v with
      | .ok (_, _, t') => t'
      | _ => t)
  | _, _, _ => []

def flat : AOp → List EOp
  | .ins p a ts vs => [.ins p a ts vs]
  | .del p tgs t => flatDel p tgs t
  | .upd p t tgs vs => flatUpd p tgs vs t

theorem mapArr_szK_add (a b : Int) (o : Option DNode) :
    mapArr (szK a) (mapArr (szK b) o) = mapArr (szK (b + a)) o := by
  cases o with
  | none => rfl
  | some n =>
    obtain ⟨nc, nd, np, nk⟩ := n
    cases nk with
    | elem v => rfl
    | obj m s => rfl
    | arr sl s =>
      simp only [mapArr, Option.map_some, szK, Option.some.injEq, DNode.mk.injEq, true_and, DKind.arr.injEq]
      omega

theorem arrV_mapArr_szK (k : Int) (o : Option DNode) : arrV (mapArr (szK k) o) = arrV o := by
  cases o with
  | none => rfl
  | some n =>
    obtain ⟨nc, nd, np, nk⟩ := n
    cases nk <;> rfl

/-- the running document of the batch loop (sizes adjusted at the end) against the running document of
    the single-target deletes (sizes adjusted at once) -/
theorem del_batch (p : Ts) (slots : List (Ts × Ts)) : ∀ (tgs : List Ts) (t : Ts) (d d' : Doc) (k : Int),
    arrV (d.find p) = some slots → d'.find = upd p (mapArr (szK k)) d.find →
    (applyAllE d' (flatDel p tgs t)).find =
      upd p (mapArr (szK (Doc.deleteRemoteInArray.go slots tgs t d k).2))
        (Doc.deleteRemoteInArray.go slots tgs t d k).1.find
  | [], _, _, _, _, _, h => h
  | tg :: tgs, t, d, d', k, hv, h => by
      have hv' : arrV (d'.find p) = some slots := by rw [h, upd_same, arrV_mapArr_szK, hv]
      obtain ⟨pn', sz', hp'⟩ := findArr_of_arrV hv'
      have e : applyAllE d' (flatDel p (tg :: tgs) t) =
          applyAllE (applyA d' (.del p [tg] t)) (flatDel p tgs t.nextDelim) := rfl
      rw [e, del_go_cons]
      cases hs : slots.find? (fun s => s.1 = tg) with
      | none => exact del_batch p slots tgs _ d _ k hv (by rw [del1_find_none hp' hs, h])
      | some s =>
        have hts : d'.isTomb s.2 = d.isTomb s.2 := by
          rw [isTomb_eq_tombO, isTomb_eq_tombO, h]
          by_cases ec : s.2 = p
          · rw [ec, upd_same, tombO_mapArr]
          · rw [upd_other _ _ ec]
        refine del_batch p slots tgs _ _ _ _ (by split; rw [arrV_makeTomb]; exact hv; exact hv) ?_
        rw [del1_find hp' hs, hts, h, find_delStep,
          upd_comm (Or.inr (comm_symm (comm_mapArr_delG _ t s.2))), upd_upd]
        exact upd_congr_at (mapArr_szK_add _ _ _)

theorem del_flat (z : Doc) (p : Ts) (tgs : List Ts) (t : Ts) :
    DocEq (applyA z (.del p tgs t)) (applyAllE z (flatDel p tgs t)) := by
  cases hp : z.findArr p with
  | none =>
    have hz : ∀ tgs t, applyA z (.del p tgs t) = z := fun _ _ => by simp only [applyA, Doc.deleteRemoteInArray, hp]
    rw [hz]
    induction tgs generalizing t with
    | nil => exact docEq_refl _
    | cons tg tgs ih =>
      rw [show applyAllE z (flatDel p (tg :: tgs) t) = applyAllE (applyA z (.del p [tg] t)) (flatDel p tgs t.nextDelim)
        from rfl, hz]
      exact ih _
  | some x =>
    obtain ⟨pn, slots, sz⟩ := x
    have hv : arrV (z.find p) = some slots := arrV_of_findArr hp
    have hb := del_batch p slots tgs t z z 0 hv (upd_mapArr_szK_zero p _).symm
    have hv1 := del_go_arrV slots tgs t z 0 p
    rw [hv] at hv1
    simp only [applyA, Doc.deleteRemoteInArray, hp]
    generalize Doc.deleteRemoteInArray.go slots tgs t z 0 = r at hb hv1
    obtain ⟨d1, k⟩ := r
    simp only at hb hv1 ⊢
    obtain ⟨pn1, sz1, hp1⟩ := findArr_of_arrV hv1
    simp only [hp1]
    intro c
    rw [find_setSize k hp1, hb]

theorem upd_go_flat (p : Ts) : ∀ (tgs : List Ts) (vs : List JVal) (t : Ts) (z : Doc) (rest : List EOp),
    GoodE z (flatUpd p tgs vs t ++ rest) → tgs.length ≤ vs.length →
    Doc.updateRemoteInArray.go p tgs vs t z = .ok (applyAllE z (flatUpd p tgs vs t))
  | [], _, _, _, _, _, _ => by simp [Doc.updateRemoteInArray.go, flatUpd, applyAllE]
  | _ :: _, [], _, _, _, _, hl => by simp at hl
  | tg :: tgs, v :: vs, t, z, rest, h, hl => by
      have hl' : tgs.length ≤ vs.length := by simpa using hl
      obtain ⟨pn, sl, sz, ns, t', hp, hc, _, hf, _⟩ :=
        (h.ok (e := .upd1 p tg t v) (List.mem_append_left _ List.mem_cons_self)).upd1_inv
      have hfl : flatUpd p (tg :: tgs) (v :: vs) t = .upd1 p tg t v :: flatUpd p tgs vs t' := by
        simp only [flatUpd, hc]
      rw [hfl] at h ⊢
      have hz1 : Doc.updateRemoteInArray.go p (tg :: tgs) (v :: vs) t z =
          Doc.updateRemoteInArray.go p tgs vs t' (applyE z (.upd1 p tg t v)) := by
        rw [show applyE z (.upd1 p tg t v) = _ from applyA_upd1 hp hc hf]
        simp only [Doc.updateRemoteInArray.go, hc, findArr_addAll hf hp]
        cases sl.find? (fun s => s.1 = tg) with
        | none => rfl
        | some s => simp only; split <;> rfl
      rw [hz1]
      have ih := upd_go_flat p tgs vs t' (applyE z (.upd1 p tg t v)) rest (goodE_step h) hl'
      rw [ih]
      rfl

/-- a batch is well formed: an update carries at least as many values as targets -/
def BatchOK : AOp → Prop
  | .upd _ _ tgs vs => tgs.length ≤ vs.length
  | _ => True

instance (op : AOp) : Decidable (BatchOK op) := by
  cases op <;> unfold BatchOK <;> infer_instance

theorem applyA_flat {z : Doc} {op : AOp} {rest : List EOp} (h : GoodE z (flat op ++ rest)) (hb : BatchOK op) :
    DocEq (applyA z op) (applyAllE z (flat op)) := by
  cases op with
  | ins p a ts vs => exact docEq_refl _
  | del p tgs t => exact del_flat z p tgs t
  | upd p t tgs vs =>
    simp only [flat] at h
    have hg := upd_go_flat p tgs vs t z rest h hb
    simp only [applyA, Doc.updateRemoteInArray, flat]
    cases hp : z.findArr p with
    | none =>
      cases tgs with
      | nil => exact docEq_refl _
      | cons tg tgs =>
        exfalso
        cases vs with
        | nil => simp [BatchOK] at hb
        | cons v vs =>
          have hok : EOK z (.upd1 p tg t v) := h.ok (by simp [flatUpd])
          have : IsArr z p := hok.isArr
          unfold IsArr at this
          rw [hp] at this
          cases this
    | some x =>
      simp only [hg]
      exact docEq_refl _

theorem applyAllA_flat : ∀ (L : List AOp) {z z' : Doc}, DocEq z z' → GoodE z' (L.flatMap flat) →
    (∀ op ∈ L, BatchOK op) → DocEq (applyAllA z L) (applyAllE z' (L.flatMap flat))
  | [], _, _, h, _, _ => h
  | op :: L, z, z', h, hg, hb => by
      have e1 : applyAllA z (op :: L) = applyAllA (applyA z op) L := rfl
      have e2 : (op :: L).flatMap flat = flat op ++ L.flatMap flat := by simp
      rw [e1, e2, applyAllE_append]
      rw [e2] at hg
      apply applyAllA_flat L _ (goodE_append hg) (fun o ho => hb o (by simp [ho]))
      exact docEq_trans (docEq_applyA h op) (applyA_flat hg (hb op (by simp)))

/-- Convergence for multi-target operations.  Two arrival orders of the same remote array operations
    (`Doc.insertRemoteInArray`, `Doc.deleteRemoteInArray`, `Doc.updateRemoteInArray` with any number of
    targets) whose single-target operations are applicable in the start document in any order (`GoodE`):
    `ASim`-equivalent documents and, for values without duplicate keys in a document fit for viewing,
    the same key-sorted view. -/
theorem arr_converge {d : Doc} {L L' : List AOp} (hp : L.Perm L') (h : GoodE d (L.flatMap flat))
    (hb : ∀ op ∈ L, BatchOK op) :
    ASim (applyAllA d L) (applyAllA d L') ∧
      (ViewOK d → (∀ e ∈ L.flatMap flat, EKeysND e) →
        (applyAllA d L).view.canon = (applyAllA d L').view.canon) := by
  have hpf : (L.flatMap flat).Perm (L'.flatMap flat) := hp.flatMap_right flat
  have h' : GoodE d (L'.flatMap flat) := goodE_perm hpf h
  have hb' : ∀ op ∈ L', BatchOK op := fun op ho => hb op (hp.mem_iff.mpr ho)
  have e1 := applyAllA_flat L (docEq_refl d) h hb
  have e2 := applyAllA_flat L' (docEq_refl d) h' hb'
  constructor
  · exact asim_trans (asim_of_docEq e1)
      (asim_trans (arr_converge_asim_same hpf h) (asim_symm (asim_of_docEq e2)))
  · intro hv hk
    have n1 := nodup_applyAllA L h.wf.nodup
    have n2 := nodup_applyAllA L' h.wf.nodup
    rw [docEq_view e1 n1 (goodE_applyAll h).nodup, docEq_view e2 n2 (goodE_applyAll h').nodup]
    exact arr_converge_view hpf h hv hk

/-- Commutation of multi-target operations: two batches commute up to `ASim` -/
theorem comm_batch {d : Doc} {a b : AOp} (h : GoodE d (flat a ++ flat b)) (ha : BatchOK a) (hb : BatchOK b) :
    ASim (applyA (applyA d a) b) (applyA (applyA d b) a) := by
  exact (arr_converge (d := d) (L := [a, b]) (L' := [b, a]) (List.Perm.swap _ _ _) (by simpa using h)
    (by intro op ho; simp only [List.mem_cons, List.mem_nil_iff, or_false] at ho; rcases ho with rfl | rfl <;> assumption)).1

namespace Ex

/-! #### multi-target operations: a nested batch insert, a concurrent insert at the same place, a
    two-target update (the second value created at `tD+1`) and a two-target delete of the same slots -/
def L : List AOp :=
  [.ins arr s0 tB [.arr [.num 1, .num 2], .str "z"], .ins arr s0 tC [.num 99],
   .upd arr tD [s1, s2] [.num 10, .arr []], .del arr [s1, s2] tE]
def L' : List AOp := L.reverse

example : L.flatMap flat = [i1, i2, .upd1 arr s1 tD (.num 10), .upd1 arr s2 ⟨0, 4, "d", 1⟩ (.arr []),
    .del1 arr s1 tE, .del1 arr s2 ⟨0, 5, "e", 1⟩] := rfl

theorem goodL : GoodE base (L.flatMap flat) :=
  ⟨base_wf, fun e he => eok_of_B (by revert e; decide +kernel), pairwise_compat_of_B (by decide +kernel),
    ordOK (by decide +kernel) (by decide +kernel)⟩

example : ASim (applyAllA base L) (applyAllA base L') :=
  (arr_converge (List.reverse_perm L).symm goodL (by decide +kernel)).1

example : (applyAllA base L).view.canon = (applyAllA base L').view.canon :=
  (arr_converge (List.reverse_perm L).symm goodL (by decide +kernel)).2 base_viewOK (by
    intro e he
    have hl : L.flatMap flat = [i1, i2, .upd1 arr s1 tD (.num 10), .upd1 arr s2 ⟨0, 4, "d", 1⟩ (.arr []),
      .del1 arr s1 tE, .del1 arr s2 ⟨0, 5, "e", 1⟩] := rfl
    rw [hl] at he
    simp only [List.mem_cons, List.mem_nil_iff, or_false] at he
    rcases he with rfl | rfl | rfl | rfl | rfl | rfl <;> simp [EKeysND, i1, i2, JKeysND, JKeysNDList])

example : ((applyAllA base L).view == .obj [("a", .arr [.num 1, .num 99, .arr [.num 1, .num 2], .str "z"])]) = true ∧
    ((applyAllA base L').view == (applyAllA base L).view) = true := by decide +kernel

end Ex

end DA
end Orda
