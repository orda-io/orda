/-
C03: on a single replica with no remote operations, every public call of the counter, map and list
datatypes behaves like the obvious plain structure (`Spec/Plain`).
-/
import Orda.Spec.Plain
import Orda.Proofs.MapCounter
import Orda.Proofs.ReplicaApi
import Orda.Proofs.LiveWalk
namespace Orda

/-- everything stored in the state was stamped by an operation of this era with a clock value not
    beyond the replica's current one (so the next local operation is newer than all of it) -/
def stampOk (id : OpId) (t : Ts) : Prop := t.era = id.era ∧ t.lamport ≤ id.lamport

/-- single-replica invariant: stored sizes are the live counts, keys are unique, stamps are old -/
def LocalInv (r : Replica) : Prop :=
  match r.state with
  | .counter v => -2147483648 ≤ v ∧ v < 2147483648
  | .map m => (m.entries.map (·.1)).Nodup ∧
              m.size = ((m.entries.filter (fun e => e.2.v.isSome)).length : Int) ∧
              ∀ e ∈ m.entries, stampOk r.opId e.2.t
  | .list l => l.size = (l.live.length : Int) ∧ ∀ n ∈ l.nodes, stampOk r.opId n.o ∧ stampOk r.opId n.t
  | .doc _ => True

def isDocState : DState → Bool | .doc _ => true | _ => false

/-! ### the invariant on the state alone

`LocalInv` with the identifier as a parameter: the state a call leaves is judged against `id.next` before there is a replica
that holds it. -/

def StInv (id : OpId) : DState → Prop
  | .counter v => -2147483648 ≤ v ∧ v < 2147483648
  | .map m => m.WF ∧ ∀ e ∈ m.entries, stampOk id e.2.t
  | .list l => l.SizeOK ∧ ∀ n ∈ l.nodes, stampOk id n.o ∧ stampOk id n.t
  | .doc _ => True

theorem localInv_iff (r : Replica) : LocalInv r ↔ StInv r.opId r.state := by
  obtain ⟨typ, opId, state, buffer, cp, rbOpId, rbSnap, rbOps⟩ := r
  cases state
  case map => exact and_assoc.symm
  all_goals exact Iff.rfl

theorem stampOk_next {id : OpId} {t : Ts} (h : stampOk id t) : stampOk id.next t :=
  ⟨h.1, Nat.le_succ_of_le h.2⟩

theorem stampOk_cmp {id : OpId} {t : Ts} (h : stampOk id t) : t.cmp id.next.ts = .lt :=
  cmp_lt_of_lamport_lt _ _ h.1 (Nat.lt_succ_of_le h.2)

theorem stampOk_fresh {id : OpId} {t : Ts} (h1 : t.era = id.next.ts.era) (h2 : t.lamport = id.next.ts.lamport) :
    stampOk id.next t := ⟨h1, Nat.le_of_eq h2⟩

/-! ### map -/

theorem equiv_map_of_get {a b : List (String × JVal)} (ha : (a.map (·.1)).Nodup)
    (hb : (b.map (·.1)).Nodup) (h : ∀ k, Plain.mapGet k a = Plain.mapGet k b) :
    Plain.equiv (.map a) (.map b) :=
  ⟨h, al_length_eq ha hb fun k => by rw [show alFind k a = alFind k b from h k]⟩

theorem write_put_equiv (m : LwwMap) (h : m.WF) (k : String) (v : JVal) (ts : Ts) :
    Plain.equiv (.map (m.write k ⟨some v, ts⟩).live) (.map (Plain.mapPut k v m.live)) := by
  refine equiv_map_of_get (liveE_keys_nodup _ (wf_write m k _ h).1) (alSet_keys_nodup _ _ _ (liveE_keys_nodup _ h.1))
    fun k' => ?_
  show alFind k' (m.write k _).live = alFind k' (alSet k v m.live)
  rw [live_lookup _ (wf_write m k _ h), get_write, alFind_alSet, live_lookup m h]

theorem write_remove_equiv (m : LwwMap) (h : m.WF) (k : String) (ts : Ts) :
    Plain.equiv (.map (m.write k ⟨none, ts⟩).live) (.map (Plain.mapDel k m.live)) := by
  refine equiv_map_of_get (liveE_keys_nodup _ (wf_write m k _ h).1)
    ((List.filter_sublist.map _).nodup (liveE_keys_nodup _ h.1)) fun k' => ?_
  show alFind k' (m.write k _).live = alFind k' (m.live.filter _)
  rw [live_lookup _ (wf_write m k _ h), get_write, alFind_filter_ne, live_lookup m h]
  by_cases e : k = k'
  · rw [if_pos e, if_pos e.symm]
  · rw [if_neg e, if_neg (Ne.symm e)]

/-- what is stored is older than the next local operation -/
theorem StInv.find_lt {id : OpId} {m : LwwMap} (h : StInv id (.map m)) {k : String} {e : MEntry}
    (hf : m.find k = some e) : e.t.cmp id.next.ts = .lt :=
  stampOk_cmp (h.2 _ (alFind_some_mem k _ _ hf))

theorem StInv.write {id : OpId} {m : LwwMap} (h : StInv id (.map m)) (k : String) (v : Option JVal) :
    StInv id.next (.map (m.write k ⟨v, id.next.ts⟩)) :=
  ⟨wf_write m k _ h.1, fun x hx => (mem_alSet k _ _ x hx).elim (fun e => e ▸ stampOk_fresh rfl rfl)
    fun hx => stampOk_next (h.2 x hx)⟩

/-- a local put is newer than everything stored, so it wins: it writes, and answers what the key held -/
theorem putCommon_spec (id : OpId) (m : LwwMap) (k : String) (v : JVal) (h : StInv id (.map m)) :
    m.putCommon k v id.next.ts = (m.write k ⟨some v, id.next.ts⟩, m.get k) := by
  have hy : m.yields k id.next.ts true = true := by
    unfold LwwMap.yields
    cases hf : m.find k with
    | none => rfl
    | some old => exact beq_iff_eq.mpr (h.find_lt hf)
  refine Prod.ext ((putCommon_fst m k v _).trans (if_pos hy)) ?_
  unfold LwwMap.putCommon LwwMap.get
  cases hf : m.find k with
  | none => rfl
  | some old => simp only [h.find_lt hf, beq_self_eq_true, if_true]

/-- a local remove of a live key is newer than what the key holds, so it writes a tombstone; of any other key it is refused -/
theorem removeLocal_spec (id : OpId) (m : LwwMap) (k : String) (h : StInv id (.map m)) :
    m.removeLocal k id.next.ts =
      match m.get k with
      | some w => (m.write k ⟨none, id.next.ts⟩, .ok (some w))
      | none => (m, .err Err.noOp) := by
  unfold LwwMap.removeLocal LwwMap.get
  cases hf : m.find k with
  | none => rfl
  | some old =>
    cases hv : old.v with
    | none => simp [hv]
    | some w => simp [LwwMap.write, hf, hv, h.find_lt hf]

/-! ### every call, on the state alone -/

/-- the only disagreement with `Plain.step`: a map call with refused arguments issued on a state that
    is not a map reports the argument error (204) where `Plain.step` reports the wrong datatype (205) -/
def argArtifact : DState → Call → Bool
  | .map _, _ => false
  | .doc _, _ => false
  | _, .mput k v => k = "" || v.isNull
  | _, .mremove k => k = ""
  | _, _ => false

/-- the call `c` in state `s`, executed with timestamp `ts`, does what `Plain.step` does: a read or refusal answers alike
    (`argArtifact` apart) and changes nothing; a write succeeds or fails alike, leaves a state satisfying `Post`, and never
    panics -/
def AgreesWith (Post : DState → Prop) (ts : Ts) (s : DState) (c : Call) : Prop :=
  match c.prepare s with
  | .done o => (argArtifact s c = false → o = (Plain.step (Plain.abs s) c).2) ∧
               (Plain.step (Plain.abs s) c).1 = Plain.abs s ∧ (∀ w, o ≠ .panic w)
  | .op b post =>
      match execLocal s ts b with
      | .ok (s', _, ret) => (Plain.step (Plain.abs s) c).2 = .ok (post ret) ∧
          Plain.equiv (Plain.abs s') (Plain.step (Plain.abs s) c).1 ∧ Post s'
      | .err e => (Plain.step (Plain.abs s) c).2 = .err e ∧ (Plain.step (Plain.abs s) c).1 = Plain.abs s
      | .panic _ => False

theorem AgreesWith.mono {P P' : DState → Prop} {ts : Ts} {s : DState} {c : Call} (h : ∀ s', P s' → P' s')
    (g : AgreesWith P ts s c) : AgreesWith P' ts s c := by
  unfold AgreesWith at g ⊢
  cases hp : c.prepare s with
  | done o => simp only [hp] at g ⊢; exact g
  | op b post =>
    simp only [hp] at g ⊢
    cases he : execLocal s ts b with
    | ok x => obtain ⟨s', b', ret⟩ := x; simp only [he] at g ⊢; exact ⟨g.1, g.2.1, h _ g.2.2⟩
    | err e => simp only [he] at g ⊢; exact g
    | panic w => simp only [he] at g

def AgreesWithPlain (id : OpId) (s : DState) (c : Call) : Prop :=
  AgreesWith (fun s' => StInv id.next s' ∧ isDocState s' = false) id.next.ts s c

theorem agrees_counter (id : OpId) (v : Int) (c : Call) : AgreesWithPlain id (.counter v) c := by
  cases c
  case inc d =>
    simp [AgreesWithPlain, AgreesWith, Call.prepare, execLocal, Plain.step, Plain.abs, counterIncrease, Plain.equiv,
      StInv, isDocState, wrap32_range]
  case mput k w =>
    by_cases hk : (k = "" || w.isNull) = true
    · simp [AgreesWithPlain, AgreesWith, Call.prepare, hk, Plain.step, Plain.abs, argArtifact]
    · simp [AgreesWithPlain, AgreesWith, Call.prepare, hk, Plain.step, Plain.abs, execLocal, Err.illegalOperation]
  case mremove k =>
    by_cases hk : k = ""
    · simp [AgreesWithPlain, AgreesWith, Call.prepare, hk, Plain.step, Plain.abs, argArtifact]
    · simp [AgreesWithPlain, AgreesWith, Call.prepare, hk, Plain.step, Plain.abs, execLocal, Err.illegalOperation]
  all_goals simp [AgreesWithPlain, AgreesWith, Call.prepare, Plain.step, Plain.abs, argArtifact]

theorem agrees_map (id : OpId) (m : LwwMap) (c : Call) (h : StInv id (.map m)) : AgreesWithPlain id (.map m) c := by
  cases c
  case inc d =>
    simp [AgreesWithPlain, AgreesWith, Call.prepare, execLocal, Plain.step, Plain.abs, Err.illegalOperation]
  case mput k w =>
    by_cases hk : (k = "" || w.isNull) = true
    · simp [AgreesWithPlain, AgreesWith, Call.prepare, hk, Plain.step, Plain.abs, argArtifact]
    · simp only [AgreesWithPlain, AgreesWith, Call.prepare, hk, Plain.step, Plain.abs, execLocal,
        Bool.false_eq_true, ↓reduceIte, putCommon_spec id m k w h]
      exact ⟨congrArg (fun o => Outcome.ok (Ret.val o)) (live_lookup m h.1 k), write_put_equiv m h.1 k w _,
        h.write k _, rfl⟩
  case mremove k =>
    by_cases hk : k = ""
    · simp [AgreesWithPlain, AgreesWith, Call.prepare, hk, Plain.step, Plain.abs, argArtifact]
    · have hg : Plain.mapGet k m.live = m.get k := live_lookup m h.1 k
      simp only [AgreesWithPlain, AgreesWith, Call.prepare, hk, Plain.step, Plain.abs, execLocal, if_false,
        removeLocal_spec id m k h, hg]
      cases m.get k with
      | none => exact ⟨rfl, rfl⟩
      | some w => exact ⟨rfl, write_remove_equiv m h.1 k _, h.write k _, rfl⟩
  case mget k =>
    simp [AgreesWithPlain, AgreesWith, Call.prepare, Plain.step, Plain.abs, argArtifact, LwwMap.get, LwwMap.find, Plain.mapGet]
    exact (live_lookup m h.1 k).symm
  case msize =>
    simp [AgreesWithPlain, AgreesWith, Call.prepare, Plain.step, Plain.abs, argArtifact]
    rw [h.1.2, live_eq_liveE, liveE_length]
  all_goals simp [AgreesWithPlain, AgreesWith, Call.prepare, Plain.step, Plain.abs, argArtifact]

theorem validateInsert_eq (l : Rga) (pos : Int) (hs : l.size = (l.live.length : Int)) :
    l.validateInsert pos =
      if (decide (pos < 0) || decide (pos > (l.live.length : Int))) = true then some Err.illegalParameters else none := by
  unfold Rga.validateInsert
  rw [hs]
  by_cases h1 : pos < 0 <;> by_cases h2 : pos > (l.live.length : Int) <;> simp [h1, h2]

theorem validateGet_eq (l : Rga) (pos : Int) (hs : l.size = (l.live.length : Int)) :
    l.validateGet pos =
      if (decide (pos < 0) || decide (pos ≥ (l.live.length : Int))) = true then some Err.illegalParameters else none := by
  unfold Rga.validateGet
  rw [hs]
  by_cases h1 : pos < 0 <;> by_cases h2 : pos ≥ (l.live.length : Int) <;> simp [h1, h2]

theorem inRange_iff (pos n len : Int) : Plain.inRange pos n len = true ↔ 0 ≤ pos ∧ 1 ≤ n ∧ pos ≤ len - 1 ∧ pos + n ≤ len := by
  simp [Plain.inRange, and_assoc]

theorem validateRange_eq (l : Rga) (pos n : Int) (hs : l.size = (l.live.length : Int)) :
    l.validateRange pos n =
      if (!Plain.inRange pos n (l.live.length : Int)) = true then some Err.illegalParameters else none := by
  unfold Rga.validateRange
  rw [hs]
  by_cases hr : Plain.inRange pos n l.live.length = true
  · obtain ⟨h1, h2, h3, h4⟩ := (inRange_iff _ _ _).mp hr
    rw [hr, if_neg (by omega), if_neg (by omega), if_neg (by simp only [Bool.or_eq_true, decide_eq_true_eq]; omega)]
    rfl
  · have hr' : ¬ (0 ≤ pos ∧ 1 ≤ n ∧ pos ≤ l.live.length - 1 ∧ pos + n ≤ l.live.length) :=
      fun h => hr ((inRange_iff _ _ _).mpr h)
    rw [Bool.not_eq_true] at hr
    rw [hr]
    by_cases h1 : pos < 0
    · rw [if_pos h1]; rfl
    · rw [if_neg h1]
      by_cases h2 : n < 1
      · rw [if_pos h2]; rfl
      · rw [if_neg h2, if_pos (by simp only [Bool.or_eq_true, decide_eq_true_eq]; omega)]; rfl

theorem firstVal_take_one (L : List JVal) : firstVal (.vals (L.take 1)) = .val L.head? := by
  cases L <;> rfl

/-- every call on a list whose stored size is its live count agrees with the plain list; `Q` is whatever else is to be
    kept of the nodes: it must hold of nodes stamped by this operation and survive re-stamping by it -/
theorem agrees_list_of_sizeOK (ts : Ts) (l : Rga) (c : Call) (hs : l.SizeOK) (Q : RNode → Prop) (hq : ∀ n ∈ l.nodes, Q n)
    (hnew : ∀ vs, ∀ n ∈ mkNodes ts vs, Q n)
    (hre : ∀ x t v, Q x → t.era = ts.era → t.lamport = ts.lamport → Q { x with v := v, t := t }) :
    AgreesWith (fun s' => ∃ l', s' = .list l' ∧ l'.SizeOK ∧ ∀ n ∈ l'.nodes, Q n) ts (.list l) c := by
  have hs' : l.size = (l.live.length : Int) := hs
  cases c
  case inc d =>
    simp [AgreesWith, Call.prepare, execLocal, Plain.step, Plain.abs, Err.illegalOperation]
  case mput k w =>
    by_cases hk : (k = "" || w.isNull) = true
    · simp [AgreesWith, Call.prepare, hk, Plain.step, Plain.abs, argArtifact]
    · simp [AgreesWith, Call.prepare, hk, Plain.step, Plain.abs, execLocal, Err.illegalOperation]
  case mremove k =>
    by_cases hk : k = ""
    · simp [AgreesWith, Call.prepare, hk, Plain.step, Plain.abs, argArtifact]
    · simp [AgreesWith, Call.prepare, hk, Plain.step, Plain.abs, execLocal, Err.illegalOperation]
  case linsert pos xs =>
    by_cases hc : (decide (pos < 0) || decide (pos > (l.live.length : Int))) = true
    · simp [AgreesWith, Call.prepare, validateInsert_eq l pos hs', Plain.step, Plain.abs, hc, argArtifact]
    · by_cases hn : xs.any JVal.isNull = true
      · simp [AgreesWith, Call.prepare, validateInsert_eq l pos hs', Plain.step, Plain.abs, hc, hn, argArtifact]
      · have hc' : ¬ pos < 0 ∧ ¬ pos > (l.live.length : Int) := by
          simpa only [Bool.or_eq_true, decide_eq_true_eq, not_or] using hc
        obtain ⟨l', a, e1, e2, e3, e4⟩ := insertLocal_live l pos.toNat ts xs hs (by omega)
        simp only [AgreesWith, Call.prepare, validateInsert_eq l pos hs', Plain.step, Plain.abs, hc, hn,
          Bool.false_eq_true, ↓reduceIte, execLocal, e1]
        exact ⟨rfl, e2, l', rfl, e3, fun n hn => (e4 n hn).elim (hnew xs n) (hq n)⟩
  case ldelete pos =>
    by_cases hc : Plain.inRange pos 1 (l.live.length : Int) = true
    · have hc' := (inRange_iff _ _ _).mp hc
      obtain ⟨l', tg, e1, e2, e3, e4⟩ := deleteLocal_live l pos.toNat 1 ts hs (by omega) Q hq
        (fun x t hx ht => hre x t none hx (delimSeq_era_lamport _ _ _ ht).1 (delimSeq_era_lamport _ _ _ ht).2)
      simp only [AgreesWith, Call.prepare, validateRange_eq l pos 1 hs', Plain.step, Plain.abs, hc,
        Bool.not_true, Bool.false_eq_true, ↓reduceIte, execLocal, e1]
      exact ⟨by rw [firstVal_take_one], e2, l', rfl, e3, e4⟩
    · simp [AgreesWith, Call.prepare, validateRange_eq l pos 1 hs', Plain.step, Plain.abs, hc, argArtifact]
  case ldeleteMany pos n =>
    by_cases hc : Plain.inRange pos n (l.live.length : Int) = true
    · have hc' := (inRange_iff _ _ _).mp hc
      obtain ⟨l', tg, e1, e2, e3, e4⟩ := deleteLocal_live l pos.toNat n.toNat ts hs (by omega) Q hq
        (fun x t hx ht => hre x t none hx (delimSeq_era_lamport _ _ _ ht).1 (delimSeq_era_lamport _ _ _ ht).2)
      simp only [AgreesWith, Call.prepare, validateRange_eq l pos n hs', Plain.step, Plain.abs, hc,
        Bool.not_true, Bool.false_eq_true, ↓reduceIte, execLocal, e1]
      exact ⟨rfl, e2, l', rfl, e3, e4⟩
    · simp [AgreesWith, Call.prepare, validateRange_eq l pos n hs', Plain.step, Plain.abs, hc, argArtifact]
  case lupdate pos xs =>
    by_cases hc : Plain.inRange pos xs.length (l.live.length : Int) = true
    · by_cases hn : xs.any JVal.isNull = true
      · simp [AgreesWith, Call.prepare, validateRange_eq l pos xs.length hs', Plain.step, Plain.abs, hc, hn,
          argArtifact]
      · have hc' := (inRange_iff _ _ _).mp hc
        obtain ⟨l', tg, e1, e2, e3, e4⟩ := updateLocal_live l pos.toNat ts xs hs (by omega) Q hq
          (fun x t v hx ht => hre x t (some v) hx (delimSeq_era_lamport _ _ _ ht).1 (delimSeq_era_lamport _ _ _ ht).2)
        simp only [AgreesWith, Call.prepare, validateRange_eq l pos xs.length hs', Plain.step, Plain.abs, hc,
          hn, Bool.not_true, Bool.false_eq_true, ↓reduceIte, execLocal, e1]
        exact ⟨rfl, e2, l', rfl, e3, e4⟩
    · simp [AgreesWith, Call.prepare, validateRange_eq l pos xs.length hs', Plain.step, Plain.abs, hc,
        argArtifact]
  case lget pos =>
    by_cases hc : (decide (pos < 0) || decide (pos ≥ (l.live.length : Int))) = true
    · simp [AgreesWith, Call.prepare, validateGet_eq l pos hs', Plain.step, Plain.abs, hc, argArtifact]
    · simp [AgreesWith, Call.prepare, validateGet_eq l pos hs', Plain.step, Plain.abs, hc, argArtifact,
        liveSlice, List.head?_take]
  case lgetMany pos n =>
    by_cases hc : Plain.inRange pos n (l.live.length : Int) = true
    · simp [AgreesWith, Call.prepare, validateRange_eq l pos n hs', Plain.step, Plain.abs, hc, argArtifact,
        liveSlice]
    · simp [AgreesWith, Call.prepare, validateRange_eq l pos n hs', Plain.step, Plain.abs, hc, argArtifact]
  case lsize =>
    simp [AgreesWith, Call.prepare, Plain.step, Plain.abs, argArtifact, hs']
  all_goals simp [AgreesWith, Call.prepare, Plain.step, Plain.abs, argArtifact]

theorem agrees_list (id : OpId) (l : Rga) (c : Call) (h : StInv id (.list l)) : AgreesWithPlain id (.list l) c :=
  (agrees_list_of_sizeOK id.next.ts l c h.1 (fun n => stampOk id.next n.o ∧ stampOk id.next n.t)
    (fun n hn => ⟨stampOk_next (h.2 n hn).1, stampOk_next (h.2 n hn).2⟩)
    (fun vs n hn => ⟨stampOk_fresh (mkNodes_mem vs _ n hn).1.1 (mkNodes_mem vs _ n hn).1.2,
      stampOk_fresh (mkNodes_mem vs _ n hn).2.1 (mkNodes_mem vs _ n hn).2.2⟩)
    (fun _ _ _ hx h1 h2 => ⟨hx.1, stampOk_fresh h1 h2⟩)).mono
    (fun _ ⟨_, e, hsz, hq⟩ => e ▸ ⟨⟨hsz, hq⟩, rfl⟩)

theorem agrees_all (id : OpId) (s : DState) (c : Call) (h : StInv id s) (hd : isDocState s = false) :
    AgreesWithPlain id s c := by
  cases s with
  | counter v => exact agrees_counter id v c
  | map m => exact agrees_map id m c h
  | list l => exact agrees_list id l c h
  | doc d => simp [isDocState] at hd

theorem artifact_vals (s : DState) (c : Call) (ha : argArtifact s c = true) :
    c.prepare s = .done (.err Err.illegalParameters) ∧
    (Plain.step (Plain.abs s) c).2 = .err Err.illegalOperation := by
  cases s with
  | map _ | doc _ => cases ha
  | counter _ | list _ =>
    cases c with
    | mput k v => exact ⟨by rw [Call.prepare]; exact if_pos ha, rfl⟩
    | mremove k => exact ⟨by rw [Call.prepare]; exact if_pos (of_decide_eq_true ha), rfl⟩
    | _ => cases ha

/-! ### from the state to the replica -/

theorem equiv_refl (p : Plain.PState) : Plain.equiv p p := by
  cases p
  · rfl
  · exact ⟨fun _ => rfl, rfl⟩
  · rfl

theorem plain_call_cases (r : Replica) (c : Call) (h : LocalInv r) (hd : isDocState r.state = false) :
    (∃ o, r.call c = (r, o) ∧
        (argArtifact r.state c = false → o = (Plain.step (Plain.abs r.state) c).2) ∧
        (Plain.step (Plain.abs r.state) c).1 = Plain.abs r.state ∧ (∀ w, o ≠ .panic w)) ∨
    (∃ s' b' ret, r.call c = (r.queued s' b', .ok ret) ∧
        (Plain.step (Plain.abs r.state) c).2 = .ok ret ∧
        Plain.equiv (Plain.abs s') (Plain.step (Plain.abs r.state) c).1 ∧
        StInv r.opId.next s' ∧ isDocState s' = false) := by
  have g := agrees_all r.opId r.state c ((localInv_iff r).mp h) hd
  unfold AgreesWithPlain AgreesWith at g
  have hc := call_case r c
  generalize r.call c = x at hc
  cases hc with
  | done hp => rw [hp] at g; exact Or.inl ⟨_, rfl, g⟩
  | ok hp he => simp only [hp, he] at g; exact Or.inr ⟨_, _, _, rfl, g⟩
  | err hp he => simp only [hp, he] at g; exact Or.inl ⟨_, rfl, fun _ => g.1.symm, g.2, by intro w hw; cases hw⟩
  | panic hp he => simp only [hp, he] at g

/-! ### the invariant along calls, and refinement -/

theorem localInv_new (typ : DtType) (cuid : String) (create : Bool) (h : typ ≠ .document) :
    LocalInv (Replica.new typ cuid create) := by
  cases typ <;> cases create <;>
    simp_all [Replica.new, LocalInv, DState.fresh, LwwMap.empty, Rga.empty, Rga.live]

theorem localInv_call (r : Replica) (c : Call) (h : LocalInv r) (hd : isDocState r.state = false) :
    LocalInv (r.call c).1 := by
  rcases plain_call_cases r c h hd with ⟨o, e, _⟩ | ⟨s', b', ret, e, _, _, hi, _⟩
  · rw [e]; exact h
  · rw [e]; exact (localInv_iff _).mpr hi

theorem new_not_doc (typ : DtType) (cuid : String) (create : Bool) (h : typ ≠ .document) :
    isDocState (Replica.new typ cuid create).state = false := by
  cases typ with
  | document => exact absurd rfl h
  | _ => cases create <;> rfl

theorem localInv_calls (calls : List Call) : ∀ (r : Replica), LocalInv r → isDocState r.state = false →
    LocalInv (calls.foldl (fun r c => (r.call c).1) r) ∧
    isDocState (calls.foldl (fun r c => (r.call c).1) r).state = false := by
  induction calls with
  | nil => exact fun _ h hd => ⟨h, hd⟩
  | cons c cs ih =>
    intro r h hd
    refine ih _ (localInv_call r c h hd) ?_
    show isDocState (r.call c).1.state = false
    rcases plain_call_cases r c h hd with ⟨o, e, _⟩ | ⟨s', b', ret, e, _, _, _, hdoc⟩ <;> rw [e]
    · exact hd
    · exact hdoc

/-- C03, refinement.  The statement without `ha` is false (`call_refines_plain_counterexample`):
    `Plain.step` answers a map call on a counter or list with "wrong datatype" (205) whatever the
    arguments, the model checks the arguments first (204).  Everywhere else they agree. -/
theorem call_refines_plain_of_no_artifact (r : Replica) (c : Call) (h : LocalInv r) (hd : isDocState r.state = false)
    (ha : argArtifact r.state c = false) :
    (r.call c).2 = (Plain.step (Plain.abs r.state) c).2 ∧
    Plain.equiv (Plain.abs (r.call c).1.state) (Plain.step (Plain.abs r.state) c).1 := by
  rcases plain_call_cases r c h hd with ⟨o, e, h1, h2, _⟩ | ⟨s', b', ret, e, h1, h2, _, _⟩
  · rw [e, h2]; exact ⟨h1 ha, equiv_refl _⟩
  · rw [e]; exact ⟨h1.symm, h2⟩

/-- a call of the datatype's own API -/
def callFits : DState → Call → Bool
  | .counter _, .inc _ => true
  | .map _, .mput _ _ | .map _, .mremove _ | .map _, .mget _ | .map _, .msize => true
  | .list _, .linsert _ _ | .list _, .ldelete _ | .list _, .ldeleteMany _ _ | .list _, .lupdate _ _
  | .list _, .lget _ | .list _, .lgetMany _ _ | .list _, .lsize => true
  | _, _ => false

theorem argArtifact_of_callFits (s : DState) (c : Call) (h : callFits s c = true) : argArtifact s c = false := by
  cases s with
  | map _ | doc _ => rfl
  | counter _ | list _ =>
    cases c with
    | mput _ _ | mremove _ => cases h
    | _ => rfl

/-- C03, refinement, for the calls a typed handle can issue (a Counter has no Put, …) -/
theorem call_refines_plain_typed (r : Replica) (c : Call) (h : LocalInv r) (hd : isDocState r.state = false)
    (hf : callFits r.state c = true) :
    (r.call c).2 = (Plain.step (Plain.abs r.state) c).2 ∧
    Plain.equiv (Plain.abs (r.call c).1.state) (Plain.step (Plain.abs r.state) c).1 :=
  call_refines_plain_of_no_artifact r c h hd (argArtifact_of_callFits _ _ hf)

/-- C03, refinement, unconditional form: the readable state always follows the plain structure, and the
    results agree except that the two misdirected calls are refused under different codes -/
theorem call_refines_plain_weak (r : Replica) (c : Call) (h : LocalInv r) (hd : isDocState r.state = false) :
    ((r.call c).2 = (Plain.step (Plain.abs r.state) c).2 ∨
      ((r.call c).2 = .err Err.illegalParameters ∧
       (Plain.step (Plain.abs r.state) c).2 = .err Err.illegalOperation ∧ (r.call c).1 = r)) ∧
    Plain.equiv (Plain.abs (r.call c).1.state) (Plain.step (Plain.abs r.state) c).1 := by
  cases ha : argArtifact r.state c with
  | false => exact (call_refines_plain_of_no_artifact r c h hd ha).imp_left Or.inl
  | true =>
    obtain ⟨h1, h2⟩ := artifact_vals r.state c ha
    have e : r.call c = (r, .err Err.illegalParameters) := call_of_done h1
    rcases plain_call_cases r c h hd with ⟨o, _, _, h3, _⟩ | ⟨s', b', ret, e', _⟩
    · rw [e, h3]; exact ⟨Or.inr ⟨rfl, h2, rfl⟩, equiv_refl _⟩
    · rw [e] at e'; have e'' := congrArg Prod.snd e'; cases e''

/-- `call_refines_plain_of_no_artifact` without `ha` fails on a fresh counter for `Put("", null)` -/
theorem call_refines_plain_counterexample :
    ¬ ∀ (r : Replica) (c : Call), LocalInv r → isDocState r.state = false →
      (r.call c).2 = (Plain.step (Plain.abs r.state) c).2 ∧
      Plain.equiv (Plain.abs (r.call c).1.state) (Plain.step (Plain.abs r.state) c).1 := by
  intro hall
  have h := (hall (Replica.new .counter "c" false) (.mput "" .null)
    (localInv_new _ _ _ (by decide)) rfl).1
  simp [Replica.new, Replica.call, Call.prepare, DState.fresh, Plain.step, Plain.abs,
    Err.illegalParameters, Err.illegalOperation] at h

/-- C03, refused calls: an error changes nothing at all (state, identifiers, queued operations, rollback data) -/
theorem call_err_noop (r : Replica) (c : Call) (h : LocalInv r) (hd : isDocState r.state = false) (e : Nat)
    (he : (r.call c).2 = .err e) : (r.call c).1 = r :=
  have _ := h
  have _ := hd
  call_err_same r c he

/-- C03, no panic: under the invariant no call of these datatypes panics -/
theorem call_no_panic (r : Replica) (c : Call) (h : LocalInv r) (hd : isDocState r.state = false) (w : String) :
    (r.call c).2 ≠ .panic w := by
  rcases plain_call_cases r c h hd with ⟨o, e1, _, _, hp⟩ | ⟨s', b', ret, e1, _⟩
  · rw [e1]; exact hp w
  · rw [e1]; intro hh; cases hh

end Orda
