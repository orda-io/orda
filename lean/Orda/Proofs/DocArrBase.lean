/- Facts about `Doc.findArr`, `Doc.addAll` and `createMany` that need nothing of the array convergence proof:
what Proofs/DocPlain.lean takes from the array side. -/
import Orda.Proofs.DocTable
import Orda.Proofs.LiveWalk
namespace Orda
namespace DA
open DC

theorem findArr_some_iff {d : Doc} {p : Ts} {pn : DNode} {sl : List (Ts × Ts)} {size : Int} :
    d.findArr p = some (pn, sl, size) ↔ d.find p = some pn ∧ pn.kind = .arr sl size := by
  unfold Doc.findArr
  constructor
  · intro h
    split at h
    · rename_i n hn
      split at h
      · rename_i m' s' hk
        simp only [Option.some.injEq, Prod.mk.injEq] at h
        obtain ⟨rfl, rfl, rfl⟩ := h
        exact ⟨hn, hk⟩
      · cases h
    · cases h
  · rintro ⟨h1, h2⟩
    simp only [h1, h2]

theorem isTomb_addAll_old {d : Doc} {ns : List DNode} {c : Ts} (h : c ∉ ids ns) :
    (d.addAll ns).isTomb c = d.isTomb c := isTomb_of_find (find_addAll_not_mem h)

theorem timeOf_addAll_old {d : Doc} {ns : List DNode} {c : Ts} (h : c ∉ ids ns) :
    (d.addAll ns).timeOf c = d.timeOf c := timeOf_of_find (find_addAll_not_mem h)

theorem createMany_block {p ts t' : Ts} {vs : List JVal} {ns : List DNode} {cs : List Ts}
    (hc : createMany p ts vs = .ok (ns, cs, t')) :
    Block ts ns t' ∧ cs.Nodup ∧ ∀ c ∈ cs, ∃ nc ∈ ns, nc.c = c ∧ nc.parent = some p := by
  obtain ⟨hb, hnd, hcs⟩ := createArrItems_spec p ts vs ns cs t' hc
  refine ⟨hb, hnd, ?_⟩
  intro c hc
  obtain ⟨nc, h1, h2, h3, _⟩ := hcs c hc
  exact ⟨nc, h1, h2, h3⟩

end DA
end Orda
