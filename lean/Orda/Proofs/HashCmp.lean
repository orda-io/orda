/-
Identifier key (Timestamp.Hash) and Timestamp.Compare.

A *well-separated* format (every `%d` immediately followed by literal text that starts with a
non-digit, `%s` of the client id last, every field present) renders distinct timestamps to distinct
keys; the format `"%d%d%d%s"` without separators collides. `Ts.cmp` is the lexicographic order on `Ts.key`; the
wrap-faithful `Ts.cmp64` agrees with it under `NoWrap` and is not transitive outside.
-/
import Orda.Model.Basic
namespace Orda

/-! ### decimal rendering -/

theorem natStr_inj {n m : Nat} (h : natStr n = natStr m) : n = m := by
  have := congrArg (Nat.ofDigitChars 10 · 0) h
  simpa only [natStr, Nat.ofDigitChars_toDigits (by decide : 1 < 10) (Nat.le_refl 10)] using this

theorem natStr_isDigit {n : Nat} : ∀ c ∈ natStr n, c.isDigit = true := fun _ hc =>
  Nat.isDigit_of_mem_toDigits (b := 10) (by decide) (by decide) hc

theorem digit_split {r r' : List Char} {s s' : Char} (hs : s.isDigit = false)
    (hs' : s'.isDigit = false) : ∀ {a a' : List Char},
    (∀ c ∈ a, c.isDigit = true) → (∀ c ∈ a', c.isDigit = true) →
    a ++ s :: r = a' ++ s' :: r' → a = a' ∧ s :: r = s' :: r'
  | [], [], _, _, h => ⟨rfl, h⟩
  | [], y :: _, _, h2, h => by
      have := h2 y List.mem_cons_self
      rw [← (List.cons.inj h).1, hs] at this; cases this
  | x :: _, [], h1, _, h => by
      have := h1 x List.mem_cons_self
      rw [(List.cons.inj h).1, hs'] at this; cases this
  | x :: xs, y :: ys, h1, h2, h => by
      obtain ⟨hxy, ht⟩ := List.cons.inj h
      have := digit_split hs hs' (fun c hc => h1 c (List.mem_cons_of_mem _ hc))
        (fun c hc => h2 c (List.mem_cons_of_mem _ hc)) ht
      exact ⟨by rw [hxy, this.1], this.2⟩

/-! ### well-separated formats -/

def HSeg.isNum : HSeg → Bool
  | .era | .lamport | .delim => true
  | _ => false

def HSeg.startsNonDigit : HSeg → Bool
  | .lit s => match s.toList with
    | c :: _ => !c.isDigit
    | [] => false
  | _ => false

/-- every numeric field is immediately followed by a literal starting with a non-digit;
    the client id occurs only as the last segment -/
def wellSepAux : List HSeg → Bool
  | [] => true
  | [.cuid] => true
  | .cuid :: _ => false
  | .lit _ :: rest => wellSepAux rest
  | n :: rest =>            -- n is numeric here
    (match rest with
     | l :: _ => l.startsNonDigit
     | [] => false) && wellSepAux rest

def WellSeparated (fmt : List HSeg) : Bool :=
  wellSepAux fmt && fmt.contains .era && fmt.contains .lamport && fmt.contains .delim && fmt.contains .cuid

theorem renderHash_nil (t : Ts) : renderHash [] t = [] := rfl

theorem renderHash_cons (s : HSeg) (rest : List HSeg) (t : Ts) :
    renderHash (s :: rest) t = s.render t ++ renderHash rest t := by
  simp [renderHash]

theorem startsNonDigit_render {l : HSeg} (h : l.startsNonDigit = true) :
    ∃ c cs, c.isDigit = false ∧ ∀ t : Ts, l.render t = c :: cs := by
  cases l with
  | lit s =>
    simp only [HSeg.startsNonDigit] at h
    split at h
    · next c cs hs =>
      refine ⟨c, cs, by simpa using h, fun t => ?_⟩
      simp [HSeg.render, hs]
    · cases h
  | _ => simp [HSeg.startsNonDigit] at h

theorem num_step (a b : Ts) (x y : Nat) (l : HSeg) (rest : List HSeg)
    (hl : l.startsNonDigit = true)
    (h : natStr x ++ renderHash (l :: rest) a = natStr y ++ renderHash (l :: rest) b) :
    natStr x = natStr y ∧ renderHash (l :: rest) a = renderHash (l :: rest) b := by
  obtain ⟨c, cs, hc, hr⟩ := startsNonDigit_render hl
  rw [renderHash_cons, renderHash_cons, hr a, hr b] at h ⊢
  simp only [List.cons_append] at h ⊢
  exact digit_split hc hc natStr_isDigit natStr_isDigit h

theorem wellSepAux_num_inv {n : HSeg} {rest : List HSeg} (hn : n.isNum = true)
    (h : wellSepAux (n :: rest) = true) :
    ∃ l rest', rest = l :: rest' ∧ l.startsNonDigit = true ∧ wellSepAux rest = true := by
  cases rest with
  | nil => cases n <;> simp [wellSepAux, HSeg.isNum] at h hn
  | cons l rest' =>
    refine ⟨l, rest', rfl, ?_⟩
    cases n <;> simp [wellSepAux, HSeg.isNum] at h hn <;> exact h

theorem render_eq_of_wellSep (a b : Ts) : ∀ fmt : List HSeg, wellSepAux fmt = true →
    renderHash fmt a = renderHash fmt b → ∀ seg ∈ fmt, seg.render a = seg.render b := by
  intro fmt
  induction fmt with
  | nil => intro _ _ seg hseg; cases hseg
  | cons s rest ih =>
    intro hw h seg hseg
    have hnum : ∀ (f : Ts → Nat), s.isNum = true → (∀ t, s.render t = natStr (f t)) →
        seg.render a = seg.render b := by
      intro f hs hf
      obtain ⟨l, rest', rfl, hl, hw'⟩ := wellSepAux_num_inv hs hw
      rw [renderHash_cons s _ a, renderHash_cons s _ b, hf a, hf b] at h
      obtain ⟨h1, h2⟩ := num_step a b (f a) (f b) l rest' hl h
      rcases List.mem_cons.mp hseg with rfl | hm
      · rw [hf a, hf b, h1]
      · exact ih hw' h2 seg hm
    cases s with
    | lit str =>
      have hw' : wellSepAux rest = true := by simpa [wellSepAux] using hw
      rw [renderHash_cons _ _ a, renderHash_cons _ _ b] at h
      simp only [HSeg.render] at h
      have h2 := List.append_cancel_left h
      rcases List.mem_cons.mp hseg with rfl | hm
      · rfl
      · exact ih hw' h2 seg hm
    | cuid =>
      cases rest with
      | nil =>
        simp only [List.mem_singleton] at hseg
        subst hseg
        simpa [renderHash] using h
      | cons r rs => simp [wellSepAux] at hw
    | era => exact hnum (·.era) rfl (fun _ => rfl)
    | lamport => exact hnum (·.lamport) rfl (fun _ => rfl)
    | delim => exact hnum (·.delim) rfl (fun _ => rfl)

/-- generic: a well-separated format renders distinct timestamps to distinct keys -/
theorem renderHash_injective (fmt : List HSeg) (h : WellSeparated fmt = true) :
    ∀ a b : Ts, renderHash fmt a = renderHash fmt b → a = b := by
  intro a b hab
  simp only [WellSeparated, Bool.and_eq_true, List.contains_iff_mem] at h
  obtain ⟨⟨⟨⟨hw, he⟩, hl⟩, hd⟩, hc⟩ := h
  have key := render_eq_of_wellSep a b fmt hw hab
  have h1 : a.era = b.era := natStr_inj (key _ he)
  have h2 : a.lamport = b.lamport := natStr_inj (key _ hl)
  have h3 : a.delim = b.delim := natStr_inj (key _ hd)
  have h4 : a.cuid = b.cuid := String.toList_inj.mp (key _ hc)
  cases a; cases b; simp_all

/-- the format found in the source is well separated (re-checked against the generated file on every build) -/
theorem hashFormat_wellSeparated : WellSeparated Gen.hashFormat = true := by decide

theorem hashKey_injective : ∀ a b : Ts, hashKey a = hashKey b → a = b :=
  renderHash_injective Gen.hashFormat hashFormat_wellSeparated

/-- the format without separators is NOT injective: smallest witness -/
theorem concat_format_collides :
    renderHash [.era, .lamport, .delim, .cuid] ⟨0, 1, "c", 10⟩ = renderHash [.era, .lamport, .delim, .cuid] ⟨0, 11, "c", 0⟩ := by
  decide

/-! ### Timestamp.Compare -/

/-- the part of a timestamp that Compare looks at -/
def Ts.key (t : Ts) : Nat × Nat × String := (t.era, t.lamport, t.cuid)

/-- Compare is the lexicographic comparison of era, lamport and cuid; the order laws below are
    those of `compareLex` -/
theorem cmp_eq_lex : Ts.cmp =
    compareLex (compareOn (·.era)) (compareLex (compareOn (·.lamport)) (compareOn (·.cuid))) := by
  funext a b
  have nat : ∀ (x y : Nat) (o : Ordering),
      (if y < x then .gt else if x < y then .lt else o) = (compare x y).then o := by
    intro x y o
    rcases Nat.lt_trichotomy x y with h | rfl | h
    · rw [if_neg (Nat.lt_asymm h), if_pos h, Nat.compare_eq_lt.mpr h]; rfl
    · rw [if_neg (Nat.lt_irrefl x), if_neg (Nat.lt_irrefl x), Nat.compare_eq_eq.mpr rfl]; rfl
    · rw [if_pos h, Nat.compare_eq_gt.mpr h]; rfl
  simp only [Ts.cmp, nat, strCmp, compareLex, compareOn]

theorem cmp_lt_iff (a b : Ts) : a.cmp b = .lt ↔
    a.era < b.era ∨ (a.era = b.era ∧ (a.lamport < b.lamport ∨
      (a.lamport = b.lamport ∧ compare a.cuid b.cuid = .lt))) := by
  simp only [cmp_eq_lex, compareLex, compareOn, Ordering.then_eq_lt, Nat.compare_eq_lt,
    Nat.compare_eq_eq]

theorem cmp_eq_iff (a b : Ts) : a.cmp b = .eq ↔ a.key = b.key := by
  simp only [cmp_eq_lex, compareLex_eq_eq, compareOn, Std.LawfulEqCmp.compare_eq_iff_eq, Ts.key,
    Prod.mk.injEq]

theorem cmp_gt_iff_lt (a b : Ts) : a.cmp b = .gt ↔ b.cmp a = .lt := by
  rw [cmp_eq_lex]; exact Std.OrientedCmp.gt_iff_lt

theorem cmp_lt_trans (a b c : Ts) : a.cmp b = .lt → b.cmp c = .lt → a.cmp c = .lt := by
  rw [cmp_eq_lex]; exact Std.TransCmp.lt_trans

theorem cmp_self (a : Ts) : a.cmp a = .eq := (cmp_eq_iff a a).mpr rfl

theorem cmp_lt_irrefl (a : Ts) : a.cmp a ≠ .lt := by
  rw [cmp_self]; decide

theorem cmp_self_ne_gt (a : Ts) : a.cmp a ≠ .gt := by
  rw [cmp_self]; decide

theorem cmp_eq_symm (a b : Ts) (h : a.cmp b = .eq) : b.cmp a = .eq :=
  (cmp_eq_iff b a).mpr ((cmp_eq_iff a b).mp h).symm

theorem cmp_lt_asymm {a b : Ts} (h : a.cmp b = .lt) : b.cmp a = .gt := (cmp_gt_iff_lt b a).mpr h

theorem cmp_lt_ne_gt {a b : Ts} (h : a.cmp b = .lt) : a.cmp b ≠ .gt :=
  fun e => Ordering.noConfusion (h.symm.trans e)

theorem cmp_not_gt_of_not_lt {a b : Ts} (h : a.cmp b ≠ .lt) : b.cmp a ≠ .gt :=
  fun h' => h ((cmp_gt_iff_lt b a).mp h')

theorem cmp_congr_key (a a' b b' : Ts) (ha : a.key = a'.key) (hb : b.key = b'.key) : a.cmp b = a'.cmp b' := by
  simp only [Ts.key, Prod.mk.injEq] at ha hb
  obtain ⟨ha1, ha2, ha3⟩ := ha
  obtain ⟨hb1, hb2, hb3⟩ := hb
  unfold Ts.cmp
  rw [ha1, ha2, ha3, hb1, hb2, hb3]

theorem cmp_neg_trans (a b c : Ts) (h : a.cmp c = .lt) : a.cmp b = .lt ∨ b.cmp c = .lt := by
  cases hab : a.cmp b with
  | lt => exact Or.inl rfl
  | eq => exact Or.inr (cmp_congr_key a b c c ((cmp_eq_iff a b).mp hab) rfl ▸ h)
  | gt => exact Or.inr (cmp_lt_trans b a c ((cmp_gt_iff_lt a b).mp hab) h)

theorem cmp_lt_of_lamport_lt (a b : Ts) (he : a.era = b.era) (hl : a.lamport < b.lamport) : a.cmp b = .lt :=
  (cmp_lt_iff a b).mpr (Or.inr ⟨he, Or.inl hl⟩)

/-! ### the wrap-faithful comparison -/

/-- the generated comparison shape is the expected one (bridge; fails to build if the source changes shape) -/
theorem tsCompare_shape : Gen.tsCompare = ⟨[⟨.era, 32, 1, -1⟩, ⟨.lamport, 64, 1, -1⟩], .cuid, true⟩ := rfl
theorem opidCompare_shape : Gen.opidCompare = ⟨[⟨.era, 32, 1, -1⟩, ⟨.lamport, 64, 1, -1⟩], .cuid, true⟩ := rfl

/-- no-wrap guard under which the Go code's `int32(a-b)` / `int64(a-b)` agree with the mathematical order -/
def NoWrap (a b : Ts) : Prop := a.era < 2^31 ∧ b.era < 2^31 ∧ a.lamport < 2^63 ∧ b.lamport < 2^63

theorem toInt_sub_ofNat {n x y : Nat} (hx : x < 2 ^ n) (hy : y < 2 ^ n) :
    (BitVec.ofNat (n + 1) x - BitVec.ofNat (n + 1) y).toInt = (x : Int) - y := by
  rw [BitVec.toInt_sub, BitVec.toInt_ofNat', BitVec.toInt_ofNat', Nat.pow_succ]
  generalize 2 ^ n = p at hx hy ⊢
  have small : ∀ z : Int, -(p : Int) ≤ z → z < p → z.bmod (p * 2) = z := fun z h1 h2 =>
    Int.bmod_eq_of_le_mul_two (by omega) (by omega)
  rw [small x (by omega) (by omega), small y (by omega) (by omega), small _ (by omega) (by omega)]

theorem cmp64_eq_cmp (a b : Ts) (h : NoWrap a b) : a.cmp64 b = a.cmp b := by
  obtain ⟨h1, h2, h3, h4⟩ := h
  have e32 : (BitVec.ofNat 32 a.era - BitVec.ofNat 32 b.era).toInt = (a.era : Int) - b.era :=
    toInt_sub_ofNat (n := 31) h1 h2
  have e64 : (BitVec.ofNat 64 a.lamport - BitVec.ofNat 64 b.lamport).toInt
      = (a.lamport : Int) - b.lamport := toInt_sub_ofNat (n := 63) h3 h4
  have pos : ∀ x y : Nat, 0 < (x : Int) - y ↔ y < x := by omega
  have neg : ∀ x y : Nat, (x : Int) - y < 0 ↔ x < y := by omega
  simp only [Ts.cmp64, Ts.cmp, tsCompare_shape, evalCmpSteps, Ts.numField, Ts.strField, if_true,
    (by decide : ¬ 64 = 32), if_false, e32, e64, pos, neg]
  by_cases c1 : b.era < a.era
  · simp only [c1, if_true]; rfl
  · by_cases c2 : a.era < b.era
    · simp only [c1, c2, if_true, if_false]; rfl
    · by_cases c3 : b.lamport < a.lamport
      · simp only [c1, c2, c3, if_true, if_false]; rfl
      · by_cases c4 : a.lamport < b.lamport
        · simp only [c1, c2, c3, c4, if_true, if_false]; rfl
        · simp only [c1, c2, c3, c4, if_false]

/-- outside the guard the wrap-faithful comparison is not transitive (out of range for real histories) -/
theorem cmp64_not_transitive : ∃ a b c : Ts, a.cmp64 b = .lt ∧ b.cmp64 c = .lt ∧ a.cmp64 c = .gt :=
  ⟨⟨0, 0, "", 0⟩, ⟨0, 2^62, "", 0⟩, ⟨0, 2^63 + 1, "", 0⟩, by decide⟩

end Orda
