/-
List elements are never duplicated, lost, resurrected or reordered, end to end over the server log (C04).  Continues
namespace `Orda.LNet` of `Proofs/ListNet.lean`; no hypothesis beyond `Reach cuid n net`, ANY public call allowed in the runs.

A step changes the list of a node by applying what at most one entry denotes, remotely (`step_node_applies`: the states before
and after are what the ghost sequences of `Inv` denote, and a step adds at most one entry to a ghost sequence, `NetBook.Grows`), so
identities are only added and tombstones stay.  Every
reachable state can be continued to a quiescent one (`lnet_can_quiesce`, by `NetBook.can_quiesce`); the common
duplicate-free list there has the lists of any two nodes NOW as sublists: `lnet_same_relative_order_everywhere`.
Identities of a node = `insertedIds` of its applied operations, tombstone ⇔ an applied delete targets it; a local
insert is readable at once.
-/
import Orda.Proofs.ListNet
namespace Orda.LNet
open Orda Orda.RF Orda.ListAux

/-! ## one remote list operation: identities are only added, tombstones stay -/

/-- `x` is a tombstone of the list `l` -/
def Tomb (l : Rga) (x : Ts) : Prop := ∃ nd ∈ l.nodes, nd.o = x ∧ nd.v = none

theorem applyL_ids_sublist (s : Rga) (p : LOp) : s.ids.Sublist (s.applyL p).ids := by
  cases p with
  | ins a ts vals => rw [applyL_ins]; exact applyIns_sublist s _
  | del tgs ts => rw [applyL_mod_ids s _ rfl]; exact List.Sublist.refl _
  | upd tgs vs ts => rw [applyL_mod_ids s _ rfl]; exact List.Sublist.refl _

theorem applyAllL_ids_sublist : ∀ (ops : List LOp) (s : Rga), s.ids.Sublist (s.applyAllL ops).ids
  | [], _ => List.Sublist.refl _
  | p :: ops, s => (applyL_ids_sublist s p).trans (applyAllL_ids_sublist ops (s.applyL p))

theorem applyL_keeps_tomb (s : Rga) (p : LOp) (x : Ts) (h : Tomb s x) : Tomb (s.applyL p) x := by
  cases p with
  | ins a ts vals =>
    rw [applyL_ins]
    obtain ⟨nd, hnd, h1, h2⟩ := h
    refine ⟨nd, ?_, h1, h2⟩
    rw [applyIns_nodes]
    cases hi : insertAfterId RNode.o a (mkNodes ts vals) s.nodes with
    | none => exact hnd
    | some l' => exact (insertAfterId_sublist RNode.o a _ _ l' hi).subset hnd
  | del tgs ts => exact deleteRemote_keeps_tomb s tgs ts x h
  | upd tgs vs ts =>
    show Tomb (match s.updateRemote tgs vs ts with | .ok s' => s' | _ => s) x
    cases hu : s.updateRemote tgs vs ts with
    | ok s' => exact updateRemote_keeps_tomb s s' tgs vs ts x hu h
    | err c => exact h
    | panic w => exact h

theorem applyAllL_keeps_tomb : ∀ (ops : List LOp) (s : Rga) (x : Ts), Tomb s x → Tomb (s.applyAllL ops) x
  | [], _, _, h => h
  | p :: ops, s, x, h => applyAllL_keeps_tomb ops (s.applyL p) x (applyL_keeps_tomb s p x h)

/-! ## what a step does to ONE node: it applies what at most one entry denotes -/

theorem node_state_of_map {nodes : List Node} {i : Nat} {l : Rga}
    (h : (nodes[i]?.map (·.r.state)) = some (.list l)) : ∃ nd, nodes[i]? = some nd ∧ nd.r.state = .list l := by
  obtain ⟨nd, h1, h2⟩ := Option.map_eq_some_iff.mp h
  exact ⟨nd, h1, h2⟩

theorem step_node_applies {cuid : Nat → String} {n : Nat} {net net' : Net} (hr : Reach cuid n net)
    (hs : Step net net') : ∀ (i : Nat) (l l' : Rga), (net.nodes[i]?.map (·.r.state)) = some (DState.list l) →
      (net'.nodes[i]?.map (·.r.state)) = some (DState.list l') → ∃ ops : List LOp, l' = l.applyAllL ops := by
  intro i l l' h1 h2
  obtain ⟨ap, I⟩ := inv_reach hr
  obtain ⟨ap', I', hg⟩ := I.step_grows hs
  obtain ⟨nd1, hn1, hs1⟩ := node_state_of_map h1
  obtain ⟨nd2, hn2, hs2⟩ := node_state_of_map h2
  -- both states are what the ghost sequences denote, and the ghost sequence has grown by at most one entry
  have e1 : l = Rga.empty.applyAllL (den (ap i)) := DState.list.inj (hs1.symm.trans (I.node i nd1 hn1).st)
  have e2 : l' = Rga.empty.applyAllL (den (ap' i)) := DState.list.inj (hs2.symm.trans (I'.node i nd2 hn2).st)
  rcases hg i with h | ⟨e, h⟩
  · exact ⟨[], by rw [e2, h, e1]; rfl⟩
  · exact ⟨den [e], by rw [e2, h, den_append, applyAllL_app, e1]⟩

/-- a step never removes or reorders identities on any node: the old identity sequence of node `i` is a sublist of the
    new one -/
theorem lnet_step_only_adds {cuid : Nat → String} {n : Nat} {net net' : Net} :
    Reach cuid n net → Step net net' → ∀ (i : Nat) (l l' : Rga), (net.nodes[i]?.map (·.r.state)) = some (DState.list l) →
    (net'.nodes[i]?.map (·.r.state)) = some (DState.list l') → l.ids.Sublist l'.ids := by
  intro hr hs i l l' h1 h2
  obtain ⟨ops, rfl⟩ := step_node_applies hr hs i l l' h1 h2
  exact applyAllL_ids_sublist ops l

/-- … and never resurrects: an element that is a tombstone on node `i` stays a tombstone on node `i` -/
theorem lnet_step_keeps_tombstones {cuid : Nat → String} {n : Nat} {net net' : Net} :
    Reach cuid n net → Step net net' → ∀ (i : Nat) (l l' : Rga) (x : Ts), (net.nodes[i]?.map (·.r.state)) = some (DState.list l) →
    (net'.nodes[i]?.map (·.r.state)) = some (DState.list l') →
    Tomb l x → Tomb l' x := by
  intro hr hs i l l' x h1 h2 ht
  obtain ⟨ops, rfl⟩ := step_node_applies hr hs i l l' h1 h2
  exact applyAllL_keeps_tomb ops l x ht

/-! ## every reachable state can be continued to a quiescent one -/

/-- reflexive-transitive closure of `Step` -/
inductive Reaches : Net → Net → Prop
  | refl (net : Net) : Reaches net net
  | tail {a b c : Net} : Reaches a b → Step b c → Reaches a c

theorem reach_of_reaches {cuid : Nat → String} {n : Nat} {net net' : Net} (hr : Reach cuid n net)
    (h : Reaches net net') : Reach cuid n net' := by
  induction h with
  | refl => exact hr
  | tail _ hs ih => exact .step ih hs

/-- every reachable state can be continued to a quiescent one (push everything, then pull everything) -/
theorem lnet_can_quiesce {cuid : Nat → String} {n : Nat} {net : Net} :
    Reach cuid n net → ∃ net', Reaches net net' ∧ Quiescent net' := fun hr =>
  have ⟨s', h, hq⟩ := NetBook.can_quiesce view (R := fun a b => Step ⟨a.1, a.2⟩ ⟨b.1, b.2⟩)
    (Rs := fun a b => Reaches ⟨a.1, a.2⟩ ⟨b.1, b.2⟩) (P := fun a => Reach cuid n ⟨a.1, a.2⟩) (fun _ => .refl _)
    .tail (fun hr hs => .step hr hs)
    (fun hr hi => have ⟨_, I⟩ := inv_reach hr; ⟨(I.node _ _ hi).pushed_le, (I.node _ _ hi).pulled_le⟩)
    (fun ns lg i nd o hi ho => .push ⟨ns, lg⟩ i nd o hi ho) (fun ns lg i nd a o hi hl => .pull ⟨ns, lg⟩ i nd a o hi hl)
    (s := (net.nodes, net.log)) hr
  ⟨⟨s'.1, s'.2⟩, h, hq⟩

/-! ## the same relative order on all nodes -/

theorem reach_len {cuid : Nat → String} {n : Nat} {net : Net} (hr : Reach cuid n net) : net.nodes.length = n := by
  obtain ⟨ap, I⟩ := inv_reach hr
  exact I.len

theorem reach_node_list {cuid : Nat → String} {n : Nat} {net : Net} (hr : Reach cuid n net) {i : Nat} (hi : i < n) :
    ∃ l : Rga, (net.nodes[i]?.map (·.r.state)) = some (DState.list l) ∧ l.ids.Nodup := by
  obtain ⟨ap, I⟩ := inv_reach hr
  have hlt : i < net.nodes.length := by rw [I.len]; exact hi
  have hn := List.getElem?_eq_getElem hlt
  have N := I.node i _ hn
  exact ⟨_, by rw [hn, Option.map_some, N.st], ids_nodup N.lc⟩

theorem lt_of_node_map {cuid : Nat → String} {n : Nat} {net : Net} (hr : Reach cuid n net) {i : Nat} {l : Rga}
    (h : (net.nodes[i]?.map (·.r.state)) = some (DState.list l)) : i < n := by
  obtain ⟨nd, hn, _⟩ := node_state_of_map h
  have := (List.getElem?_eq_some_iff.mp hn).1
  rw [reach_len hr] at this
  exact this

theorem reaches_node_applies {cuid : Nat → String} {n : Nat} {net net' : Net} (hr : Reach cuid n net)
    (h : Reaches net net') : ∀ (i : Nat) (l l' : Rga), (net.nodes[i]?.map (·.r.state)) = some (DState.list l) →
    (net'.nodes[i]?.map (·.r.state)) = some (DState.list l') → ∃ ops : List LOp, l' = l.applyAllL ops := by
  induction h with
  | refl =>
    intro i l l' h1 h2
    exact ⟨[], DState.list.inj (Option.some.inj (h2.symm.trans h1))⟩
  | tail hab hs ih =>
    intro i l l' h1 h2
    have hrb := reach_of_reaches hr hab
    obtain ⟨lb, hb, _⟩ := reach_node_list hrb (lt_of_node_map hr h1)
    obtain ⟨ops1, rfl⟩ := ih i l lb h1 hb
    obtain ⟨ops2, rfl⟩ := step_node_applies hrb hs i _ l' hb h2
    exact ⟨ops1 ++ ops2, (applyAllL_app l ops1 ops2).symm⟩

theorem reaches_only_adds {cuid : Nat → String} {n : Nat} {net net' : Net} (hr : Reach cuid n net)
    (h : Reaches net net') : ∀ (i : Nat) (l l' : Rga), (net.nodes[i]?.map (·.r.state)) = some (DState.list l) →
    (net'.nodes[i]?.map (·.r.state)) = some (DState.list l') → l.ids.Sublist l'.ids := by
  intro i l l' h1 h2
  obtain ⟨ops, rfl⟩ := reaches_node_applies hr h i l l' h1 h2
  exact applyAllL_ids_sublist ops l

/-- `lnet_step_keeps_tombstones` along any continuation: once a tombstone on node `i`, a tombstone on node `i` for ever -/
theorem reaches_keeps_tombstones {cuid : Nat → String} {n : Nat} {net net' : Net} (hr : Reach cuid n net)
    (h : Reaches net net') : ∀ (i : Nat) (l l' : Rga) (x : Ts),
    (net.nodes[i]?.map (·.r.state)) = some (DState.list l) →
    (net'.nodes[i]?.map (·.r.state)) = some (DState.list l') → Tomb l x → Tomb l' x := by
  intro i l l' x h1 h2 ht
  obtain ⟨ops, rfl⟩ := reaches_node_applies hr h i l l' h1 h2
  exact applyAllL_keeps_tomb ops l x ht

/-- at EVERY moment, on ANY two nodes, any two elements present on both appear in the same relative
    order -/
theorem lnet_same_relative_order_everywhere {cuid : Nat → String} {n : Nat} {net : Net} :
    Reach cuid n net → ∀ (i j : Nat) (li lj : Rga) (x y : Ts),
    (net.nodes[i]?.map (·.r.state)) = some (DState.list li) → (net.nodes[j]?.map (·.r.state)) = some (DState.list lj) →
    x ∈ li.ids → y ∈ li.ids → x ∈ lj.ids → y ∈ lj.ids → ([x, y].Sublist li.ids ↔ [x, y].Sublist lj.ids) := by
  intro hr i j li lj x y hi hj hxi hyi hxj hyj
  obtain ⟨net', hrs, hq⟩ := lnet_can_quiesce hr
  have hr' := reach_of_reaches hr hrs
  have hin := lt_of_node_map hr hi
  have hjn := lt_of_node_map hr hj
  obtain ⟨si, hsi, hndi⟩ := reach_node_list hr' hin
  obtain ⟨sj, hsj, _⟩ := reach_node_list hr' hjn
  have hli : i < net'.nodes.length := by rw [reach_len hr']; exact hin
  have hlj : j < net'.nodes.length := by rw [reach_len hr']; exact hjn
  have hc := lnet_quiescent_converged net' hr' hq i j hli hlj
  have e : si = sj := by
    rw [List.getElem?_eq_getElem hli, Option.map_some] at hsi
    rw [List.getElem?_eq_getElem hlj, Option.map_some] at hsj
    injection hsi with hsi
    injection hsj with hsj
    rw [hsi, hsj] at hc
    injection hc
  subst e
  have h1 := reaches_only_adds hr hrs i li si hi hsi
  have h2 := reaches_only_adds hr hrs j lj si hj hsj
  rw [sublist_order_iff hndi h1 hxi hyi, sublist_order_iff hndi h2 hxj hyj]

/-! ## identities = what the applied inserts created; tombstone = an applied delete targets it -/

/-- the identities a wire operation inserts: one per value, the operation's timestamp with delimiters 0, 1, … -/
def insertedIds (o : Op) : List Ts :=
  match o.body with
  | .insert _ _ vs => delimSeq o.id.ts vs.length
  | _ => []

/-- the identities a wire operation deletes -/
def deleteTargets (o : Op) : List Ts :=
  match o.body with
  | .delete _ _ tg => tg
  | _ => []

theorem mem_insertedIds {o : Op} (hb : ListBody o.body) {x : Ts} :
    x ∈ insertedIds o ↔ ∃ q, toL o = some q ∧ x ∈ q.insIds := by
  rcases o with ⟨id, body⟩
  -- in every case but the insert of no values `toL o = some q` and `insertedIds o` IS `q.insIds`
  rcases hb with ⟨p, a, vs, rfl⟩ | ⟨p, n, tg, rfl⟩ | ⟨p, tg, vs, rfl⟩
  · cases vs with
    | nil => exact ⟨fun h => absurd h List.not_mem_nil, fun ⟨q, hq, _⟩ => by cases hq⟩
    | cons v vs => exact ⟨fun h => ⟨_, rfl, h⟩, fun ⟨q, hq, hx⟩ => by cases hq; exact hx⟩
  · exact ⟨fun h => ⟨_, rfl, h⟩, fun ⟨q, hq, hx⟩ => by cases hq; exact hx⟩
  · exact ⟨fun h => ⟨_, rfl, h⟩, fun ⟨q, hq, hx⟩ => by cases hq; exact hx⟩

theorem toL_del_iff {o : Op} {tgs : List Ts} {ts : Ts} :
    toL o = some (.del tgs ts) ↔ (∃ p n, o.body = .delete p n tgs) ∧ ts = o.id.ts := by
  rcases o with ⟨id, body⟩
  unfold toL
  constructor
  · intro h
    split at h <;> simp only [Option.some.injEq, reduceCtorEq, LOp.del.injEq] at h
    next p n tg hb =>
      obtain ⟨rfl, rfl⟩ := h
      exact ⟨⟨p, n, hb⟩, rfl⟩
  · rintro ⟨⟨p, n, hb⟩, rfl⟩
    simp only at hb
    subst hb
    rfl

theorem ids_mem_iff {ops : List LOp} (hc : LCausal ops) {x : Ts} :
    x ∈ (Rga.empty.applyAllL ops).ids ↔ ∃ q ∈ ops, x ∈ q.insIds := by
  constructor
  · exact ids_mem hc
  · rintro ⟨q, hq, hx⟩
    rw [applyAllL_ids]
    exact (rga_mem_iff _ hc.ins x).mpr (insIds_mem_insOps hq hx)

namespace Inv
variable {cuid : Nat → String} {n : Nat} {net : Net} {ap : Nat → List LEnt}

theorem applied_listBody (I : Inv cuid n net ap) {i : Nat} {nd : Node} (hi : net.nodes[i]? = some nd) {o : Op}
    (ho : o ∈ appliedOps net.log i nd) : ListBody o.body := by
  have N := I.node i nd hi
  unfold appliedOps at ho
  rcases List.mem_append.mp ho with h | h
  · exact (N.ent_ok _ (N.buf_mem h)).body
  · obtain ⟨e, he, rfl⟩ := List.mem_map.mp h
    rw [← N.oth_eq] at he
    exact (N.ent_ok e (mem_oth.mp he).1).2.2.2.2

end Inv

/-- present exactly once where its insert was received: the identities of node `i` are exactly (without repetition) the
    identities inserted by the operations node `i` has applied -/
theorem lnet_ids_are_the_inserted {cuid : Nat → String} {n : Nat} {net : Net} :
    Reach cuid n net → ∀ (i : Nat) (nd : Node) (l : Rga), net.nodes[i]? = some nd → nd.r.state = .list l →
    l.ids.Nodup ∧ ∀ x, x ∈ l.ids ↔ ∃ o ∈ appliedOps net.log i nd, x ∈ insertedIds o := by
  intro hr i nd l hi hs
  obtain ⟨ap, I⟩ := inv_reach hr
  have N := I.node i nd hi
  have hl : l = Rga.empty.applyAllL (den (ap i)) := by
    have := N.st; rw [hs] at this; injection this
  subst hl
  refine ⟨ids_nodup N.lc, ?_⟩
  intro x
  rw [ids_mem_iff N.lc]
  have hp := I.den_perm hi
  constructor
  · rintro ⟨q, hq, hx⟩
    obtain ⟨o, ho, hoq⟩ := List.mem_filterMap.mp (hp.subset hq)
    exact ⟨o, ho, (mem_insertedIds (I.applied_listBody hi ho)).mpr ⟨q, hoq, hx⟩⟩
  · rintro ⟨o, ho, hx⟩
    obtain ⟨q, hoq, hx⟩ := (mem_insertedIds (I.applied_listBody hi ho)).mp hx
    exact ⟨q, hp.symm.subset (List.mem_filterMap.mpr ⟨o, ho, hoq⟩), hx⟩

/-- never visible after its delete was received: an element is a tombstone on node `i` iff node `i` has applied a delete
    targeting it -/
theorem lnet_deleted_iff_delete_applied {cuid : Nat → String} {n : Nat} {net : Net} :
    Reach cuid n net → ∀ (i : Nat) (nd : Node) (l : Rga), net.nodes[i]? = some nd → nd.r.state = .list l →
    ∀ e ∈ l.nodes, (e.v = none ↔ ∃ o ∈ appliedOps net.log i nd, e.o ∈ deleteTargets o) := by
  intro hr i nd l hi hs e he
  obtain ⟨ap, I⟩ := inv_reach hr
  have N := I.node i nd hi
  have hl : l = Rga.empty.applyAllL (den (ap i)) := by
    have := N.st; rw [hs] at this; injection this
  subst hl
  rw [rga_tombstone_iff _ N.lc e he]
  have hp := I.den_perm hi
  constructor
  · rintro ⟨tgs, ts, hd, hx⟩
    obtain ⟨o, ho, hoq⟩ := List.mem_filterMap.mp (hp.subset hd)
    obtain ⟨⟨p, k, hb⟩, _⟩ := toL_del_iff.mp hoq
    exact ⟨o, ho, by simp [deleteTargets, hb, hx]⟩
  · rintro ⟨o, ho, hx⟩
    unfold deleteTargets at hx
    split at hx
    next p k tg hb =>
      exact ⟨tg, o.id.ts, hp.symm.subset (List.mem_filterMap.mpr ⟨o, ho, toL_del_iff.mpr ⟨⟨p, k, hb⟩, rfl⟩⟩), hx⟩
    next => simp at hx


/-- the same, about the identity: `x` (an element of node `i`) is a tombstone there iff node `i` has applied a delete
    targeting `x` -/
theorem lnet_tomb_iff_delete_applied {cuid : Nat → String} {n : Nat} {net : Net} :
    Reach cuid n net → ∀ (i : Nat) (nd : Node) (l : Rga), net.nodes[i]? = some nd → nd.r.state = .list l →
    ∀ x ∈ l.ids, (Tomb l x ↔ ∃ o ∈ appliedOps net.log i nd, x ∈ deleteTargets o) := by
  intro hr i nd l hi hs x hx
  have key := lnet_deleted_iff_delete_applied hr i nd l hi hs
  constructor
  · rintro ⟨e, he, rfl, hv⟩
    exact (key e he).mp hv
  · intro h
    obtain ⟨e, he, rfl⟩ := List.mem_map.mp hx
    exact ⟨e, he, rfl, (key e he).mpr h⟩

/-! ## a local insert at index `pos` is immediately readable at index `pos` -/

theorem call_linsert_ok (r : Replica) (pos : Int) (vs : List JVal)
    (h : (r.call (.linsert pos vs)).2 = .ok (.vals vs)) :
    ∃ l l' a, r.state = .list l ∧ l.validateInsert pos = none ∧
      l.insertLocal pos.toNat r.opId.next.ts vs = .ok (l', a) ∧ (r.call (.linsert pos vs)).1.state = .list l' := by
  have s := call_case r (.linsert pos vs)
  generalize r.call (.linsert pos vs) = x at s h ⊢
  revert h
  cases s with
  | err _ _ | panic _ _ => exact fun h => nomatch h
  | done hp =>
    -- every answer `prepare` gives to an insert by itself is a refusal
    intro h; simp only at h; subst h; simp only [Call.prepare] at hp
    (repeat' split at hp) <;> cases hp
  | ok hp he =>
    intro _hok
    simp only [Call.prepare] at hp
    (repeat' split at hp) <;> cases hp
    rename_i l hs _ hv hn
    rw [hs] at he
    simp only [execLocal] at he
    split at he <;> cases he
    exact ⟨l, _, _, hs, hv, ‹_›, rfl⟩

theorem lnet_local_insert_readable {cuid : Nat → String} {n : Nat} {net : Net} :
    Reach cuid n net → ∀ (i : Nat) (nd : Node) (pos : Int) (vs : List JVal), net.nodes[i]? = some nd → vs ≠ [] →
    (nd.r.call (.linsert pos vs)).2 = .ok (.vals vs) →
    ((nd.r.call (.linsert pos vs)).1.call (.lgetMany pos vs.length)).2 = .ok (.vals vs) := by
  intro hr i nd pos vs hi hne h
  obtain ⟨l, l', a, hs, hv, hins, hs'⟩ := call_linsert_ok nd.r pos vs h
  generalize (nd.r.call (.linsert pos vs)).1 = r' at hs'
  -- the stored Size is the number of live elements (the invariant), so the insert is the splice of `LiveWalk`
  obtain ⟨l0, hl0, hsz0, _⟩ := lnet_size_is_live_count net hr nd (List.mem_of_getElem? hi)
  obtain rfl : l = l0 := DState.list.inj (hs.symm.trans hl0)
  have hsz : l.SizeOK := (sizeOK_iff l).mpr hsz0
  obtain ⟨hp0, hps⟩ := validateInsert_none hv
  have hpl : pos.toNat ≤ l.live.length := by have := hsz; unfold Rga.SizeOK at this; omega
  obtain ⟨l'', a', h1, hlive, hsz', _⟩ := insertLocal_live l pos.toNat nd.r.opId.next.ts vs hsz hpl
  obtain ⟨rfl, _⟩ := Prod.mk.inj (Outcome.ok.inj (h1.symm.trans hins))
  have hlen : 1 ≤ vs.length := List.length_pos_iff.mpr hne
  have hr : l''.validateRange pos vs.length = none := by
    unfold Rga.validateRange
    unfold Rga.SizeOK at hsz hsz'
    rw [hsz', hlive]
    simp only [List.length_append, List.length_take, List.length_drop]
    have h1 : ¬ pos < 0 := by omega
    have h2 : ¬ ((vs.length : Int) < 1) := by omega
    simp [h1, h2]
    omega
  rw [call_of_done (o := .ok (.vals (liveSlice l'' pos.toNat (vs.length : Int).toNat))) (by simp only [Call.prepare, hs', hr])]
  have : liveSlice l'' pos.toNat ((vs.length : Int)).toNat = vs := by
    unfold liveSlice
    rw [hlive, Int.toNat_natCast, List.append_assoc, List.drop_left' (List.length_take_of_le hpl), List.take_left]
  rw [this]


/-! ## non-vacuity: NON-quiescent states of the run `LNet.Ex` in which two nodes hold different lists -/
namespace Ex

/-- after the first seven actions: node 0's insert `[1, 2]` is everywhere; nodes 1 and 2 have CONCURRENTLY inserted `"b"` and
    `"c"` after the first element and pushed nothing -/
def net7 : Net := ((Net.init cu 3).run (acts.take 7)).getD ⟨[], []⟩
theorem run_net7 : (Net.init cu 3).run (acts.take 7) = some net7 := some_getD (by decide +kernel)
theorem reach_net7 : Reach cu 3 net7 := reach_run (acts.take 7) (.init cu_distinct) run_net7

def idB : Ts := ⟨0, 2, "b", 0⟩
def idC : Ts := ⟨0, 2, "c", 0⟩
def l1 : Rga := ⟨[⟨a0, some (.num 1), a0⟩, ⟨idB, some (.str "b"), idB⟩, ⟨a1, some (.num 2), a1⟩], 3⟩
def l2 : Rga := ⟨[⟨a0, some (.num 1), a0⟩, ⟨idC, some (.str "c"), idC⟩, ⟨a1, some (.num 2), a1⟩], 3⟩

/-- `net7_states`, `mid_states` give the states of all nodes of a run as one list; a single node is read off it -/
theorem node_of_states {nodes : List Node} {ss : List DState} (h : nodes.map (·.r.state) = ss) {i : Nat} {s : DState}
    (hi : ss[i]? = some s) : nodes[i]?.map (·.r.state) = some s := by
  rw [← hi, ← h, List.getElem?_map]

theorem state_of_map {nodes : List Node} {i : Nat} {hi : i < nodes.length} {s : DState}
    (h : nodes[i]?.map (·.r.state) = some s) : nodes[i].r.state = s := by
  rw [List.getElem?_eq_getElem hi] at h
  exact Option.some.inj h

theorem net7_states : net7.nodes.map (·.r.state) =
    [.list ⟨[⟨a0, some (.num 1), a0⟩, ⟨a1, some (.num 2), a1⟩], 2⟩, .list l1, .list l2] := by rfl

theorem net7_node1 : (net7.nodes[1]?.map (·.r.state)) = some (DState.list l1) := node_of_states net7_states rfl
theorem net7_node2 : (net7.nodes[2]?.map (·.r.state)) = some (DState.list l2) := node_of_states net7_states rfl

/-- the two lists differ: each holds an element the other has not received -/
theorem l1_ids : l1.ids = [a0, idB, a1] := rfl
theorem l2_ids : l2.ids = [a0, idC, a1] := rfl
example : idB ∈ l1.ids ∧ idB ∉ l2.ids ∧ idC ∈ l2.ids ∧ idC ∉ l1.ids := by
  simp [l1_ids, l2_ids, idB, idC, a0, a1]

/-- so the state is not quiescent: there, all nodes hold the same list -/
example : ¬ Quiescent net7 := by
  intro hq
  have h1 : 1 < net7.nodes.length := by rw [reach_len reach_net7]; decide
  have h2 : 2 < net7.nodes.length := by rw [reach_len reach_net7]; decide
  have e := lnet_quiescent_converged net7 reach_net7 hq 1 2 h1 h2
  rw [state_of_map net7_node1, state_of_map net7_node2] at e
  injection e with e
  exact absurd (e ▸ l1_ids) (by rw [l2_ids]; decide)

example : [a0, a1].Sublist l1.ids ↔ [a0, a1].Sublist l2.ids :=
  lnet_same_relative_order_everywhere reach_net7 1 2 l1 l2 a0 a1 net7_node1 net7_node2
    (by simp [l1_ids]) (by simp [l1_ids]) (by simp [l2_ids]) (by simp [l2_ids])
example : [a0, a1].Sublist l1.ids ∧ [a0, a1].Sublist l2.ids ∧ ¬ [a1, a0].Sublist l1.ids := by
  rw [l1_ids, l2_ids]; decide

example : ∃ net', Reaches net7 net' ∧ Quiescent net' := lnet_can_quiesce reach_net7

/-- the state `midNet` of ListNet.lean (not quiescent): node 0 holds the common final list (two tombstones), node 2 has not
    seen the second round -/
def l0mid : Rga :=
  ⟨[⟨a0, none, ⟨0, 3, "b", 0⟩⟩, ⟨idC, some (.str "c"), idC⟩, ⟨idB, some (.str "b"), idB⟩, ⟨a1, none, ⟨0, 2, "a", 0⟩⟩], 2⟩
def l2mid : Rga := ⟨[⟨a0, some (.str "u"), ⟨0, 3, "c", 0⟩⟩, ⟨idC, some (.str "c"), idC⟩, ⟨a1, some (.num 2), a1⟩], 3⟩
theorem l0mid_ids : l0mid.ids = [a0, idC, idB, a1] := rfl
theorem l2mid_ids : l2mid.ids = [a0, idC, a1] := rfl
theorem mid_states : midNet.nodes.map (·.r.state) = [.list l0mid, .list l0mid, .list l2mid] := by rfl
theorem mid_node0 : (midNet.nodes[0]?.map (·.r.state)) = some (DState.list l0mid) := node_of_states mid_states rfl
theorem mid_node2 : (midNet.nodes[2]?.map (·.r.state)) = some (DState.list l2mid) := node_of_states mid_states rfl

example : [idC, a1].Sublist l0mid.ids ↔ [idC, a1].Sublist l2mid.ids :=
  lnet_same_relative_order_everywhere reach_mid 0 2 l0mid l2mid idC a1 mid_node0 mid_node2
    (by simp [l0mid_ids]) (by simp [l0mid_ids]) (by simp [l2mid_ids]) (by simp [l2mid_ids])

example : l0mid.ids.Nodup ∧
    ∀ x, x ∈ l0mid.ids ↔ ∃ o ∈ appliedOps midNet.log 0 (midNet.nodes[0]'(by rw [len_mid]; decide)), x ∈ insertedIds o :=
  lnet_ids_are_the_inserted reach_mid 0 _ l0mid (List.getElem?_eq_getElem _) (state_of_map mid_node0)
example : ∀ e ∈ l0mid.nodes,
    (e.v = none ↔ ∃ o ∈ appliedOps midNet.log 0 (midNet.nodes[0]'(by rw [len_mid]; decide)), e.o ∈ deleteTargets o) :=
  lnet_deleted_iff_delete_applied reach_mid 0 _ l0mid (List.getElem?_eq_getElem _) (state_of_map mid_node0)

example : (((net7.nodes[1]'(by decide)).r.call (.linsert 2 [.str "x", .str "y"])).1.call (.lgetMany 2 2)).2 =
    .ok (.vals [.str "x", .str "y"]) :=
  lnet_local_insert_readable reach_net7 1 _ 2 [.str "x", .str "y"] (List.getElem?_eq_getElem _) (by simp)
    (by rfl)

end Ex

end Orda.LNet
