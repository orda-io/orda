/-
The insert loop of the RGA list (`skipIns1`, `skipInsMany`, `insertAfterId` of the model) over any carrier:
what it does as a split of the list, naturality in the carrier; the linear order of identifiers (`Ts.cmp`, then the
delimiter), in which the identifiers of a batch (`delimSeq`) ascend.
-/
import Orda.Model.Datatypes
import Orda.Proofs.HashCmp
import Orda.Proofs.LiveWalk
import Mathlib.Order.Defs.LinearOrder
namespace Orda

/-! ## the insert loop, generically -/

section generic
variable {β : Type} (oOf : β → Ts)

theorem skipIns1_split (n : β) (l : List β) : ∃ sk r, l = sk ++ r ∧
    (∀ x ∈ sk, (oOf x).cmp (oOf n) = .gt) ∧ (∀ y, r.head? = some y → (oOf y).cmp (oOf n) ≠ .gt) ∧
    ∀ rest, skipIns1 oOf n rest l = sk ++ n :: rest r := by
  induction l with
  | nil => exact ⟨[], [], rfl, fun _ h => (nomatch h), fun _ h => (nomatch h), fun _ => rfl⟩
  | cons x xs ih =>
    by_cases hx : (oOf x).cmp (oOf n) = .gt
    · obtain ⟨sk, r, e, h1, h2, h3⟩ := ih
      exact ⟨x :: sk, r, congrArg (x :: ·) e, List.forall_mem_cons.mpr ⟨hx, h1⟩, h2, fun rest => by
        rw [skipIns1, if_pos (beq_iff_eq.mpr hx), h3]; rfl⟩
    · exact ⟨[], x :: xs, rfl, fun _ h => (nomatch h), fun y hy => by cases hy; exact hx,
        fun rest => if_neg (mt beq_iff_eq.mp hx)⟩

theorem skipInsMany_perm (ns l : List β) : (skipInsMany oOf ns l).Perm (ns ++ l) := by
  induction ns generalizing l with
  | nil => exact List.Perm.refl _
  | cons n ns ih =>
    obtain ⟨sk, r, rfl, _, _, h⟩ := skipIns1_split oOf n l
    rw [skipInsMany, h]
    exact List.perm_middle.trans (((List.perm_append_comm_assoc _ _ _).trans
      ((ih r).append_left sk).symm).symm.cons n)

theorem skipInsMany_sublist (ns l : List β) : l.Sublist (skipInsMany oOf ns l) := by
  induction ns generalizing l with
  | nil => exact List.Sublist.refl l
  | cons n ns ih =>
    obtain ⟨sk, r, rfl, _, _, h⟩ := skipIns1_split oOf n l
    rw [skipInsMany, h]
    exact ((ih r).cons n).append_left sk

/-- the split at the first node with the anchor's identity does not depend on what is inserted -/
theorem insertAfterId_go_spec (anchor : Ts) (l : List β) :
    ((∀ x ∈ l, oOf x ≠ anchor) ∧ ∀ ns, insertAfterId.go oOf anchor ns l = none) ∨
    ∃ pre a post, l = pre ++ a :: post ∧ oOf a = anchor ∧ (∀ x ∈ pre, oOf x ≠ anchor) ∧
      ∀ ns, insertAfterId.go oOf anchor ns l = some (pre ++ a :: skipInsMany oOf ns post) := by
  induction l with
  | nil => exact Or.inl ⟨fun _ h => (nomatch h), fun _ => rfl⟩
  | cons x xs ih =>
    by_cases hx : oOf x = anchor
    · exact Or.inr ⟨[], x, xs, rfl, hx, fun _ h => (nomatch h), fun ns => if_pos hx⟩
    · rcases ih with ⟨h1, h2⟩ | ⟨pre, a, post, h1, h2, h3, h4⟩
      · exact Or.inl ⟨List.forall_mem_cons.mpr ⟨hx, h1⟩, fun ns => by
          rw [insertAfterId.go, if_neg hx, h2]; rfl⟩
      · exact Or.inr ⟨x :: pre, a, post, congrArg (x :: ·) h1, h2,
          List.forall_mem_cons.mpr ⟨hx, h3⟩, fun ns => by rw [insertAfterId.go, if_neg hx, h4]; rfl⟩

theorem insertAfterId_oldest (ns l : List β) :
    insertAfterId oOf Ts.oldest ns l = some (skipInsMany oOf ns l) := if_pos rfl

theorem insertAfterId_ne (anchor : Ts) (h : anchor ≠ Ts.oldest) (ns l : List β) :
    insertAfterId oOf anchor ns l = insertAfterId.go oOf anchor ns l := if_neg h

theorem insertAfterId_spec (anchor : Ts) (ns l : List β) :
    (insertAfterId oOf anchor ns l = none ∧ anchor ≠ Ts.oldest ∧ ∀ x ∈ l, oOf x ≠ anchor) ∨
    ∃ pre post, l = pre ++ post ∧
      insertAfterId oOf anchor ns l = some (pre ++ skipInsMany oOf ns post) := by
  by_cases ha : anchor = Ts.oldest
  · exact Or.inr ⟨[], l, rfl, ha ▸ insertAfterId_oldest oOf ns l⟩
  · rw [insertAfterId_ne oOf anchor ha]
    rcases insertAfterId_go_spec oOf anchor l with ⟨h1, h2⟩ | ⟨pre, a, post, h1, _, _, h4⟩
    · exact Or.inl ⟨h2 ns, ha, h1⟩
    · exact Or.inr ⟨pre ++ [a], post, by rw [h1, List.append_cons], by rw [h4, List.append_cons]⟩

theorem insertAfterId_perm (anchor : Ts) (ns l l' : List β)
    (h : insertAfterId oOf anchor ns l = some l') : l'.Perm (ns ++ l) := by
  rcases insertAfterId_spec oOf anchor ns l with ⟨h1, _⟩ | ⟨pre, post, rfl, h1⟩
  · rw [h1] at h; cases h
  · cases h1.symm.trans h
    exact ((skipInsMany_perm oOf ns post).append_left pre).trans (List.perm_append_comm_assoc _ _ _)

theorem insertAfterId_sublist (anchor : Ts) (ns l l' : List β)
    (h : insertAfterId oOf anchor ns l = some l') : l.Sublist l' := by
  rcases insertAfterId_spec oOf anchor ns l with ⟨h1, _⟩ | ⟨pre, post, rfl, h1⟩
  · rw [h1] at h; cases h
  · cases h1.symm.trans h
    exact (skipInsMany_sublist oOf ns post).append_left pre

theorem insertAfterId_nil (anchor : Ts) (l l' : List β) (h : insertAfterId oOf anchor [] l = some l') : l' = l :=
  ((insertAfterId_sublist oOf anchor [] l l' h).eq_of_length
    (insertAfterId_perm oOf anchor [] l l' h).length_eq.symm).symm

theorem insertAfterId_isSome (anchor : Ts) (ns l : List β)
    (h : anchor = Ts.oldest ∨ anchor ∈ l.map oOf) : (insertAfterId oOf anchor ns l).isSome := by
  rcases insertAfterId_spec oOf anchor ns l with ⟨_, h1, h2⟩ | ⟨pre, post, _, h1⟩
  · rcases h with h | h
    · exact absurd h h1
    · obtain ⟨x, hx, hxa⟩ := List.mem_map.mp h
      exact absurd hxa (h2 x hx)
  · rw [h1]; rfl

variable {γ : Type} (oC : γ → Ts) (f : β → γ)

theorem skipIns1_map (hf : ∀ b, oC (f b) = oOf b) (n : β) (restB : List β → List β)
    (restC : List γ → List γ) (hrest : ∀ l, (restB l).map f = restC (l.map f)) (l : List β) :
    (skipIns1 oOf n restB l).map f = skipIns1 oC (f n) restC (l.map f) := by
  induction l with
  | nil => exact congrArg (f n :: ·) (hrest [])
  | cons x xs ih =>
    simp only [List.map_cons, skipIns1, hf]
    split
    · exact congrArg (f x :: ·) ih
    · exact congrArg (f n :: ·) (hrest (x :: xs))

theorem skipInsMany_map (hf : ∀ b, oC (f b) = oOf b) (ns l : List β) :
    (skipInsMany oOf ns l).map f = skipInsMany oC (ns.map f) (l.map f) := by
  induction ns generalizing l with
  | nil => rfl
  | cons n ns ih => exact skipIns1_map oOf oC f hf n _ _ ih l

theorem insertAfterId_go_map (hf : ∀ b, oC (f b) = oOf b) (anchor : Ts) (ns l : List β) :
    (insertAfterId.go oOf anchor ns l).map (List.map f) =
      insertAfterId.go oC anchor (ns.map f) (l.map f) := by
  induction l with
  | nil => rfl
  | cons x xs ih =>
    simp only [List.map_cons, insertAfterId.go, hf]
    split
    · exact congrArg some (congrArg (f x :: ·) (skipInsMany_map oOf oC f hf ns xs))
    · rw [← ih]
      cases insertAfterId.go oOf anchor ns xs <;> rfl

theorem insertAfterId_map (hf : ∀ b, oC (f b) = oOf b) (anchor : Ts) (ns l : List β) :
    (insertAfterId oOf anchor ns l).map (List.map f) =
      insertAfterId oC anchor (ns.map f) (l.map f) := by
  unfold insertAfterId
  split
  · exact congrArg some (skipInsMany_map oOf oC f hf ns l)
  · exact insertAfterId_go_map oOf oC f hf anchor ns l

theorem skipInsMany_of_not_gt (ns l : List β)
    (h : ∀ n ∈ ns, ∀ y, l.head? = some y → (oOf y).cmp (oOf n) ≠ .gt) :
    skipInsMany oOf ns l = ns ++ l := by
  induction ns with
  | nil => rfl
  | cons n ns ih =>
    have e : skipIns1 oOf n (skipInsMany oOf ns) l = n :: skipInsMany oOf ns l := by
      cases l with
      | nil => rfl
      | cons x xs => exact if_neg (mt beq_iff_eq.mp (h n List.mem_cons_self x rfl))
    rw [skipInsMany, e, ih fun m hm => h m (List.mem_cons_of_mem _ hm)]
    rfl

end generic

/-! ## the linear order of identities: era, lamport, cuid, then delimiter ascending -/

def Ts.llt (a b : Ts) : Prop := a.cmp b = .lt ∨ (a.cmp b = .eq ∧ a.delim < b.delim)

instance : DecidableRel Ts.llt := fun a b => by unfold Ts.llt; infer_instance

theorem Ts.ext_key {a b : Ts} (hk : a.key = b.key) (hd : a.delim = b.delim) : a = b := by
  cases a; cases b
  simp only [Ts.key, Prod.mk.injEq] at hk
  simp_all

theorem llt_irrefl (a : Ts) : ¬ a.llt a := by
  unfold Ts.llt
  rw [cmp_self]
  simp

theorem llt_trans {a b c : Ts} (h1 : a.llt b) (h2 : b.llt c) : a.llt c := by
  unfold Ts.llt at *
  rcases h1 with h1 | ⟨h1, d1⟩
  · rcases h2 with h2 | ⟨h2, _⟩
    · exact Or.inl (cmp_lt_trans a b c h1 h2)
    · left
      rw [cmp_congr_key a a c b rfl ((cmp_eq_iff b c).mp h2).symm]; exact h1
  · rcases h2 with h2 | ⟨h2, d2⟩
    · left
      rw [cmp_congr_key a b c c ((cmp_eq_iff a b).mp h1) rfl]; exact h2
    · right
      exact ⟨(cmp_eq_iff a c).mpr (((cmp_eq_iff a b).mp h1).trans ((cmp_eq_iff b c).mp h2)), by omega⟩

theorem llt_asymm {a b : Ts} (h1 : a.llt b) (h2 : b.llt a) : False := llt_irrefl a (llt_trans h1 h2)

theorem llt_tri (a b : Ts) : a.llt b ∨ a = b ∨ b.llt a := by
  unfold Ts.llt
  cases h : a.cmp b with
  | lt => left; left; rfl
  | gt => right; right; left; exact (cmp_gt_iff_lt a b).mp h
  | eq =>
    have hk := (cmp_eq_iff a b).mp h
    have h' : b.cmp a = .eq := (cmp_eq_iff b a).mpr hk.symm
    rcases Nat.lt_trichotomy a.delim b.delim with d | d | d
    · left; right; exact ⟨rfl, d⟩
    · right; left; exact Ts.ext_key hk d
    · right; right; right; exact ⟨h', d⟩

instance Ts.linearOrder : LinearOrder Ts where
  le a b := a = b ∨ a.llt b
  lt := Ts.llt
  le_refl a := Or.inl rfl
  le_trans a b c h1 h2 := by
    rcases h1 with rfl | h1
    · exact h2
    · rcases h2 with rfl | h2
      · exact Or.inr h1
      · exact Or.inr (llt_trans h1 h2)
  lt_iff_le_not_ge a b := by
    constructor
    · intro h
      refine ⟨Or.inr h, ?_⟩
      rintro (rfl | h')
      · exact llt_irrefl _ h
      · exact llt_asymm h h'
    · rintro ⟨h1 | h1, h2⟩
      · exact absurd (Or.inl h1.symm) h2
      · exact h1
  le_antisymm a b h1 h2 := by
    rcases h1 with h1 | h1
    · exact h1
    · rcases h2 with h2 | h2
      · exact h2.symm
      · exact (llt_asymm h1 h2).elim
  le_total a b := by
    rcases llt_tri a b with h | h | h
    · exact Or.inl (Or.inr h)
    · exact Or.inl (Or.inl h)
    · exact Or.inr (Or.inr h)
  toDecidableLE := fun a b => inferInstanceAs (Decidable (a = b ∨ a.llt b))
  toDecidableEq := inferInstance
  toDecidableLT := fun a b => inferInstanceAs (Decidable (a.llt b))

theorem ts_lt_iff (a b : Ts) : a < b ↔ a.cmp b = .lt ∨ (a.cmp b = .eq ∧ a.delim < b.delim) := Iff.rfl

theorem ts_lt_of_cmp_lt {a b : Ts} (h : a.cmp b = .lt) : a < b := Or.inl h

theorem ts_lt_of_cmp_gt {a b : Ts} (h : a.cmp b = .gt) : b < a :=
  Or.inl ((cmp_gt_iff_lt a b).mp h)

/-- under freshness the model's skip test is the linear order -/
theorem ts_lt_of_not_gt {x n : Ts} (hk : x.key ≠ n.key) (h : x.cmp n ≠ .gt) : x < n := by
  left
  cases hc : x.cmp n with
  | lt => rfl
  | eq => exact absurd ((cmp_eq_iff x n).mp hc) hk
  | gt => exact absurd hc h

theorem ts_lt_nextDelim_of_key {a b : Ts} (hk : a.key = b.key) (hd : a.delim < b.delim) : a < b :=
  Or.inr ⟨(cmp_eq_iff a b).mpr hk, hd⟩

/-! ## batches: one key, delimiters ascending (length, membership, no duplicates: Proofs/LiveWalk.lean) -/

theorem delimSeq_key {n : Nat} {ts x : Ts} (h : x ∈ delimSeq ts n) : x.key = ts.key := by
  obtain ⟨i, _, rfl⟩ := (mem_delimSeq n ts x).mp h
  rfl

theorem delimSeq_lt : ∀ (n : Nat) (ts x : Ts), x ∈ delimSeq ts.nextDelim n → ts < x := by
  intro n ts x hx
  obtain ⟨i, _, rfl⟩ := (mem_delimSeq n _ x).mp hx
  exact ts_lt_nextDelim_of_key rfl (by simp [Ts.nextDelim]; omega)

theorem delimSeq_sorted (n : Nat) (ts : Ts) : (delimSeq ts n).Pairwise (· < ·) := by
  induction n generalizing ts with
  | zero => exact List.Pairwise.nil
  | succ n ih => exact List.pairwise_cons.mpr ⟨fun x hx => delimSeq_lt n ts x hx, ih _⟩

/-! ## "anchored at an earlier element": the shape of `InsCausal.anchored` and `DA.ACausal.anchored` -/

def Anch {α : Type} (A : α → Prop) (R : α → α → Prop) (l : List α) : Prop :=
  ∀ i (hi : i < l.length), A l[i] ∨ ∃ j, ∃ hj : j < i, R (l[j]'(by omega)) l[i]

theorem Anch.prefix {α : Type} {A : α → Prop} {R : α → α → Prop} {l l' : List α} (h : Anch A R (l ++ l')) :
    Anch A R l := fun i hi => by
  have := h i (by rw [List.length_append]; exact Nat.lt_add_right _ hi)
  rw [List.getElem_append_left hi] at this
  exact this.imp_right fun ⟨j, hj, h2⟩ =>
    ⟨j, hj, by rwa [List.getElem_append_left (Nat.lt_trans hj hi)] at h2⟩

theorem Anch.last {α : Type} {A : α → Prop} {R : α → α → Prop} {l : List α} {o : α} (h : Anch A R (l ++ [o])) :
    A o ∨ ∃ m ∈ l, R m o := by
  have := h l.length (by rw [List.length_append]; exact Nat.lt_succ_self _)
  rw [List.getElem_concat_length rfl] at this
  exact this.imp_right fun ⟨j, hj, h2⟩ =>
    ⟨l[j], List.getElem_mem hj, by rwa [List.getElem_append_left hj] at h2⟩

theorem Anch.snoc {α : Type} {A : α → Prop} {R : α → α → Prop} {l : List α} {o : α} (h : Anch A R l)
    (ho : A o ∨ ∃ m ∈ l, R m o) : Anch A R (l ++ [o]) := fun i hi => by
  rcases Nat.lt_or_ge i l.length with hi' | hi'
  · rw [List.getElem_append_left hi']
    exact (h i hi').imp_right fun ⟨j, hj, h2⟩ =>
      ⟨j, hj, by rw [List.getElem_append_left (Nat.lt_trans hj hi')]; exact h2⟩
  · have e : i = l.length := Nat.le_antisymm (Nat.le_of_lt_succ (by rwa [List.length_append] at hi)) hi'
    subst e
    rw [List.getElem_concat_length rfl]
    exact ho.imp_right fun ⟨m, hm, h2⟩ => by
      obtain ⟨j, hj, rfl⟩ := List.mem_iff_getElem.mp hm
      exact ⟨j, hj, by rw [List.getElem_append_left hj]; exact h2⟩

end Orda
