/-
Convergence of the JSON document for histories that MIX object operations (`DC.ObjOp`: put / del on object
nodes) and array operations (`DA.AOp`: ins / del / upd on array nodes, multi-target, nested values): `DM.mixed_converge`.

An object operation and an elementary array operation are remote steps (`DC.RStep`) on different parents, each deciding
the same way after the other, so they commute up to `DocEq` (`DM.oe_comm_docEq`; `DM.oe_comm` is its reading up to `Sim`);
applicability of one kind survives an operation of the other (`DM.eok_after_op`, `DM.opOK_after_E`).

On the operations as they arrive (`DM.DOp`), `DM.GoodD` is the invariant of `Exch.perm_fold_equiv`: a batch is the run of its
elementary operations, which an object operation crosses one by one (`DCausal.op_across`), so readiness survives a step
(`DCausal.goodD_step`) and two adjacent steps commute (`DCausal.comm_asim_goodD`).  That gives `DCausal.d_converge`, and
`mixed_converge` is `d_converge` from one start document together with the views (`DCausal.view_of_valid`).  Readiness is
carried along `ASim` only to a document in which the new identifiers are fresh (`DCausal.goodD_asim`: `Doc.find c = none`
is not determined by the abstraction).

Three namespaces.  `DM`: the operations, `GoodD`, the two kinds against each other, the theorem.  `DR`: what `GoodD` of a
single operation says.  `DCausal`: the step, congruence and commutation lemmas on `GoodD` up to `d_converge` and the views.
They are stated with `DCausal.newIds`, `FreshIn` (the side condition of `goodD_asim`) and `Valid` (every operation
applicable at its turn, the form in which the view lemmas hold); Proofs/DocCausal.lean builds causal histories on the same
three notions.

The last section states the commutation of the two kinds a second time, on the abstraction (`DM.absE_absOp`).
`mixed_converge` does not pass through it.
-/
import Orda.Proofs.DocConv
import Orda.Proofs.DocArr
namespace Orda.DM
open Orda Orda.DC Orda.DA

/-- a remote document operation -/
inductive DOp where
  | o (x : ObjOp)
  | a (x : AOp)

def applyD (d : Doc) : DOp → Doc
  | .o x => applyOp d x
  | .a x => applyA d x
def applyAllD (d : Doc) (l : List DOp) : Doc := l.foldl applyD d

def objs (l : List DOp) : List ObjOp := l.filterMap (fun | .o x => some x | _ => none)
def arrs (l : List DOp) : List AOp := l.filterMap (fun | .a x => some x | _ => none)

/-- the new node identifiers an object operation brings (those of the value of a put) -/
def oIds (x : ObjOp) : List Ts := ids (nodesOf x)
/-- … and an elementary array operation -/
def eIds (e : EOp) : List Ts := ids (nodesE e)

-- of the two cross conditions the proofs read the disjointness; distinct timestamps imply it (`nodesOf_key`, `nodesE_key`)
/-- every operation is applicable in the start document in any order (`DC.Good` for the object operations, `DA.GoodE`
    for the elementary array operations) and operations of the two kinds do not clash: disjoint new identifiers,
    distinguishable timestamps -/
def GoodD (d : Doc) (l : List DOp) : Prop :=
  Good d (objs l) ∧ GoodE d ((arrs l).flatMap flat) ∧ (∀ op ∈ arrs l, BatchOK op) ∧
  (∀ x ∈ objs l, ∀ e ∈ (arrs l).flatMap flat,
      (∀ c, c ∈ oIds x → c ∈ eIds e → False) ∧ x.ts.cmp e.ts ≠ .eq)

/-- the new identifiers of an object operation and of an elementary array operation do not clash -/
def Cross (x : ObjOp) (e : EOp) : Prop := ∀ c, c ∈ ids (nodesOf x) → c ∈ ids (nodesE e) → False

theorem obj_ne_arr {d : Doc} {q p : Ts} (hq : IsObj d q) (hp : IsArr d p) : q ≠ p := by
  intro e
  subst e
  obtain ⟨n, m, s, hn, hk⟩ := hq
  obtain ⟨pn, sl, sz, hp'⟩ := isArr_iff.mp hp
  obtain ⟨hp1, hk'⟩ := findArr_some_iff.mp hp'
  rw [hn] at hp1
  simp only [Option.some.injEq] at hp1
  subst hp1
  rw [hk] at hk'
  cases hk'

/-! ## applicability survives an operation of the other kind; the two kinds commute -/

theorem slotIds_after_op {d : Doc} (hwf : d.WF) {o : ObjOp} (ho : OpOK d o) {q : Ts} (hq : IsArr d q) :
    slotIds (applyOp d o) q = slotIds d q := by
  obtain ⟨_, _, r, _⟩ := rstep_applyOp hwf o ho
  obtain ⟨pn, sl, sz, hp⟩ := isArr_iff.mp hq
  obtain ⟨h1, h2⟩ := findArr_some_iff.mp hp
  obtain ⟨n', h3, h4, _⟩ := r.stable (find_applyOp_eff hwf o ho) h1
    (by rw [effOf_p]; exact fun e => obj_ne_arr (opOK_isObj ho) hq e.symm) (by rw [h2]; intro v hv; cases hv)
  unfold slotIds
  rw [slotsOf_of_findArr hp, slotsOf_of_findArr (findArr_some_iff.mpr ⟨h3, h4.trans h2⟩)]

theorem eok_after_op {d : Doc} (hwf : d.WF) {o : ObjOp} {e : EOp} (ho : OpOK d o) (he : EOK d e)
    (hd : Cross o e) : EOK (applyOp d o) e := by
  obtain ⟨_, _, r, _⟩ := rstep_applyOp hwf o ho
  have hf := find_applyOp_eff hwf o ho
  have hfr : ∀ {ns : List DNode}, Fresh d ns → (∀ c, c ∈ ids (nodesOf o) → c ∈ ids ns → False) →
      Fresh (applyOp d o) ns := fun h1 h2 => r.fresh_next hf h1 (effOf_ns ho ▸ h2)
  cases e with
  | ins p an ts vs =>
    obtain ⟨h1, h2, h3, h4, h5⟩ := he
    refine ⟨isArr_step r hf h1, h2, hfr h3 hd, ?_, ?_⟩
    · rw [slotIds_after_op hwf ho h1]; exact h4
    · rw [slotIds_after_op hwf ho h1]; exact h5
  | del1 p tg t =>
    obtain ⟨h1, h2⟩ := he
    exact ⟨isArr_step r hf h1, by rw [slotIds_after_op hwf ho h1]; exact h2⟩
  | upd1 p tg t v =>
    obtain ⟨h1, h2, h3, h4⟩ := he
    exact ⟨isArr_step r hf h1, h2, hfr h3 hd, by rw [slotIds_after_op hwf ho h1]; exact h4⟩

theorem opOK_after_E {d : Doc} (hwf : d.WF) {o : ObjOp} {e : EOp} (he : EOK d e) (ho : OpOK d o)
    (hd : Cross o e) : OpOK (applyE d e) o := by
  cases o with
  | put p k v ts =>
    obtain ⟨h1, h2, h3⟩ := ho
    exact ⟨isObj_applyE hwf he h1, h2, fresh_applyE hwf he h3 (fun c h h' => hd c h' h)⟩
  | del p k ts =>
    obtain ⟨n, m, s, c, hn, hk, hal⟩ := ho
    obtain ⟨_, _, r⟩ := rstep_applyE hwf e he
    obtain ⟨n', h1, h2, _⟩ := r.stable (find_applyE hwf e he) hn
      (by rw [effE_p]; exact obj_ne_arr ⟨n, m, s, hn, hk⟩ he.isArr) (by rw [hk]; intro v hv; cases hv)
    exact ⟨n', m, s, c, h1, h2.trans hk, hal⟩

theorem oe_comm_docEq {d : Doc} (hwf : d.WF) {o : ObjOp} {e : EOp} (ho : OpOK d o) (he : EOK d e)
    (hd : Cross o e) :
    DocEq (applyE (applyOp d o) e) (applyOp (applyE d e) o) := by
  obtain ⟨_, _, ro, _⟩ := rstep_applyOp hwf o ho
  obtain ⟨_, _, re⟩ := rstep_applyE hwf e he
  have hne : (effOf d o).p ≠ (effE d e).p := by
    rw [effOf_p, effE_p]; exact obj_ne_arr (opOK_isObj ho) he.isArr
  have fo := find_applyOp_eff hwf o ho
  have fe := find_applyE hwf e he
  have e1 : effE (applyOp d o) e = effE d e := by
    obtain ⟨pn0, sl, sz, hp⟩ := isArr_iff.mp he.isArr
    obtain ⟨hp1, hk1⟩ := findArr_some_iff.mp hp
    obtain ⟨n', h1, h2, h3⟩ := ro.stable fo hp1 (by rw [← effE_p d e]; exact hne.symm) (by rw [hk1]; intro v hv; cases hv)
    have hsl : slotsOf (applyOp d o) e.p = slotsOf d e.p := by
      rw [slotsOf_of_findArr hp, slotsOf_of_findArr (findArr_some_iff.mpr ⟨h1, h2.trans hk1⟩)]
    exact effE_congr e (fun _ _ => by rw [hsl]) fun _ s _ hs =>
      h3 _ (hk1 ▸ List.mem_map.mpr ⟨s, List.mem_of_find?_eq_some (slotsOf_of_findArr hp ▸ hs), rfl⟩)
  have e2 : effOf (applyE d e) o = effOf d o := by
    obtain ⟨n, m, s, hn, hk⟩ := opOK_isObj ho
    obtain ⟨n', h1, h2, h3⟩ := re.stable fe hn (by rw [← effOf_p d o]; exact hne) (by rw [hk]; intro v hv; cases hv)
    exact effOf_congr o hn hk h1 h2 h3
  intro c
  rw [find_applyE (wf_op hwf o ho) e (eok_after_op hwf ho he hd), e1, fo,
    find_applyOp_eff (wf_applyE hwf e he) o (opOK_after_E hwf he ho hd), e2, fe]
  exact congrFun (rstep_comm_diff ro re (fun c h1 h2 => hd c (effOf_ns ho ▸ h1) (effE_ns d e ▸ h2)) hne) c

theorem oe_comm {d : Doc} (hwf : d.WF) {o : ObjOp} {e : EOp} (ho : OpOK d o) (he : EOK d e)
    (hd : Cross o e) :
    Sim (applyE (applyOp d o) e) (applyOp (applyE d e) o) :=
  sim_of_docEq (oe_comm_docEq hwf ho he hd)

/-! ## object operations respect `ASim` -/

theorem ceq_setKey {A B : Abs} (h : CEq A B) (p : Ts) (k : String) (st : Option KeySt) (ds : Int) :
    CEq (setKey A p k st ds) (setKey B p k st ds) :=
  ⟨h.shape, h.dead, fun c k' => by simp only [setKey]; rw [h.key c k'],
    fun c => by simp only [setKey]; rw [h.size c]⟩

theorem ceq_absOp (o : ObjOp) {A B : Abs} (h : CEq A B) : CEq (absOp o A) (absOp o B) := by
  have hu := ceq_union h (abs ⟨nodesOf o⟩)
  unfold absOp aop applyStep
  rw [hu.key o.parent o.key]
  exact ceq_kill (ceq_setKey hu _ _ _ _) _

theorem asim_congr_op {z z' : Doc} (hz : z.WF) (hz' : z'.WF) {o : ObjOp} (h1 : OpOK z o) (h2 : OpOK z' o)
    (h : ASim z z') : ASim (applyOp z o) (applyOp z' o) := by
  unfold ASim
  rw [sim_op hz o h1, sim_op hz' o h2]
  exact ceq_absOp o h

/-! ## readiness after an operation of the other kind -/

theorem goodE_after_op {z : Doc} {o : ObjOp} {l : List EOp} (ho : OpOK z o) (h : GoodE z l)
    (hc : ∀ e ∈ l, Cross o e) : GoodE (applyOp z o) l := by
  obtain ⟨hwf, hok, hpw, hord⟩ := h
  refine ⟨wf_op hwf o ho, fun e he => eok_after_op hwf ho (hok e he) (hc e he), hpw, ?_⟩
  intro p ⟨e, he, hi⟩
  obtain ⟨M0, hb, hcs⟩ := hord p ⟨e, he, hi⟩
  refine ⟨M0, ?_, hcs⟩
  rw [slotIds_after_op hwf ho (insOnE_isArr (hok e he) hi)]
  exact hb

theorem good_after_E {z : Doc} {e : EOp} {l : List ObjOp} (he : EOK z e) (h : Good z l)
    (hc : ∀ o ∈ l, Cross o e) : Good (applyE z e) l := by
  obtain ⟨hwf, hok, hpw⟩ := h
  exact ⟨wf_applyE hwf e he, fun o ho => opOK_after_E hwf he (hok o ho) (hc o ho), hpw⟩

theorem objs_cons_o (x : ObjOp) (L : List DOp) : objs (.o x :: L) = x :: objs L := rfl
theorem objs_cons_a (x : AOp) (L : List DOp) : objs (.a x :: L) = objs L := rfl
theorem arrs_cons_o (x : ObjOp) (L : List DOp) : arrs (.o x :: L) = arrs L := rfl
theorem arrs_cons_a (x : AOp) (L : List DOp) : arrs (.a x :: L) = x :: arrs L := rfl

theorem goodD_perm {d : Doc} {L L' : List DOp} (hp : L.Perm L') (h : GoodD d L) : GoodD d L' := by
  obtain ⟨h1, h2, h3, h4⟩ := h
  have po : (objs L).Perm (objs L') := hp.filterMap _
  have pa : (arrs L).Perm (arrs L') := hp.filterMap _
  have pf : ((arrs L).flatMap flat).Perm ((arrs L').flatMap flat) := pa.flatMap_right flat
  exact ⟨good_perm po h1, goodE_perm pf h2, fun op ho => h3 op (pa.mem_iff.mpr ho),
    fun x hx e he => h4 x (po.mem_iff.mpr hx) e (pf.mem_iff.mpr he)⟩

end Orda.DM

namespace Orda.DR
open Orda Orda.DC Orda.DA Orda.DM

/-! ## single operations under `GoodD` -/

def dts : DOp → Ts
  | .o x => x.ts
  | .a x => x.ts

theorem goodD_obj {d : Doc} {x : ObjOp} (h : GoodD d [.o x]) : d.WF ∧ OpOK d x :=
  ⟨h.1.1, h.1.2.1 x (List.mem_singleton_self x)⟩

theorem flat_single (x : AOp) : (arrs [DOp.a x]).flatMap flat = flat x := List.append_nil _

theorem goodD_arr {d : Doc} {x : AOp} (h : GoodD d [.a x]) : GoodE d (flat x) ∧ BatchOK x :=
  ⟨flat_single x ▸ h.2.1, h.2.2.1 x (List.mem_singleton_self x)⟩

theorem goodE_nil {d : Doc} (hwf : d.WF) : GoodE d [] :=
  ⟨hwf, by simp, List.Pairwise.nil, fun p ⟨e, he, _⟩ => by cases he⟩

theorem goodD_single_obj {d : Doc} (hwf : d.WF) {x : ObjOp} (h : OpOK d x) : GoodD d [.o x] :=
  ⟨⟨hwf, List.forall_mem_singleton.mpr h, List.pairwise_singleton _ _⟩, goodE_nil hwf,
    fun _ ho => (List.not_mem_nil ho).elim, fun _ _ _ he => (List.not_mem_nil he).elim⟩

theorem goodD_single_arr {d : Doc} (hwf : d.WF) {x : AOp} (h : GoodE d (flat x)) (hb : BatchOK x) : GoodD d [.a x] :=
  ⟨⟨hwf, fun _ ho => (List.not_mem_nil ho).elim, List.Pairwise.nil⟩, (flat_single x).symm ▸ h,
    List.forall_mem_singleton.mpr hb, fun _ hx => (List.not_mem_nil hx).elim⟩

end Orda.DR

namespace Orda.DCausal
open Orda Orda.DC Orda.DA Orda.DM

/-! ## applicability only looks at the abstraction (plus freshness of the new identifiers) -/

def sIds : Option (Option Ts × Shape) → Option (List Ts)
  | some (_, .arr E) => some (E.map (·.1))
  | _ => none

theorem sIds_cshape (s : Option (Option Ts × Shape)) : sIds (cshape s) = sIds s := by
  cases s with
  | none => rfl
  | some x =>
    obtain ⟨par, sh⟩ := x
    cases sh with
    | elem v => rfl
    | obj => rfl
    | arr E =>
      simp only [cshape, sIds, List.map_map]
      congr 1

theorem idsOf_eq_sIds (d : Doc) (p : Ts) : idsOf d p = sIds (shapeOf d p) := by
  unfold idsOf arrV shapeOf
  cases d.find p with
  | none => rfl
  | some n =>
    obtain ⟨nc, nd, np, nk⟩ := n
    cases nk with
    | elem v => simp only; split <;> rfl
    | obj m s => rfl
    | arr sl s => simp [sIds, List.map_map]

theorem idsOf_asim {a b : Doc} (h : ASim a b) (p : Ts) : idsOf a p = idsOf b p := by
  have e : cshape (shapeOf a p) = cshape (shapeOf b p) := h.shape p
  rw [idsOf_eq_sIds, idsOf_eq_sIds, ← sIds_cshape, e, sIds_cshape]

theorem slotIds_asim {a b : Doc} (h : ASim a b) (p : Ts) : slotIds a p = slotIds b p := by
  rw [slotIds_eq_idsOf, slotIds_eq_idsOf, idsOf_asim h]

theorem isArr_asim {a b : Doc} (h : ASim a b) {p : Ts} (ha : IsArr a p) : IsArr b p := by
  unfold IsArr at *
  rw [findArr_isSome_iff] at *
  rw [← idsOf_asim h]; exact ha

theorem isObj_asim {a b : Doc} (h : ASim a b) {p : Ts} (ha : IsObj a p) : IsObj b p := by
  rw [isObj_iff] at *
  obtain ⟨par, hp⟩ := ha
  refine ⟨par, ?_⟩
  have e := h.shape p
  have e' : cshape (shapeOf a p) = cshape (shapeOf b p) := e
  rw [hp] at e'
  have := cshape_not_arr e' (by intro par' E hh; cases hh)
  exact this

theorem hasKey_asim {a b : Doc} (h : ASim a b) {p : Ts} {k : String} (ha : HasKey a p k) : HasKey b p k := by
  rw [hasKey_iff] at *
  have e : keyOf' a p k = keyOf' b p k := h.key p k
  rw [← e]; exact ha

theorem opOK_asim {a b : Doc} (h : ASim a b) {o : ObjOp} (ha : OpOK a o) (hf : ∀ c ∈ oIds o, b.find c = none) :
    OpOK b o := by
  cases o with
  | put p k v ts => exact ⟨isObj_asim h ha.1, ha.2.1, hf⟩
  | del p k ts => exact hasKey_asim h ha

theorem eok_asim {a b : Doc} (h : ASim a b) {e : EOp} (ha : EOK a e) (hf : ∀ c ∈ eIds e, b.find c = none) :
    EOK b e := by
  cases e with
  | ins p an ts vs =>
    obtain ⟨h1, h2, h3, h4, h5⟩ := ha
    refine ⟨isArr_asim h h1, h2, hf, ?_, ?_⟩
    · rw [← slotIds_asim h]; exact h4
    · rw [← slotIds_asim h]; exact h5
  | del1 p tg t =>
    exact ⟨isArr_asim h ha.1, by rw [← slotIds_asim h]; exact ha.2⟩
  | upd1 p tg t v =>
    obtain ⟨h1, h2, h3, h4⟩ := ha
    exact ⟨isArr_asim h h1, h2, hf, by rw [← slotIds_asim h]; exact h4⟩

/-- the identifiers of the nodes an operation creates -/
def newIds : DOp → List Ts
  | .o x => oIds x
  | .a x => (flat x).flatMap eIds

/-- GLOBAL FRESHNESS (the extra hypothesis of `causal_converge_partial`): no operation of the history creates a node
    whose identifier is in the table of the start document -/
def FreshIn (d : Doc) (l : List DOp) : Prop := ∀ x ∈ l, ∀ c ∈ newIds x, d.find c = none

/-! ## `GoodD` is carried along `ASim` (to a well-formed document in which the new identifiers are fresh) -/

theorem mem_objs {o : ObjOp} {l : List DOp} : o ∈ objs l ↔ DOp.o o ∈ l := by
  refine List.mem_filterMap.trans ⟨fun ⟨x, hx, h⟩ => ?_, fun h => ⟨_, h, rfl⟩⟩
  cases x with
  | o y => cases h; exact hx
  | a y => cases h

theorem mem_arrs {o : AOp} {l : List DOp} : o ∈ arrs l ↔ DOp.a o ∈ l := by
  refine List.mem_filterMap.trans ⟨fun ⟨x, hx, h⟩ => ?_, fun h => ⟨_, h, rfl⟩⟩
  cases x with
  | o y => cases h
  | a y => cases h; exact hx

theorem good_asim {a b : Doc} (h : ASim a b) (hb : b.WF) {l : List ObjOp} (hg : DC.Good a l)
    (hf : ∀ o ∈ l, ∀ c ∈ oIds o, b.find c = none) : DC.Good b l :=
  ⟨hb, fun o ho => opOK_asim h (hg.2.1 o ho) (hf o ho), hg.2.2⟩

theorem goodE_asim {a b : Doc} (h : ASim a b) (hb : b.WF) {l : List EOp} (hg : GoodE a l)
    (hf : ∀ e ∈ l, ∀ c ∈ eIds e, b.find c = none) : GoodE b l := by
  obtain ⟨_, h2, h3, h4⟩ := hg
  refine ⟨hb, fun e he => eok_asim h (h2 e he) (hf e he), h3, ?_⟩
  intro p hp
  obtain ⟨M0, h5, h6⟩ := h4 p hp
  exact ⟨M0, by rw [← slotIds_asim h]; exact h5, h6⟩

theorem goodD_asim {a b : Doc} (h : ASim a b) (hb : b.WF) {l : List DOp} (hg : GoodD a l) (hf : FreshIn b l) :
    GoodD b l := by
  obtain ⟨h1, h2, h3, h4⟩ := hg
  refine ⟨good_asim h hb h1 ?_, goodE_asim h hb h2 ?_, h3, h4⟩
  · intro o ho c hc
    exact hf _ (mem_objs.mp ho) c hc
  · intro e he c hc
    obtain ⟨x, hx, hex⟩ := List.mem_flatMap.mp he
    exact hf _ (mem_arrs.mp hx) c (List.mem_flatMap.mpr ⟨e, hex, hc⟩)

theorem goodD_fresh {s : Doc} {l : List DOp} (hg : GoodD s l) : FreshIn s l := by
  intro x hx c hc
  cases x with
  | o o => exact fresh_of_ok (hg.1.2.1 o (mem_objs.mpr hx)) c hc
  | a a =>
    obtain ⟨e, he, hce⟩ := List.mem_flatMap.mp hc
    have : e ∈ (arrs l).flatMap flat := List.mem_flatMap.mpr ⟨a, mem_arrs.mpr hx, he⟩
    exact (hg.2.1.2.1 e this).fresh c hce

theorem goodD_wf {s : Doc} {l : List DOp} (hg : GoodD s l) : s.WF := hg.1.1

theorem goodD_arr_flat {s : Doc} {x : AOp} (h : GoodD s [.a x]) :
    GoodE s (flat x) ∧ DocEq (applyA s x) (applyAllE s (flat x)) := by
  obtain ⟨g, b⟩ := DR.goodD_arr h
  exact ⟨g, applyA_flat (rest := []) (by rwa [List.append_nil]) b⟩

theorem asim_applyD {a b : Doc} {x : DOp} (ha : GoodD a [x]) (hb : GoodD b [x]) (h : ASim a b) :
    ASim (applyD a x) (applyD b x) := by
  cases x with
  | o o =>
    obtain ⟨wa, oa⟩ := DR.goodD_obj ha
    obtain ⟨wb, ob⟩ := DR.goodD_obj hb
    exact asim_congr_op wa wb oa ob h
  | a x =>
    obtain ⟨ga, e1⟩ := goodD_arr_flat ha
    obtain ⟨gb, e2⟩ := goodD_arr_flat hb
    exact asim_trans (asim_of_docEq e1)
      (asim_trans (arr_converge_asim (List.Perm.refl _) ga gb h) (asim_symm (asim_of_docEq e2)))

/-! ## one step of a ready history; two adjacent steps commute -/

theorem goodE_left {z : Doc} {l1 l2 : List EOp} (h : GoodE z (l1 ++ l2)) : GoodE z l1 := by
  obtain ⟨h1, h2, h3, h4⟩ := h
  refine ⟨h1, fun e he => h2 e (List.mem_append_left _ he), (List.pairwise_append.1 h3).1, ?_⟩
  intro p ⟨e, he, hi⟩
  obtain ⟨M0, hb, hc⟩ := h4 p ⟨e, List.mem_append_left _ he, hi⟩
  refine ⟨M0, hb, fun l' hl' => ACausal.prefix (N := l2.filterMap (insOnE p)) ?_⟩
  rw [List.append_assoc]
  exact hc _ (by rw [List.filterMap_append]; exact hl'.append_right _)

theorem op_across {o : ObjOp} : ∀ (es : List EOp) {s : Doc}, OpOK s o → GoodE s es → (∀ e ∈ es, Cross o e) →
    OpOK (applyAllE s es) o ∧ ASim (applyAllE (applyOp s o) es) (applyOp (applyAllE s es) o)
  | [], _, ho, _, _ => ⟨ho, asim_refl _⟩
  | e :: es, s, ho, hg, hc => by
    have he := hg.2.1 e List.mem_cons_self
    have hce := hc e List.mem_cons_self
    have hc' : ∀ e' ∈ es, Cross o e' := fun e' h => hc e' (List.mem_cons_of_mem _ h)
    have ho' := opOK_after_E hg.1 he ho hce
    obtain ⟨h1, h2⟩ := op_across es ho' (goodE_step hg) hc'
    refine ⟨h1, asim_trans ?_ h2⟩
    show ASim (applyAllE (applyE (applyOp s o) e) es) (applyAllE (applyOp (applyE s e) o) es)
    exact arr_converge_asim (List.Perm.refl _) (goodE_step (goodE_after_op ho hg hc))
      (goodE_after_op ho' (goodE_step hg) hc') (asim_of_sim (oe_comm hg.1 ho he hce))

theorem good_across {l : List ObjOp} : ∀ (es : List EOp) {s : Doc} {rest : List EOp}, GoodE s (es ++ rest) →
    Good s l → (∀ o ∈ l, ∀ e ∈ es, Cross o e) → Good (applyAllE s es) l
  | [], _, _, _, h, _ => h
  | e :: es, _, _, hg, h, hc =>
    good_across es (goodE_step hg)
      (good_after_E (hg.2.1 e List.mem_cons_self) h fun o ho => hc o ho e List.mem_cons_self)
      fun o ho e' he' => hc o ho e' (List.mem_cons_of_mem _ he')

theorem goodD_docEq {a b : Doc} {l : List DOp} (h : DocEq a b) (ha : (ids a.table).Nodup) (hg : GoodD b l) :
    GoodD a l :=
  goodD_asim (asim_symm (asim_of_docEq h)) (wf_docEq (docEq_symm h) ha hg.1.1) hg
    fun x hx c hc => by rw [h c]; exact goodD_fresh hg x hx c hc

theorem flat_cons_a (a : AOp) (l : List DOp) : (arrs (.a a :: l)).flatMap flat = flat a ++ (arrs l).flatMap flat := rfl

theorem goodD_step {s : Doc} {y : DOp} {l : List DOp} (h : GoodD s (y :: l)) : GoodD (applyD s y) l := by
  obtain ⟨h1, h2, h3, h4⟩ := h
  cases y with
  | o a =>
    exact ⟨good_step h1, goodE_after_op (h1.2.1 a List.mem_cons_self) h2 fun e he => (h4 a List.mem_cons_self e he).1,
      h3, fun x hx => h4 x (List.mem_cons_of_mem _ hx)⟩
  | a a =>
    rw [flat_cons_a] at h2 h4
    refine goodD_docEq (applyA_flat h2 (h3 a List.mem_cons_self)) (nodup_applyA h1.1.nodup a)
      ⟨good_across _ h2 h1 fun o ho e he => (h4 o ho e (List.mem_append_left _ he)).1, goodE_append h2,
        fun op ho => h3 op (List.mem_cons_of_mem _ ho), fun x hx e he => h4 x hx e (List.mem_append_right _ he)⟩

theorem wf_applyD {s : Doc} {y : DOp} (h : GoodD s [y]) : (applyD s y).WF := goodD_wf (goodD_step h)

theorem comm_op_batch {s : Doc} {o : ObjOp} {a : AOp} {rest : List EOp} (ho : OpOK s o)
    (hg : GoodE s (flat a ++ rest)) (hb : BatchOK a) (hc : ∀ e ∈ flat a ++ rest, Cross o e) :
    ASim (applyA (applyOp s o) a) (applyOp (applyA s a) o) := by
  have hx := op_across _ ho (goodE_left hg) fun e he => hc e (List.mem_append_left _ he)
  have hf := docEq_symm (applyA_flat hg hb)
  have hw := goodE_applyAll (goodE_left hg)
  exact asim_trans (asim_of_docEq (applyA_flat (goodE_after_op ho hg hc) hb)) (asim_trans hx.2
    (asim_of_docEq (docEq_applyOp hf hw (wf_docEq hf (nodup_applyA hg.1.nodup a) hw) hx.1 (opOK_docEq hf hx.1))))

theorem comm_asim_goodD {s : Doc} {x y : DOp} {l : List DOp} (h : GoodD s (x :: y :: l)) :
    ASim (applyD (applyD s x) y) (applyD (applyD s y) x) := by
  obtain ⟨h1, h2, h3, h4⟩ := h
  have m1 : ∀ {α : Type} {a : α} {l : List α}, a ∈ a :: l := List.mem_cons_self
  have m2 : ∀ {α : Type} {a b : α} {l : List α}, b ∈ a :: b :: l := List.mem_cons_of_mem _ List.mem_cons_self
  cases x with
  | o a =>
    cases y with
    | o b => exact asim_of_sim (op_comm_partial h1.1 (h1.2.1 a m1) (h1.2.1 b m2) ((List.pairwise_cons.mp h1.2.2).1 b m1))
    | a b =>
      have h2' : GoodE s (flat b ++ (arrs l).flatMap flat) := h2
      exact comm_op_batch (h1.2.1 a m1) h2' (h3 b m1) fun e he => (h4 a m1 e he).1
  | a a =>
    cases y with
    | o b =>
      have h2' : GoodE s (flat a ++ (arrs l).flatMap flat) := h2
      exact asim_symm (comm_op_batch (h1.2.1 b m1) h2' (h3 a m1) fun e he => (h4 b m1 e he).1)
    | a b =>
      have h2' : GoodE s (flat a ++ (flat b ++ (arrs l).flatMap flat)) := h2
      rw [← List.append_assoc] at h2'
      exact comm_batch (goodE_left h2') (h3 a m1) (h3 b m2)

theorem goodD_head {s : Doc} {x : DOp} {l : List DOp} (h : GoodD s (x :: l)) : GoodD s [x] := by
  obtain ⟨h1, h2, h3, _⟩ := h
  cases x with
  | o a => exact DR.goodD_single_obj h1.1 (h1.2.1 a List.mem_cons_self)
  | a a => rw [flat_cons_a] at h2; exact DR.goodD_single_arr h1.1 (goodE_left h2) (h3 a List.mem_cons_self)

theorem d_converge {d d' : Doc} {l l' : List DOp} (hp : l.Perm l') (h : GoodD d l) (h' : GoodD d' l)
    (hs : ASim d d') : ASim (applyAllD d l) (applyAllD d' l') :=
  Exch.perm_fold_equiv applyD ASim asim_equivalence GoodD
    (fun _ _ _ hp h => goodD_perm hp h) (fun _ _ _ h => goodD_step h)
    (fun _ _ _ _ h1 h2 h => asim_applyD (goodD_head h1) (goodD_head h2) h)
    (fun _ _ _ _ h => comm_asim_goodD h)
    l l' hp d d' h h' hs

/-! ## views along a valid history -/

/-- every operation is applicable at the moment it is applied (parent / anchor / targets / key present, identifiers fresh) -/
def Valid (d : Doc) : List DOp → Prop
  | [] => True
  | x :: l => GoodD d [x] ∧ Valid (applyD d x) l

theorem valid_wf : ∀ (l : List DOp) {s : Doc}, s.WF → Valid s l → (applyAllD s l).WF
  | [], _, h, _ => h
  | _ :: l, _, _, hv => valid_wf l (wf_applyD hv.1) hv.2

theorem viewOK_docEq {a b : Doc} (h : DocEq a b) (ha : (ids a.table).Nodup) (hb : (ids b.table).Nodup)
    (hv : ViewOK a) : ViewOK b := by
  refine ⟨keysND_docEq h hv.keys, ?_, ?_⟩
  · obtain ⟨rk, hr, hlt⟩ := hv.bounded
    exact ⟨rk, fun p n hp c hc => hr p n (by rw [h p]; exact hp) c hc,
      fun c => by rw [← docEq_length h ha hb]; exact hlt c⟩
  · obtain ⟨n, m, s, h1, h2⟩ := hv.root
    exact ⟨n, m, s, by rw [← h _]; exact h1, h2⟩

theorem viewOK_applyD {d : Doc} {x : DOp} (hg : GoodD d [x]) (hv : ViewOK d) (hko : ∀ o, x = .o o → OpKeysND o)
    (hke : ∀ a, x = .a a → ∀ e ∈ flat a, EKeysND e) : ViewOK (applyD d x) := by
  cases x with
  | o o =>
    obtain ⟨wa, oa⟩ := DR.goodD_obj hg
    exact viewOK_op wa hv o oa (hko o rfl)
  | a a =>
    obtain ⟨ga, e1⟩ := goodD_arr_flat hg
    have v := viewOK_applyAllE ga hv (hke a rfl)
    exact viewOK_docEq (docEq_symm e1) (goodE_applyAll ga).nodup (nodup_applyA ga.wf.nodup a) v

theorem viewOK_valid : ∀ (L : List DOp) {d : Doc}, Valid d L → ViewOK d → (∀ x ∈ objs L, OpKeysND x) →
    (∀ e ∈ (arrs L).flatMap flat, EKeysND e) → ViewOK (applyAllD d L)
  | [], _, _, hv, _, _ => hv
  | x :: l, d, hval, hv, hko, hke => by
    apply viewOK_valid l hval.2 (viewOK_applyD hval.1 hv ?_ ?_)
    · intro o ho
      exact hko o (mem_objs.mpr (List.mem_cons_of_mem _ (mem_objs.mp ho)))
    · intro e he
      obtain ⟨a, ha, hea⟩ := List.mem_flatMap.mp he
      exact hke e (List.mem_flatMap.mpr ⟨a, mem_arrs.mpr (List.mem_cons_of_mem _ (mem_arrs.mp ha)), hea⟩)
    · intro o ho
      subst ho
      exact hko o (mem_objs.mpr (by simp))
    · intro a ha e he
      subst ha
      exact hke e (List.mem_flatMap.mpr ⟨a, mem_arrs.mpr (by simp), he⟩)

theorem valid_of_goodD : ∀ (L : List DOp) {d : Doc}, GoodD d L → Valid d L
  | [], _, _ => trivial
  | _ :: L, _, h => ⟨goodD_head h, valid_of_goodD L (goodD_step h)⟩

theorem view_of_valid {d : Doc} {L L' : List DOp} (hp : L.Perm L') (hwf : d.WF) (hv : Valid d L) (hv' : Valid d L')
    (hs : ASim (applyAllD d L) (applyAllD d L')) (hvw : ViewOK d) (hko : ∀ x ∈ objs L, OpKeysND x)
    (hke : ∀ e ∈ (arrs L).flatMap flat, EKeysND e) : (applyAllD d L).view.canon = (applyAllD d L').view.canon := by
  have v1 := viewOK_valid L hv hvw hko hke
  have v2 := viewOK_valid L' hv' hvw (fun o ho => hko o ((hp.filterMap _).mem_iff.mpr ho))
    (fun e he => hke e (((hp.filterMap _).flatMap_right flat).mem_iff.mpr he))
  exact asim_view_canon hs (valid_wf L hwf hv) v1.keys v2.keys v1.bounded v2.bounded v1.root

end Orda.DCausal

namespace Orda.DM
open Orda Orda.DC Orda.DA Orda.DCausal


/-- C01/C02 for documents, mixed histories.  Two arrival orders of the same remote document operations —
    object puts / removes and array inserts / deletes / updates (multi-target, nested values) — that are
    applicable in the start document in any order end in `ASim`-equivalent documents and, for values without
    duplicate keys in a document fit for viewing, show the same key-sorted view. -/
theorem mixed_converge {d : Doc} {L L' : List DOp} (hp : L.Perm L') (h : GoodD d L) :
    ASim (applyAllD d L) (applyAllD d L') ∧
      (ViewOK d → (∀ x ∈ objs L, OpKeysND x) → (∀ e ∈ (arrs L).flatMap flat, EKeysND e) →
        (applyAllD d L).view.canon = (applyAllD d L').view.canon) := by
  have hs := d_converge hp h h (asim_refl d)
  exact ⟨hs, view_of_valid hp h.1.1 (valid_of_goodD L h) (valid_of_goodD L' (goodD_perm hp h)) hs⟩

/-! ## non-vacuity: a document with an object and an array, a mixed history in two orders -/

namespace Ex
open DA.Ex

def tF : Ts := ⟨0, 6, "f", 0⟩
def tG : Ts := ⟨0, 7, "g", 0⟩
def tH : Ts := ⟨0, 8, "h", 0⟩

/-- `base` (of `DA.Ex`) is `{"a": [1, {"x": 5}, [7]]}`; `s1` is the object `{"x": 5}` inside the array.
    The history: a nested batch insert and a concurrent insert at the same place, a put of a new key into the
    inner object, a two-target update (which supersedes that object) and a two-target delete of the same
    slots, a remove of the key `x` of the inner object, a put of a new key (a nested value) into the root. -/
def L : List DOp :=
  [.a (.ins arr s0 tB [.arr [.num 1, .num 2], .str "z"]), .o (.put s1 "y" (.num 3) tF),
   .a (.ins arr s0 tC [.num 99]), .a (.upd arr tD [s1, s2] [.num 10, .arr []]), .o (.del s1 "x" tG),
   .a (.del arr [s1, s2] tE), .o (.put root "b" (.obj [("c", .arr [.num 5])]) tH)]
def L' : List DOp := L.reverse

theorem objs_L : objs L =
    [.put s1 "y" (.num 3) tF, .del s1 "x" tG, .put root "b" (.obj [("c", .arr [.num 5])]) tH] := rfl
theorem arrs_L : arrs L = DA.Ex.L := rfl
theorem flat_L : DA.Ex.L.flatMap flat =
    [i1, i2, .upd1 arr s1 tD (.num 10), .upd1 arr s2 ⟨0, 4, "d", 1⟩ (.arr []),
      .del1 arr s1 tE, .del1 arr s2 ⟨0, 5, "e", 1⟩] := rfl

theorem goodD : GoodD base L := by
  refine ⟨?_, ?_, ?_, ?_⟩
  · refine ⟨base_wf, ?_, by decide⟩
    intro o ho
    rw [objs_L] at ho
    simp only [List.mem_cons, List.mem_nil_iff, or_false] at ho
    rcases ho with rfl | rfl | rfl
    · exact ⟨⟨_, _, _, rfl, rfl⟩, ⟨_, _, _, rfl⟩, DC.Ex.fresh_of_all (by decide)⟩
    · exact ⟨_, _, _, _, rfl, rfl, rfl⟩
    · exact ⟨⟨_, _, _, rfl, rfl⟩, ⟨_, _, _, rfl⟩, DC.Ex.fresh_of_all (by decide)⟩
  · rw [arrs_L]; exact goodL
  · rw [arrs_L]; decide
  · rw [objs_L, arrs_L, flat_L]
    decide +kernel

example : L.Perm L' := (List.reverse_perm L).symm

example : ASim (applyAllD base L) (applyAllD base L') :=
  (mixed_converge (List.reverse_perm L).symm goodD).1

example : (applyAllD base L).view.canon = (applyAllD base L').view.canon :=
  (mixed_converge (List.reverse_perm L).symm goodD).2 base_viewOK
    (by
      intro x hx
      rw [objs_L] at hx
      simp only [List.mem_cons, List.mem_nil_iff, or_false] at hx
      rcases hx with rfl | rfl | rfl <;> simp [OpKeysND, JKeysND, JKeysNDList, JKeysNDKvs])
    (by
      intro e he
      rw [arrs_L, flat_L] at he
      simp only [List.mem_cons, List.mem_nil_iff, or_false] at he
      rcases he with rfl | rfl | rfl | rfl | rfl | rfl <;> simp [EKeysND, i1, i2, JKeysND, JKeysNDList])

/-- … and what the two replicas show -/
example : ((applyAllD base L).view ==
    .obj [("a", .arr [.num 1, .num 99, .arr [.num 1, .num 2], .str "z"]), ("b", .obj [("c", .arr [.num 5])])]) = true ∧
    ((applyAllD base L').view.canon == (applyAllD base L).view.canon) = true := by decide +kernel

end Ex

/-! ## the two kinds on the abstraction

The commutation of `oe_comm`, stated for the abstract operations `DC.absOp` and `DA.absE` on any `Abs` in which the object
parent and the array parent are different nodes and the new identifiers / buried nodes of one operation are away from
the other.  Nothing above rests on it. -/

theorem insSlots_key (A : Abs) (p an : Ts) (cs : List Ts) : (insSlots A p an cs).key = A.key := by
  unfold insSlots
  cases A.shape p with
  | none => rfl
  | some x =>
    obtain ⟨par, sh⟩ := x
    cases sh with
    | elem v => rfl
    | obj => rfl
    | arr E =>
      simp only
      cases insertAfterId (fun (e : Ent) => e.1) an (cs.map newEnt) E with
      | none => rfl
      | some E' => rfl

theorem applySlot_key (A : Abs) (p tg : Ts) (f : Ts → KeySt → SStep) : (applySlot A p tg f).key = A.key := by
  unfold applySlot
  cases A.shape p with
  | none => rfl
  | some x =>
    obtain ⟨par, sh⟩ := x
    cases sh with
    | elem v => rfl
    | obj => rfl
    | arr E =>
      simp only
      cases E.find? (fun e => e.1 = tg) with
      | none => rfl
      | some e => simp only; rw [kill_key]; rfl

theorem absE_key (e : EOp) (A : Abs) {q : Ts} (hq : q ∉ ids (nodesE e)) (k : String) :
    (absE e A).key q k = A.key q k := by
  have hN := (supp_abs_mk (nodesE e)) q hq
  have hu : (union A (abs ⟨nodesE e⟩)).key q k = A.key q k := by simp [union, hN.2.2.1 k]
  cases e with
  | ins p an ts vs => simp only [absE]; rw [insSlots_key]; exact hu
  | del1 p tg t => simp only [absE]; rw [applySlot_key]
  | upd1 p tg t v => simp only [absE]; rw [applySlot_key]; exact hu

theorem setArr_setKey (B : Abs) {p po : Ts} (h : po ≠ p) (par : Option Ts) (E : List Ent) (s : Int) (k : String)
    (st : Option KeySt) (ds : Int) :
    setArr (setKey B po k st ds) p par E s = setKey (setArr B p par E s) po k st ds := by
  apply Abs.ext'
  · intro c; rfl
  · intro c; rfl
  · intro c k'; rfl
  · intro c
    simp only [setArr, setKey]
    by_cases h1 : c = p
    · subst h1
      have : ¬ c = po := fun e => h e.symm
      simp [this]
    · simp [h1]

theorem applySlot_setKey (B : Abs) {p po : Ts} (h : po ≠ p) (tg : Ts) (f : Ts → KeySt → SStep) (k : String)
    (st : Option KeySt) (ds : Int) :
    applySlot (setKey B po k st ds) p tg f = setKey (applySlot B p tg f) po k st ds := by
  have hsz : (setKey B po k st ds).size p = B.size p := by
    have : ¬ p = po := fun e => h e.symm
    simp [setKey, this]
  unfold applySlot
  rw [hsz, show (setKey B po k st ds).shape p = B.shape p from rfl]
  cases B.shape p with
  | none => rfl
  | some x =>
    obtain ⟨par, sh⟩ := x
    cases sh with
    | elem v => rfl
    | obj => rfl
    | arr E =>
      simp only
      cases E.find? (fun e => e.1 = tg) with
      | none => rfl
      | some e => simp only; rw [setArr_setKey B h, kill_setKey]

theorem insSlots_setKey (B : Abs) {p po : Ts} (h : po ≠ p) (an : Ts) (cs : List Ts) (k : String)
    (st : Option KeySt) (ds : Int) :
    insSlots (setKey B po k st ds) p an cs = setKey (insSlots B p an cs) po k st ds := by
  have hsz : (setKey B po k st ds).size p = B.size p := by
    have : ¬ p = po := fun e => h e.symm
    simp [setKey, this]
  unfold insSlots
  rw [hsz, show (setKey B po k st ds).shape p = B.shape p from rfl]
  cases B.shape p with
  | none => rfl
  | some x =>
    obtain ⟨par, sh⟩ := x
    cases sh with
    | elem v => rfl
    | obj => rfl
    | arr E =>
      simp only
      cases insertAfterId (fun (e : Ent) => e.1) an (cs.map newEnt) E with
      | none => rfl
      | some E' => simp only; rw [setArr_setKey B h]

theorem applySlot_kill {B : Abs} {p : Ts} {par : Option Ts} {E : List Ent} (hB : B.shape p = some (par, .arr E))
    (x : Option Ts) (tg : Ts) (f : Ts → KeySt → SStep) :
    applySlot (kill B x) p tg f = kill (applySlot B p tg f) x := by
  unfold applySlot
  rw [kill_shape_arr x hB, hB, kill_size]
  simp only
  cases E.find? (fun e => e.1 = tg) with
  | none => rfl
  | some e => simp only; rw [setArr_kill hB, kill_comm]

theorem insSlots_kill {B : Abs} {p : Ts} {par : Option Ts} {E : List Ent} (hB : B.shape p = some (par, .arr E))
    (x : Option Ts) (an : Ts) (cs : List Ts) :
    insSlots (kill B x) p an cs = kill (insSlots B p an cs) x := by
  unfold insSlots
  rw [kill_shape_arr x hB, hB, kill_size]
  simp only
  cases insertAfterId (fun (e : Ent) => e.1) an (cs.map newEnt) E with
  | none => rfl
  | some E' => simp only; rw [setArr_kill hB]

theorem union_insSlots {B N : Abs} {S : Ts → Prop} (hN : Supp N S) {p : Ts} (hp : ¬ S p) {par : Option Ts}
    {E : List Ent} (hB : B.shape p = some (par, .arr E)) (an : Ts) (cs : List Ts) :
    union (insSlots B p an cs) N = insSlots (union B N) p an cs := by
  have hsz : (union B N).size p = B.size p := by simp [union, (hN p hp).2.2.2]
  unfold insSlots
  rw [union_shape_some hB, hB, hsz]
  simp only
  cases insertAfterId (fun (e : Ent) => e.1) an (cs.map newEnt) E with
  | none => rfl
  | some E' => simp only; rw [union_setArr hN hp]

theorem absE_union {e : EOp} {A N : Abs} {S : Ts → Prop} (hN : Supp N S)
    (hd : ∀ c, S c → c ∈ ids (nodesE e) → False) (hp : ¬ S e.p)
    {par : Option Ts} {E : List Ent} (hA : A.shape e.p = some (par, .arr E))
    (ht : ∀ tg, e.tgt = some tg → ∃ ent, E.find? (fun x => x.1 = tg) = some ent ∧
      ∀ y, (fE e ent.2.1 ent.2.2).bury = some y → ¬ S y) :
    absE e (union A N) = union (absE e A) N := by
  have hNe := supp_abs_mk (nodesE e)
  have hsw : union (union A N) (abs ⟨nodesE e⟩) = union (union A (abs ⟨nodesE e⟩)) N :=
    union_comm A hN hNe hd
  cases htg : e.tgt with
  | none =>
    cases e with
    | ins p an ts vs =>
      simp only [EOp.p] at hA hp
      simp only [absE]
      rw [hsw, union_insSlots hN hp (union_shape_some hA)]
    | del1 p tg t => simp [EOp.tgt] at htg
    | upd1 p tg t v => simp [EOp.tgt] at htg
  | some tg =>
    obtain ⟨ent, hent, hb⟩ := ht tg htg
    rw [absE_slot htg, absE_slot htg, hsw, union_applySlot hN hp (fE e) (union_shape_some hA) hent hb]

theorem absE_setKey (e : EOp) (A : Abs) {po : Ts} (h1 : po ≠ e.p) (h2 : po ∉ ids (nodesE e)) (k : String)
    (st : Option KeySt) (ds : Int) :
    absE e (setKey A po k st ds) = setKey (absE e A) po k st ds := by
  have hNe := supp_abs_mk (nodesE e)
  have hu := union_setKey (B := A) ((hNe _ h2).2.2.1 k) st ds
  cases e with
  | ins p an ts vs => simp only [EOp.p] at h1; simp only [absE]; rw [hu, insSlots_setKey _ h1]
  | del1 p tg t => simp only [EOp.p] at h1; simp only [absE]; rw [applySlot_setKey _ h1]
  | upd1 p tg t v => simp only [EOp.p] at h1; simp only [absE]; rw [hu, applySlot_setKey _ h1]

theorem absE_kill (e : EOp) (A : Abs) {par : Option Ts} {E : List Ent} (hA : A.shape e.p = some (par, .arr E))
    (x : Option Ts) (hx : ∀ y, x = some y → y ∉ ids (nodesE e)) :
    absE e (kill A x) = kill (absE e A) x := by
  have hNe := supp_abs_mk (nodesE e)
  have hu : union (kill A x) (abs ⟨nodesE e⟩) = kill (union A (abs ⟨nodesE e⟩)) x := union_kill hNe hx
  cases e with
  | ins p an ts vs => simp only [EOp.p] at hA; simp only [absE]; rw [hu, insSlots_kill (union_shape_some hA)]
  | del1 p tg t => simp only [EOp.p] at hA; simp only [absE]; rw [applySlot_kill hA]
  | upd1 p tg t v => simp only [EOp.p] at hA; simp only [absE]; rw [hu, applySlot_kill (union_shape_some hA)]

/-- an abstract object operation and an abstract elementary array operation commute: different
    parents, new identifiers and buried nodes of one away from the other -/
theorem absE_absOp {o : ObjOp} {e : EOp} {A : Abs} {par : Option Ts} {E : List Ent}
    (hA : A.shape e.p = some (par, .arr E))
    (hd : ∀ c, c ∈ ids (nodesOf o) → c ∈ ids (nodesE e) → False)
    (hpe : e.p ∉ ids (nodesOf o)) (hpo : o.parent ∉ ids (nodesE e)) (hne : o.parent ≠ e.p)
    (ht : ∀ tg, e.tgt = some tg → ∃ ent, E.find? (fun x => x.1 = tg) = some ent ∧
      ∀ y, (fE e ent.2.1 ent.2.2).bury = some y → y ∉ ids (nodesOf o))
    (hbo : ∀ y, (stepOf o ((union A (abs ⟨nodesOf o⟩)).key o.parent o.key)).bury = some y →
      y ∉ ids (nodesE e)) :
    absE e (absOp o A) = absOp o (absE e A) := by
  have hNo := supp_abs_mk (nodesOf o)
  have hkey : (union (absE e A) (abs ⟨nodesOf o⟩)).key o.parent o.key =
      (union A (abs ⟨nodesOf o⟩)).key o.parent o.key := by
    simp only [union]; rw [absE_key e A hpo]
  unfold absOp aop applyStep
  rw [hkey]
  have hsh : ∀ st ds, (setKey (union A (abs ⟨nodesOf o⟩)) o.parent o.key st ds).shape e.p = some (par, .arr E) :=
    fun _ _ => union_shape_some hA
  rw [absE_kill e _ (hsh _ _) _ hbo, absE_setKey e _ hne hpo, absE_union hNo hd hpe hA ht]

end Orda.DM
