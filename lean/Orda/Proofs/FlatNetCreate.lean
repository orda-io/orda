/-
The flat datatypes (list: `FNetC.L` over the types of `LNet`; LWW map and counter: `FNetC.M` over those of `MNet`) in the system
as it really starts: node 0 CREATES the datatype, so its buffer starts with the creation snapshot operation `snapOp`, which heads
the log; nodes `1 … n-1` are subscribers.  `StepC` is the `Step` of MapNet / ListNet with one guard: a subscriber calls only
after it has consumed the first log entry.

Why the guard: the delivery of a `.snapshot` body REPLACES the state of a counter / map / list by the fresh state
(`snapshot_delivery_resets_flat_state`), so an operation a subscriber issues before its first pull is wiped out there and kept
by the creator (`counter_/map_/list_call_before_first_pull_diverges`).

The invariant is that of MapNet / ListNet, except that `ent_ok` allows the snapshot entry (which `sem` / `den` do not see, so
the datatype arguments carry over), plus `fresh` (a subscriber that has pulled nothing has applied nothing: the only use of the
guard), `creator` (the creator's buffer starts with `snapOp`) and `log_head` (a non-empty log starts with the snapshot entry).
The snapshot entry is at position 0 only (`NetBook.head_unique`), so it is delivered at `pulled = 0`, where `fresh` gives the fresh state,
which the delivery leaves (`closedC`).  `NodeInvC`/`InvC` list the fields of `DtC` and `NetBook.Book` flat, for the statements; the
proof works on `DtC` and `NetBook.NetInv`.  A further system on these node types can take `NetBook.CStep view G` itself as its step
relation.
-/
import Orda.Proofs.ListNet
import Orda.Proofs.MapNet
namespace Orda.FNetC

/-! # A. the LWW map and the counter (`Orda.MNet`) -/
namespace M
open Orda Orda.MNet


/-- the creation snapshot operation of the creator: what `Replica.new typ (cuid 0) true` puts into its buffer -/
def snapOp (typ : DtType) (cuid : Nat → String) : Op := ⟨(OpId.new (cuid 0)).next, .snapshot (DState.fresh typ)⟩
def snapEnt (typ : DtType) (cuid : Nat → String) : LEnt := (0, snapOp typ cuid)

/-- node 0 is the creator, nodes 1..n-1 are fresh subscribers; nothing pushed or pulled; empty log -/
def initC (typ : DtType) (cuid : Nat → String) (n : Nat) : Net :=
  ⟨(List.range n).map fun i => ⟨Replica.new typ (cuid i) (i == 0), 0, 0⟩, []⟩

/-- steps: as `Step`, except that a subscriber (i ≠ 0) issues calls only after it has consumed the first log entry -/
inductive StepC : Net → Net → Prop
  | call (net : Net) (i : Nat) (nd : Node) (c : Call) (hi : net.nodes[i]? = some nd) (hg : i ≠ 0 → 0 < nd.pulled) :
      StepC net ⟨net.nodes.set i { nd with r := (nd.r.call c).1 }, net.log⟩
  | push (net : Net) (i : Nat) (nd : Node) (o : Op) (hi : net.nodes[i]? = some nd)
      (ho : nd.r.buffer[nd.pushed]? = some o) :
      StepC net ⟨net.nodes.set i { nd with pushed := nd.pushed + 1 }, net.log ++ [(i, o)]⟩
  | pull (net : Net) (i : Nat) (nd : Node) (a : Nat) (o : Op) (hi : net.nodes[i]? = some nd)
      (hl : net.log[nd.pulled]? = some (a, o)) :
      StepC net ⟨net.nodes.set i { nd with r := if a = i then nd.r else (nd.r.execRemoteBase o).1,
                                           pulled := nd.pulled + 1 }, net.log⟩

inductive ReachC (typ : DtType) (cuid : Nat → String) (n : Nat) : Net → Prop
  | init (hc : CuidsDistinct cuid n) : ReachC typ cuid n (initC typ cuid n)
  | step {net net' : Net} : ReachC typ cuid n net → StepC net net' → ReachC typ cuid n net'

/-- every step of the created system is a step of the system without creator (the guard is only a restriction) -/
theorem StepC.toStep {net net' : Net} (h : StepC net net') : Step net net' := by
  cases h with
  | call i nd c hi hg => exact .call net i nd c hi
  | push i nd o hi ho => exact .push net i nd o hi ho
  | pull i nd a o hi hl => exact .pull net i nd a o hi hl

/-- the executable form: `Net.act` + the guard -/
def actC (net : Net) : Act → Option Net
  | .call i c =>
    match net.nodes[i]? with
    | some nd =>
      if i = 0 ∨ 0 < nd.pulled then some ⟨net.nodes.set i { nd with r := (nd.r.call c).1 }, net.log⟩ else none
    | none => none
  | .push i => net.act (.push i)
  | .pull i => net.act (.pull i)

def runC (net : Net) : List Act → Option Net
  | [] => some net
  | a :: as => match actC net a with
    | some net' => runC net' as
    | none => none

theorem stepC_of_actC {net net' : Net} {a : Act} (h : actC net a = some net') : StepC net net' := by
  cases a with
  | call i c =>
    simp only [actC] at h
    split at h
    next nd hn =>
      split at h
      next hg => cases h; exact .call net i nd c hn hg.resolve_left
      next => cases h
    next => cases h
  | push i =>
    simp only [actC, Net.act] at h
    split at h
    next nd hn =>
      split at h
      next o ho => cases h; exact .push net i nd o hn ho
      next => cases h
    next => cases h
  | pull i =>
    simp only [actC, Net.act] at h
    split at h
    next nd hn =>
      split at h
      next a o hl => cases h; exact .pull net i nd a o hn hl
      next => cases h
    next => cases h

theorem reachC_run {typ : DtType} {cuid : Nat → String} {n : Nat} : ∀ (as : List Act) {net net' : Net},
    ReachC typ cuid n net → runC net as = some net' → ReachC typ cuid n net' := fun as _ _ hr h =>
  ListAux.run_induction (Q := fun _ => True) (fun _ => rfl) (fun s a _ => by simp only [runC]; cases actC s a <;> rfl)
    (fun hr _ h => .step hr (stepC_of_actC h)) as hr h fun _ _ => trivial


/-! ## the invariant: `MNet.NodeInv` with the snapshot entry allowed, + `fresh`, `creator`, `log_head` -/

def EntOKC (typ : DtType) (cuid : Nat → String) (n : Nat) (e : LEnt) : Prop :=
  e.1 < n ∧ e.2.id.cuid = cuid e.1 ∧ (e = snapEnt typ cuid ∨ OpOK typ e.2)

/-- what the datatype adds to `NetBook.Book`: the datatype part of `MNet` (`st`, `causal_ops`), `fresh`, `creator` -/
structure DtC (typ : DtType) (cuid : Nat → String) (i : Nat) (r : Replica) (pulled : Nat) (A : List LEnt) : Prop where
  st : r.state = sem typ (opsOf A)
  causal_ops : Causal typ (opsOf A)
  fresh : i ≠ 0 → pulled = 0 → A = []
  creator : i = 0 → r.buffer.head? = some (snapOp typ cuid)

/-- `DtC` and, field for field, `NetBook.Book`, in the terms of this system; the proofs go through the two (`dt`, `book`, `of_dt`) -/
structure NodeInvC (typ : DtType) (cuid : Nat → String) (n : Nat) (log : List LEnt) (i : Nat) (nd : Node)
    (A : List LEnt) : Prop where
  st : nd.r.state = sem typ (opsOf A)
  causal_ops : Causal typ (opsOf A)
  pushed_le : nd.pushed ≤ nd.r.buffer.length
  pulled_le : nd.pulled ≤ log.length
  own_eq : own i A = nd.r.buffer.map (fun o => (i, o))
  oth_eq : oth i A = oth i (log.take nd.pulled)
  log_own : own i log = (nd.r.buffer.take nd.pushed).map (fun o => (i, o))
  clock_cuid : nd.r.opId.cuid = cuid i
  lam_le : ∀ e ∈ A, e.2.id.lamport ≤ nd.r.opId.lamport
  ent_ok : ∀ e ∈ A, EntOKC typ cuid n e
  buf_sorted : nd.r.buffer.Pairwise (fun o o' => o.id.lamport < o'.id.lamport)
  keys : A.Pairwise (fun e e' => lkey e ≠ lkey e')
  causal : ∀ P o S, A = P ++ (i, o) :: S → ∀ k, log[k]? = some (i, o) → ∀ e ∈ P, e ∈ log.take k
  /-- a subscriber that has consumed nothing has applied nothing (the guard of `StepC.call`) -/
  fresh : i ≠ 0 → nd.pulled = 0 → A = []
  /-- the creator's buffer starts with the creation snapshot operation -/
  creator : i = 0 → nd.r.buffer.head? = some (snapOp typ cuid)

/-- `NetBook.NetInv` in the terms of this system (`toNet`, `of_net`) -/
structure InvC (typ : DtType) (cuid : Nat → String) (n : Nat) (net : Net) (ap : Nat → List LEnt) : Prop where
  flat : Flat typ
  distinct : CuidsDistinct cuid n
  len : net.nodes.length = n
  node : ∀ i nd, net.nodes[i]? = some nd → NodeInvC typ cuid n net.log i nd (ap i)
  log_auth : ∀ e ∈ net.log, e.1 < n
  log_keys : net.log.Pairwise (fun e e' => lkey e ≠ lkey e')
  /-- a non-empty log starts with the creation snapshot entry -/
  log_head : ∀ e, net.log[0]? = some e → e = snapEnt typ cuid

theorem sem_snoc_snap {typ : DtType} (hf : Flat typ) (cuid : Nat → String) (ops : List Op) :
    sem typ (ops ++ [snapOp typ cuid]) = sem typ ops := by
  rcases hf with rfl | rfl
  · simp only [sem, mapApplyAll_snoc]; rfl
  · simp only [sem, List.foldl_append, List.foldl_cons, List.foldl_nil]; rfl

theorem needs_snap (typ : DtType) (cuid : Nat → String) (P : List Op) : Needs typ (snapOp typ cuid) P := by
  cases typ <;> simp only [Needs]
  intro k hk
  cases hk

theorem execRemoteBase_snap {typ : DtType} (hf : Flat typ) (r : Replica) (hs : r.state = DState.fresh typ)
    (cuid : Nat → String) :
    (r.execRemoteBase (snapOp typ cuid)).1.state = DState.fresh typ ∧ (r.execRemoteBase (snapOp typ cuid)).2 = none := by
  rcases hf with rfl | rfl <;>
    simp [Replica.execRemoteBase, execRemote, hs, snapOp, DState.fresh]


theorem entOKC_auth {typ : DtType} {cuid : Nat → String} {n : Nat} (e : LEnt) (h : EntOKC typ cuid n e) :
    e.1 < n ∧ e.2.id.cuid = cuid e.1 := ⟨h.1, h.2.1⟩

namespace NodeInvC
variable {typ : DtType} {cuid : Nat → String} {n : Nat} {log : List LEnt} {i : Nat} {nd : Node} {A : List LEnt}

theorem book (N : NodeInvC typ cuid n log i nd A) :
    NetBook.Book (EntOKC typ cuid n) (cuid i) log i nd.r.buffer nd.r.opId nd.pushed nd.pulled A :=
  ⟨N.pushed_le, N.pulled_le, N.own_eq, N.oth_eq, N.log_own, N.clock_cuid, N.lam_le, N.ent_ok, N.buf_sorted, N.keys,
    N.causal⟩

theorem dt (N : NodeInvC typ cuid n log i nd A) : DtC typ cuid i nd.r nd.pulled A :=
  ⟨N.st, N.causal_ops, N.fresh, N.creator⟩

theorem of_dt (d : DtC typ cuid i nd.r nd.pulled A)
    (B : NetBook.Book (EntOKC typ cuid n) (cuid i) log i nd.r.buffer nd.r.opId nd.pushed nd.pulled A) :
    NodeInvC typ cuid n log i nd A :=
  { d, B with }

end NodeInvC

/-- the snapshot entry sits at position 0 only, and a node other than its author that has consumed nothing has applied
    nothing -/
theorem DtC.snap_first {typ : DtType} {cuid : Nat → String} {log : List LEnt} {j a : Nat} {r : Replica} {pl : Nat}
    {A : List LEnt} {o : Op} (d : DtC typ cuid j r pl A) (hkeys : log.Pairwise (fun e e' => lkey e ≠ lkey e'))
    (hhead : ∀ e, log[0]? = some e → e = snapEnt typ cuid) (hl : log[pl]? = some (a, o)) (ha : a ≠ j)
    (hs : (a, o) = snapEnt typ cuid) : pl = 0 ∧ A = [] :=
  have hp0 : pl = 0 := NetBook.head_unique hkeys hhead (hs ▸ hl)
  ⟨hp0, d.fresh (fun e => ha ((congrArg Prod.fst hs).trans e.symm)) hp0⟩

/-- `MNet.closed` with what the creator adds: a subscriber calls after its first pull, so `fresh` stays true; the snapshot
    operation meets the fresh state (`snap_first`) and leaves it; the first push is the creator's snapshot operation -/
theorem closedC {typ : DtType} (hf : Flat typ) (cuid : Nat → String) (n : Nat) :
    NetBook.Closed (EntOKC typ cuid n) (DtC typ cuid) (· = snapEnt typ cuid) (fun i pl _ => i ≠ 0 → 0 < pl) cuid n where
  auth := entOKC_auth
  call := by
    intro log i r pu pl A c d B hi hg
    rcases call_cases hf r (opsOf A) d.st d.causal_ops c with h | ⟨o, hbuf, hid, hop, hst, hok, hneeds⟩
    · exact .inl (h.symm ▸ ⟨d, B⟩)
    · have B' := B.queue hid ⟨hi, (congrArg OpId.cuid hid).trans B.clock_cuid, Or.inr hok⟩
      rw [← hbuf, ← hop] at B'
      exact .inr ⟨o, ⟨opsOf_append A _ ▸ hst, opsOf_append A _ ▸ causal_snoc d.causal_ops hneeds,
        fun h0 hp => absurd hp (Nat.ne_of_gt (hg h0)), fun h0 => hbuf ▸ ListAux.head?_snoc (d.creator h0)⟩, B'⟩
  skip := fun d => { d with fresh := fun _ hp => absurd hp (Nat.succ_ne_zero _) }
  deliver := by
    intro log j a r ra pu pl pua pla A Aa Pre S o d B da Ba hkeys hhead hl ha hsplit hsub hk hP
    have frame : ∀ (_ : (r.execRemoteBase o).1.state = sem typ (opsOf A ++ [o])) (_ : Causal typ (opsOf A ++ [o])),
        DtC typ cuid j (r.execRemoteBase o).1 (pl + 1) (A ++ [(a, o)]) := fun hst hco =>
      ⟨opsOf_append A _ ▸ hst, opsOf_append A _ ▸ hco, fun _ hp => absurd hp (Nat.succ_ne_zero _),
        fun h0 => (execRemoteBase_buffer r o).symm ▸ d.creator h0⟩
    rcases hP.2.2 with hsnap | hok
    · obtain ⟨_, rfl⟩ := d.snap_first hkeys hhead hl ha hsnap
      obtain ⟨rfl, rfl⟩ := Prod.mk.inj hsnap
      refine frame ?_ (causal_snoc d.causal_ops (needs_snap typ cuid _))
      rw [sem_snoc_snap hf, (execRemoteBase_snap hf r (d.st.trans (sem_nil hf)) cuid).1]
      exact (sem_nil hf).symm
    · exact frame (remote_cases hf r (opsOf A) d.st o hok).1
        (causal_snoc d.causal_ops (needs_deliver hsplit da.causal_ops hsub))
  first := fun d B ho => B.first_push d.fresh d.creator ho

theorem StepC.cstep {net net' : Net} (h : StepC net net') : NetBook.CStep view
    (fun i pl _ => i ≠ 0 → 0 < pl) net.nodes net.log net'.nodes net'.log := by
  cases h with
  | call i nd c hi hg => exact .call i nd c hi hg
  | push i nd o hi ho => exact .push i nd o hi ho
  | pull i nd a o hi hl => exact .pull i nd a o hi hl

namespace InvC
variable {typ : DtType} {cuid : Nat → String} {n : Nat} {net : Net} {ap : Nat → List LEnt}

theorem toNet (I : InvC typ cuid n net ap) : NetBook.NetInv view (EntOKC typ cuid n)
    (DtC typ cuid) (· = snapEnt typ cuid) cuid n net.nodes net.log ap :=
  ⟨I.distinct, I.len, fun i nd hi => ⟨(I.node i nd hi).dt, (I.node i nd hi).book⟩, I.log_auth, I.log_keys, I.log_head⟩

theorem of_net {nodes : List Node} {log : List LEnt} (hf : Flat typ) (I : NetBook.NetInv view
    (EntOKC typ cuid n) (DtC typ cuid) (· = snapEnt typ cuid) cuid n nodes log ap) : InvC typ cuid n ⟨nodes, log⟩ ap :=
  ⟨hf, I.distinct, I.len, fun i nd hi => .of_dt (I.node i nd hi).1 (I.node i nd hi).2, I.log_auth, I.log_keys,
    I.log_head⟩

/-- causal delivery, derived: the operation a node is about to consume has what it needs among the operations the node
    has applied, is new there, and is the snapshot entry or an operation of the datatype -/
theorem deliver (I : InvC typ cuid n net ap) {j : Nat} {nd : Node} {a : Nat} {o : Op} (hj : net.nodes[j]? = some nd)
    (hl : net.log[nd.pulled]? = some (a, o)) (ha : a ≠ j) :
    Needs typ o (opsOf (ap j)) ∧ (∀ e ∈ ap j, lkey e ≠ lkey (a, o)) ∧ EntOKC typ cuid n (a, o) := by
  obtain ⟨nda, P, S, hna, hsplit, hsubset, hkeys, hent⟩ := I.toNet.deliver_core entOKC_auth hj hl ha
  exact ⟨needs_deliver hsplit (I.node a nda hna).causal_ops hsubset, hkeys, hent⟩

theorem deliver_snap (I : InvC typ cuid n net ap) {j : Nat} {nd : Node} {a : Nat} {o : Op} (hj : net.nodes[j]? = some nd)
    (hl : net.log[nd.pulled]? = some (a, o)) (ha : a ≠ j) (hs : (a, o) = snapEnt typ cuid) :
    nd.pulled = 0 ∧ ap j = [] :=
  (I.node j nd hj).dt.snap_first I.log_keys I.log_head hl ha hs

theorem step (I : InvC typ cuid n net ap) {net' : Net} (h : StepC net net') : ∃ ap', InvC typ cuid n net' ap' :=
  let ⟨ap', I', _⟩ := I.toNet.step (closedC I.flat cuid n) h.cstep
  ⟨ap', of_net I.flat I'⟩

theorem ops_perm (I : InvC typ cuid n net ap) {i : Nat} {nd : Node} (hi : net.nodes[i]? = some nd) :
    (opsOf (ap i)).Perm (appliedOps net.log i nd) :=
  (I.node i nd hi).book.ops_perm

end InvC

theorem inv_initC {typ : DtType} {cuid : Nat → String} {n : Nat} (hf : Flat typ) (hc : CuidsDistinct cuid n) :
    InvC typ cuid n (initC typ cuid n) (fun i => if i = 0 then [snapEnt typ cuid] else []) :=
  .of_net hf (.init hc fun i hlt => by
    by_cases h0 : i = 0
    · subst h0
      -- the creator has issued (and applied) its snapshot operation
      rw [if_pos rfl]
      refine ⟨⟨?_, causal_snoc (causal_nil typ) (needs_snap typ cuid _), fun h => absurd rfl h, fun _ => rfl⟩,
        (NetBook.Book.init (P := EntOKC typ cuid n) rfl).queue rfl ⟨hlt, rfl, Or.inl rfl⟩⟩
      show (Replica.new typ (cuid 0) true).state = sem typ ([] ++ [snapOp typ cuid])
      rw [sem_snoc_snap hf, sem_nil hf]; rfl
    · rw [if_neg h0, beq_false_of_ne h0]
      exact ⟨⟨(sem_nil hf).symm, causal_nil typ, fun _ _ => rfl, fun h => absurd h h0⟩, .init rfl⟩)

theorem inv_reachC {typ : DtType} {cuid : Nat → String} {n : Nat} {net : Net} (hf : Flat typ)
    (h : ReachC typ cuid n net) : ∃ ap, InvC typ cuid n net ap := by
  induction h with
  | init hc => exact ⟨_, inv_initC hf hc⟩
  | step _ hs ih =>
    obtain ⟨ap, I⟩ := ih
    exact I.step hs


theorem appliedOps_caught_up {typ : DtType} {cuid : Nat → String} {n : Nat} {net : Net} (hf : Flat typ)
    (h : ReachC typ cuid n net) {k : Nat}
    (hk : k < net.nodes.length) (q1 : net.nodes[k].pushed = net.nodes[k].r.buffer.length)
    (q2 : net.nodes[k].pulled = net.log.length) : (appliedOps net.log k net.nodes[k]).Perm (net.log.map (·.2)) := by
  obtain ⟨ap, I⟩ := inv_reachC hf h
  exact NetBook.caught_up_of_own (I.node k _ (List.getElem?_eq_getElem hk)).log_own q1 q2

theorem sameOps_of_caught_up {typ : DtType} {cuid : Nat → String} {n : Nat} {net : Net} (hf : Flat typ)
    (h : ReachC typ cuid n net) {i j : Nat}
    (hi : i < net.nodes.length) (hj : j < net.nodes.length)
    (pi : net.nodes[i].pushed = net.nodes[i].r.buffer.length) (li : net.nodes[i].pulled = net.log.length)
    (pj : net.nodes[j].pushed = net.nodes[j].r.buffer.length) (lj : net.nodes[j].pulled = net.log.length) :
    SameOps net i j :=
  ⟨_, _, List.getElem?_eq_getElem hi, List.getElem?_eq_getElem hj,
    (appliedOps_caught_up hf h hi pi li).trans (appliedOps_caught_up hf h hj pj lj).symm⟩

theorem sameOps_of_quiescent {typ : DtType} {cuid : Nat → String} {n : Nat} {net : Net} (hf : Flat typ)
    (h : ReachC typ cuid n net) (hq : Quiescent net)
    {i j : Nat} (hi : i < net.nodes.length) (hj : j < net.nodes.length) : SameOps net i j := by
  obtain ⟨a1, a2⟩ := hq _ (List.getElem_mem hi)
  obtain ⟨b1, b2⟩ := hq _ (List.getElem_mem hj)
  exact sameOps_of_caught_up hf h hi hj a1 a2 b1 b2

/-! ## the theorems (map, counter) -/

/-- a non-empty log starts with the creator's snapshot operation; it is nowhere else; every other entry is an operation of
    the datatype -/
theorem log_starts_with_snapshot {typ : DtType} (hf : Flat typ) {cuid : Nat → String} {n : Nat} :
    ∀ net, ReachC typ cuid n net →
    (∀ e, net.log[0]? = some e → e = snapEnt typ cuid) ∧
    (∀ k a o, net.log[k]? = some (a, o) → k ≠ 0 → OpOK typ o) := by
  intro net h
  obtain ⟨ap, I⟩ := inv_reachC hf h
  refine ⟨I.log_head, fun k a o hk hk0 => ?_⟩
  obtain ⟨hent, hiff⟩ := I.toNet.log_entry hk
  exact hent.2.2.resolve_left fun hs => hk0 (hiff.mp hs)

/-- every enabled delivery is the snapshot delivery to an untouched subscriber (state fresh before and after, no panic), or the
    delivery of an operation of the datatype that has what it needs: no error, no panic, IS the remote application -/
theorem deliveries_exact {typ : DtType} (hf : Flat typ) {cuid : Nat → String} {n : Nat} :
    ∀ net, ReachC typ cuid n net →
    ∀ (i : Nat) (nd : Node) (a : Nat) (o : Op), net.nodes[i]? = some nd → net.log[nd.pulled]? = some (a, o) → a ≠ i →
      (a = 0 ∧ o = snapOp typ cuid ∧ nd.pulled = 0 ∧ nd.r.state = DState.fresh typ ∧
        (nd.r.execRemoteBase o).2 = none ∧ (nd.r.execRemoteBase o).1.state = DState.fresh typ) ∨
      (OpOK typ o ∧ ∃ ops, nd.r.state = sem typ ops ∧ Needs typ o ops ∧ (nd.r.execRemoteBase o).2 = none ∧
        (nd.r.execRemoteBase o).1.state = sem typ (ops ++ [o])) := by
  intro net h i nd a o hi hl ha
  obtain ⟨ap, I⟩ := inv_reachC hf h
  have N := I.node i nd hi
  obtain ⟨hneeds, _, hent⟩ := I.deliver hi hl ha
  rcases hent.2.2 with hsnap | hok
  · obtain ⟨hp0, hA⟩ := I.deliver_snap hi hl ha hsnap
    obtain ⟨rfl, rfl⟩ := Prod.mk.inj hsnap
    have hs0 : nd.r.state = DState.fresh typ := (hA ▸ N.st).trans (sem_nil hf)
    exact .inl ⟨rfl, rfl, hp0, hs0, (execRemoteBase_snap hf nd.r hs0 cuid).2, (execRemoteBase_snap hf nd.r hs0 cuid).1⟩
  · obtain ⟨r1, r2⟩ := remote_cases hf nd.r _ N.st o hok
    exact .inr ⟨hok, opsOf (ap i), N.st, hneeds, r2, r1⟩

theorem map_same_operations_same_reads {cuid : Nat → String} {n : Nat} : ∀ net, ReachC .map cuid n net →
    ∀ i j (hi : i < net.nodes.length) (hj : j < net.nodes.length) mi mj,
    net.nodes[i].r.state = .map mi → net.nodes[j].r.state = .map mj → SameOps net i j →
    (∀ k, mi.get k = mj.get k) ∧ mi.size = mj.size ∧
    (∀ k, alFind k mi.live = alFind k mj.live) ∧ mi.live.Perm mj.live ∧ sortedView mi = sortedView mj ∧
    jsonView mi = jsonView mj := by
  intro net h i j hi hj mi mj hmi hmj hsame
  obtain ⟨ap, I⟩ := inv_reachC flat_map h
  have Ni := I.node i _ (List.getElem?_eq_getElem hi)
  have Nj := I.node j _ (List.getElem?_eq_getElem hj)
  exact reads_of_perm (Ni.st.symm.trans hmi) (Nj.st.symm.trans hmj) Ni.causal_ops Nj.causal_ops
    (distinctTs_of_keys Ni.keys) (perm_of_sameOps_net I.toNet hsame)

/-- the state of every node of a created map system is a well-formed map -/
theorem map_state_is_map {cuid : Nat → String} {n : Nat} : ∀ net, ReachC .map cuid n net →
    ∀ nd ∈ net.nodes, ∃ m, nd.r.state = .map m ∧ m.WF := by
  intro net h nd hnd
  obtain ⟨ap, I⟩ := inv_reachC flat_map h
  obtain ⟨i, hi⟩ := List.mem_iff_getElem?.mp hnd
  exact ⟨_, (I.node i nd hi).st, wf_mapApplyAll _ _ wf_empty⟩

/-- the value of a counter node is a function of `appliedOps` alone: the sum of the increments, with 32-bit wrap (the snapshot
    operation in `appliedOps` counts for nothing) -/
theorem counter_value_is_spec {cuid : Nat → String} {n : Nat} : ∀ net, ReachC .counter cuid n net →
    ∀ (i : Nat) (nd : Node), net.nodes[i]? = some nd →
      nd.r.state = DState.counter (Spec.counter (appliedOps net.log i nd)) := by
  intro net h i nd hi
  obtain ⟨ap, I⟩ := inv_reachC flat_counter h
  rw [(I.node i nd hi).st]
  simp only [sem]
  rw [counter_converge _ _ (I.ops_perm hi), counter_denote]

theorem counter_same_operations_same_state {cuid : Nat → String} {n : Nat} : ∀ net, ReachC .counter cuid n net →
    ∀ i j (hi : i < net.nodes.length) (hj : j < net.nodes.length),
    SameOps net i j → net.nodes[i].r.state = net.nodes[j].r.state := by
  intro net h i j hi hj hsame
  obtain ⟨ap, I⟩ := inv_reachC flat_counter h
  rw [(I.node i _ (List.getElem?_eq_getElem hi)).st, (I.node j _ (List.getElem?_eq_getElem hj)).st]
  exact counter_of_perm (perm_of_sameOps_net I.toNet hsame)

end M

/-! # B. the list (`Orda.LNet`) -/
namespace L
open Orda Orda.RF Orda.LNet


/-- the creation snapshot operation of the creator: what `Replica.new .list (cuid 0) true` puts into its buffer -/
def snapOp (cuid : Nat → String) : Op := ⟨(OpId.new (cuid 0)).next, .snapshot (DState.fresh .list)⟩
def snapEnt (cuid : Nat → String) : LEnt := (0, snapOp cuid)

/-- node 0 is the creator, nodes 1..n-1 are fresh subscribers; nothing pushed or pulled; empty log -/
def initC (cuid : Nat → String) (n : Nat) : Net :=
  ⟨(List.range n).map fun i => ⟨Replica.new .list (cuid i) (i == 0), 0, 0⟩, []⟩

/-- steps: as `Step`, except that a subscriber (i ≠ 0) issues calls only after it has consumed the first log entry -/
inductive StepC : Net → Net → Prop
  | call (net : Net) (i : Nat) (nd : Node) (c : Call) (hi : net.nodes[i]? = some nd) (hg : i ≠ 0 → 0 < nd.pulled) :
      StepC net ⟨net.nodes.set i { nd with r := (nd.r.call c).1 }, net.log⟩
  | push (net : Net) (i : Nat) (nd : Node) (o : Op) (hi : net.nodes[i]? = some nd)
      (ho : nd.r.buffer[nd.pushed]? = some o) :
      StepC net ⟨net.nodes.set i { nd with pushed := nd.pushed + 1 }, net.log ++ [(i, o)]⟩
  | pull (net : Net) (i : Nat) (nd : Node) (a : Nat) (o : Op) (hi : net.nodes[i]? = some nd)
      (hl : net.log[nd.pulled]? = some (a, o)) :
      StepC net ⟨net.nodes.set i { nd with r := if a = i then nd.r else (nd.r.execRemoteBase o).1,
                                           pulled := nd.pulled + 1 }, net.log⟩

inductive ReachC (cuid : Nat → String) (n : Nat) : Net → Prop
  | init (hc : CuidsDistinct cuid n) : ReachC cuid n (initC cuid n)
  | step {net net' : Net} : ReachC cuid n net → StepC net net' → ReachC cuid n net'

/-- every step of the created system is a step of the system without creator (the guard is only a restriction) -/
theorem StepC.toStep {net net' : Net} (h : StepC net net') : Step net net' := by
  cases h with
  | call i nd c hi hg => exact .call net i nd c hi
  | push i nd o hi ho => exact .push net i nd o hi ho
  | pull i nd a o hi hl => exact .pull net i nd a o hi hl

/-- the executable form: `Net.act` + the guard -/
def actC (net : Net) : Act → Option Net
  | .call i c =>
    match net.nodes[i]? with
    | some nd =>
      if i = 0 ∨ 0 < nd.pulled then some ⟨net.nodes.set i { nd with r := (nd.r.call c).1 }, net.log⟩ else none
    | none => none
  | .push i => net.act (.push i)
  | .pull i => net.act (.pull i)

def runC (net : Net) : List Act → Option Net
  | [] => some net
  | a :: as => match actC net a with
    | some net' => runC net' as
    | none => none

theorem stepC_of_actC {net net' : Net} {a : Act} (h : actC net a = some net') : StepC net net' := by
  cases a with
  | call i c =>
    simp only [actC] at h
    split at h
    next nd hn =>
      split at h
      next hg => cases h; exact .call net i nd c hn hg.resolve_left
      next => cases h
    next => cases h
  | push i =>
    simp only [actC, Net.act] at h
    split at h
    next nd hn =>
      split at h
      next o ho => cases h; exact .push net i nd o hn ho
      next => cases h
    next => cases h
  | pull i =>
    simp only [actC, Net.act] at h
    split at h
    next nd hn =>
      split at h
      next a o hl => cases h; exact .pull net i nd a o hn hl
      next => cases h
    next => cases h

theorem reachC_run {cuid : Nat → String} {n : Nat} : ∀ (as : List Act) {net net' : Net},
    ReachC cuid n net → runC net as = some net' → ReachC cuid n net' := fun as _ _ hr h =>
  ListAux.run_induction (Q := fun _ => True) (fun _ => rfl) (fun s a _ => by simp only [runC]; cases actC s a <;> rfl)
    (fun hr _ h => .step hr (stepC_of_actC h)) as hr h fun _ _ => trivial


/-! ## the invariant: `LNet.NodeInv` with the snapshot entry allowed, + `fresh`, `creator`, `log_head` -/

def EntOKC (cuid : Nat → String) (n : Nat) (e : LEnt) : Prop :=
  e.1 < n ∧ e.2.id.cuid = cuid e.1 ∧ e.2.id.era = 0 ∧ 1 ≤ e.2.id.lamport ∧ (e = snapEnt cuid ∨ ListBody e.2.body)

/-- what the datatype adds to `NetBook.Book`: `LNet.Dt`, `fresh`, `creator` -/
structure DtC (cuid : Nat → String) (i : Nat) (r : Replica) (pulled : Nat) (A : List LEnt) : Prop extends Dt r A where
  fresh : i ≠ 0 → pulled = 0 → A = []
  creator : i = 0 → r.buffer.head? = some (snapOp cuid)

/-- `DtC` and, field for field, `NetBook.Book`, in the terms of this system; the proofs go through the two (`dt`, `book`, `of_dt`) -/
structure NodeInvC (cuid : Nat → String) (n : Nat) (log : List LEnt) (i : Nat) (nd : Node) (A : List LEnt) : Prop where
  st : nd.r.state = .list (Rga.empty.applyAllL (den A))
  lc : LCausal (den A)
  pushed_le : nd.pushed ≤ nd.r.buffer.length
  pulled_le : nd.pulled ≤ log.length
  own_eq : own i A = nd.r.buffer.map (fun o => (i, o))
  oth_eq : oth i A = oth i (log.take nd.pulled)
  log_own : own i log = (nd.r.buffer.take nd.pushed).map (fun o => (i, o))
  clock_cuid : nd.r.opId.cuid = cuid i
  clock_era : nd.r.opId.era = 0
  lam_le : ∀ e ∈ A, e.2.id.lamport ≤ nd.r.opId.lamport
  ent_ok : ∀ e ∈ A, EntOKC cuid n e
  buf_sorted : nd.r.buffer.Pairwise (fun o o' => o.id.lamport < o'.id.lamport)
  keys : A.Pairwise (fun e e' => lkey e ≠ lkey e')
  causal : ∀ P o S, A = P ++ (i, o) :: S → ∀ k, log[k]? = some (i, o) → ∀ e ∈ P, e ∈ log.take k
  /-- a subscriber that has consumed nothing has applied nothing (the guard of `StepC.call`) -/
  fresh : i ≠ 0 → nd.pulled = 0 → A = []
  /-- the creator's buffer starts with the creation snapshot operation -/
  creator : i = 0 → nd.r.buffer.head? = some (snapOp cuid)

/-- `NetBook.NetInv` in the terms of this system (`toNet`, `of_net`) -/
structure InvC (cuid : Nat → String) (n : Nat) (net : Net) (ap : Nat → List LEnt) : Prop where
  distinct : CuidsDistinct cuid n
  len : net.nodes.length = n
  node : ∀ i nd, net.nodes[i]? = some nd → NodeInvC cuid n net.log i nd (ap i)
  log_auth : ∀ e ∈ net.log, e.1 < n
  log_keys : net.log.Pairwise (fun e e' => lkey e ≠ lkey e')
  /-- a non-empty log starts with the creation snapshot entry -/
  log_head : ∀ e, net.log[0]? = some e → e = snapEnt cuid

theorem toL_snapOp (cuid : Nat → String) : toL (snapOp cuid) = none := rfl

theorem execRemoteBase_snap (r : Replica) (hs : r.state = .list Rga.empty) (cuid : Nat → String) :
    (r.execRemoteBase (snapOp cuid)).1.state = .list Rga.empty ∧ (r.execRemoteBase (snapOp cuid)).2 = none := by
  simp [Replica.execRemoteBase, execRemote, hs, snapOp, DState.fresh]


theorem entOKC_auth {cuid : Nat → String} {n : Nat} (e : LEnt) (h : EntOKC cuid n e) :
    e.1 < n ∧ e.2.id.cuid = cuid e.1 := ⟨h.1, h.2.1⟩

namespace NodeInvC
variable {cuid : Nat → String} {n : Nat} {log : List LEnt} {i : Nat} {nd : Node} {A : List LEnt}

theorem book (N : NodeInvC cuid n log i nd A) :
    NetBook.Book (EntOKC cuid n) (cuid i) log i nd.r.buffer nd.r.opId nd.pushed nd.pulled A :=
  ⟨N.pushed_le, N.pulled_le, N.own_eq, N.oth_eq, N.log_own, N.clock_cuid, N.lam_le, N.ent_ok, N.buf_sorted, N.keys,
    N.causal⟩

theorem dt (N : NodeInvC cuid n log i nd A) : DtC cuid i nd.r nd.pulled A :=
  ⟨⟨N.st, N.lc, N.clock_era⟩, N.fresh, N.creator⟩

theorem of_dt (d : DtC cuid i nd.r nd.pulled A)
    (B : NetBook.Book (EntOKC cuid n) (cuid i) log i nd.r.buffer nd.r.opId nd.pushed nd.pulled A) :
    NodeInvC cuid n log i nd A :=
  { d, B with }

end NodeInvC

/-- the snapshot entry sits at position 0 only, and a node other than its author that has consumed nothing has applied
    nothing -/
theorem DtC.snap_first {cuid : Nat → String} {log : List LEnt} {j a : Nat} {r : Replica} {pl : Nat} {A : List LEnt}
    {o : Op} (d : DtC cuid j r pl A) (hkeys : log.Pairwise (fun e e' => lkey e ≠ lkey e'))
    (hhead : ∀ e, log[0]? = some e → e = snapEnt cuid) (hl : log[pl]? = some (a, o)) (ha : a ≠ j)
    (hs : (a, o) = snapEnt cuid) : pl = 0 ∧ A = [] :=
  have hp0 : pl = 0 := NetBook.head_unique hkeys hhead (hs ▸ hl)
  ⟨hp0, d.fresh (fun e => ha ((congrArg Prod.fst hs).trans e.symm)) hp0⟩

/-- `LNet.closed` with what the creator adds: a subscriber calls after its first pull, so `fresh` stays true; the snapshot
    operation meets the empty list (`snap_first`) and leaves it; the first push is the creator's snapshot operation -/
theorem closedC (cuid : Nat → String) (n : Nat) :
    NetBook.Closed (EntOKC cuid n) (DtC cuid) (· = snapEnt cuid) (fun i pl _ => i ≠ 0 → 0 < pl) cuid n where
  auth := entOKC_auth
  call := by
    intro log i r pu pl A c d B hi hg
    rcases call_cases r _ d.st c with hb | ⟨o, l', q⟩
    · have B' := B.clock hb.cuid hb.lamport
      rw [← hb.buffer] at B'
      exact .inl ⟨⟨d.toDt.bump hb, d.fresh, fun h0 => hb.buffer ▸ d.creator h0⟩, B'⟩
    · have hnh : r.opId.next.ts.key ≠ Ts.oldest.key := fun e0 => Nat.succ_ne_zero _ (Prod.mk.inj (Prod.mk.inj e0).2).1
      obtain ⟨hl', hlc, hbody⟩ := local_step d.lc (ts := r.opId.next.ts) rfl hnh
        (den_lt (fun e he => he.2.2.1) d.toDt B) (congrArg OpId.ts q.id) q.op
      have hP : EntOKC cuid n (i, o) :=
        ⟨hi, (congrArg OpId.cuid q.id).trans B.clock_cuid, (congrArg OpId.era q.id).trans d.clock_era,
          (congrArg OpId.lamport q.id).symm ▸ Nat.le_add_left 1 _, Or.inr hbody⟩
      have B' := B.queue q.id hP
      rw [← q.buffer, ← q.opId] at B'
      exact .inr ⟨o, ⟨⟨by rw [q.state, hl', den_snoc, applyAllL_app], den_snoc A _ ▸ hlc, q.opId ▸ d.clock_era⟩,
        fun h0 hp => absurd hp (Nat.ne_of_gt (hg h0)), fun h0 => q.buffer ▸ ListAux.head?_snoc (d.creator h0)⟩, B'⟩
  skip := fun d => { d with fresh := fun _ hp => absurd hp (Nat.succ_ne_zero _) }
  deliver := by
    intro log j a r ra pu pl pua pla A Aa Pre S o d B da Ba hkeys hhead hl ha hsplit hsub hk hP
    have hst : (r.execRemoteBase o).1.state = .list ((Rga.empty.applyAllL (den A)).applyAllL (toL o).toList) := by
      rcases hP.2.2.2.2 with hsnap | hbody
      · obtain ⟨_, rfl⟩ := d.snap_first hkeys hhead hl ha hsnap
        obtain ⟨rfl, rfl⟩ := Prod.mk.inj hsnap
        rw [(execRemoteBase_snap r d.st cuid).1]; rfl
      · exact exec_toL r _ o d.st hbody
    exact ⟨⟨by rw [hst, den_snoc, applyAllL_app], den_snoc A _ ▸ lcausal_deliver hsplit da.lc d.lc hsub hk,
        by rw [execRemoteBase_opId, NetBook.sync_era]; exact d.clock_era⟩,
      fun _ hp => absurd hp (Nat.succ_ne_zero _), fun h0 => (execRemoteBase_buffer r o).symm ▸ d.creator h0⟩
  first := fun d B ho => B.first_push d.fresh d.creator ho

theorem StepC.cstep {net net' : Net} (h : StepC net net') : NetBook.CStep view
    (fun i pl _ => i ≠ 0 → 0 < pl) net.nodes net.log net'.nodes net'.log := by
  cases h with
  | call i nd c hi hg => exact .call i nd c hi hg
  | push i nd o hi ho => exact .push i nd o hi ho
  | pull i nd a o hi hl => exact .pull i nd a o hi hl

namespace InvC
variable {cuid : Nat → String} {n : Nat} {net : Net} {ap : Nat → List LEnt}

theorem toNet (I : InvC cuid n net ap) : NetBook.NetInv view (EntOKC cuid n) (DtC cuid)
    (· = snapEnt cuid) cuid n net.nodes net.log ap :=
  ⟨I.distinct, I.len, fun i nd hi => ⟨(I.node i nd hi).dt, (I.node i nd hi).book⟩, I.log_auth, I.log_keys, I.log_head⟩

theorem of_net {nodes : List Node} {log : List LEnt} (I : NetBook.NetInv view
    (EntOKC cuid n) (DtC cuid) (· = snapEnt cuid) cuid n nodes log ap) : InvC cuid n ⟨nodes, log⟩ ap :=
  ⟨I.distinct, I.len, fun i nd hi => .of_dt (I.node i nd hi).1 (I.node i nd hi).2, I.log_auth, I.log_keys, I.log_head⟩

/-- every delivery extends the receiver's causal sequence: what the delivered operation refers to (anchor, targets)
    was created by operations the receiver has already applied -/
theorem deliver (I : InvC cuid n net ap) {j : Nat} {nd : Node} {a : Nat} {o : Op} (hj : net.nodes[j]? = some nd)
    (hl : net.log[nd.pulled]? = some (a, o)) (ha : a ≠ j) :
    LCausal (den (ap j) ++ (toL o).toList) ∧ (∀ e ∈ ap j, lkey e ≠ lkey (a, o)) ∧ EntOKC cuid n (a, o) := by
  obtain ⟨nda, P, S, hna, hsplit, hsubset, hkeys, hent⟩ := I.toNet.deliver_core entOKC_auth hj hl ha
  exact ⟨lcausal_deliver hsplit (I.node a nda hna).lc (I.node j nd hj).lc hsubset hkeys, hkeys, hent⟩

theorem deliver_snap (I : InvC cuid n net ap) {j : Nat} {nd : Node} {a : Nat} {o : Op} (hj : net.nodes[j]? = some nd)
    (hl : net.log[nd.pulled]? = some (a, o)) (ha : a ≠ j) (hs : (a, o) = snapEnt cuid) :
    nd.pulled = 0 ∧ ap j = [] :=
  (I.node j nd hj).dt.snap_first I.log_keys I.log_head hl ha hs

theorem step (I : InvC cuid n net ap) {net' : Net} (h : StepC net net') : ∃ ap', InvC cuid n net' ap' :=
  let ⟨ap', I', _⟩ := I.toNet.step (closedC cuid n) h.cstep
  ⟨ap', of_net I'⟩

end InvC

theorem inv_initC {cuid : Nat → String} {n : Nat} (hc : CuidsDistinct cuid n) :
    InvC cuid n (initC cuid n) (fun i => if i = 0 then [snapEnt cuid] else []) :=
  .of_net (.init hc fun i hlt => by
    by_cases h0 : i = 0
    · subst h0
      -- the creator has issued (and applied) its snapshot operation, which denotes nothing
      rw [if_pos rfl]
      exact ⟨⟨⟨rfl, .nil, rfl⟩, fun h => absurd rfl h, fun _ => rfl⟩,
        (NetBook.Book.init (P := EntOKC cuid n) rfl).queue rfl ⟨hlt, rfl, rfl, Nat.le_refl _, Or.inl rfl⟩⟩
    · rw [if_neg h0, beq_false_of_ne h0]
      exact ⟨⟨⟨rfl, .nil, rfl⟩, fun _ _ => rfl, fun h => absurd h h0⟩, .init rfl⟩)

theorem inv_reachC {cuid : Nat → String} {n : Nat} {net : Net} (h : ReachC cuid n net) : ∃ ap, InvC cuid n net ap := by
  induction h with
  | init hc => exact ⟨_, inv_initC hc⟩
  | step _ hs ih =>
    obtain ⟨ap, I⟩ := ih
    exact I.step hs


theorem same_operations_same_state {cuid : Nat → String} {n : Nat} : ∀ net, ReachC cuid n net →
    ∀ i j (hi : i < net.nodes.length) (hj : j < net.nodes.length),
    SameOps net i j → net.nodes[i].r.state = net.nodes[j].r.state := by
  intro net h i j hi hj hsame
  obtain ⟨ap, I⟩ := inv_reachC h
  exact (I.node i _ (List.getElem?_eq_getElem hi)).dt.toDt.state_of_perm (I.node j _ (List.getElem?_eq_getElem hj)).dt.toDt
    (perm_of_sameOps_net I.toNet hsame)

theorem sameOps_of_caught_up {cuid : Nat → String} {n : Nat} {net : Net} (h : ReachC cuid n net) {i j : Nat}
    (hi : i < net.nodes.length) (hj : j < net.nodes.length)
    (pi : net.nodes[i].pushed = net.nodes[i].r.buffer.length) (li : net.nodes[i].pulled = net.log.length)
    (pj : net.nodes[j].pushed = net.nodes[j].r.buffer.length) (lj : net.nodes[j].pulled = net.log.length) :
    SameOps net i j :=
  let ⟨_, I⟩ := inv_reachC h
  ⟨_, _, List.getElem?_eq_getElem hi, List.getElem?_eq_getElem hj,
    I.toNet.caught_up_perm (List.getElem?_eq_getElem hi) (List.getElem?_eq_getElem hj) pi li pj lj⟩

theorem sameOps_of_quiescent {cuid : Nat → String} {n : Nat} {net : Net} (h : ReachC cuid n net) (hq : Quiescent net)
    {i j : Nat} (hi : i < net.nodes.length) (hj : j < net.nodes.length) : SameOps net i j :=
  sameOps_of_caught_up h hi hj (hq _ (List.getElem_mem hi)).1 (hq _ (List.getElem_mem hi)).2
    (hq _ (List.getElem_mem hj)).1 (hq _ (List.getElem_mem hj)).2

/-- at quiescence (every buffer completely pushed, every node has consumed the whole log) all nodes hold the
    same list state -/
theorem quiescent_converged {cuid : Nat → String} {n : Nat} : ∀ net, ReachC cuid n net → Quiescent net →
    ∀ i j (hi : i < net.nodes.length) (hj : j < net.nodes.length),
    net.nodes[i].r.state = net.nodes[j].r.state := by
  intro net h hq i j hi hj
  exact same_operations_same_state net h i j hi hj (sameOps_of_quiescent h hq hi hj)

/-- a non-empty log starts with the creator's snapshot operation; it is nowhere else; every other entry is a list operation -/
theorem log_starts_with_snapshot {cuid : Nat → String} {n : Nat} : ∀ net, ReachC cuid n net →
    (∀ e, net.log[0]? = some e → e = snapEnt cuid) ∧
    (∀ k a o, net.log[k]? = some (a, o) → k ≠ 0 → ListBody o.body) := by
  intro net h
  obtain ⟨ap, I⟩ := inv_reachC h
  refine ⟨I.log_head, fun k a o hk hk0 => ?_⟩
  obtain ⟨hent, hiff⟩ := I.toNet.log_entry hk
  exact hent.2.2.2.2.resolve_left fun hs => hk0 (hiff.mp hs)

/-- every delivery extends the receiver's causal sequence and IS the remote application of what the entry denotes (nothing for
    the snapshot operation, which meets the empty list of a subscriber that has consumed nothing, and for an insert of zero
    values) -/
theorem deliveries_causal {cuid : Nat → String} {n : Nat} : ∀ net, ReachC cuid n net →
    ∃ applied : Nat → List LOp, ∀ (i : Nat) (nd : Node) (a : Nat) (o : Op), net.nodes[i]? = some nd →
      net.log[nd.pulled]? = some (a, o) → a ≠ i →
      nd.r.state = .list (Rga.empty.applyAllL (applied i)) ∧ LCausal (applied i ++ (toL o).toList) ∧
      (nd.r.execRemoteBase o).1.state = .list (Rga.empty.applyAllL (applied i ++ (toL o).toList)) ∧
      (o = snapOp cuid → a = 0 ∧ nd.pulled = 0 ∧ applied i = [] ∧ (nd.r.execRemoteBase o).2 = none) := by
  intro net h
  obtain ⟨ap, I⟩ := inv_reachC h
  refine ⟨fun i => den (ap i), ?_⟩
  intro i nd a o hi hl ha
  have N := I.node i nd hi
  obtain ⟨hlc, _, hent⟩ := I.deliver hi hl ha
  refine ⟨N.st, hlc, ?_⟩
  rcases hent.2.2.2.2 with hsnap | hbody
  · obtain ⟨hp0, hA⟩ := I.deliver_snap hi hl ha hsnap
    obtain ⟨rfl, rfl⟩ := Prod.mk.inj hsnap
    have hs0 : nd.r.state = .list Rga.empty := by have := N.st; rwa [hA] at this
    have hd : den (ap i) = [] := by rw [hA]; rfl
    refine ⟨?_, fun _ => ⟨rfl, hp0, hd, (execRemoteBase_snap nd.r hs0 cuid).2⟩⟩
    show _ = DState.list (Rga.empty.applyAllL (den (ap i) ++ (toL (snapOp cuid)).toList))
    rw [(execRemoteBase_snap nd.r hs0 cuid).1, hd]; rfl
  · refine ⟨by rw [exec_toL nd.r _ o N.st hbody, applyAllL_app], fun ho => ?_⟩
    subst ho
    rcases hbody with ⟨_, _, _, hb⟩ | ⟨_, _, _, hb⟩ | ⟨_, _, _, hb⟩ <;> cases hb

end L

/-! # C. the theorems, per datatype

Under the names the property files use.  The three of the list, `created_map_net_same_operations_same_reads` and
`created_counter_net_value_is_spec`, `…_same_operations_same_state` are the statements of `L.…`/`M.…` above; the others are read
off them. -/

/-- LIST: at quiescence all replicas (creator and subscribers) hold the SAME list state -/
theorem created_list_net_quiescent_converged {cuid : Nat → String} {n : Nat} : ∀ net, L.ReachC cuid n net →
    LNet.Quiescent net → ∀ i j (hi : i < net.nodes.length) (hj : j < net.nodes.length),
    net.nodes[i].r.state = net.nodes[j].r.state :=
  L.quiescent_converged

/-- LIST: two nodes that have the same operations hold the SAME list state, at every moment -/
theorem created_list_net_same_operations_same_state {cuid : Nat → String} {n : Nat} : ∀ net, L.ReachC cuid n net →
    ∀ i j (hi : i < net.nodes.length) (hj : j < net.nodes.length),
    LNet.SameOps net i j → net.nodes[i].r.state = net.nodes[j].r.state :=
  L.same_operations_same_state

theorem created_list_log_starts_with_snapshot {cuid : Nat → String} {n : Nat} : ∀ net, L.ReachC cuid n net →
    (∀ e, net.log[0]? = some e → e = L.snapEnt cuid) ∧
    (∀ k a o, net.log[k]? = some (a, o) → k ≠ 0 → LNet.ListBody o.body) :=
  L.log_starts_with_snapshot

/-- MAP: two nodes that have applied the same operations answer every read alike, at every moment -/
theorem created_map_net_same_operations_same_reads {cuid : Nat → String} {n : Nat} : ∀ net, M.ReachC .map cuid n net →
    ∀ i j (hi : i < net.nodes.length) (hj : j < net.nodes.length) mi mj,
    net.nodes[i].r.state = .map mi → net.nodes[j].r.state = .map mj → MNet.SameOps net i j →
    (∀ k, mi.get k = mj.get k) ∧ mi.size = mj.size ∧
    (∀ k, alFind k mi.live = alFind k mj.live) ∧ mi.live.Perm mj.live ∧ MNet.sortedView mi = MNet.sortedView mj ∧
    MNet.jsonView mi = MNet.jsonView mj :=
  M.map_same_operations_same_reads

/-- MAP: at quiescence all replicas (creator and subscribers) answer every read alike -/
theorem created_map_net_quiescent_converged {cuid : Nat → String} {n : Nat} : ∀ net, M.ReachC .map cuid n net →
    MNet.Quiescent net → ∀ i j (hi : i < net.nodes.length) (hj : j < net.nodes.length) mi mj,
    net.nodes[i].r.state = .map mi → net.nodes[j].r.state = .map mj →
    (∀ k, mi.get k = mj.get k) ∧ mi.size = mj.size ∧
    (∀ k, alFind k mi.live = alFind k mj.live) ∧ mi.live.Perm mj.live ∧ MNet.sortedView mi = MNet.sortedView mj ∧
    MNet.jsonView mi = MNet.jsonView mj := by
  intro net h hq i j hi hj mi mj hmi hmj
  exact M.map_same_operations_same_reads net h i j hi hj mi mj hmi hmj (M.sameOps_of_quiescent MNet.flat_map h hq hi hj)

theorem created_map_log_starts_with_snapshot {cuid : Nat → String} {n : Nat} : ∀ net, M.ReachC .map cuid n net →
    (∀ e, net.log[0]? = some e → e = M.snapEnt .map cuid) ∧
    (∀ k a o, net.log[k]? = some (a, o) → k ≠ 0 → isMapOp o = true) :=
  M.log_starts_with_snapshot MNet.flat_map

/-- COUNTER: the value of every node is the (32-bit wrapped) sum of the increments among the operations it has applied -/
theorem created_counter_net_value_is_spec {cuid : Nat → String} {n : Nat} : ∀ net, M.ReachC .counter cuid n net →
    ∀ (i : Nat) (nd : MNet.Node), net.nodes[i]? = some nd →
      nd.r.state = DState.counter (Spec.counter (MNet.appliedOps net.log i nd)) :=
  M.counter_value_is_spec

theorem created_counter_net_same_operations_same_state {cuid : Nat → String} {n : Nat} :
    ∀ net, M.ReachC .counter cuid n net → ∀ i j (hi : i < net.nodes.length) (hj : j < net.nodes.length),
    MNet.SameOps net i j → net.nodes[i].r.state = net.nodes[j].r.state :=
  M.counter_same_operations_same_state

/-- COUNTER: at quiescence all replicas hold the SAME state, and it is the sum of all increments in the log -/
theorem created_counter_net_quiescent_converged {cuid : Nat → String} {n : Nat} : ∀ net, M.ReachC .counter cuid n net →
    MNet.Quiescent net → ∀ i j (hi : i < net.nodes.length) (hj : j < net.nodes.length),
    net.nodes[i].r.state = net.nodes[j].r.state ∧
    net.nodes[i].r.state = DState.counter (Spec.counter (net.log.map (·.2))) := by
  intro net h hq i j hi hj
  refine ⟨M.counter_same_operations_same_state net h i j hi hj (M.sameOps_of_quiescent MNet.flat_counter h hq hi hj), ?_⟩
  obtain ⟨a1, a2⟩ := hq _ (List.getElem_mem hi)
  rw [M.counter_value_is_spec net h i _ (List.getElem?_eq_getElem hi)]
  have := counter_converge _ _ (M.appliedOps_caught_up MNet.flat_counter h hi a1 a2)
  rw [counter_denote, counter_denote] at this
  rw [this]

theorem created_counter_log_starts_with_snapshot {cuid : Nat → String} {n : Nat} : ∀ net, M.ReachC .counter cuid n net →
    (∀ e, net.log[0]? = some e → e = M.snapEnt .counter cuid) ∧
    (∀ k a o, net.log[k]? = some (a, o) → k ≠ 0 → ∃ d, o.body = .increase d) :=
  M.log_starts_with_snapshot MNet.flat_counter

/-! # D. non-vacuity: per datatype a creator and two subscribers, a guarded run (`runC`) to quiescence -/

def cu : Nat → String
  | 0 => "a" | 1 => "b" | _ => "c"

theorem cu_distinct3 : ∀ i j, i < 3 → j < 3 → cu i = cu j → i = j :=
  NetBook.distinct3 (by decide) (by decide) (by decide)

/-! ### counter: the creator pushes its snapshot operation, everybody consumes it; three concurrent increases (5, 7, -3) and a
call of another datatype (refused, no effect); pushes in the order 2, 0, 1; everybody pulls the rest -/
namespace ExCounter
open Orda.MNet Orda.FNetC.M

def acts : List Act := [
  .push 0, .pull 1, .pull 2, .pull 0,
  .call 0 (.inc 5), .call 1 (.inc 7), .call 2 (.inc (-3)), .call 1 (.mput "x" (.num 1)),
  .push 2, .push 0, .push 1,
  .pull 1, .pull 1, .pull 1,
  .pull 0, .pull 0, .pull 0,
  .pull 2, .pull 2, .pull 2]
def valOf (r : Replica) : Int := match r.state with | .counter v => v | _ => 0
def finalNet : Net := (runC (initC .counter cu 3) acts).getD ⟨[], []⟩

/-- the runs are evaluated by the kernel; the facts below are read off them -/
theorem final_eval : (runC (initC .counter cu 3) acts).isSome = true ∧ Quiescent finalNet ∧ finalNet.nodes.length = 3 ∧
    finalNet.log.map (·.1) = [0, 2, 0, 1] ∧ finalNet.nodes.map (fun nd => valOf nd.r) = [9, 9, 9] := by
  unfold Quiescent
  decide +kernel
theorem reach_final : ReachC .counter cu 3 finalNet := reachC_run acts (.init cu_distinct3) (ListAux.some_getD final_eval.1)
theorem quiescent_final : Quiescent finalNet := final_eval.2.1
theorem len_final : finalNet.nodes.length = 3 := final_eval.2.2.1

example : finalNet.log.map (·.1) = [0, 2, 0, 1] := final_eval.2.2.2.1
example : (finalNet.nodes[0]'(by rw [len_final]; decide)).r.state = (finalNet.nodes[1]'(by rw [len_final]; decide)).r.state :=
  (created_counter_net_quiescent_converged finalNet reach_final quiescent_final 0 1 _ _).1
/-- the common value 5 + 7 - 3 -/
example : finalNet.nodes.map (fun nd => valOf nd.r) = [9, 9, 9] := final_eval.2.2.2.2
example : ∀ e, finalNet.log[0]? = some e → e = snapEnt .counter cu :=
  (created_counter_log_starts_with_snapshot finalNet reach_final).1
/-- the guard: in the initial state a call of a subscriber is refused by the executable form, a call of the creator is not -/
example : (actC (initC .counter cu 3) (.call 1 (.inc 1))).isSome = false ∧
    (actC (initC .counter cu 3) (.call 0 (.inc 1))).isSome = true := by decide +kernel

end ExCounter

/-! ### map: the creator puts `x`; concurrently subscriber 1 removes `x`, subscriber 2 puts `x` again and `z`, the creator puts `y` -/
namespace ExMap
open Orda.MNet Orda.FNetC.M

def acts : List Act := [
  .push 0, .pull 1, .pull 2, .pull 0,
  .call 0 (.mput "x" (.num 1)), .push 0, .pull 1, .pull 2,
  .call 1 (.mremove "x"), .call 2 (.mput "x" (.num 2)), .call 0 (.mput "y" (.str "v")), .call 2 (.mput "z" (.num 3)),
  .push 2, .push 0, .push 1, .push 2,
  .pull 1, .pull 1, .pull 1, .pull 1,
  .pull 0, .pull 0, .pull 0, .pull 0, .pull 0,
  .pull 2, .pull 2, .pull 2, .pull 2]
def mapOf (r : Replica) : LwwMap := match r.state with | .map m => m | _ => LwwMap.empty
def finalNet : Net := (runC (initC .map cu 3) acts).getD ⟨[], []⟩
theorem final_eval : (runC (initC .map cu 3) acts).isSome = true ∧ Quiescent finalNet ∧ finalNet.nodes.length = 3 ∧
    finalNet.log.map (·.1) = [0, 0, 2, 0, 1, 2] := by
  unfold Quiescent
  decide +kernel
theorem reach_final : ReachC .map cu 3 finalNet := reachC_run acts (.init cu_distinct3) (ListAux.some_getD final_eval.1)
theorem quiescent_final : Quiescent finalNet := final_eval.2.1
theorem len_final : finalNet.nodes.length = 3 := final_eval.2.2.1
def m0 : LwwMap := mapOf (finalNet.nodes[0]'(by rw [len_final]; decide)).r
def m1 : LwwMap := mapOf (finalNet.nodes[1]'(by rw [len_final]; decide)).r
def m2 : LwwMap := mapOf (finalNet.nodes[2]'(by rw [len_final]; decide)).r

theorem state_mapOf {net : Net} (h : ReachC .map cu 3 net) {i : Nat} (hi : i < net.nodes.length) :
    net.nodes[i].r.state = .map (mapOf net.nodes[i].r) := by
  obtain ⟨m, hm, _⟩ := map_state_is_map net h _ (List.getElem_mem hi)
  unfold mapOf
  rw [hm]

example : finalNet.log.map (·.1) = [0, 0, 2, 0, 1, 2] := final_eval.2.2.2
example : (∀ k, m0.get k = m1.get k) ∧ m0.size = m1.size ∧ jsonView m0 = jsonView m1 := by
  obtain ⟨h1, h2, _, _, _, h3⟩ := created_map_net_quiescent_converged finalNet reach_final quiescent_final 0 1 _ _ m0 m1
    (state_mapOf reach_final _) (state_mapOf reach_final _)
  exact ⟨h1, h2, h3⟩
example : (∀ k, m1.get k = m2.get k) ∧ m1.size = m2.size ∧ jsonView m1 = jsonView m2 := by
  obtain ⟨h1, h2, _, _, _, h3⟩ := created_map_net_quiescent_converged finalNet reach_final quiescent_final 1 2 _ _ m1 m2
    (state_mapOf reach_final _) (state_mapOf reach_final _)
  exact ⟨h1, h2, h3⟩
/-- the common view `{"x":2,"y":"v","z":3}` (the concurrent put of `x` wins over the remove) -/
example : (jsonView m0 == .obj [("x", .num 2), ("y", .str "v"), ("z", .num 3)]) = true ∧
    (jsonView m1 == jsonView m0) = true ∧ (jsonView m2 == jsonView m0) = true := by decide +kernel
example : ∀ e, finalNet.log[0]? = some e → e = snapEnt .map cu :=
  (created_map_log_starts_with_snapshot finalNet reach_final).1

end ExMap

/-! ### list: the creator inserts `[1,2]`; concurrently subscriber 1 inserts `"m"` at 1, subscriber 2 deletes the head, the creator
appends `9` -/
namespace ExList
open Orda.LNet Orda.FNetC.L

def acts : List Act := [
  .push 0, .pull 1, .pull 2, .pull 0,
  .call 0 (.linsert 0 [.num 1, .num 2]), .push 0, .pull 1, .pull 2,
  .call 1 (.linsert 1 [.str "m"]), .call 2 (.ldelete 0), .call 0 (.linsert 2 [.num 9]),
  .push 2, .push 0, .push 1,
  .pull 1, .pull 1, .pull 1,
  .pull 0, .pull 0, .pull 0, .pull 0,
  .pull 2, .pull 2, .pull 2]
def listOf (r : Replica) : Rga := match r.state with | .list l => l | _ => Rga.empty
def finalNet : Net := (runC (initC cu 3) acts).getD ⟨[], []⟩
theorem final_eval : (runC (initC cu 3) acts).isSome = true ∧ Quiescent finalNet ∧ finalNet.nodes.length = 3 ∧
    finalNet.log.map (·.1) = [0, 0, 2, 0, 1] ∧
    (finalNet.nodes.map fun nd => (listOf nd.r).live == [.str "m", .num 2, .num 9]) = [true, true, true] := by
  unfold Quiescent
  decide +kernel
theorem reach_final : ReachC cu 3 finalNet := reachC_run acts (.init cu_distinct3) (ListAux.some_getD final_eval.1)
theorem quiescent_final : Quiescent finalNet := final_eval.2.1
theorem len_final : finalNet.nodes.length = 3 := final_eval.2.2.1

example : finalNet.log.map (·.1) = [0, 0, 2, 0, 1] := final_eval.2.2.2.1
example : (finalNet.nodes[0]'(by rw [len_final]; decide)).r.state = (finalNet.nodes[1]'(by rw [len_final]; decide)).r.state :=
  created_list_net_quiescent_converged finalNet reach_final quiescent_final 0 1 _ _
example : (finalNet.nodes[1]'(by rw [len_final]; decide)).r.state = (finalNet.nodes[2]'(by rw [len_final]; decide)).r.state :=
  created_list_net_quiescent_converged finalNet reach_final quiescent_final 1 2 _ _
/-- the common live content `["m", 2, 9]` -/
example : (finalNet.nodes.map fun nd => (listOf nd.r).live == [.str "m", .num 2, .num 9]) = [true, true, true] :=
  final_eval.2.2.2.2
example : ∀ e, finalNet.log[0]? = some e → e = snapEnt cu :=
  (created_list_log_starts_with_snapshot finalNet reach_final).1

/-- a NON-quiescent state (after 21 actions): the creator and subscriber 1 have caught up, subscriber 2 has not -/
def midNet : Net := (runC (initC cu 3) (acts.take 21)).getD ⟨[], []⟩
theorem mid_eval : (runC (initC cu 3) (acts.take 21)).isSome = true ∧ midNet.nodes.length = 3 ∧ ¬ Quiescent midNet ∧
    ∀ (hi : 0 < midNet.nodes.length) (hj : 1 < midNet.nodes.length),
      (midNet.nodes[0].pushed = midNet.nodes[0].r.buffer.length ∧ midNet.nodes[0].pulled = midNet.log.length) ∧
      midNet.nodes[1].pushed = midNet.nodes[1].r.buffer.length ∧ midNet.nodes[1].pulled = midNet.log.length := by
  unfold Quiescent
  decide +kernel
theorem reach_mid : ReachC cu 3 midNet := reachC_run (acts.take 21) (.init cu_distinct3) (ListAux.some_getD mid_eval.1)
theorem len_mid : midNet.nodes.length = 3 := mid_eval.2.1
example : ¬ Quiescent midNet := mid_eval.2.2.1
example : (midNet.nodes[0]'(by rw [len_mid]; decide)).r.state = (midNet.nodes[1]'(by rw [len_mid]; decide)).r.state := by
  have hi : 0 < midNet.nodes.length := by rw [len_mid]; decide
  have hj : 1 < midNet.nodes.length := by rw [len_mid]; decide
  obtain ⟨⟨p0, l0⟩, p1, l1⟩ := mid_eval.2.2.2 hi hj
  exact created_list_net_same_operations_same_state midNet reach_mid 0 1 _ _
    (L.sameOps_of_caught_up reach_mid hi hj p0 l0 p1 l1)

end ExList

/-! # E. why the guard: the delivery of the snapshot operation RESETS a flat datatype

`execRemote (.counter v) _ (.snapshot (.counter 0)) = .ok (.counter 0)`, and likewise for a map and a list (`execRemote`,
`ApplySnapshot` in the source).  Hence WITHOUT the guard of `StepC.call` convergence at quiescence is false for every flat datatype: two nodes,
the subscriber calls before it has consumed anything, pushes (its operation becomes the first log entry), the creator pushes its
snapshot operation (second entry), both pull everything.  The runs below are runs of the unguarded steps (`Net.run`) from `initC`;
the guarded executable form `runC` refuses them. -/

theorem snapshot_delivery_resets_flat_state :
    execRemote (.counter 5) ⟨0, 1, "a", 0⟩ (.snapshot (DState.fresh .counter)) = .ok (.counter 0) ∧
    (∀ m, execRemote (.map m) ⟨0, 1, "a", 0⟩ (.snapshot (DState.fresh .map)) = .ok (.map LwwMap.empty)) ∧
    (∀ l, execRemote (.list l) ⟨0, 1, "a", 0⟩ (.snapshot (DState.fresh .list)) = .ok (.list Rga.empty)) :=
  ⟨rfl, fun _ => rfl, fun _ => rfl⟩

def badCounter : List MNet.Act := [.call 1 (.inc 7), .push 1, .push 0, .pull 0, .pull 0, .pull 1, .pull 1]

/-- counter: the creator ends with 7, the subscriber with 0 (its own increase is wiped out by the snapshot delivery) -/
theorem counter_call_before_first_pull_diverges :
    ∃ net, (M.initC .counter cu 2).run badCounter = some net ∧ MNet.Quiescent net ∧
      net.nodes.map (fun nd => ExCounter.valOf nd.r) = [7, 0] ∧ (M.runC (M.initC .counter cu 2) badCounter).isSome = false := by
  apply ListAux.exists_of_getD ⟨[], []⟩
  unfold MNet.Quiescent
  decide +kernel

def badMap : List MNet.Act := [.call 1 (.mput "k" (.num 1)), .push 1, .push 0, .pull 0, .pull 0, .pull 1, .pull 1]

/-- map: the creator ends with `{"k":1}`, the subscriber with `{}` -/
theorem map_call_before_first_pull_diverges :
    ∃ net, (M.initC .map cu 2).run badMap = some net ∧ MNet.Quiescent net ∧
      net.nodes.map (fun nd => MNet.jsonView (ExMap.mapOf nd.r) == .obj [("k", .num 1)]) = [true, false] ∧
      net.nodes.map (fun nd => MNet.jsonView (ExMap.mapOf nd.r) == .obj []) = [false, true] ∧
      (M.runC (M.initC .map cu 2) badMap).isSome = false := by
  apply ListAux.exists_of_getD ⟨[], []⟩
  unfold MNet.Quiescent
  decide +kernel

def badList : List LNet.Act := [.call 1 (.linsert 0 [.num 1]), .push 1, .push 0, .pull 0, .pull 0, .pull 1, .pull 1]

/-- list: the creator ends with `[1]`, the subscriber with `[]` -/
theorem list_call_before_first_pull_diverges :
    ∃ net, (L.initC cu 2).run badList = some net ∧ LNet.Quiescent net ∧
      net.nodes.map (fun nd => (ExList.listOf nd.r).live == [.num 1]) = [true, false] ∧
      net.nodes.map (fun nd => (ExList.listOf nd.r).live == []) = [false, true] ∧
      (L.runC (L.initC cu 2) badList).isSome = false := by
  apply ListAux.exists_of_getD ⟨[], []⟩
  unfold LNet.Quiescent
  decide +kernel

end Orda.FNetC
