/-
The ENTRY PHASE of the push-pull protocol (subscribe exchange), on top of `Proofs/Protocol.lean`.

`Protocol.lean` models clients that are subscribed from the start.  Here a client may be *not yet
subscribed* (`joined = false`, model: `DtState.dueToSubscribe`): it sends SUBSCRIBE requests, the server
answers with a SUBSCRIBE response carrying the whole log and a checkpoint, and on receipt the client
resets itself (`WDt.applyPack`: buffer emptied, sequence number restarts, checkpoint from the response)
and applies the log.  The network is adversarial as before.

What server and client do for a subscribe exchange is read off `processPack` (Model/Server.lean, normal
form in Proofs/ServerLog.lean) and `WDt.applyPack` / `WDt.createPack` (Model/Wired.lean).  The server takes
dispatch `.subscribe` for a subscribe request of a client that is not recorded yet
(`allMatchedNotSubscribed`) AND for one that is recorded already and whose request names another datatype
id than the stored one (`allMatchedSubscribed`, `sameDuid = false`; `SL.Path.subscribe`); there
`inOps = []` and `cp0` is the STORED record of the client, so serving a subscribe request is serving a
normal request that pushes nothing (on the store: `resubscribe_keeps_record` in Proofs/ServerContract).
The client ignores a subscribe response unless it is due to subscribe: without this guard a late one
resets a joined client and loses operations (defect D33, `old_behaviour_breaks_invariant`).

The invariant `JInv` is `PInv` of the projection `JSys.toP` plus "a client that has not joined is
untouched", so preservation and all corollaries come from `Protocol.lean`; the one new step is the join
(`PJ.pinv_join`).  A further step owes the same: for a step that changes a client, `PInv` of the projection through
`PR.pinv_set` (as `pinv_join`) and from it `JInv` through `PJ.jinv_set`, as `PJ.jinv_…`; a case in `jinv_step`,
`join_checkpoint_monotone`, `join_server_monotone`; and its store-level counterpart in `SRefJ.SStepJ` /
`store_step_simulates_join` (Proofs/ServerRefineJoin).  Real replicas (`PNet`, Proofs/ProtoNet) run the system of
`Protocol.lean`: the entry phase is not lifted to them.
-/
import Orda.Proofs.Protocol
namespace Orda
open PR

/-! ## The extended LTS -/

inductive JMsgKind where
  | sub | normal
deriving DecidableEq, Repr

structure JClient where
  base : PClient            -- cuid, buf, cp, applied as in Protocol.lean
  joined : Bool             -- false: due to subscribe

structure JReq where
  kind : JMsgKind
  i : Nat                   -- index of the sending client
  s : Nat                   -- the sseq of the client's checkpoint when the request was made
  ops : List Op             -- the operations it carries (`createPack`: the pending ones, whatever the kind)

structure JResp where
  kind : JMsgKind
  i : Nat
  ops : List Op             -- pulled operations (a `sub` response: the log it was produced from, after `s`)
  cp : CheckPoint

structure JSys where
  clients : List JClient
  log : List Op
  cps : List (String × CheckPoint)
  reqs : List JReq          -- requests ever sent
  resps : List JResp        -- responses ever produced

def JSys.recOf (S : JSys) (u : String) : CheckPoint := (alFind u S.cps).getD ⟨0, 0⟩

/-- the reset of `WDt.applyPack` for a subscribe response whose first operation is a snapshot operation,
    with the very arithmetic of the model: buffer emptied (the sequence number restarts), checkpoint set
    to `⟨p.cp.sseq - #ops, p.cp.cseq⟩`, then the last `k` operations of the response are applied — ALL of
    them, own ones included — and the checkpoint is merged with `max` -/
def JClient.join (cl : JClient) (p : JResp) : JClient :=
  let cp0 : CheckPoint := ⟨p.cp.sseq - p.ops.length, p.cp.cseq⟩
  let k : Nat := (((p.cp.sseq : Int) - cp0.sseq) - ((p.cp.cseq : Int) - cp0.cseq)).toNat
  { base := { cuid := cl.base.cuid, buf := [],
              cp := ⟨max cp0.sseq p.cp.sseq, max cp0.cseq p.cp.cseq⟩,
              applied := p.ops.drop (p.ops.length - k) },
    joined := true }

/-- the check `applyPack` makes on a subscribe response -/
def snapFirst : List Op → Bool
  | ⟨_, .snapshot _⟩ :: _ => true
  | _ => false

/-- what a client does with a SUBSCRIBE response (`WDt.applyPack`): a subscribed client ignores
    it; a client due to subscribe joins if the first operation is a snapshot operation and refuses the
    response (no change) otherwise -/
def JClient.deliverSub (cl : JClient) (p : JResp) : JClient :=
  if cl.joined then cl else if snapFirst p.ops then cl.join p else cl

theorem deliverSub_joined (cl : JClient) (p : JResp) (hj : cl.joined = true) : cl.deliverSub p = cl := by
  simp [JClient.deliverSub, hj]

/-- the client without the guard: no look at the state of the datatype -/
def JClient.deliverSubOld (cl : JClient) (p : JResp) : JClient :=
  if snapFirst p.ops then cl.join p else cl

inductive JStep : JSys → JSys → Prop
  /-- any client, joined or not, issues an operation: its id, next seq -/
  | localOp (S : JSys) (i : Nat) (cl : JClient) (o : Op) :
      S.clients[i]? = some cl → o.id.cuid = cl.base.cuid → o.id.seq = cl.base.buf.length + 1 →
      JStep S { S with clients := S.clients.set i { cl with base := { cl.base with buf := cl.base.buf ++ [o] } } }
  /-- client `i` sends its current request (`createPack`): a subscribe request while it is not joined,
      a normal one afterwards; the pending operations are carried in both -/
  | send (S : JSys) (i : Nat) (cl : JClient) :
      S.clients[i]? = some cl →
      JStep S { S with reqs := S.reqs ++ [⟨if cl.joined then .normal else .sub, i, cl.base.cp.sseq,
                                           cl.base.buf.drop cl.base.cp.cseq⟩] }
  /-- the server serves any NORMAL request ever sent, as in `PStep.serve` -/
  | serve (S : JSys) (r : JReq) (cl : JClient) (cp2 : CheckPoint) (docs : List OpDoc) :
      r ∈ S.reqs → r.kind = .normal → S.clients[r.i]? = some cl →
      pushOps pDuid pCol ⟨S.log.length, (S.recOf cl.base.cuid).cseq⟩ r.ops [] = .ok (cp2, docs) →
      JStep S { S with log := S.log ++ docs.map (·.op),
                       cps := alSet cl.base.cuid cp2 S.cps,
                       resps := S.resps ++ [⟨.normal, r.i, S.log.drop r.s, cp2⟩] }
  | refuse (S : JSys) (r : JReq) (cl : JClient) (code : Nat) :
      r ∈ S.reqs → r.kind = .normal → S.clients[r.i]? = some cl →
      pushOps pDuid pCol ⟨S.log.length, (S.recOf cl.base.cuid).cseq⟩ r.ops [] = .error code →
      JStep S S
  /-- the server serves ANY subscribe request ever sent, any number of times, at any later time —
      also when its client is recorded already, has joined and has pushed operations (`processPack`,
      dispatch `.subscribe`): nothing is pushed, the log is unchanged, the record keeps its cseq and moves
      its sseq to the end of the log, the answer carries the log after the request's sseq -/
  | serveSub (S : JSys) (r : JReq) (cl : JClient) :
      r ∈ S.reqs → r.kind = .sub → S.clients[r.i]? = some cl →
      JStep S { S with cps := alSet cl.base.cuid ⟨S.log.length, (S.recOf cl.base.cuid).cseq⟩ S.cps,
                       resps := S.resps ++ [⟨.sub, r.i, S.log.drop r.s,
                                             ⟨S.log.length, (S.recOf cl.base.cuid).cseq⟩⟩] }
  /-- a normal response is delivered to its (joined) client, as in `PStep.deliver`; an unjoined client
      never has a normal response (`no_normal_resp_for_unjoined`), so the guard excludes nothing -/
  | deliver (S : JSys) (p : JResp) (cl : JClient) :
      p ∈ S.resps → p.kind = .normal → S.clients[p.i]? = some cl → cl.joined = true →
      JStep S { S with clients := S.clients.set p.i { cl with base := cl.base.receive ⟨p.i, p.ops, p.cp⟩ } }
  /-- ANY subscribe response ever produced is delivered to its client, any number of times, at any time -/
  | deliverSub (S : JSys) (p : JResp) (cl : JClient) :
      p ∈ S.resps → p.kind = .sub → S.clients[p.i]? = some cl →
      JStep S { S with clients := S.clients.set p.i (cl.deliverSub p) }

/-- clients flagged `true` start subscribed on the empty log (the creator — or, as in `Protocol.lean`,
    any client subscribed from the start); clients flagged `false` start due to subscribe -/
def JSys.init (cs : List (String × Bool)) : JSys :=
  { clients := cs.map (fun c => ⟨⟨c.1, [], ⟨0, 0⟩, []⟩, c.2⟩), log := [], cps := [], reqs := [], resps := [] }

inductive JReach (cs : List (String × Bool)) : JSys → Prop
  | init : (cs.map (·.1)).Nodup → JReach cs (JSys.init cs)
  | step {S S' : JSys} : JReach cs S → JStep S S' → JReach cs S'

/-! ## Projection onto the system of `Protocol.lean` -/

/-- the operations the server pushes for a request (`inOps` of `processPack`): none for a subscribe request -/
def JReq.pushed (r : JReq) : List Op := match r.kind with | .sub => [] | .normal => r.ops

theorem JReq.pushed_normal {r : JReq} (h : r.kind = .normal) : r.pushed = r.ops := by simp only [JReq.pushed, h]
theorem JReq.pushed_sub {r : JReq} (h : r.kind = .sub) : r.pushed = [] := by simp only [JReq.pushed, h]

theorem JStep.of_absServe (S : JSys) (r : JReq) (cl : JClient) (hr : r ∈ S.reqs) (hi : S.clients[r.i]? = some cl) :
    JStep S { S with log := (absServe S.log S.cps cl.base.cuid r.s r.pushed).1,
                     cps := (absServe S.log S.cps cl.base.cuid r.s r.pushed).2.1,
                     resps := S.resps ++ ((absServe S.log S.cps cl.base.cuid r.s r.pushed).2.2.map
                       (fun a => (⟨r.kind, r.i, a.1, a.2⟩ : JResp))).toList } := by
  unfold absServe JReq.pushed
  cases hk : r.kind with
  | sub =>
    show JStep S { S with log := S.log ++ [], cps := _, resps := _ }
    rw [List.append_nil]
    exact JStep.serveSub S r cl hr hk hi
  | normal =>
    dsimp only
    cases hp : pushOps pDuid pCol ⟨S.log.length, ((alFind cl.base.cuid S.cps).getD ⟨0, 0⟩).cseq⟩ r.ops [] with
    | ok res => exact JStep.serve S r cl res.1 res.2 hr hk hi hp
    | error code =>
      show JStep S { S with resps := S.resps ++ [] }
      rw [List.append_nil]
      exact JStep.refuse S r cl code hr hk hi hp

def JReq.toP (r : JReq) : PReq := ⟨r.i, r.s, r.pushed⟩
def JResp.toP (p : JResp) : PResp := ⟨p.i, p.ops, p.cp⟩
def JSys.toP (S : JSys) : PSys :=
  ⟨S.clients.map (·.base), S.log, S.cps, S.reqs.map (·.toP), S.resps.map (·.toP)⟩

/-- the invariant: the projection satisfies the invariant of `Protocol.lean` (J1–J3 for EVERY client,
    request and response facts), and a client that has not joined is untouched: checkpoint ⟨0,0⟩, nothing
    applied, nothing of it recorded as pushed, only subscribe requests and subscribe responses -/
structure JInv (S : JSys) : Prop where
  p : PInv S.toP
  unj : ∀ (i : Nat) (cl : JClient), S.clients[i]? = some cl → cl.joined = false →
    cl.base.cp = ⟨0, 0⟩ ∧ cl.base.applied = [] ∧ (S.recOf cl.base.cuid).cseq = 0 ∧
    (∀ r ∈ S.reqs, r.i = i → r.kind = .sub) ∧ (∀ q ∈ S.resps, q.i = i → q.kind = .sub)

namespace PJ

theorem toP_recOf (S : JSys) (u : String) : S.toP.recOf u = S.recOf u := rfl

theorem toP_client {S : JSys} {i : Nat} {cl : JClient} (h : S.clients[i]? = some cl) :
    S.toP.clients[i]? = some cl.base := by
  show (S.clients.map (·.base))[i]? = _
  rw [List.getElem?_map, h]; rfl

/-- the arithmetic of `JClient.join` comes out: empty buffer, the response's checkpoint, all its operations applied —
    for a response that carries no more operations than its sseq counts (`resp_len`: every response of a state with `JInv`) -/
theorem join_eq (cl : JClient) (p : JResp) (h : p.ops.length ≤ p.cp.sseq) :
    cl.join p = ⟨⟨cl.base.cuid, [], p.cp, p.ops⟩, true⟩ := by
  unfold JClient.join
  have hk : ((((p.cp.sseq : Int) - ((p.cp.sseq - p.ops.length : Nat) : Int)) - ((p.cp.cseq : Int) - p.cp.cseq)).toNat)
      = p.ops.length := by
    rw [Int.sub_self, Int.sub_zero, Int.natCast_sub h, Int.sub_sub_self, Int.toNat_natCast]
  simp only [hk, Nat.sub_self, List.drop_zero, Nat.max_self]
  rw [Nat.max_eq_right (Nat.sub_le _ _)]

/-! ## Preservation at the level of `PSys`: a client joins -/

theorem resp_of_untouched {L : List Op} {cl : PClient} {p : PResp} (hown : own cl.cuid L = [])
    (hcp : cl.cp.sseq = 0) (h : RespInv L cl p) :
    p.ops = L.take p.cp.sseq ∧ p.cp.cseq = 0 ∧ p.cp.sseq ≤ L.length ∧ ∀ o ∈ p.ops, o.id.cuid ≠ cl.cuid := by
  obtain ⟨e, sr, h1, h2, h3, h4, h5, h6⟩ := h
  have hne : ∀ o ∈ L, o.id.cuid ≠ cl.cuid := fun o ho hu =>
    List.filter_eq_nil_iff.1 hown o ho (decide_eq_true hu)
  -- positions `(e, p.cp.sseq]` hold operations of this client only: none
  have hnil : (L.take p.cp.sseq).drop e = [] := List.eq_nil_iff_forall_not_mem.2 (fun o ho =>
    hne o (List.mem_of_mem_take (List.mem_of_mem_drop ho)) (h5 o ho))
  have he : L.take e = L.take p.cp.sseq := by
    have := List.take_append_drop e (L.take p.cp.sseq)
    rwa [hnil, List.append_nil, List.take_take, Nat.min_eq_left h3] at this
  have hsr : sr = 0 := Nat.le_zero.1 (hcp ▸ h2)
  have hops : p.ops = L.take p.cp.sseq := by rw [h1, hsr, List.drop_zero, he]
  refine ⟨hops, ?_, h4, fun o ho => hne o (List.mem_of_mem_take (hops ▸ ho))⟩
  rw [h6, own_of_all_frn (fun o ho => hne o (List.mem_of_mem_take ho))]; rfl

theorem pinv_join {P : PSys} (h : PInv P) {i : Nat} {cl : PClient} {p : PResp} (hi : P.clients[i]? = some cl)
    (hcp : cl.cp = ⟨0, 0⟩) (hrc : (P.recOf cl.cuid).cseq = 0)
    (hreq : ∀ r ∈ P.reqs, r.i = i → r.ops = []) (hp : p ∈ P.resps) (hpi : p.i = i) :
    PInv { P with clients := P.clients.set i ⟨cl.cuid, [], p.cp, p.ops⟩ } := by
  have hown : own cl.cuid P.log = [] := by rw [(h.cli i cl hi).j1, hrc]; rfl
  obtain ⟨hops, hc0, hle, hne⟩ := resp_of_untouched hown (congrArg (·.sseq) hcp) (h.resp p hp cl (hpi ▸ hi))
  have hs : cl.cp.sseq ≤ p.cp.sseq := hcp ▸ Nat.zero_le _
  refine pinv_set h hi rfl ?_ ?_ hs
  · rw [hrc]
    refine ⟨fun k hk => absurd hk (Nat.not_lt_zero k), hown, Nat.le_refl _, hle, ?_, ?_⟩
    · show (own cl.cuid (P.log.take p.cp.sseq)).length = p.cp.cseq
      rw [hc0, ← hops, own_of_all_frn hne]; rfl
    · show p.ops = frn cl.cuid (P.log.take p.cp.sseq)
      rw [← hops, frn_all hne]
  · intro r hr hri hR
    obtain ⟨_, _, _, _, _, g4⟩ := hR
    exact ⟨0, 0, Nat.zero_le _, Nat.zero_le _, hreq r hr hri, Nat.le_trans g4 hs⟩

/-! ## Preservation at the level of `JSys` -/

theorem toP_setClient (S : JSys) (i : Nat) (cl' : JClient) :
    ({ S with clients := S.clients.set i cl' } : JSys).toP =
      { S.toP with clients := S.toP.clients.set i cl'.base } := by
  simp only [JSys.toP, List.map_set]

theorem toP_addReq (S : JSys) (r : JReq) :
    ({ S with reqs := S.reqs ++ [r] } : JSys).toP = { S.toP with reqs := S.toP.reqs ++ [r.toP] } := by
  simp only [JSys.toP, List.map_append, List.map_cons, List.map_nil]

theorem toP_serve (S : JSys) (u : String) (cp2 : CheckPoint) (acc : List Op) (q : JResp) :
    ({ S with log := S.log ++ acc, cps := alSet u cp2 S.cps, resps := S.resps ++ [q] } : JSys).toP =
      { S.toP with log := S.toP.log ++ acc, cps := alSet u cp2 S.toP.cps, resps := S.toP.resps ++ [q.toP] } := by
  simp only [JSys.toP, List.map_append, List.map_cons, List.map_nil]

theorem mem_toP_reqs {S : JSys} {r : JReq} (h : r ∈ S.reqs) : r.toP ∈ S.toP.reqs := List.mem_map.2 ⟨r, h, rfl⟩
theorem mem_toP_resps {S : JSys} {p : JResp} (h : p ∈ S.resps) : p.toP ∈ S.toP.resps := List.mem_map.2 ⟨p, h, rfl⟩

theorem jinv_set {S : JSys} (h : JInv S) {i : Nat} {cl cl' : JClient} (hi : S.clients[i]? = some cl)
    (hu : cl'.base.cuid = cl.base.cuid)
    (hk : cl'.joined = false → cl.joined = false ∧ cl'.base.cp = cl.base.cp ∧ cl'.base.applied = cl.base.applied)
    (hp : PInv { S.toP with clients := S.toP.clients.set i cl'.base }) :
    JInv { S with clients := S.clients.set i cl' } := by
  refine ⟨toP_setClient .. ▸ hp, fun j b hj hb => ?_⟩
  rcases ListAux.getElem?_set_some hj with ⟨rfl, rfl⟩ | ⟨_, hj'⟩
  · obtain ⟨k1, k2, k3⟩ := hk hb
    obtain ⟨cp0, app0, rec0, reqs_sub, resps_sub⟩ := h.unj j cl hi k1
    exact ⟨k2 ▸ cp0, k3 ▸ app0, hu ▸ rec0, reqs_sub, resps_sub⟩
  · exact h.unj j b hj' hb

theorem jinv_localOp {S : JSys} (h : JInv S) {i : Nat} {cl : JClient} {o : Op} (hi : S.clients[i]? = some cl)
    (hu : o.id.cuid = cl.base.cuid) (hs : o.id.seq = cl.base.buf.length + 1) :
    JInv { S with clients := S.clients.set i { cl with base := { cl.base with buf := cl.base.buf ++ [o] } } } :=
  jinv_set h hi rfl (fun hb => ⟨hb, rfl, rfl⟩) (pinv_localOp h.p (toP_client hi) hu hs)

theorem jinv_send {S : JSys} (h : JInv S) {i : Nat} {cl : JClient} (hi : S.clients[i]? = some cl) :
    JInv { S with reqs := S.reqs ++ [⟨if cl.joined then .normal else .sub, i, cl.base.cp.sseq,
                                      cl.base.buf.drop cl.base.cp.cseq⟩] } := by
  refine ⟨?_, ?_⟩
  · rw [toP_addReq]
    apply pinv_addReq h.p _ (cl := cl.base) (toP_client hi)
    cases hj : cl.joined with
    | true =>
      exact ⟨cl.base.buf.length, cl.base.cp.cseq, Nat.le_refl _, (h.p.cli i cl.base (toP_client hi)).cLe,
        by rw [List.take_length]; rfl, Nat.le_refl _⟩
    | false =>
      exact ⟨0, 0, Nat.zero_le _, Nat.zero_le _, rfl, Nat.le_refl _⟩
  · intro j b hj hb
    obtain ⟨cp0, app0, rec0, reqs_sub, resps_sub⟩ := h.unj j b hj hb
    refine ⟨cp0, app0, rec0, fun r hr hrj => ?_, resps_sub⟩
    rcases List.mem_append.1 hr with hr | hr
    · exact reqs_sub r hr hrj
    · cases List.mem_singleton.1 hr
      cases hrj
      cases hi.symm.trans hj
      rw [hb]; rfl

theorem jinv_serve {S : JSys} (h : JInv S) {r : JReq} {cl : JClient} {cp2 : CheckPoint} {docs : List OpDoc}
    (hr : r ∈ S.reqs) (hi : S.clients[r.i]? = some cl)
    (hp : pushOps pDuid pCol ⟨S.log.length, (S.recOf cl.base.cuid).cseq⟩ r.pushed [] = .ok (cp2, docs)) :
    JInv { S with log := S.log ++ docs.map (·.op), cps := alSet cl.base.cuid cp2 S.cps,
                  resps := S.resps ++ [⟨r.kind, r.i, S.log.drop r.s, cp2⟩] } := by
  refine ⟨?_, ?_⟩
  · rw [toP_serve]
    exact pinv_serve h.p (mem_toP_reqs hr) (cl := cl.base) (toP_client hi) (cp2 := cp2) (docs := docs) hp
  · intro j b hj hb
    have hj' : S.clients[j]? = some b := hj
    obtain ⟨cp0, app0, rec0, reqs_sub, resps_sub⟩ := h.unj j b hj' hb
    -- if the unjoined client is the one served, the request is a subscribe request: nothing was pushed, the cseq is kept
    have hsame : j = r.i → r.kind = .sub ∧ cp2.cseq = 0 := by
      rintro rfl
      cases hi.symm.trans hj'
      have hk := reqs_sub r hr rfl
      rw [JReq.pushed_sub hk] at hp
      cases hp
      exact ⟨hk, rec0⟩
    refine ⟨cp0, app0, ?_, reqs_sub, fun q hq hqj => ?_⟩
    · show ((alFind b.base.cuid (alSet cl.base.cuid cp2 S.cps)).getD ⟨0, 0⟩).cseq = 0
      by_cases he : b.base.cuid = cl.base.cuid
      · rw [he, alFind_alSet_self]
        exact (hsame (idx_unique h.p.nodup (toP_client hj') (toP_client hi) he)).2
      · rw [alFind_alSet_ne _ _ he]; exact rec0
    · rcases List.mem_append.1 hq with hq | hq
      · exact resps_sub q hq hqj
      · cases List.mem_singleton.1 hq
        exact (hsame hqj.symm).1

theorem jinv_deliver {S : JSys} (h : JInv S) {p : JResp} {cl : JClient} (hp : p ∈ S.resps)
    (hi : S.clients[p.i]? = some cl) (hj : cl.joined = true) :
    JInv { S with clients := S.clients.set p.i { cl with base := cl.base.receive ⟨p.i, p.ops, p.cp⟩ } } :=
  jinv_set h hi rfl (fun hb => by cases hj.symm.trans hb)
    (pinv_deliver h.p (mem_toP_resps hp) (cl := cl.base) (toP_client hi))

theorem resp_len {S : JSys} (h : JInv S) {p : JResp} {cl : JClient} (hp : p ∈ S.resps)
    (hi : S.clients[p.i]? = some cl) : p.ops.length ≤ p.cp.sseq := by
  obtain ⟨e, sr, h1, _, h3, _, _, _⟩ := h.p.resp p.toP (mem_toP_resps hp) cl.base (toP_client hi)
  have h1' : p.ops = (S.log.take e).drop sr := h1
  rw [h1', List.length_drop]
  exact Nat.le_trans (Nat.sub_le _ _) (Nat.le_trans (List.length_take_le _ _) h3)

theorem unj_reqs_push_nothing {S : JSys} {i : Nat} (reqs_sub : ∀ r ∈ S.reqs, r.i = i → r.kind = .sub) :
    ∀ r ∈ S.toP.reqs, r.i = i → r.ops = [] := by
  intro r hr hri
  obtain ⟨r0, hr0, rfl⟩ := List.mem_map.1 hr
  simp only [JReq.toP, JReq.pushed, reqs_sub r0 hr0 hri]

theorem jinv_deliverSub {S : JSys} (h : JInv S) {p : JResp} {cl : JClient} (hp : p ∈ S.resps)
    (hi : S.clients[p.i]? = some cl) :
    JInv { S with clients := S.clients.set p.i (cl.deliverSub p) } := by
  unfold JClient.deliverSub
  split
  · rw [ListAux.set_self hi]; exact h
  · next hj =>
    split
    · rw [join_eq cl p (resp_len h hp hi)]
      obtain ⟨cp0, _, rec0, reqs_sub, _⟩ := h.unj p.i cl hi (Bool.eq_false_iff.2 hj)
      exact jinv_set h hi rfl (fun hb => by cases hb)
        (pinv_join h.p (toP_client hi) cp0 rec0 (unj_reqs_push_nothing reqs_sub) (mem_toP_resps hp) rfl)
    · rw [ListAux.set_self hi]; exact h

theorem jinv_step {S S' : JSys} (h : JInv S) (st : JStep S S') : JInv S' := by
  cases st with
  | localOp i cl o hi hu hs => exact jinv_localOp h hi hu hs
  | send i cl hi => exact jinv_send h hi
  | serve r cl cp2 docs hr hk hi hp =>
    have := jinv_serve h hr hi ((JReq.pushed_normal hk).symm ▸ hp)
    rwa [hk] at this
  | refuse r cl code hr hk hi hp => exact h
  | serveSub r cl hr hk hi =>
    have := jinv_serve h hr hi (cp2 := ⟨S.log.length, (S.recOf cl.base.cuid).cseq⟩) (docs := [])
      (by rw [JReq.pushed_sub hk]; rfl)
    rwa [hk, List.map_nil, List.append_nil] at this
  | deliver p cl hp hk hi hj => exact jinv_deliver h hp hi hj
  | deliverSub p cl hp hk hi => exact jinv_deliverSub h hp hi

theorem jinv_init {cs : List (String × Bool)} (hnd : (cs.map (·.1)).Nodup) : JInv (JSys.init cs) := by
  refine ⟨?_, ?_⟩
  · have : (JSys.init cs).toP = PSys.init (cs.map (·.1)) := by
      simp [JSys.init, JSys.toP, PSys.init, List.map_map, Function.comp_def]
    rw [this]; exact pinv_init hnd
  · intro i cl hi _
    obtain ⟨c, _, rfl⟩ := List.mem_map.1 (List.mem_of_getElem? hi)
    exact ⟨rfl, rfl, rfl, fun r hr => absurd hr List.not_mem_nil, fun q hq => absurd hq List.not_mem_nil⟩

end PJ
open PJ

/-! ## The invariant is inductive -/

/-- **The protocol invariant with the entry phase** holds in every reachable state, under any
    interleaving, duplication, loss and delay of subscribe and normal requests and responses. -/
theorem join_inv {cuids : List (String × Bool)} {S : JSys} (h : JReach cuids S) : JInv S := by
  induction h with
  | init hnd => exact jinv_init hnd
  | step _ st ih => exact jinv_step ih st

/-- J1–J3 spelled out for EVERY client of a reachable state.  For a joined client `buf` holds exactly the
    operations it issued since its join (the join empties the buffer), `cp` is the checkpoint it took
    over at its join merged with everything it received since, and `applied` — which starts as the
    operations of the subscribe response — is the foreign part of the log prefix up to `cp.sseq`,
    the prefix received at join time included.  A client that has not joined has nothing in the log. -/
theorem join_inv_client {cuids : List (String × Bool)} {S : JSys} (h : JReach cuids S) : ∀ cl ∈ S.clients,
    -- J1: the own operations in the log are the acknowledged prefix of the buffer, once each, in order
    S.log.filter (fun o => o.id.cuid = cl.base.cuid) = cl.base.buf.take (S.recOf cl.base.cuid).cseq ∧
    -- J2
    cl.base.cp.sseq ≤ S.log.length ∧
    ((S.log.take cl.base.cp.sseq).filter (fun o => o.id.cuid = cl.base.cuid)).length = cl.base.cp.cseq ∧
    cl.base.cp.cseq ≤ (S.recOf cl.base.cuid).cseq ∧ (S.recOf cl.base.cuid).cseq ≤ cl.base.buf.length ∧
    -- J3: exactly once, in log order
    cl.base.applied = (S.log.take cl.base.cp.sseq).filter (fun o => o.id.cuid ≠ cl.base.cuid) ∧
    -- not joined: untouched, and nothing of it in the log
    (cl.joined = false → cl.base.cp = ⟨0, 0⟩ ∧ cl.base.applied = [] ∧
      S.log.filter (fun o => o.id.cuid = cl.base.cuid) = []) := by
  intro cl hcl
  obtain ⟨i, hi⟩ := List.mem_iff_getElem?.1 hcl
  have inv := join_inv h
  have c := inv.p.cli i cl.base (toP_client hi)
  refine ⟨c.j1, c.sLe, c.j2, c.cLe, c.rcLe, c.j3, fun hj => ?_⟩
  obtain ⟨cp0, app0, rec0, _, _⟩ := inv.unj i cl hi hj
  exact ⟨cp0, app0, c.j1.trans (by rw [toP_recOf, rec0]; rfl)⟩

/-- the guard of `JStep.deliver` excludes nothing: a client that has not joined has no normal response -/
theorem no_normal_resp_for_unjoined {cuids : List (String × Bool)} {S : JSys} (h : JReach cuids S)
    {p : JResp} {cl : JClient} (hp : p ∈ S.resps) (hi : S.clients[p.i]? = some cl) (hj : cl.joined = false) :
    p.kind = .sub := by
  obtain ⟨_, _, _, _, resps_sub⟩ := (join_inv h).unj p.i cl hi hj
  exact resps_sub p hp rfl

/-- every subscribe response a not-yet-joined client can receive stands for a whole log prefix without
    operations of that client: `ops` is the log up to `cp.sseq`, and `cp.cseq = 0` — so the joined
    client starts with `pending = buf.drop 0 = buf`, as the real client does -/
theorem sub_resp_for_unjoined {cuids : List (String × Bool)} {S : JSys} (h : JReach cuids S)
    {p : JResp} {cl : JClient} (hp : p ∈ S.resps) (hi : S.clients[p.i]? = some cl) (hj : cl.joined = false) :
    p.ops = S.log.take p.cp.sseq ∧ p.cp.cseq = 0 ∧ p.cp.sseq ≤ S.log.length ∧
      ∀ o ∈ p.ops, o.id.cuid ≠ cl.base.cuid := by
  have inv := join_inv h
  obtain ⟨cp0, _, rec0, _, _⟩ := inv.unj p.i cl hi hj
  have hown : own cl.base.cuid S.log = [] :=
    (inv.p.cli p.i cl.base (toP_client hi)).j1.trans (by rw [toP_recOf, rec0]; rfl)
  exact resp_of_untouched hown (congrArg (·.sseq) cp0) (inv.p.resp p.toP (mem_toP_resps hp) cl.base (toP_client hi))

/-! ## Monotonicity from the join on; the server's records -/

/-- once joined, always joined, and the checkpoint never moves backwards — whatever is delivered (late or
    duplicated subscribe responses included) in whatever order -/
theorem join_checkpoint_monotone {S S' : JSys} (st : JStep S S') :
    ∀ (i : Nat) (cl : JClient), S.clients[i]? = some cl → cl.joined = true →
      ∃ cl', S'.clients[i]? = some cl' ∧ cl'.joined = true ∧ cl'.base.cuid = cl.base.cuid ∧
        cl.base.cp.sseq ≤ cl'.base.cp.sseq ∧ cl.base.cp.cseq ≤ cl'.base.cp.cseq := by
  intro i cl hi hjn
  have same : ∃ cl', S.clients[i]? = some cl' ∧ cl'.joined = true ∧ cl'.base.cuid = cl.base.cuid ∧
      cl.base.cp.sseq ≤ cl'.base.cp.sseq ∧ cl.base.cp.cseq ≤ cl'.base.cp.cseq :=
    ⟨cl, hi, hjn, rfl, Nat.le_refl _, Nat.le_refl _⟩
  have set {j : Nat} {a a' : JClient} (hj : S.clients[j]? = some a)
      (hR : a.joined = true → a'.joined = true ∧ a'.base.cuid = a.base.cuid ∧
        a.base.cp.sseq ≤ a'.base.cp.sseq ∧ a.base.cp.cseq ≤ a'.base.cp.cseq) :
      ∃ cl', (S.clients.set j a')[i]? = some cl' ∧ cl'.joined = true ∧ cl'.base.cuid = cl.base.cuid ∧
        cl.base.cp.sseq ≤ cl'.base.cp.sseq ∧ cl.base.cp.cseq ≤ cl'.base.cp.cseq := by
    obtain ⟨cl', h1, h2⟩ := set_rel (R := fun a b : JClient => a.joined = true → b.joined = true ∧
        b.base.cuid = a.base.cuid ∧ a.base.cp.sseq ≤ b.base.cp.sseq ∧ a.base.cp.cseq ≤ b.base.cp.cseq)
      (fun _ hj => ⟨hj, rfl, Nat.le_refl _, Nat.le_refl _⟩) hj hR hi
    exact ⟨cl', h1, h2 hjn⟩
  cases st with
  | localOp j cl0 o hj hu hs => exact set hj (fun h => ⟨h, rfl, Nat.le_refl _, Nat.le_refl _⟩)
  | send j cl0 hj => exact same
  | serve r cl0 cp2 docs hr hk hj hp => exact same
  | refuse r cl0 code hr hk hj hp => exact same
  | serveSub r cl0 hr hk hj => exact same
  | deliver p cl0 hp hk hj hjn0 => exact set hj (fun h => ⟨h, rfl, Nat.le_max_left _ _, Nat.le_max_left _ _⟩)
  | deliverSub p cl0 hp hk hj =>
    exact set hj (fun h => by rw [deliverSub_joined cl0 p h]; exact ⟨h, rfl, Nat.le_refl _, Nat.le_refl _⟩)

/-- **Serving a subscribe request again is safe, in the LTS.**  The server's records never move backwards and the log only grows by
    appending — in particular when a subscribe request is served again after its client has joined and
    pushed operations (`serveSub`): the record keeps its cseq and its sseq moves to the end of the log. -/
theorem join_server_monotone {S S' : JSys} (inv : JInv S) (st : JStep S S') :
    (∀ u, (S.recOf u).sseq ≤ (S'.recOf u).sseq ∧ (S.recOf u).cseq ≤ (S'.recOf u).cseq) ∧
    ∃ acc, S'.log = S.log ++ acc := by
  have same : (∀ u, (S.recOf u).sseq ≤ (S.recOf u).sseq ∧ (S.recOf u).cseq ≤ (S.recOf u).cseq) ∧
      ∃ acc, S.log = S.log ++ acc := ⟨fun u => ⟨Nat.le_refl _, Nat.le_refl _⟩, [], (List.append_nil _).symm⟩
  have hS : ∀ u, (S.recOf u).sseq ≤ S.log.length := inv.p.recS
  cases st with
  | localOp j cl0 o hj hu hs => exact same
  | send j cl0 hj => exact same
  | refuse r cl0 code hr hk hj hp => exact same
  | deliver p cl0 hp hk hj hjn => exact same
  | deliverSub p cl0 hp hk hj => exact same
  | serve r cl0 cp2 docs hr hk hj hp =>
    obtain ⟨add, _, _, _, h4, _, h6⟩ := SL.pushOps_spec _ _ _ _ _ _ _ hp
    exact ⟨fun u => rec_mono S.cps cl0.base.cuid u cp2 (Nat.le_trans (hS _) (h4 ▸ Nat.le_add_right _ _)) h6, _, rfl⟩
  | serveSub r cl0 hr hk hj =>
    exact ⟨fun u => rec_mono S.cps cl0.base.cuid u _ (hS _) (Nat.le_refl _), [], (List.append_nil _).symm⟩

/-- In a reachable state the server refuses no normal request ever sent —
    none is answered with "missing operations", whatever subscribe requests were served again before. -/
theorem join_never_refused {cuids : List (String × Bool)} {S : JSys} (h : JReach cuids S) {r : JReq} {cl : JClient}
    (hr : r ∈ S.reqs) (hk : r.kind = .normal) (hi : S.clients[r.i]? = some cl) :
    ∃ cp2 docs, pushOps pDuid pCol ⟨S.log.length, (S.recOf cl.base.cuid).cseq⟩ r.ops [] = .ok (cp2, docs) := by
  have inv := join_inv h
  obtain ⟨cp2, docs, e, _⟩ := serve_ok (inv.p.cli r.i cl.base (toP_client hi))
    (inv.p.req r.toP (mem_toP_reqs hr) cl.base (toP_client hi)) S.log.length
  have hops : r.toP.ops = r.ops := by simp only [JReq.toP, JReq.pushed, hk]
  exact ⟨cp2, docs, hops ▸ e⟩

/-! ## Corollaries -/

/-- the log consists of operations issued by joined clients after their join (a joined client's `buf`
    is emptied at the join), each exactly once (no (client, seq) pair twice), per client in issue order;
    nothing of a client that has not joined — in particular none of the operations it issued while due
    to subscribe, which are discarded at the join — is in the log -/
theorem join_log_is_exactly_issued {cuids : List (String × Bool)} {S : JSys} (h : JReach cuids S) :
    (∀ o, o ∈ S.log ↔ ∃ cl ∈ S.clients, cl.joined = true ∧ o ∈ cl.base.buf.take (S.recOf cl.base.cuid).cseq) ∧
    (S.log.map (fun o => (o.id.cuid, o.id.seq))).Nodup ∧
    (∀ cl ∈ S.clients, S.log.filter (fun o => o.id.cuid = cl.base.cuid) =
      if cl.joined then cl.base.buf.take (S.recOf cl.base.cuid).cseq else []) := by
  have inv := join_inv h
  have hJ1 : ∀ cl ∈ S.clients, S.log.filter (fun o => o.id.cuid = cl.base.cuid) =
      if cl.joined then cl.base.buf.take (S.recOf cl.base.cuid).cseq else [] := by
    intro cl hcl
    obtain ⟨g1, _, _, _, _, _, g7⟩ := join_inv_client h cl hcl
    cases hj : cl.joined with
    | true => exact g1
    | false => exact (g7 hj).2.2
  refine ⟨fun o => ⟨fun ho => ?_, ?_⟩, inv.p.log_ids_nodup, hJ1⟩
  · -- the client of the projection that holds `o` (`PInv.mem_log`) is a client here, and it has joined
    obtain ⟨b, hb, hm⟩ := (inv.p.mem_log o).1 ho
    obtain ⟨cl, hcl, rfl⟩ := List.mem_map.1 hb
    refine ⟨cl, hcl, ?_, hm⟩
    cases hj : cl.joined with
    | true => rfl
    | false =>
      obtain ⟨i, hi⟩ := List.mem_iff_getElem?.1 hcl
      have hm' : o ∈ cl.base.buf.take (S.recOf cl.base.cuid).cseq := hm
      obtain ⟨_, _, rec0, _, _⟩ := inv.unj i cl hi hj
      rw [rec0] at hm'
      cases hm'
  · rintro ⟨cl, hcl, _, ho⟩
    exact (inv.p.mem_log o).2 ⟨cl.base, List.mem_map.2 ⟨cl, hcl, rfl⟩, ho⟩

theorem join_log_nodup {cuids : List (String × Bool)} {S : JSys} (h : JReach cuids S) : S.log.Nodup :=
  List.Pairwise.of_map (fun o => (o.id.cuid, o.id.seq)) (fun a b hab e => hab (by rw [e]))
    (join_log_is_exactly_issued h).2.1

/-- What a client has applied (and what it counts as acknowledged) is a function of the log prefix up to
    its checkpoint alone: two reachable states — reached through whatever histories of joins, duplicated,
    lost, delayed, reordered subscribe and normal messages — that agree on that prefix agree on `applied`.
    (Holds for every client; for one that has not joined both sides are empty.) -/
theorem join_as_if_once {cuids₁ cuids₂ : List (String × Bool)} {S₁ S₂ : JSys} (h₁ : JReach cuids₁ S₁)
    (h₂ : JReach cuids₂ S₂) {cl₁ cl₂ : JClient} (m₁ : cl₁ ∈ S₁.clients) (m₂ : cl₂ ∈ S₂.clients)
    (hu : cl₁.base.cuid = cl₂.base.cuid)
    (hlog : S₁.log.take cl₁.base.cp.sseq = S₂.log.take cl₂.base.cp.sseq) :
    cl₁.base.applied = cl₂.base.applied ∧ cl₁.base.cp.cseq = cl₂.base.cp.cseq := by
  obtain ⟨i, hi⟩ := List.mem_iff_getElem?.1 m₁
  obtain ⟨j, hj⟩ := List.mem_iff_getElem?.1 m₂
  exact ((join_inv h₁).p.cli i cl₁.base (toP_client hi)).as_if_once
    ((join_inv h₂).p.cli j cl₂.base (toP_client hj)) hu hlog

/-- when every joined client's checkpoint is at the end of the log and nothing is left to push, every
    joined client has applied all foreign operations of the log — those it received at its join
    included — in log order, its buffer is its part of the log, and so it holds every operation once -/
theorem join_quiescent_converged {cuids : List (String × Bool)} {S : JSys} (h : JReach cuids S)
    (hq : ∀ cl ∈ S.clients, cl.joined = true →
      cl.base.cp.sseq = S.log.length ∧ cl.base.cp.cseq = cl.base.buf.length) :
    ∀ cl ∈ S.clients, cl.joined = true →
      cl.base.applied = S.log.filter (fun o => o.id.cuid ≠ cl.base.cuid) ∧
      cl.base.buf = S.log.filter (fun o => o.id.cuid = cl.base.cuid) ∧
      (cl.base.applied ++ cl.base.buf).Perm S.log := by
  intro cl hcl hj
  obtain ⟨i, hi⟩ := List.mem_iff_getElem?.1 hcl
  obtain ⟨happ, hbuf⟩ := ((join_inv h).p.cli i cl.base (toP_client hi)).quiescent (hq cl hcl hj).1 (hq cl hcl hj).2
  refine ⟨happ, hbuf, ?_⟩
  rw [happ, hbuf]
  exact List.perm_append_comm.trans (own_frn_perm cl.base.cuid S.log)

/-- delivering a subscribe response to a joined client — late, or for the second time, after the client has issued and pushed further
    operations — is a stutter step of the system -/
theorem stale_sub_response_harmless {S : JSys} {p : JResp} {cl : JClient}
    (hi : S.clients[p.i]? = some cl) (hj : cl.joined = true) :
    ({ S with clients := S.clients.set p.i (cl.deliverSub p) } : JSys) = S := by
  rw [deliverSub_joined cl p hj, ListAux.set_self hi]

/-! ## The client without the guard -/

/-- the system with the unguarded client: a subscribe response resets its client whether joined or not -/
inductive JStepOld : JSys → JSys → Prop
  | new {S S' : JSys} : JStep S S' → JStepOld S S'
  | deliverSubOld (S : JSys) (p : JResp) (cl : JClient) :
      p ∈ S.resps → p.kind = .sub → S.clients[p.i]? = some cl →
      JStepOld S { S with clients := S.clients.set p.i (cl.deliverSubOld p) }

inductive JReachOld (cs : List (String × Bool)) : JSys → Prop
  | init : (cs.map (·.1)).Nodup → JReachOld cs (JSys.init cs)
  | step {S S' : JSys} : JReachOld cs S → JStepOld S S' → JReachOld cs S'

theorem JReach.toOld {cs : List (String × Bool)} {S : JSys} (h : JReach cs S) : JReachOld cs S := by
  induction h with
  | init hnd => exact .init hnd
  | step _ st ih => exact .step ih (.new st)

/-- J1 on operation ids (decidable): the ids of a client's operations in the log are the ids of the
    acknowledged prefix of its buffer -/
def J1ids (S : JSys) : Prop :=
  ∀ cl ∈ S.clients, (S.log.filter (fun o => o.id.cuid = cl.base.cuid)).map (·.id) =
    (cl.base.buf.take (S.recOf cl.base.cuid).cseq).map (·.id)

instance (S : JSys) : Decidable (J1ids S) := by unfold J1ids; infer_instance

theorem JInv.j1ids {S : JSys} (h : JInv S) : J1ids S := by
  intro cl hcl
  obtain ⟨i, hi⟩ := List.mem_iff_getElem?.1 hcl
  have := (h.p.cli i cl.base (toP_client hi)).j1
  have h0 : S.toP.log = S.log := rfl
  rw [toP_recOf, h0] at this
  show (own cl.base.cuid S.log).map (·.id) = _
  rw [this]

namespace JEx

def cs : List (String × Bool) := [("a", true), ("b", false)]

def a1 : Op := ⟨⟨0, 1, "a", 1⟩, .snapshot (.counter 0)⟩   -- the creator's snapshot operation
def a2 : Op := ⟨⟨0, 2, "a", 2⟩, .increase 2⟩
def b0 : Op := ⟨⟨0, 1, "b", 1⟩, .increase 7⟩              -- issued by b while due to subscribe: discarded
def b1 : Op := ⟨⟨0, 3, "b", 1⟩, .increase 5⟩
def b2 : Op := ⟨⟨0, 4, "b", 2⟩, .increase 6⟩
def b3 : Op := ⟨⟨0, 5, "b", 1⟩, .increase 9⟩              -- (unguarded client only) seq 1 used a second time

def A (buf : List Op) (cp : CheckPoint) (applied : List Op) : JClient := ⟨⟨"a", buf, cp, applied⟩, true⟩
def B (j : Bool) (buf : List Op) (cp : CheckPoint) (applied : List Op) : JClient := ⟨⟨"b", buf, cp, applied⟩, j⟩

def reqA0 : JReq := ⟨.normal, 0, 0, [a1, a2]⟩
def reqB0 : JReq := ⟨.sub, 1, 0, [b0]⟩            -- the subscribe request; carries b0, which is not pushed
def reqB1 : JReq := ⟨.normal, 1, 2, [b1]⟩
def reqB2 : JReq := ⟨.normal, 1, 3, [b2]⟩
def reqA1 : JReq := ⟨.normal, 0, 2, []⟩
def respA0 : JResp := ⟨.normal, 0, [], ⟨2, 2⟩⟩
def respB0 : JResp := ⟨.sub, 1, [a1, a2], ⟨2, 0⟩⟩        -- the subscribe response: 2 operations
def respB1 : JResp := ⟨.normal, 1, [], ⟨3, 1⟩⟩
def respB2 : JResp := ⟨.sub, 1, [a1, a2, b1], ⟨3, 1⟩⟩    -- answer to the late duplicate of reqB0
def respB3 : JResp := ⟨.normal, 1, [], ⟨4, 2⟩⟩
def respA1 : JResp := ⟨.normal, 0, [b1, b2], ⟨4, 2⟩⟩

def A0 := A [a1, a2] ⟨0, 0⟩ []
def cpsA : List (String × CheckPoint) := [("a", ⟨2, 2⟩)]

def F2 : JSys := ⟨[A0, B false [] ⟨0,0⟩ []], [], [], [], []⟩
def F3 : JSys := ⟨[A0, B false [] ⟨0,0⟩ []], [], [], [reqA0], []⟩
def F4 : JSys := ⟨[A0, B false [] ⟨0,0⟩ []], [a1, a2], cpsA, [reqA0], [respA0]⟩
def F5 : JSys := ⟨[A0, B false [b0] ⟨0,0⟩ []], [a1, a2], cpsA, [reqA0], [respA0]⟩
def F6 : JSys := ⟨[A0, B false [b0] ⟨0,0⟩ []], [a1, a2], cpsA, [reqA0, reqB0], [respA0]⟩
def F7 : JSys := ⟨[A0, B false [b0] ⟨0,0⟩ []], [a1, a2], [("a", ⟨2,2⟩), ("b", ⟨2,0⟩)], [reqA0, reqB0], [respA0, respB0]⟩
-- b joins: buffer emptied (b0 is gone), checkpoint ⟨2,0⟩, the two operations applied
def F8 : JSys := ⟨[A0, B true [] ⟨2,0⟩ [a1, a2]], [a1, a2], [("a", ⟨2,2⟩), ("b", ⟨2,0⟩)], [reqA0, reqB0], [respA0, respB0]⟩
def F9 : JSys := ⟨[A0, B true [b1] ⟨2,0⟩ [a1, a2]], [a1, a2], [("a", ⟨2,2⟩), ("b", ⟨2,0⟩)], [reqA0, reqB0], [respA0, respB0]⟩
def F10 : JSys := ⟨[A0, B true [b1] ⟨2,0⟩ [a1, a2]], [a1, a2], [("a", ⟨2,2⟩), ("b", ⟨2,0⟩)],
                   [reqA0, reqB0, reqB1], [respA0, respB0]⟩
def F11 : JSys := ⟨[A0, B true [b1] ⟨2,0⟩ [a1, a2]], [a1, a2, b1], [("a", ⟨2,2⟩), ("b", ⟨3,1⟩)],
                   [reqA0, reqB0, reqB1], [respA0, respB0, respB1]⟩
def F12 : JSys := ⟨[A0, B true [b1] ⟨3,1⟩ [a1, a2]], [a1, a2, b1], [("a", ⟨2,2⟩), ("b", ⟨3,1⟩)],
                   [reqA0, reqB0, reqB1], [respA0, respB0, respB1]⟩
-- F12 → F12 : the subscribe response respB0 is delivered a SECOND time, after b pushed b1: nothing changes
-- the subscribe REQUEST reqB0 is served a second time, after b joined and pushed: record ⟨3,1⟩ stays
def F13 : JSys := ⟨[A0, B true [b1] ⟨3,1⟩ [a1, a2]], [a1, a2, b1], [("a", ⟨2,2⟩), ("b", ⟨3,1⟩)],
                   [reqA0, reqB0, reqB1], [respA0, respB0, respB1, respB2]⟩
-- F13 → F13 : its answer respB2 (which contains b's own b1) is delivered: nothing changes
def F14 : JSys := ⟨[A0, B true [b1, b2] ⟨3,1⟩ [a1, a2]], [a1, a2, b1], [("a", ⟨2,2⟩), ("b", ⟨3,1⟩)],
                   [reqA0, reqB0, reqB1], [respA0, respB0, respB1, respB2]⟩
def F15 : JSys := ⟨[A0, B true [b1, b2] ⟨3,1⟩ [a1, a2]], [a1, a2, b1], [("a", ⟨2,2⟩), ("b", ⟨3,1⟩)],
                   [reqA0, reqB0, reqB1, reqB2], [respA0, respB0, respB1, respB2]⟩
-- b's next push after the re-served subscribe request: accepted, exactly once
def F16 : JSys := ⟨[A0, B true [b1, b2] ⟨3,1⟩ [a1, a2]], [a1, a2, b1, b2], [("a", ⟨2,2⟩), ("b", ⟨4,2⟩)],
                   [reqA0, reqB0, reqB1, reqB2], [respA0, respB0, respB1, respB2, respB3]⟩
def F17 : JSys := ⟨[A0, B true [b1, b2] ⟨4,2⟩ [a1, a2]], [a1, a2, b1, b2], [("a", ⟨2,2⟩), ("b", ⟨4,2⟩)],
                   [reqA0, reqB0, reqB1, reqB2], [respA0, respB0, respB1, respB2, respB3]⟩
def F18 : JSys := ⟨[A [a1, a2] ⟨2,2⟩ [], B true [b1, b2] ⟨4,2⟩ [a1, a2]], [a1, a2, b1, b2], [("a", ⟨2,2⟩), ("b", ⟨4,2⟩)],
                   [reqA0, reqB0, reqB1, reqB2], [respA0, respB0, respB1, respB2, respB3]⟩
def F19 : JSys := ⟨[A [a1, a2] ⟨2,2⟩ [], B true [b1, b2] ⟨4,2⟩ [a1, a2]], [a1, a2, b1, b2], [("a", ⟨2,2⟩), ("b", ⟨4,2⟩)],
                   [reqA0, reqB0, reqB1, reqB2, reqA1], [respA0, respB0, respB1, respB2, respB3]⟩
def F20 : JSys := ⟨[A [a1, a2] ⟨2,2⟩ [], B true [b1, b2] ⟨4,2⟩ [a1, a2]], [a1, a2, b1, b2], [("a", ⟨4,2⟩), ("b", ⟨4,2⟩)],
                   [reqA0, reqB0, reqB1, reqB2, reqA1], [respA0, respB0, respB1, respB2, respB3, respA1]⟩
def F21 : JSys := ⟨[A [a1, a2] ⟨4,2⟩ [b1, b2], B true [b1, b2] ⟨4,2⟩ [a1, a2]], [a1, a2, b1, b2], [("a", ⟨4,2⟩), ("b", ⟨4,2⟩)],
                   [reqA0, reqB0, reqB1, reqB2, reqA1], [respA0, respB0, respB1, respB2, respB3, respA1]⟩

theorem reach12 : JReach cs F12 := by
  have h0 : JReach cs (JSys.init cs) := .init (by decide)
  have h1 : JReach cs ⟨[A [a1] ⟨0,0⟩ [], B false [] ⟨0,0⟩ []], [], [], [], []⟩ :=
    .step h0 (.localOp _ 0 (A [] ⟨0,0⟩ []) a1 rfl rfl rfl)
  have h2 : JReach cs F2 := .step h1 (.localOp _ 0 (A [a1] ⟨0,0⟩ []) a2 rfl rfl rfl)
  have h3 : JReach cs F3 := .step h2 (.send _ 0 A0 rfl)
  have h4 : JReach cs F4 :=
    .step h3 (.serve _ reqA0 A0 ⟨2,2⟩ [⟨pDuid, pCol, 1, a1⟩, ⟨pDuid, pCol, 2, a2⟩] (.head _) rfl rfl rfl)
  -- b, not yet subscribed, issues an operation and sends its subscribe request
  have h5 : JReach cs F5 := .step h4 (.localOp _ 1 (B false [] ⟨0,0⟩ []) b0 rfl rfl rfl)
  have h6 : JReach cs F6 := .step h5 (.send _ 1 (B false [b0] ⟨0,0⟩ []) rfl)
  have h7 : JReach cs F7 := .step h6 (.serveSub _ reqB0 (B false [b0] ⟨0,0⟩ []) (.tail _ (.head _)) rfl rfl)
  have h8 : JReach cs F8 := .step h7 (.deliverSub _ respB0 (B false [b0] ⟨0,0⟩ []) (.tail _ (.head _)) rfl rfl)
  have h9 : JReach cs F9 := .step h8 (.localOp _ 1 (B true [] ⟨2,0⟩ [a1, a2]) b1 rfl rfl rfl)
  have h10 : JReach cs F10 := .step h9 (.send _ 1 (B true [b1] ⟨2,0⟩ [a1, a2]) rfl)
  have h11 : JReach cs F11 :=
    .step h10 (.serve _ reqB1 (B true [b1] ⟨2,0⟩ [a1, a2]) ⟨3,1⟩ [⟨pDuid, pCol, 3, b1⟩] (.tail _ (.tail _ (.head _))) rfl rfl rfl)
  exact .step h11 (.deliver _ respB1 (B true [b1] ⟨2,0⟩ [a1, a2]) (.tail _ (.tail _ (.head _))) rfl rfl rfl)

theorem reach13 : JReach cs F13 :=
  .step (.step reach12 (.deliverSub _ respB0 (B true [b1] ⟨3,1⟩ [a1, a2]) (.tail _ (.head _)) rfl rfl))
    (.serveSub _ reqB0 (B true [b1] ⟨3,1⟩ [a1, a2]) (.tail _ (.head _)) rfl rfl)

theorem reach21 : JReach cs F21 := by
  have h13' : JReach cs F13 := .step reach13 (.deliverSub _ respB2 (B true [b1] ⟨3,1⟩ [a1, a2]) (.tail _ (.tail _ (.tail _ (.head _)))) rfl rfl)
  have h14 : JReach cs F14 := .step h13' (.localOp _ 1 (B true [b1] ⟨3,1⟩ [a1, a2]) b2 rfl rfl rfl)
  have h15 : JReach cs F15 := .step h14 (.send _ 1 (B true [b1, b2] ⟨3,1⟩ [a1, a2]) rfl)
  have h16 : JReach cs F16 :=
    .step h15 (.serve _ reqB2 (B true [b1, b2] ⟨3,1⟩ [a1, a2]) ⟨4,2⟩ [⟨pDuid, pCol, 4, b2⟩] (.tail _ (.tail _ (.tail _ (.head _)))) rfl rfl rfl)
  have h17 : JReach cs F17 := .step h16 (.deliver _ respB3 (B true [b1, b2] ⟨3,1⟩ [a1, a2]) (.tail _ (.tail _ (.tail _ (.tail _ (.head _))))) rfl rfl rfl)
  have h18 : JReach cs F18 := .step h17 (.deliver _ respA0 A0 (.head _) rfl rfl rfl)
  have h19 : JReach cs F19 := .step h18 (.send _ 0 (A [a1, a2] ⟨2,2⟩ []) rfl)
  have h20 : JReach cs F20 := .step h19 (.serve _ reqA1 (A [a1, a2] ⟨2,2⟩ []) ⟨4,2⟩ [] (.tail _ (.tail _ (.tail _ (.tail _ (.head _))))) rfl rfl rfl)
  exact .step h20 (.deliver _ respA1 (A [a1, a2] ⟨2,2⟩ []) (.tail _ (.tail _ (.tail _ (.tail _ (.tail _ (.head _)))))) rfl rfl rfl)

/-- the state after the second delivery of b's subscribe response (and after the second serving of its
    subscribe request): everything is consistent — from the theorem … -/
example : ∀ cl ∈ F13.clients,
    F13.log.filter (fun o => o.id.cuid = cl.base.cuid) = cl.base.buf.take (F13.recOf cl.base.cuid).cseq ∧
    cl.base.applied = (F13.log.take cl.base.cp.sseq).filter (fun o => o.id.cuid ≠ cl.base.cuid) := by
  intro cl hcl
  obtain ⟨g1, _, _, _, _, g6, _⟩ := join_inv_client reach13 cl hcl
  exact ⟨g1, g6⟩

/-- … and by evaluation: b joined with the 2 operations of its subscribe response, pushed b1; the log is
    `[a1, a2, b1]`, b's record is ⟨3,1⟩ before and after the subscribe request is served again -/
example : respB0.ops.length = 2 ∧ F12.log = [a1, a2, b1] ∧ F12.clients.map (·.base.applied) = [[], [a1, a2]] ∧
    F12.recOf "b" = ⟨3, 1⟩ ∧ F13.recOf "b" = ⟨3, 1⟩ ∧ F13.clients.map (·.base.buf) = F12.clients.map (·.base.buf) :=
  ⟨rfl, rfl, rfl, rfl, rfl, rfl⟩

/-- the run ends at rest, and `join_quiescent_converged` applies: both hold `[a1, a2, b1, b2]` -/
example : ∀ cl ∈ F21.clients, cl.joined = true → (cl.base.applied ++ cl.base.buf).Perm F21.log :=
  fun cl hcl hj => (join_quiescent_converged reach21 (by
    intro cl hcl _
    simp only [F21, List.mem_cons, List.not_mem_nil, or_false] at hcl
    rcases hcl with rfl | rfl <;> exact ⟨rfl, rfl⟩) cl hcl hj).2.2

example : F21.clients.map (·.base.applied) = [[b1, b2], [a1, a2]] ∧ F21.log = [a1, a2, b1, b2] := ⟨rfl, rfl⟩

/-! ## The same run with the client without the guard

From `F14` (b has joined, `b1` is pushed and acknowledged, `b2` is issued and pending) the subscribe
response `respB0` is delivered a second time.  The unguarded client resets itself. -/

-- b after the reset: buffer empty, checkpoint ⟨2,0⟩
def G1 : JSys := ⟨[A0, B true [] ⟨2,0⟩ [a1, a2]], [a1, a2, b1], [("a", ⟨2,2⟩), ("b", ⟨3,1⟩)],
                  [reqA0, reqB0, reqB1], [respA0, respB0, respB1, respB2]⟩
def reqB3 : JReq := ⟨.normal, 1, 2, [b3]⟩
def respB4 : JResp := ⟨.normal, 1, [b1], ⟨3, 1⟩⟩
def G2 : JSys := ⟨[A0, B true [b3] ⟨2,0⟩ [a1, a2]], [a1, a2, b1], [("a", ⟨2,2⟩), ("b", ⟨3,1⟩)],
                  [reqA0, reqB0, reqB1], [respA0, respB0, respB1, respB2]⟩
def G3 : JSys := ⟨[A0, B true [b3] ⟨2,0⟩ [a1, a2]], [a1, a2, b1], [("a", ⟨2,2⟩), ("b", ⟨3,1⟩)],
                  [reqA0, reqB0, reqB1, reqB3], [respA0, respB0, respB1, respB2]⟩
def G4 : JSys := ⟨[A0, B true [b3] ⟨2,0⟩ [a1, a2]], [a1, a2, b1], [("a", ⟨2,2⟩), ("b", ⟨3,1⟩)],
                  [reqA0, reqB0, reqB1, reqB3], [respA0, respB0, respB1, respB2, respB4]⟩
def G5 : JSys := ⟨[A0, B true [b3] ⟨3,1⟩ [a1, a2]], [a1, a2, b1], [("a", ⟨2,2⟩), ("b", ⟨3,1⟩)],
                  [reqA0, reqB0, reqB1, reqB3], [respA0, respB0, respB1, respB2, respB4]⟩

theorem reach14 : JReach cs F14 :=
  .step reach13 (.localOp _ 1 (B true [b1] ⟨3,1⟩ [a1, a2]) b2 rfl rfl rfl)

theorem reachOldG1 : JReachOld cs G1 :=
  .step reach14.toOld (.deliverSubOld _ respB0 (B true [b1, b2] ⟨3,1⟩ [a1, a2]) (.tail _ (.head _)) rfl rfl)

theorem reachOldG5 : JReachOld cs G5 := by
  -- b goes on: the next operation gets seq 1 AGAIN
  have g2 : JReachOld cs G2 := .step reachOldG1 (.new (.localOp _ 1 (B true [] ⟨2,0⟩ [a1, a2]) b3 rfl rfl rfl))
  have g3 : JReachOld cs G3 := .step g2 (.new (.send _ 1 (B true [b3] ⟨2,0⟩ [a1, a2]) rfl))
  -- the server knows seq 1 of b already: b3 is skipped as a duplicate, the request is answered normally
  have g4 : JReachOld cs G4 :=
    .step g3 (.new (.serve _ reqB3 (B true [b3] ⟨2,0⟩ [a1, a2]) ⟨3,1⟩ [] (.tail _ (.tail _ (.tail _ (.head _)))) rfl rfl rfl))
  exact .step g4 (.new (.deliver _ respB4 (B true [b3] ⟨2,0⟩ [a1, a2]) (.tail _ (.tail _ (.tail _ (.tail _ (.head _))))) rfl rfl rfl))

/-! ## The same exchange on the model's own server (`processPack`), evaluated -/
namespace Srv

def col : CollectionDoc := ⟨"c", 1⟩
def clA : ClientDoc := ⟨"a", "a", 1, 0, 0⟩
def clB : ClientDoc := ⟨"b", "b", 1, 0, 0⟩
def pA0 : Pack := { key := "k", duid := "D", create := true, cp := ⟨0, 2⟩, typ := .counter, ops := [a1, a2] }
/-- b's subscribe request, as `createPack` makes it: its own datatype id, the pending b0 carried along -/
def pB0 : Pack := { key := "k", duid := "Db", subscribe := true, cp := ⟨0, 1⟩, typ := .counter, ops := [b0] }
def pB1 : Pack := { key := "k", duid := "D", cp := ⟨2, 1⟩, typ := .counter, ops := [b1] }
def pB2 : Pack := { key := "k", duid := "D", cp := ⟨3, 2⟩, typ := .counter, ops := [b2] }
def r0 := processPack {} clA col pA0            -- a creates the datatype with a1, a2
def r1 := processPack r0.store clB col pB0      -- b subscribes
def r2 := processPack r1.store clB col pB1      -- b, joined, pushes b1
def r3 := processPack r2.store clB col pB0      -- the subscribe request AGAIN (late duplicate)
def r4 := processPack r3.store clB col pB2      -- b pushes b2
def r5 := processPack r4.store clB col pB2      -- … and once more (duplicate)
def recB (st : Store) : Option CheckPoint := ((st.getDatatype "D").bind (·.sub "b" false)).map (·.cp)

/-- served again after b has joined and pushed b1, the subscribe request leaves b's record at ⟨3,1⟩, pushes
    nothing (b0 never enters the log) and is answered with a subscribe response ⟨3,1⟩; b's next push is
    accepted — once -/
example :
    r1.resp.subscribe = true ∧ r1.resp.cp = ⟨2, 0⟩ ∧ r1.pushed = 0 ∧ recB r1.store = some ⟨2, 0⟩ ∧
    r2.resp.error = false ∧ r2.pushed = 1 ∧ recB r2.store = some ⟨3, 1⟩ ∧
    r3.resp.subscribe = true ∧ r3.resp.error = false ∧ r3.resp.cp = ⟨3, 1⟩ ∧ r3.pushed = 0 ∧
      recB r3.store = some ⟨3, 1⟩ ∧ r3.store.operations.length = 3 ∧
    r4.resp.error = false ∧ r4.pushed = 1 ∧ r4.resp.cp = ⟨4, 2⟩ ∧ recB r4.store = some ⟨4, 2⟩ ∧
    r5.resp.error = false ∧ r5.pushed = 0 ∧ r5.store.operations.length = 4 ∧
    r5.store.operations.map (·.op.id.lamport) = [1, 2, 3, 4] := by decide

end Srv

end JEx
open JEx

/-- **D33.**  With the client without the guard a state is reachable in which
    the invariant fails: J1 — the acknowledged own operation `b1` is in the log but not in b's
    buffer — and the pending operation `b2` is lost: it is in no buffer and not in the log.  Before the
    step both were fine. -/
theorem old_behaviour_breaks_invariant :
    JReach JEx.cs F14 ∧ J1ids F14 ∧ (∃ cl ∈ F14.clients, ∃ o ∈ cl.base.buf, o.id = b2.id) ∧
    JReachOld JEx.cs G1 ∧ ¬ J1ids G1 ∧ ¬ JInv G1 ∧
    (∀ cl ∈ G1.clients, ∀ o ∈ cl.base.buf, o.id ≠ b2.id) ∧ (∀ o ∈ G1.log, o.id ≠ b2.id) :=
  ⟨reach14, by decide, by decide, reachOldG1, by decide, fun h => absurd h.j1ids (by decide), by decide, by decide⟩

/-- … and it goes on silently: b's next operation `b3` reuses sequence number 1, the server skips it as a
    duplicate and acknowledges it; b is at rest (everything it issued counts as acknowledged, its checkpoint
    is at the end of the log) although `b3` is not in the log — and no other client will ever get it. -/
theorem old_behaviour_loses_operations :
    JReachOld JEx.cs G5 ∧ b3.id.seq = b1.id.seq ∧
    (∀ cl ∈ G5.clients, cl.base.cuid = "b" → cl.base.buf.map (·.id) = [b3.id] ∧
      cl.base.cp.cseq = cl.base.buf.length ∧ cl.base.cp.sseq = G5.log.length) ∧
    (∀ o ∈ G5.log, o.id ≠ b3.id) :=
  ⟨reachOldG5, rfl, by decide, by decide⟩

/-- the guarded client in the same situation: nothing happens (`stale_sub_response_harmless`) -/
example : ({ F14 with clients := F14.clients.set respB0.i ((B true [b1, b2] ⟨3,1⟩ [a1, a2]).deliverSub respB0) } : JSys) = F14 :=
  stale_sub_response_harmless rfl rfl

end Orda
