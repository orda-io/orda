/-
C12 on the per-key lock model (Model/SrvLock): mutual exclusion, serialisability, liveness of replies,
refusals change nothing; requests on different datatypes commute.
-/
import Orda.Model.SrvLock
import Orda.Proofs.ServerLog
namespace Orda.SrvLock

namespace H

theorem get_set {l : List HPc} {i : Nat} {u : HPc} (v : HPc) (h : l[i]? = some u) (j : Nat) :
    (l.set i v)[j]? = if j = i then some v else l[j]? := by
  by_cases hj : j = i
  · rw [if_pos hj, hj, List.getElem?_set_self (List.getElem?_eq_some_iff.1 h).1]
  · rw [if_neg hj, List.getElem?_set_ne (Ne.symm hj)]

/-- A clause `∀ j, A j ↔ P pcs[j]?` after handler `i` has moved to `v`: the other handlers keep their side of
the clause (`frame`), handler `i` is checked at `v` (`self`). -/
theorem set_iff {pcs : List HPc} {i : Nat} {u v : HPc} (h : pcs[i]? = some u) (P : Option HPc → Prop)
    {A A' : Nat → Prop} (old : ∀ j, A j ↔ P pcs[j]?) (frame : ∀ j, j ≠ i → (A' j ↔ A j))
    (self : A' i ↔ P (some v)) (j : Nat) : A' j ↔ P (pcs.set i v)[j]? := by
  by_cases hj : j = i
  · subst hj
    rw [List.getElem?_set_self (List.getElem?_eq_some_iff.1 h).1]
    exact self
  · rw [List.getElem?_set_ne (Ne.symm hj)]
    exact (frame j hj).trans (old j)

theorem set_iff_same {pcs : List HPc} {i : Nat} {u v : HPc} (h : pcs[i]? = some u) (P : Option HPc → Prop)
    {A : Nat → Prop} (old : ∀ j, A j ↔ P pcs[j]?) (huv : P (some u) ↔ P (some v)) (j : Nat) :
    A j ↔ P (pcs.set i v)[j]? :=
  set_iff h P old (fun _ _ => Iff.rfl) ((old i).trans (h ▸ huv)) j

theorem mem_snoc {l : List Nat} {i j : Nat} (hj : j ≠ i) : j ∈ l ++ [i] ↔ j ∈ l := by simp [hj]

theorem nodup_snoc {l : List Nat} {i : Nat} (hl : l.Nodup) (hi : i ∉ l) : (l ++ [i]).Nodup := by
  rw [List.nodup_append]
  refine ⟨hl, List.pairwise_singleton _ i, fun a ha b hb hab => ?_⟩
  cases List.mem_singleton.1 hb
  exact hi (hab ▸ ha)

structure Inv (c : Cfg) (s : HSt) : Prop where
  hold : ∀ i, s.holder = some i ↔ s.pcs[i]? = some .holding
  nodup : s.order.Nodup
  ord : ∀ i, i ∈ s.order ↔ (s.pcs[i]? = some .holding ∨ s.pcs[i]? = some .served)
  rep : ∀ i, (i ∈ s.replies.map (·.1)) ↔ (s.pcs[i]? = some .served ∨ s.pcs[i]? = some .refused)
  repNodup : (s.replies.map (·.1)).Nodup
  len : s.pcs.length = c.n
  last : ∀ i, s.holder = some i → ∃ l, s.order = l ++ [i]

theorem inv_init (st : Store) (c : Cfg) : Inv c (init st c) := by
  have hp : ∀ i p, (init st c).pcs[i]? = some p → p = HPc.start :=
    fun i p h => List.eq_of_mem_replicate (List.mem_of_getElem? (l := List.replicate c.n HPc.start) h)
  refine ⟨fun i => ⟨nofun, fun h => nomatch hp i _ h⟩, List.nodup_nil,
    fun i => ⟨nofun, fun h => ?_⟩, fun i => ⟨nofun, fun h => ?_⟩, List.nodup_nil, List.length_replicate, nofun⟩
  · rcases h with h | h <;> exact nomatch hp i _ h
  · rcases h with h | h <;> exact nomatch hp i _ h

theorem Inv.fresh {c : Cfg} {s : HSt} (inv : Inv c s) {i : Nat} {u : HPc} (h : s.pcs[i]? = some u)
    (hu : u = .start ∨ u = .waiting) :
    s.holder ≠ some i ∧ i ∉ s.order ∧ i ∉ s.replies.map (·.1) := by
  refine ⟨fun hh => ?_, fun hh => ?_, fun hh => ?_⟩
  · have := h.symm.trans ((inv.hold i).1 hh)
    rcases hu with rfl | rfl <;> cases this
  · rcases (inv.ord i).1 hh with h' | h' <;> have := h.symm.trans h' <;> rcases hu with rfl | rfl <;> cases this
  · rcases (inv.rep i).1 hh with h' | h' <;> have := h.symm.trans h' <;> rcases hu with rfl | rfl <;> cases this

theorem inv_step {c : Cfg} {s s' : HSt} (inv : Inv c s) (h : Step c s s') : Inv c s' := by
  have hlen : ∀ i v, (s.pcs.set i v).length = c.n := fun i v => (List.length_set ..).trans inv.len
  cases h with
  | arrive i h =>
    exact ⟨set_iff_same h (· = some .holding) inv.hold (by decide), inv.nodup,
      set_iff_same h (fun o => o = some .holding ∨ o = some .served) inv.ord (by decide),
      set_iff_same h (fun o => o = some .served ∨ o = some .refused) inv.rep (by decide),
      inv.repNodup, hlen _ _, inv.last⟩
  | acquire i h hf =>
    obtain ⟨-, hno, -⟩ := inv.fresh h (Or.inr rfl)
    refine ⟨set_iff h (· = some .holding) inv.hold (fun j hj => ?_) ⟨fun _ => rfl, fun _ => rfl⟩,
      nodup_snoc inv.nodup hno,
      set_iff h (fun o => o = some .holding ∨ o = some .served) inv.ord (fun j hj => mem_snoc hj) ?_,
      set_iff_same h (fun o => o = some .served ∨ o = some .refused) inv.rep (by decide),
      inv.repNodup, hlen _ _, fun j hj => ?_⟩
    · show some i = some j ↔ s.holder = some j
      rw [hf]
      exact ⟨fun e => absurd (Option.some.inj e).symm hj, nofun⟩
    · exact ⟨fun _ => Or.inl rfl, fun _ => List.mem_append_right _ (List.mem_singleton_self i)⟩
    · cases (hj : some i = some j)
      exact ⟨s.order, rfl⟩
  | giveUp i h =>
    obtain ⟨-, -, hnr⟩ := inv.fresh h (Or.inr rfl)
    refine ⟨set_iff_same h (· = some .holding) inv.hold (by decide), inv.nodup,
      set_iff_same h (fun o => o = some .holding ∨ o = some .served) inv.ord (by decide),
      set_iff h (fun o => o = some .served ∨ o = some .refused) inv.rep (fun j hj => ?_) ?_,
      ?_, hlen _ _, inv.last⟩
    · show j ∈ (s.replies ++ [(i, true)]).map Prod.fst ↔ _
      rw [List.map_append]; exact mem_snoc hj
    · exact ⟨fun _ => Or.inr rfl, fun _ => by
        show i ∈ (s.replies ++ [(i, true)]).map Prod.fst
        rw [List.map_append]; exact List.mem_append_right _ (List.mem_singleton_self i)⟩
    · show ((s.replies ++ [(i, true)]).map Prod.fst).Nodup
      rw [List.map_append]; exact nodup_snoc inv.repNodup hnr
  | serve i h cl p hc hp =>
    have hh : s.holder = some i := (inv.hold i).2 h
    have hnr : i ∉ s.replies.map (·.1) := fun hm => by
      rcases (inv.rep i).1 hm with h' | h' <;> cases h.symm.trans h'
    refine ⟨set_iff h (· = some .holding) inv.hold (fun j hj => ?_) ⟨nofun, nofun⟩, inv.nodup,
      set_iff_same h (fun o => o = some .holding ∨ o = some .served) inv.ord (by decide),
      set_iff h (fun o => o = some .served ∨ o = some .refused) inv.rep (fun j hj => ?_) ?_,
      ?_, hlen _ _, nofun⟩
    · show none = some j ↔ s.holder = some j
      rw [hh]
      exact ⟨nofun, fun e => absurd (Option.some.inj e).symm hj⟩
    · show j ∈ (s.replies ++ [(i, _)]).map Prod.fst ↔ _
      rw [List.map_append]; exact mem_snoc hj
    · exact ⟨fun _ => Or.inl rfl, fun _ => by
        show i ∈ (s.replies ++ [(i, _)]).map Prod.fst
        rw [List.map_append]; exact List.mem_append_right _ (List.mem_singleton_self i)⟩
    · show ((s.replies ++ [(i, _)]).map Prod.fst).Nodup
      rw [List.map_append]; exact nodup_snoc inv.repNodup hnr

theorem inv_reach {st : Store} {c : Cfg} {s : HSt} (h : Reach st c s) : Inv c s := by
  induction h with
  | init => exact inv_init st c
  | step _ hs ih => exact inv_step ih hs

theorem serial_snoc (c : Cfg) (l : List Nat) (i : Nat) :
    ∀ st, serial c st (l ++ [i]) = serial c (serial c st l) [i] := by
  induction l with
  | nil => intro st; rfl
  | cons j l ih =>
    intro st
    have e1 : ∀ l', serial c st (j :: l') =
        match c.cls[j]?, c.packs[j]? with
        | some cl, some p => serial c (processPack st cl c.col p).store l'
        | _, _ => serial c st l' := fun _ => rfl
    rw [List.cons_append, e1, e1]
    split
    · exact ih _
    · exact ih _

theorem serial_single (c : Cfg) (st : Store) (i : Nat) (cl : ClientDoc) (p : Pack)
    (hc : c.cls[i]? = some cl) (hp : c.packs[i]? = some p) :
    serial c st [i] = (processPack st cl c.col p).store := by
  simp [serial, hc, hp]

theorem filter_served_set {pcs : List HPc} {i : Nat} {u : HPc} (v : HPc) (h : pcs[i]? = some u) (l : List Nat)
    (hi : i ∉ l ∨ (u ≠ .served ∧ v ≠ .served)) :
    l.filter (fun j => decide ((pcs.set i v)[j]? = some .served)) =
      l.filter (fun j => decide (pcs[j]? = some .served)) := by
  apply List.filter_congr
  intro j hj
  rw [get_set v h j]
  by_cases hji : j = i
  · subst hji
    rcases hi with hi | ⟨h1, h2⟩
    · exact absurd hj hi
    · simp [h, h1, h2]
  · simp [hji]

def Ser (st : Store) (c : Cfg) (s : HSt) : Prop :=
  s.store = serial c st (s.order.filter (fun i => decide (s.pcs[i]? = some .served)))

theorem ser_step {st : Store} {c : Cfg} {s s' : HSt} (inv : Inv c s) (hs : Ser st c s) (h : Step c s s') :
    Ser st c s' := by
  unfold Ser at hs ⊢
  cases h with
  | arrive i h =>
    show s.store = serial c st (s.order.filter (fun j => decide ((s.pcs.set i .waiting)[j]? = some .served)))
    rw [filter_served_set _ h _ (Or.inr ⟨by decide, by decide⟩)]; exact hs
  | acquire i h hf =>
    show s.store = serial c st ((s.order ++ [i]).filter (fun j => decide ((s.pcs.set i .holding)[j]? = some .served)))
    rw [List.filter_append, filter_served_set _ h _ (Or.inr ⟨by decide, by decide⟩)]
    have : [i].filter (fun j => decide ((s.pcs.set i .holding)[j]? = some .served)) = [] := by
      simp [get_set _ h i]
    rw [this, List.append_nil]; exact hs
  | giveUp i h =>
    show s.store = serial c st (s.order.filter (fun j => decide ((s.pcs.set i .refused)[j]? = some .served)))
    rw [filter_served_set _ h _ (Or.inr ⟨by decide, by decide⟩)]; exact hs
  | serve i h cl p hc hp =>
    show (processPack s.store cl c.col p).store =
      serial c st (s.order.filter (fun j => decide ((s.pcs.set i .served)[j]? = some .served)))
    obtain ⟨l, hl⟩ := inv.last i ((inv.hold i).2 h)
    have hnd := inv.nodup
    rw [hl] at hs hnd ⊢
    have hil : i ∉ l := by
      rw [List.nodup_append] at hnd
      intro hh; exact hnd.2.2 i hh i (by simp) rfl
    rw [List.filter_append] at hs ⊢
    rw [filter_served_set _ h _ (Or.inl hil)]
    have h1 : [i].filter (fun j => decide ((s.pcs.set i .served)[j]? = some .served)) = [i] := by
      simp [get_set _ h i]
    have h2 : [i].filter (fun j => decide (s.pcs[j]? = some .served)) = [] := by
      simp [h]
    rw [h2, List.append_nil] at hs
    rw [h1, serial_snoc, ← hs, serial_single c _ i cl p hc hp]

theorem ser_reach {st : Store} {c : Cfg} {s : HSt} (h : Reach st c s) : Ser st c s := by
  induction h with
  | init => simp [Ser, init, serial]
  | step hr hs ih => exact ser_step (inv_reach hr) ih hs

end H

/-- C12, mutual exclusion and bookkeeping, for ANY number of handlers and ANY schedule: at most one handler
    holds the lock, the holder is exactly the handler at `holding`, `order` lists the handlers that ever
    acquired it (each once), every handler that is `served` or `refused` has exactly one reply -/
theorem mutual_exclusion (st : Store) (c : Cfg) (s : HSt) (h : Reach st c s) :
    (∀ i, s.pcs[i]? = some .holding ↔ s.holder = some i) ∧
    s.order.Nodup ∧
    (∀ i, i ∈ s.order ↔ (s.pcs[i]? = some .holding ∨ s.pcs[i]? = some .served)) ∧
    (∀ i, (i ∈ s.replies.map (·.1)) ↔ (s.pcs[i]? = some .served ∨ s.pcs[i]? = some .refused)) ∧
    (s.replies.map (·.1)).Nodup ∧ s.pcs.length = c.n :=
  have inv := H.inv_reach h
  ⟨fun i => (inv.hold i).symm, inv.nodup, inv.ord, inv.rep, inv.repNodup, inv.len⟩

set_option linter.unusedVariables false in
/-- C12, serialisability: in every reachable state the store is the result of running, one at a time and
    in lock-acquisition order, exactly the handlers that were served so far -/
theorem store_is_serial (st : Store) (c : Cfg) (s : HSt) (h : Reach st c s)
    (hcls : c.cls.length = c.packs.length) :
    s.store = serial c st (s.order.filter (fun i => decide (s.pcs[i]? = some .served))) :=
  H.ser_reach h

/-- hence all of C06 holds after any concurrent execution: the log invariant is kept -/
theorem logInv_concurrent (st : Store) (c : Cfg) (s : HSt) (h : Reach st c s) (hi : LogInv st) : LogInv s.store := by
  induction h with
  | init => exact hi
  | step _ hs ih =>
    cases hs with
    | arrive i h => exact ih
    | acquire i h hf => exact ih
    | giveUp i h => exact ih
    | serve i h cl p hc hp => exact logInv_processPack _ cl c.col p ih

/-- C12, every request returns: as long as some handler has not replied, some step is enabled
    (a waiting handler can always give up; a holder can always finish) -/
theorem every_request_returns (st : Store) (c : Cfg) (s : HSt) (h : Reach st c s)
    (hcls : c.cls.length = c.packs.length)
    (hnd : ∃ (i : Nat) (p : HPc), s.pcs[i]? = some p ∧ p ≠ .served ∧ p ≠ .refused) : ∃ s', Step c s s' := by
  obtain ⟨i, p, hp, h1, h2⟩ := hnd
  cases p with
  | start => exact ⟨_, Step.arrive s i hp⟩
  | waiting => exact ⟨_, Step.giveUp s i hp⟩
  | holding =>
    have hlen := (H.inv_reach h).len
    have hi : i < s.pcs.length := (List.getElem?_eq_some_iff.1 hp).1
    have hip : i < c.packs.length := by rw [hlen] at hi; exact hi
    have hic : i < c.cls.length := by rw [hcls]; exact hip
    exact ⟨_, Step.serve s i hp c.cls[i] c.packs[i] (List.getElem?_eq_getElem hic) (List.getElem?_eq_getElem hip)⟩
  | served => exact absurd rfl h1
  | refused => exact absurd rfl h2

/-- a refused handler (lock not obtained) changes nothing -/
theorem refused_changes_nothing (c : Cfg) (s s' : HSt) (i : Nat) (h : Step c s s')
    (hp : s.pcs[i]? = some .waiting) (hp' : s'.pcs[i]? = some .refused) : s'.store = s.store := by
  cases h with
  | arrive j h => rfl
  | acquire j h hf => rfl
  | giveUp j h => rfl
  | serve j h cl p hc hpk =>
    exfalso
    have hp'' : (s.pcs.set j .served)[i]? = some .refused := hp'
    rw [H.get_set _ h i] at hp''
    by_cases hij : i = j
    · simp [hij] at hp''
    · simp [hij, hp] at hp''

end Orda.SrvLock

/-! ## Requests on different datatypes commute

This part does not concern the lock model.  It reads `processPack` as a function in two steps: the commit a pack makes on a
store (`commitOf`: the datatype document written and the operation documents appended, if the pack is served) and the store
after a commit (`applyCommit`); `processPack_eq_applyCommit`.  Both orders of two packs are then two commits applied in two
orders; a commit does not see one on another id and key (`commit_stable`), and commits on different ids commute
(`applyCommit_comm`). -/

namespace Orda.SrvLock.Commit
open Orda

def isRefuse : Dispatch → Bool
  | .refuse _ => true
  | _ => false

def path? (st : Store) (cl : ClientDoc) (col : CollectionDoc) (p : Pack) : Option (Dispatch × DatatypeDoc) :=
  if p.readOnly && p.create then none
  else if p.readOnly && !p.ops.isEmpty then none
  else if isRefuse (SL.dsp st cl col p) then none
  else some (SL.dsp st cl col p, SL.docOf col p (SL.dsp st cl col p) (evalCase st col cl.cuid p).2)

/-- what a request commits: the written datatype document and the appended operation documents -/
def commitOf (st : Store) (cl : ClientDoc) (col : CollectionDoc) (p : Pack) : Option (DatatypeDoc × List OpDoc) :=
  match path? st cl col p with
  | none => none
  | some (d, doc) =>
    match SL.pushRes cl col p d doc with
    | .error _ => none
    | .ok (cp2, nd) => some (SL.doc2 st cl p d doc cp2 nd, nd)

def applyCommit (st : Store) : Option (DatatypeDoc × List OpDoc) → Store
  | none => st
  | some (d2, nd) => { st with operations := st.operations ++ nd, datatypes := upsertDatatype d2 st.datatypes }

def rduid (st : Store) (cl : ClientDoc) (col : CollectionDoc) (p : Pack) : String :=
  match path? st cl col p with
  | none => p.duid
  | some (d, doc) => SL.opDuid p d doc

theorem path?_cases (st : Store) (cl : ClientDoc) (col : CollectionDoc) (p : Pack) :
    (path? st cl col p = none ∧ ∃ code, processPack st cl col p = SL.refuseR st p code) ∨
    (path? st cl col p = some (SL.dsp st cl col p, SL.docOf col p (SL.dsp st cl col p) (evalCase st col cl.cuid p).2) ∧
      (∀ c, SL.dsp st cl col p ≠ .refuse c) ∧
      processPack st cl col p =
        SL.finish st cl col p (SL.dsp st cl col p) (SL.docOf col p (SL.dsp st cl col p) (evalCase st col cl.cuid p).2)) := by
  rw [SL.processPack_eq]; unfold path?
  by_cases h1 : (p.readOnly && p.create) = true
  · rw [if_pos h1, if_pos h1]; exact .inl ⟨rfl, _, rfl⟩
  rw [if_neg h1, if_neg h1]
  by_cases h2 : (p.readOnly && !p.ops.isEmpty) = true
  · rw [if_pos h2, if_pos h2]; exact .inl ⟨rfl, _, rfl⟩
  rw [if_neg h2, if_neg h2]
  generalize SL.dsp st cl col p = d
  cases d with
  | refuse c => exact .inl ⟨rfl, c, rfl⟩
  | create => exact .inr ⟨rfl, nofun, rfl⟩
  | subscribe => exact .inr ⟨rfl, nofun, rfl⟩
  | normal => exact .inr ⟨rfl, nofun, rfl⟩

theorem processPack_eq_applyCommit (st : Store) (cl : ClientDoc) (col : CollectionDoc) (p : Pack) :
    (processPack st cl col p).store = applyCommit st (commitOf st cl col p) ∧
    (processPack st cl col p).resp.duid = rduid st cl col p := by
  unfold commitOf rduid
  rcases path?_cases st cl col p with ⟨hn, code, he⟩ | ⟨hs, -, he⟩
  · rw [hn, he]; exact ⟨rfl, rfl⟩
  · rw [hs, he]
    dsimp only
    unfold SL.finish
    cases SL.pushRes cl col p _ _ <;> exact ⟨rfl, rfl⟩

theorem commitOf_facts (st : Store) (cl : ClientDoc) (col : CollectionDoc) (p : Pack) :
    commitOf st cl col p = none ∨
    ∃ d doc cp2 nd, commitOf st cl col p = some (SL.doc2 st cl p d doc cp2 nd, nd) ∧
      rduid st cl col p = doc.duid ∧ doc.colNum = col.num ∧ doc.key = p.key ∧ (∀ o ∈ nd, o.duid = doc.duid) ∧
      ((∀ x ∈ st.datatypes, x.duid ≠ doc.duid) ∨ doc ∈ st.datatypes) := by
  unfold commitOf rduid
  rcases path?_cases st cl col p with ⟨hn, -⟩ | ⟨hs, hnr, -⟩
  · rw [hn]; exact .inl rfl
  · rw [hs]
    dsimp only
    have f := SL.okFacts_of_dsp (cl := cl) (st := st) (col := col) (p := p) rfl hnr
    cases hp : SL.pushRes cl col p _ _ with
    | error code => exact .inl rfl
    | ok r =>
      exact .inr ⟨_, _, r.1, r.2, rfl, f.served.duid, f.served.colNum, f.key,
        fun o ho => ((SL.pushRes_spec f.served hp).mem o ho).1, f.served.src.imp (·.1) id⟩

theorem rduid_noKey (st : Store) (cl : ClientDoc) (col : CollectionDoc) (p : Pack)
    (hn : (if (p.create || p.subscribe) = true then st.getDatatypeByKey col.num p.key else none) = none) :
    rduid st cl col p = p.duid := by
  unfold rduid
  rcases path?_cases st cl col p with ⟨h0, -⟩ | ⟨hs, hnr, -⟩
  · rw [h0]
  rw [hs]
  show SL.opDuid p _ _ = p.duid
  rcases SL.dsp_cases st cl col p with ⟨code, h⟩ | ⟨h, -, -⟩ | ⟨h, x, hx⟩ | ⟨h, -⟩
  · exact absurd h (hnr code)
  · rw [h]; rfl
  · rw [h, show SL.docOf col p .subscribe (evalCase st col cl.cuid p).2 = x by simp [SL.docOf, hx]]
    rcases (SL.evalCase_some hx).2.2.2 with ⟨hb, hk⟩ | ⟨-, hxd⟩
    · rw [hb, if_pos rfl, hk] at hn; cases hn
    · simpa [SL.opDuid] using hxd
  · rw [h]; rfl

theorem evalCase_congr {st st' : Store} {col : CollectionDoc} {cuid : String} {p : Pack}
    (h1 : st'.getDatatypeByKey col.num p.key = st.getDatatypeByKey col.num p.key)
    (h2 : (if (p.create || p.subscribe) = true then st.getDatatypeByKey col.num p.key else none) = none →
      st'.getDatatype p.duid = st.getDatatype p.duid) :
    evalCase st' col cuid p = evalCase st col cuid p := by
  unfold evalCase
  simp only [h1]
  generalize (if (p.create || p.subscribe) = true then st.getDatatypeByKey col.num p.key else none) = bk at h2
  cases bk with
  | none => simp only [h2 rfl]
  | some d => rfl

theorem commit_congr {st st' : Store} {cl : ClientDoc} {col : CollectionDoc} {p : Pack}
    (he : evalCase st' col cl.cuid p = evalCase st col cl.cuid p)
    (ho : ∀ from_, st'.getOperations (rduid st cl col p) from_ = st.getOperations (rduid st cl col p) from_) :
    commitOf st' cl col p = commitOf st cl col p := by
  have hdsp : SL.dsp st' cl col p = SL.dsp st cl col p := by unfold SL.dsp; rw [he]
  have hpath : path? st' cl col p = path? st cl col p := by unfold path?; rw [hdsp, he]
  unfold commitOf
  unfold rduid at ho
  rw [hpath]
  generalize path? st cl col p = q at ho ⊢
  cases q with
  | none => rfl
  | some r =>
    dsimp only at ho ⊢
    -- the written document reads the store through `getOperations` on the id the response names only
    have hd2 : ∀ cp2 nd, SL.doc2 st' cl p r.1 r.2 cp2 nd = SL.doc2 st cl p r.1 r.2 cp2 nd := by
      intro cp2 nd
      unfold SL.doc2 SL.cp3 SL.pulled
      rw [ho]
    simp only [hd2]

theorem commit_stable (st : Store) (cl1 cl2 : ClientDoc) (col1 col2 : CollectionDoc) (p1 p2 : Pack)
    (hd : DuidUnique st)
    (hne : rduid st cl1 col1 p1 ≠ rduid st cl2 col2 p2)
    (hk : (col1.num, p1.key) ≠ (col2.num, p2.key)) :
    commitOf (applyCommit st (commitOf st cl1 col1 p1)) cl2 col2 p2 = commitOf st cl2 col2 p2 := by
  rcases commitOf_facts st cl1 col1 p1 with h | ⟨d, doc, cp2, nd, hc, hr, hcol, hkey, hnd, hsrc⟩
  · rw [h]; rfl
  rw [hc]
  obtain ⟨h2du, h2key, h2col, -⟩ := SL.doc2_facts st cl1 p1 d doc cp2 nd
  have hkk : ¬ (col1.num = col2.num ∧ p1.key = p2.key) := fun hh => hk (by rw [hh.1, hh.2])
  apply commit_congr
  · apply evalCase_congr
    · show (upsertDatatype _ st.datatypes).find? _ = st.datatypes.find? _
      apply SL.find?_upsert
      · rw [decide_eq_false_iff_not, h2col, h2key, hcol, hkey]; exact hkk
      · intro x hx hxd
        rw [h2du] at hxd
        rcases hsrc with hf | hm
        · exact absurd hxd (hf x hx)
        · have := SL.eq_of_nodup_duid hd hx hm hxd
          subst this
          rw [decide_eq_false_iff_not, hcol, hkey]; exact hkk
    · intro hn
      have hp2 := rduid_noKey st cl2 col2 p2 hn
      show (upsertDatatype _ st.datatypes).find? _ = st.datatypes.find? _
      apply SL.find?_upsert
      · rw [decide_eq_false_iff_not, h2du, ← hr, ← hp2]; exact hne
      · intro x _ hxd
        rw [decide_eq_false_iff_not, hxd, h2du, ← hr, ← hp2]; exact hne
  · intro from_
    exact SL.getOperations_other hnd (by rw [← hr]; exact Ne.symm hne) from_

theorem upsert_filter_same (d : DatatypeDoc) (l : List DatatypeDoc) :
    (upsertDatatype d l).filter (fun y => y.duid = d.duid) =
      upsertDatatype d (l.filter (fun y => y.duid = d.duid)) := by
  induction l with
  | nil => simp [upsertDatatype]
  | cons x xs ih =>
    by_cases hx : x.duid = d.duid
    · simp [upsertDatatype, hx]
    · simp [upsertDatatype, hx]; simpa using ih

theorem upsert_filter_other (d : DatatypeDoc) (l : List DatatypeDoc) (u : String) (h : u ≠ d.duid) :
    (upsertDatatype d l).filter (fun y => y.duid = u) = l.filter (fun y => y.duid = u) :=
  SL.upsert_filter _ (decide_eq_false (Ne.symm h)) (fun _ _ hx => decide_eq_false (fun h' => h (h'.symm.trans hx)))

theorem upsert_comm_filter (D1 D2 : DatatypeDoc) (l : List DatatypeDoc) (hne : D1.duid ≠ D2.duid) (u : String) :
    (upsertDatatype D2 (upsertDatatype D1 l)).filter (fun y => y.duid = u) =
      (upsertDatatype D1 (upsertDatatype D2 l)).filter (fun y => y.duid = u) := by
  by_cases h1 : u = D1.duid
  · subst h1
    rw [upsert_filter_other D2 _ _ hne, upsert_filter_same, upsert_filter_same, upsert_filter_other D2 _ _ hne]
  · rw [upsert_filter_other D1 (upsertDatatype D2 l) u h1]
    by_cases h2 : u = D2.duid
    · subst h2
      rw [upsert_filter_same, upsert_filter_same, upsert_filter_other D1 _ _ h1]
    · rw [upsert_filter_other D2 _ u h2, upsert_filter_other D1 _ u h1, upsert_filter_other D2 _ u h2]

theorem applyCommit_frame (st : Store) (c : Option (DatatypeDoc × List OpDoc)) :
    (applyCommit st c).clients = st.clients ∧ (applyCommit st c).collections = st.collections := by
  cases c with
  | none => exact ⟨rfl, rfl⟩
  | some r => exact ⟨rfl, rfl⟩

/-- what a pack commits goes under the id its answer names -/
theorem commitOf_duid {st : Store} {cl : ClientDoc} {col : CollectionDoc} {p : Pack} {r : DatatypeDoc × List OpDoc}
    (h : commitOf st cl col p = some r) :
    r.1.duid = rduid st cl col p ∧ ∀ o ∈ r.2, o.duid = rduid st cl col p := by
  rcases commitOf_facts st cl col p with h0 | ⟨d, doc, cp2, nd, hc, hr, -, -, hnd, -⟩
  · rw [h0] at h; cases h
  · rw [hc] at h; cases h
    exact ⟨(SL.doc2_duid ..).trans hr.symm, fun o ho => (hnd o ho).trans hr.symm⟩

/-- two commits under different ids commute: per id, the stored operations and the datatype documents are the same in
    either order -/
theorem applyCommit_comm (st : Store) {c1 c2 : Option (DatatypeDoc × List OpDoc)} {u1 u2 : String}
    (h1 : ∀ r, c1 = some r → r.1.duid = u1 ∧ ∀ o ∈ r.2, o.duid = u1)
    (h2 : ∀ r, c2 = some r → r.1.duid = u2 ∧ ∀ o ∈ r.2, o.duid = u2) (hne : u1 ≠ u2) (duid : String) :
    (applyCommit (applyCommit st c1) c2).operations.filter (fun o => o.duid = duid) =
      (applyCommit (applyCommit st c2) c1).operations.filter (fun o => o.duid = duid) ∧
    (applyCommit (applyCommit st c1) c2).datatypes.filter (fun d => d.duid = duid) =
      (applyCommit (applyCommit st c2) c1).datatypes.filter (fun d => d.duid = duid) := by
  cases c1 with
  | none => exact ⟨rfl, rfl⟩
  | some r1 =>
  cases c2 with
  | none => exact ⟨rfl, rfl⟩
  | some r2 =>
    obtain ⟨e1, hnd1⟩ := h1 r1 rfl
    obtain ⟨e2, hnd2⟩ := h2 r2 rfl
    refine ⟨?_, upsert_comm_filter _ _ st.datatypes (by rw [e1, e2]; exact hne) duid⟩
    show ((st.operations ++ r1.2) ++ r2.2).filter _ = ((st.operations ++ r2.2) ++ r1.2).filter _
    simp only [List.filter_append, List.append_assoc]
    congr 1
    -- the operations of at most one of the two commits carry `duid`
    by_cases hu : duid = u1
    · have : r2.2.filter (fun o => decide (o.duid = duid)) = [] :=
        List.filter_eq_nil_iff.2 fun o ho => by simp only [decide_eq_true_eq, hnd2 o ho, hu]; exact hne.symm
      rw [this]; simp
    · have : r1.2.filter (fun o => decide (o.duid = duid)) = [] :=
        List.filter_eq_nil_iff.2 fun o ho => by simp only [decide_eq_true_eq, hnd1 o ho]; exact Ne.symm hu
      rw [this]; simp

end Orda.SrvLock.Commit

namespace Orda
open SrvLock.Commit in
/-- C12: requests for DIFFERENT datatypes neither block nor affect each other — two packs whose responses
    name different datatype ids commute: per datatype id, the stored operations and the datatype document
    are the same whichever of the two is handled first -/
theorem different_datatypes_commute (st : Store) (cl1 cl2 : ClientDoc) (col1 col2 : CollectionDoc) (p1 p2 : Pack)
    (hd : DuidUnique st)
    (hne : (processPack st cl1 col1 p1).resp.duid ≠ (processPack st cl2 col2 p2).resp.duid)
    (hk : (col1.num, p1.key) ≠ (col2.num, p2.key)) :
    let a := (processPack (processPack st cl1 col1 p1).store cl2 col2 p2).store
    let b := (processPack (processPack st cl2 col2 p2).store cl1 col1 p1).store
    (∀ duid, a.operations.filter (fun o => o.duid = duid) = b.operations.filter (fun o => o.duid = duid)) ∧
    (∀ duid, a.datatypes.filter (fun d => d.duid = duid) = b.datatypes.filter (fun d => d.duid = duid)) ∧
    a.clients = b.clients ∧ a.collections = b.collections := by
  intro a b
  rw [(processPack_eq_applyCommit st cl1 col1 p1).2, (processPack_eq_applyCommit st cl2 col2 p2).2] at hne
  have ha : a = applyCommit (applyCommit st (commitOf st cl1 col1 p1)) (commitOf st cl2 col2 p2) := by
    show (processPack (processPack st cl1 col1 p1).store cl2 col2 p2).store = _
    rw [(processPack_eq_applyCommit _ cl2 col2 p2).1, (processPack_eq_applyCommit st cl1 col1 p1).1, commit_stable st cl1 cl2 col1 col2 p1 p2 hd hne hk]
  have hb : b = applyCommit (applyCommit st (commitOf st cl2 col2 p2)) (commitOf st cl1 col1 p1) := by
    show (processPack (processPack st cl2 col2 p2).store cl1 col1 p1).store = _
    rw [(processPack_eq_applyCommit _ cl1 col1 p1).1, (processPack_eq_applyCommit st cl2 col2 p2).1,
      commit_stable st cl2 cl1 col2 col1 p2 p1 hd (Ne.symm hne) (Ne.symm hk)]
  rw [ha, hb]
  have hc := applyCommit_comm st (fun _ h => commitOf_duid h) (fun _ h => commitOf_duid h) hne
  exact ⟨fun u => (hc u).1, fun u => (hc u).2,
    by rw [(applyCommit_frame _ _).1, (applyCommit_frame _ _).1, (applyCommit_frame _ _).1, (applyCommit_frame _ _).1],
    by rw [(applyCommit_frame _ _).2, (applyCommit_frame _ _).2, (applyCommit_frame _ _).2, (applyCommit_frame _ _).2]⟩
end Orda

