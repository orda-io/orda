/-
The bookkeeping of a replica around ONE server log, shared by the systems `LNet`, `MNet`, `DNet` (and their variants
with a creator).  A node has a buffer of issued operations, a clock, a count `pushed` of buffer entries that are in the
log and a count `pulled` of consumed log entries; the ghost sequence `A` lists the log-tagged operations it has applied.
`Book` says how these fit together, whatever the datatype; its step lemmas follow the five ways a node's view changes
(an own call, an own push, a push of another node, the skip of an own log entry, a delivery).  `NetInv` is the invariant of
a whole system (every node has its `Book` and a datatype part `D`), stated over a `View` of the nodes (replica, `pushed`,
`pulled`), since each system has node and net types of its own; `CStep` lists what a step of any of them does, and
`NetInv.step` is the one induction step: a system supplies `Closed` (calls and deliveries keep `D`) and the projection of its
steps onto `CStep`.  `quiesce_by`: pushing everything and then pulling everything ends in a quiescent state, whatever a push and
a pull are (`can_quiesce`: single pushes and pulls; `GTx.can_quiesce`: whole buffers and the whole log).
-/
import Orda.Proofs.ReplicaApi
import Orda.Proofs.ListAux
namespace Orda.NetBook
open Orda Orda.ListAux

theorem sync_cuid (L : OpId) (k : Nat) : (L.syncLamport k).cuid = L.cuid := (syncLamport_fields L k).1
theorem sync_era (L : OpId) (k : Nat) : (L.syncLamport k).era = L.era := (syncLamport_fields L k).2.2.1
theorem sync_lam (L : OpId) (k : Nat) : L.lamport ≤ (L.syncLamport k).lamport ∧ k ≤ (L.syncLamport k).lamport :=
  (syncLamport_fields L k).2.2.2

/-- for the example runs, which have three clients -/
theorem distinct3 {cu : Nat → String} (h01 : cu 0 ≠ cu 1) (h02 : cu 0 ≠ cu 2) (h12 : cu 1 ≠ cu 2) :
    ∀ i j, i < 3 → j < 3 → cu i = cu j → i = j := by
  have key : ∀ i, i < 3 → i = 0 ∨ i = 1 ∨ i = 2 := fun i hi => by omega
  intro i j hi hj h
  obtain rfl | rfl | rfl := key i hi <;> obtain rfl | rfl | rfl := key j hj
  · rfl
  · exact absurd h h01
  · exact absurd h h02
  · exact absurd h.symm h01
  · rfl
  · exact absurd h h12
  · exact absurd h.symm h02
  · exact absurd h.symm h12
  · rfl

/-! ### log entries: (author, wire operation) -/

/-- an entry of the server log: (author, wire operation) -/
abbrev _root_.Orda.LNet.LEnt := Nat × Op
-- under the list system's name: the vocabulary of the transaction systems (`Orda.LTx`, Proofs/TxCore.lean) is written with it

def own (i : Nat) (l : List (Nat × Op)) : List (Nat × Op) := l.filter fun e => e.1 == i
def oth (i : Nat) (l : List (Nat × Op)) : List (Nat × Op) := l.filter fun e => !(e.1 == i)
/-- what identifies an operation: (lamport, client) -/
def lkey (e : Nat × Op) : Nat × String := (e.2.id.lamport, e.2.id.cuid)

variable {i a : Nat} {l l' : List (Nat × Op)} {e : Nat × Op} {o : Op}

theorem mem_own : e ∈ own i l ↔ e ∈ l ∧ e.1 = i := by simp [own]
theorem mem_oth : e ∈ oth i l ↔ e ∈ l ∧ e.1 ≠ i := by simp [oth]
theorem own_append (i : Nat) (l l' : List (Nat × Op)) : own i (l ++ l') = own i l ++ own i l' := List.filter_append ..
theorem oth_append (i : Nat) (l l' : List (Nat × Op)) : oth i (l ++ l') = oth i l ++ oth i l' := List.filter_append ..
theorem own_cons_self (i : Nat) (o : Op) (l : List (Nat × Op)) : own i ((i, o) :: l) = (i, o) :: own i l := by
  simp [own]
theorem own_single_self (i : Nat) (o : Op) : own i [(i, o)] = [(i, o)] := by simp [own]
theorem oth_single_self (i : Nat) (o : Op) : oth i [(i, o)] = [] := by simp [oth]
theorem own_single_ne (h : a ≠ i) (o : Op) : own i [(a, o)] = [] := by simp [own, h]
theorem oth_single_ne (h : a ≠ i) (o : Op) : oth i [(a, o)] = [(a, o)] := by simp [oth, h]

theorem mem_own_map {b : List Op} (h : own i l = b.map (fun o => (i, o))) : (i, o) ∈ l ↔ o ∈ b := by
  have : (i, o) ∈ own i l ↔ o ∈ b := by
    rw [h, List.mem_map]
    exact ⟨fun ⟨o', h1, h2⟩ => (Prod.mk.inj h2).2 ▸ h1, fun h1 => ⟨o, h1, rfl⟩⟩
  rw [← this, mem_own]
  exact ⟨fun h1 => ⟨h1, rfl⟩, fun h1 => h1.1⟩

theorem caught_up_of_own {buffer : List Op} {pushed pulled : Nat}
    (h : own i l = (buffer.take pushed).map (fun o => (i, o))) (q1 : pushed = buffer.length) (q2 : pulled = l.length) :
    (buffer ++ (oth i (l.take pulled)).map (·.2)).Perm (l.map (·.2)) := by
  subst q1 q2
  have hp := (List.filter_append_perm (fun e => e.1 == i) l).map (·.2)
  rw [List.take_length]
  rwa [show l.filter (fun e => e.1 == i) = _ from h, List.take_length, List.map_append, map_snd_pair] at hp

theorem nodup_of_keys (h : l.Pairwise (fun e e' => lkey e ≠ lkey e')) : l.Nodup :=
  List.nodup_iff_pairwise_ne.mpr (h.imp (fun hk e0 => hk (by rw [e0])))

theorem head_unique {log : List (Nat × Op)} {s : Nat × Op} {k : Nat}
    (hkeys : log.Pairwise (fun e e' => lkey e ≠ lkey e')) (hhead : ∀ e, log[0]? = some e → e = s)
    (h : log[k]? = some s) : k = 0 := by
  have hk := (List.getElem?_eq_some_iff.mp h).1
  have h0 : 0 < log.length := Nat.zero_lt_of_lt hk
  refine (List.getElem?_inj hk (nodup_of_keys hkeys)).mp ?_
  rw [h, List.getElem?_eq_getElem h0, hhead _ (List.getElem?_eq_getElem h0)]

/-! ### the bookkeeping invariant of one node -/

/-- node `i` (client identifier `c`) has the buffer `buffer` and the clock `opId`; `pushed` entries of the buffer are in
    `log`, it has consumed `pulled` entries of `log`; `A` is the sequence of log-tagged operations it has applied; `P` is
    what the system knows about every operation -/
structure Book (P : Nat × Op → Prop) (c : String) (log : List (Nat × Op)) (i : Nat) (buffer : List Op) (opId : OpId)
    (pushed pulled : Nat) (A : List (Nat × Op)) : Prop where
  pushed_le : pushed ≤ buffer.length
  pulled_le : pulled ≤ log.length
  own_eq : own i A = buffer.map (fun o => (i, o))
  oth_eq : oth i A = oth i (log.take pulled)
  log_own : own i log = (buffer.take pushed).map (fun o => (i, o))
  clock_cuid : opId.cuid = c
  lam_le : ∀ e ∈ A, e.2.id.lamport ≤ opId.lamport
  ent_ok : ∀ e ∈ A, P e
  buf_sorted : buffer.Pairwise (fun o o' => o.id.lamport < o'.id.lamport)
  keys : A.Pairwise (fun e e' => lkey e ≠ lkey e')
  /-- CAUSALITY: what node `i` had applied when it issued `o` is in the log before `o` -/
  causal : ∀ Pre o S, A = Pre ++ (i, o) :: S → ∀ k, log[k]? = some (i, o) → ∀ e ∈ Pre, e ∈ log.take k

namespace Book
variable {P : Nat × Op → Prop} {c : String} {log : List (Nat × Op)} {buffer : List Op} {opId : OpId}
  {pushed pulled : Nat} {A : List (Nat × Op)}

theorem init (h : opId.cuid = c) : Book P c [] i [] opId 0 0 [] where
  pushed_le := Nat.le_refl _
  pulled_le := Nat.le_refl _
  own_eq := rfl
  oth_eq := rfl
  log_own := rfl
  clock_cuid := h
  lam_le := fun _ he => nomatch he
  ent_ok := fun _ he => nomatch he
  buf_sorted := .nil
  keys := .nil
  causal := fun Pre o S h => absurd h (by simp)

theorem mem_buf_iff (B : Book P c log i buffer opId pushed pulled A) : (i, o) ∈ A ↔ o ∈ buffer := mem_own_map B.own_eq

theorem log_take (B : Book P c log i buffer opId pushed pulled A) (h : (i, o) ∈ log) : o ∈ buffer.take pushed :=
  (mem_own_map B.log_own).mp h

theorem mem_of_log (B : Book P c log i buffer opId pushed pulled A) (h : e ∈ log.take pulled) : e ∈ A := by
  by_cases he : e.1 = i
  · obtain ⟨a, o⟩ := e
    subst he
    exact B.mem_buf_iff.mpr (List.mem_of_mem_take (B.log_take (List.mem_of_mem_take h)))
  · have : e ∈ oth i A := by rw [B.oth_eq]; exact mem_oth.mpr ⟨h, he⟩
    exact (mem_oth.mp this).1

theorem buf_lam (B : Book P c log i buffer opId pushed pulled A) (h : o ∈ buffer) : o.id.lamport ≤ opId.lamport :=
  B.lam_le _ (B.mem_buf_iff.mpr h)

theorem log_lt (B : Book P c log i buffer opId pushed pulled A) (ho : buffer[pushed]? = some o) {oe : Op}
    (h : (i, oe) ∈ log) : oe.id.lamport < o.id.lamport := by
  obtain ⟨hp, hpo⟩ := List.getElem?_eq_some_iff.mp ho
  obtain ⟨q, hq, hqe⟩ := List.mem_take_iff_getElem.mp (B.log_take h)
  have := List.pairwise_iff_getElem.mp B.buf_sorted q pushed (by omega) hp (by omega)
  rwa [hqe, hpo] at this

theorem oth_idx (B : Book P c log i buffer opId pushed pulled A) (he : e ∈ A) (hne : e.1 ≠ i) :
    ∃ k, ∃ h : k < log.length, k < pulled ∧ log[k] = e := by
  have h1 : e ∈ oth i A := mem_oth.mpr ⟨he, hne⟩
  rw [B.oth_eq] at h1
  obtain ⟨k, hk, hek⟩ := List.mem_take_iff_getElem.mp (mem_oth.mp h1).1
  exact ⟨k, by omega, by omega, hek⟩

/-- the own operations of `i` carry another client identifier, the others it has applied are earlier log entries -/
theorem next_fresh {cuid : Nat → String} {n : Nat} (B : Book P c log i buffer opId pushed pulled A)
    (hP : ∀ e, P e → e.1 < n ∧ e.2.id.cuid = cuid e.1) (hd : ∀ i j, i < n → j < n → cuid i = cuid j → i = j)
    (hlk : log.Pairwise (fun e e' => lkey e ≠ lkey e')) (hl : log[pulled]? = some (a, o)) (ha : a ≠ i)
    (hPa : P (a, o)) : ∀ e ∈ A, lkey e ≠ lkey (a, o) := by
  intro e he e0
  by_cases hei : e.1 = i
  · obtain ⟨h1, h2⟩ := hP e (B.ent_ok e he)
    obtain ⟨h3, h4⟩ := hP _ hPa
    exact ha (hei ▸ hd e.1 a h1 h3 (h2.symm.trans ((Prod.mk.inj e0).2.trans h4))).symm
  · obtain ⟨k, hk, hkp, hek⟩ := B.oth_idx he hei
    obtain ⟨hp, hpe⟩ := List.getElem?_eq_some_iff.mp hl
    have := List.pairwise_iff_getElem.mp hlk k pulled hk hp hkp
    rw [hek, hpe] at this
    exact this e0

/-- the bookkeeping of a delivery: node `j` is about to consume the log entry `(a, o)` of another node `a`.  The author
    has applied it (`Aa = Pre ++ (a, o) :: S`); by CAUSALITY what the author had applied before (`Pre`) sits earlier in
    the log, and `j` has consumed that part, so `j` has applied `Pre`; `(a, o)` is new to `j` -/
theorem deliver_core {cuid : Nat → String} {n : Nat} {ca : String} {bufa : List Op} {La : OpId} {pua pla : Nat}
    {Aa : List (Nat × Op)} (Bj : Book P c log i buffer opId pushed pulled A) (Ba : Book P ca log a bufa La pua pla Aa)
    (hP : ∀ e, P e → e.1 < n ∧ e.2.id.cuid = cuid e.1) (hd : ∀ i j, i < n → j < n → cuid i = cuid j → i = j)
    (hlk : log.Pairwise (fun e e' => lkey e ≠ lkey e')) (hl : log[pulled]? = some (a, o)) (ha : a ≠ i) :
    ∃ Pre S, Aa = Pre ++ (a, o) :: S ∧ Pre ⊆ A ∧ (∀ e ∈ A, lkey e ≠ lkey (a, o)) ∧ P (a, o) := by
  have hapa : (a, o) ∈ Aa :=
    Ba.mem_buf_iff.mpr (List.mem_of_mem_take (Ba.log_take (List.mem_of_getElem? hl)))
  have hPa := Ba.ent_ok _ hapa
  obtain ⟨Pre, S, hsplit⟩ := List.append_of_mem hapa
  exact ⟨Pre, S, hsplit, fun e he => Bj.mem_of_log (Ba.causal Pre o S hsplit pulled hl e he),
    Bj.next_fresh hP hd hlk hl ha hPa, hPa⟩

/-- the own entries of `i` in the log are older, the others carry another client identifier -/
theorem push_fresh {cuid : Nat → String} {n : Nat} (B : Book P c log i buffer opId pushed pulled A)
    (hP : ∀ e, P e → e.1 < n ∧ e.2.id.cuid = cuid e.1) (hd : ∀ i j, i < n → j < n → cuid i = cuid j → i = j)
    (hlog : ∀ e ∈ log, e.1 < n ∧ e.2.id.cuid = cuid e.1) (ho : buffer[pushed]? = some o) :
    ∀ e ∈ log, lkey e ≠ lkey (i, o) := by
  intro e he e0
  by_cases hei : e.1 = i
  · obtain ⟨a, oe⟩ := e
    subst hei
    have := B.log_lt ho he
    have : oe.id.lamport = o.id.lamport := (Prod.mk.inj e0).1
    omega
  · obtain ⟨h1, h2⟩ := hlog e he
    obtain ⟨h3, h4⟩ := hP _ (B.ent_ok _ (B.mem_buf_iff.mpr (List.mem_of_getElem? ho)))
    exact hei (hd e.1 i h1 h3 (h2.symm.trans ((Prod.mk.inj e0).2.trans h4)))

theorem first_push {s : Op} (B : Book P c [] i buffer opId pushed pulled A) (fresh : i ≠ 0 → pulled = 0 → A = [])
    (creator : i = 0 → buffer.head? = some s) (ho : buffer[pushed]? = some o) : (i, o) = (0, s) := by
  by_cases h0 : i = 0
  · have h1 : ((buffer.take pushed).map fun o => (i, o)).length = 0 := by rw [← B.log_own]; rfl
    rw [List.length_map, List.length_take, Nat.min_eq_left B.pushed_le] at h1
    rw [h1, ← List.head?_eq_getElem?, creator h0] at ho
    rw [h0, Option.some.inj ho]
  · have := B.mem_buf_iff.mpr (List.mem_of_getElem? ho)
    rw [fresh h0 (Nat.le_zero.mp B.pulled_le)] at this
    cases this

theorem ops_perm (B : Book P c log i buffer opId pushed pulled A) :
    (A.map (·.2)).Perm (buffer ++ (oth i (log.take pulled)).map (·.2)) := by
  have h := ((List.filter_append_perm (fun e => e.1 == i) A).symm).map (·.2)
  rwa [show A.filter (fun e => e.1 == i) = _ from B.own_eq, show A.filter (fun e => !(e.1 == i)) = _ from B.oth_eq,
    List.map_append, map_snd_pair] at h

theorem clock (B : Book P c log i buffer opId pushed pulled A) {opId' : OpId} (h1 : opId'.cuid = opId.cuid)
    (h2 : opId.lamport ≤ opId'.lamport) : Book P c log i buffer opId' pushed pulled A :=
  { B with clock_cuid := h1.trans B.clock_cuid, lam_le := fun e he => Nat.le_trans (B.lam_le e he) h2 }

theorem queue (B : Book P c log i buffer opId pushed pulled A) (hid : o.id = opId.next) (hP : P (i, o)) :
    Book P c log i (buffer ++ [o]) opId.next pushed pulled (A ++ [(i, o)]) := by
  have hlam : o.id.lamport = opId.lamport + 1 := by rw [hid]; rfl
  have hnotlog : (i, o) ∉ log := fun hm => by
    have := B.buf_lam (o := o) (List.mem_of_mem_take (B.log_take hm))
    omega
  exact {
    pushed_le := by rw [List.length_append]; exact Nat.le_add_right_of_le B.pushed_le
    pulled_le := B.pulled_le
    own_eq := by rw [own_append, own_single_self, B.own_eq, List.map_append]; rfl
    oth_eq := by rw [oth_append, oth_single_self, List.append_nil]; exact B.oth_eq
    log_own := by rw [List.take_append_of_le_length B.pushed_le]; exact B.log_own
    clock_cuid := B.clock_cuid
    lam_le := forall_mem_snoc (fun e he => Nat.le_succ_of_le (B.lam_le e he)) (Nat.le_of_eq hlam)
    ent_ok := forall_mem_snoc B.ent_ok hP
    buf_sorted := pairwise_snoc B.buf_sorted fun o' ho' => by
      have := B.buf_lam ho'
      omega
    keys := pairwise_snoc B.keys fun e he e0 => by
      have := B.lam_le e he
      have : e.2.id.lamport = o.id.lamport := (Prod.mk.inj e0).1
      omega
    causal := by
      intro Pre o' S hsplit k hk e he
      rcases snoc_split hsplit with ⟨_, _, h3⟩ | ⟨S', _, h2⟩
      · exact absurd (List.mem_of_getElem? hk) ((Prod.mk.inj h3).2 ▸ hnotlog)
      · exact B.causal Pre o' S' h2 k hk e he }

private theorem causal_snoc (B : Book P c log i buffer opId pushed pulled A) {x : Nat × Op}
    (hx : ∀ Pre o S, A = Pre ++ (i, o) :: S → x = (i, o) → ∀ e ∈ Pre, e ∈ log) :
    ∀ Pre o S, A = Pre ++ (i, o) :: S → ∀ k, (log ++ [x])[k]? = some (i, o) → ∀ e ∈ Pre, e ∈ (log ++ [x]).take k := by
  intro Pre o' S hsplit k hk e he
  rcases getElem?_snoc hk with ⟨hlt, hk'⟩ | ⟨rfl, hlast⟩
  · rw [List.take_append_of_le_length (Nat.le_of_lt hlt)]
    exact B.causal Pre o' S hsplit k hk' e he
  · rw [List.take_append_of_le_length (Nat.le_refl _), List.take_length]
    exact hx Pre o' S hsplit hlast.symm e he

/-- CAUSALITY for the entry node `i` pushes: an applied operation of another author is a
    consumed log entry; an own one that precedes `o` in `A` precedes it in the buffer (own entries are in lamport
    order), so it has been pushed -/
theorem push_self (B : Book P c log i buffer opId pushed pulled A) (ho : buffer[pushed]? = some o) :
    Book P c (log ++ [(i, o)]) i buffer opId (pushed + 1) pulled A := by
  obtain ⟨hp, hpo⟩ := List.getElem?_eq_some_iff.mp ho
  exact {
    pushed_le := hp
    pulled_le := by rw [List.length_append]; exact Nat.le_add_right_of_le B.pulled_le
    own_eq := B.own_eq
    oth_eq := by rw [List.take_append_of_le_length B.pulled_le]; exact B.oth_eq
    log_own := by
      rw [own_append, own_single_self, B.log_own, ← List.take_append_getElem hp, hpo, List.map_append]; rfl
    clock_cuid := B.clock_cuid
    lam_le := B.lam_le
    ent_ok := B.ent_ok
    buf_sorted := B.buf_sorted
    keys := B.keys
    causal := B.causal_snoc fun Pre o' S hsplit hx e he => by
      obtain rfl : o = o' := (Prod.mk.inj hx).2
      have heA : e ∈ A := by rw [hsplit]; exact List.mem_append_left _ he
      by_cases hei : e.1 = i
      · obtain ⟨a, oe⟩ := e
        subst hei
        have hso : (own a A).Pairwise (fun e e' => e.2.id.lamport < e'.2.id.lamport) := by
          rw [B.own_eq, List.pairwise_map]; exact B.buf_sorted
        rw [hsplit, own_append, own_cons_self] at hso
        have hlt : oe.id.lamport < o.id.lamport :=
          (List.pairwise_append.mp hso).2.2 (a, oe) (mem_own.mpr ⟨he, rfl⟩) (a, o) List.mem_cons_self
        obtain ⟨q, hq, hqe⟩ := List.getElem_of_mem (B.mem_buf_iff.mp heA)
        have hqp : q < pushed := by
          apply Classical.byContradiction
          intro hge
          by_cases hqe' : q = pushed
          · subst hqe'
            rw [hpo] at hqe
            subst hqe
            omega
          · have := List.pairwise_iff_getElem.mp B.buf_sorted pushed q hp hq (by omega)
            rw [hpo, hqe] at this
            omega
        exact (mem_own_map B.log_own).mpr (List.mem_take_iff_getElem.mpr ⟨q, by omega, hqe⟩)
      · obtain ⟨k, hk, _, hek⟩ := B.oth_idx heA hei
        exact hek ▸ List.getElem_mem hk }

theorem push_other (B : Book P c log i buffer opId pushed pulled A) (ha : a ≠ i) (o : Op) :
    Book P c (log ++ [(a, o)]) i buffer opId pushed pulled A where
  pushed_le := B.pushed_le
  pulled_le := by rw [List.length_append]; exact Nat.le_add_right_of_le B.pulled_le
  own_eq := B.own_eq
  oth_eq := by rw [List.take_append_of_le_length B.pulled_le]; exact B.oth_eq
  log_own := by rw [own_append, own_single_ne ha, List.append_nil]; exact B.log_own
  clock_cuid := B.clock_cuid
  lam_le := B.lam_le
  ent_ok := B.ent_ok
  buf_sorted := B.buf_sorted
  keys := B.keys
  causal := B.causal_snoc fun _ _ _ _ hx => absurd (Prod.mk.inj hx).1 ha

theorem pull_own (B : Book P c log i buffer opId pushed pulled A) (hl : log[pulled]? = some (i, o)) :
    Book P c log i buffer opId pushed (pulled + 1) A := by
  obtain ⟨hp, hpo⟩ := List.getElem?_eq_some_iff.mp hl
  exact { B with
    pulled_le := hp
    oth_eq := by
      rw [← List.take_append_getElem hp, hpo, oth_append, oth_single_self, List.append_nil]; exact B.oth_eq }

theorem pull_other (B : Book P c log i buffer opId pushed pulled A) (hl : log[pulled]? = some (a, o)) (ha : a ≠ i)
    (hk : ∀ e ∈ A, lkey e ≠ lkey (a, o)) (hP : P (a, o)) :
    Book P c log i buffer (opId.syncLamport o.id.lamport) pushed (pulled + 1) (A ++ [(a, o)]) := by
  obtain ⟨hp, hpo⟩ := List.getElem?_eq_some_iff.mp hl
  have hs := sync_lam opId o.id.lamport
  exact {
    pushed_le := B.pushed_le
    pulled_le := hp
    own_eq := by rw [own_append, own_single_ne ha, List.append_nil]; exact B.own_eq
    oth_eq := by rw [← List.take_append_getElem hp, hpo, oth_append, oth_append, B.oth_eq]
    log_own := B.log_own
    clock_cuid := (sync_cuid _ _).trans B.clock_cuid
    lam_le := forall_mem_snoc (fun e he => Nat.le_trans (B.lam_le e he) hs.1) hs.2
    ent_ok := forall_mem_snoc B.ent_ok hP
    buf_sorted := B.buf_sorted
    keys := pairwise_snoc B.keys hk
    causal := by
      intro Pre o' S hsplit k hk e he
      rcases snoc_split hsplit with ⟨_, _, h3⟩ | ⟨S', _, h2⟩
      · exact absurd (Prod.mk.inj h3).1.symm ha
      · exact B.causal Pre o' S' h2 k hk e he }

end Book

/-! ### the whole net: nodes of any type `α` with a replica and two counters, around one log -/

/-- what the datatype of a system adds to `Book`: `D i r pulled A` (the state of replica `r` of node `i` is what the
    datatype makes of the ghost sequence `A`, …) is kept by the two steps that touch a replica, a call (allowed by the
    guard `G i pulled c`) and a delivery; `skip`: it does not mind `pulled` growing; `first`: what can be pushed into the
    empty log satisfies `H` (what the system knows about the head of the log); `P`: what the system knows about every
    operation (`Book.ent_ok`), by `auth` at least its author and that it carries the author's client identifier -/
structure Closed (P : Nat × Op → Prop) (D : Nat → Replica → Nat → List (Nat × Op) → Prop) (H : Nat × Op → Prop)
    (G : Nat → Nat → Call → Prop) (cuid : Nat → String) (n : Nat) : Prop where
  auth : ∀ e, P e → e.1 < n ∧ e.2.id.cuid = cuid e.1
  call : ∀ {log : List (Nat × Op)} {i : Nat} {r : Replica} {pu pl : Nat} {A : List (Nat × Op)} {c : Call}, D i r pl A →
    Book P (cuid i) log i r.buffer r.opId pu pl A → i < n → G i pl c →
    (D i (r.call c).1 pl A ∧ Book P (cuid i) log i (r.call c).1.buffer (r.call c).1.opId pu pl A) ∨
    ∃ o, D i (r.call c).1 pl (A ++ [(i, o)]) ∧
      Book P (cuid i) log i (r.call c).1.buffer (r.call c).1.opId pu pl (A ++ [(i, o)])
  skip : ∀ {i : Nat} {r : Replica} {pl : Nat} {A : List (Nat × Op)}, D i r pl A → D i r (pl + 1) A
  /-- node `j` consumes the entry `(a, o)` of another node: the bookkeeping of `Book.deliver_core` is given -/
  deliver : ∀ {log : List (Nat × Op)} {j a : Nat} {r ra : Replica} {pu pl pua pla : Nat} {A Aa Pre S : List (Nat × Op)}
    {o : Op}, D j r pl A → Book P (cuid j) log j r.buffer r.opId pu pl A → D a ra pla Aa →
    Book P (cuid a) log a ra.buffer ra.opId pua pla Aa → log.Pairwise (fun e e' => lkey e ≠ lkey e') →
    (∀ e, log[0]? = some e → H e) → log[pl]? = some (a, o) → a ≠ j → Aa = Pre ++ (a, o) :: S → Pre ⊆ A →
    (∀ e ∈ A, lkey e ≠ lkey (a, o)) → P (a, o) → D j (r.execRemoteBase o).1 (pl + 1) (A ++ [(a, o)])
  first : ∀ {i : Nat} {r : Replica} {pu pl : Nat} {A : List (Nat × Op)} {o : Op}, D i r pl A →
    Book P (cuid i) [] i r.buffer r.opId pu pl A → r.buffer[pu]? = some o → H (i, o)

/-- the ghost sequences `ap` (one per node: the log-tagged operations it has applied, in order) with that of node `i` replaced -/
def upd (ap : Nat → List (Nat × Op)) (i : Nat) (A : List (Nat × Op)) : Nat → List (Nat × Op) :=
  fun j => if j = i then A else ap j
theorem upd_self (ap : Nat → List (Nat × Op)) (i : Nat) (A : List (Nat × Op)) : upd ap i A i = A := if_pos rfl
theorem upd_of_ne {ap : Nat → List (Nat × Op)} {i j : Nat} (h : j ≠ i) (A : List (Nat × Op)) : upd ap i A j = ap j :=
  if_neg h

/-- a step appends at most one entry to every ghost sequence: what `NetInv.step` gives beside the invariant, for the
    systems whose theorems speak of the order of application (ListNet, DocNet) -/
def Grows (ap ap' : Nat → List (Nat × Op)) : Prop := ∀ j, ap' j = ap j ∨ ∃ e, ap' j = ap j ++ [e]

theorem grows_refl (ap : Nat → List (Nat × Op)) : Grows ap ap := fun _ => .inl rfl

theorem grows_upd (ap : Nat → List (Nat × Op)) (i : Nat) {A : List (Nat × Op)} (h : A = ap i ∨ ∃ e, A = ap i ++ [e]) :
    Grows ap (upd ap i A) := fun j => by
  by_cases hj : j = i
  · rw [hj, upd_self]; exact h
  · rw [upd_of_ne hj]; exact .inl rfl

/-- how a node type `α` carries a replica and the two counters (for the three `Node` structures every law is `rfl`) -/
structure View (α : Type) where
  r : α → Replica
  pu : α → Nat
  pl : α → Nat
  node : Replica → Nat → Nat → α
  r_node : ∀ x a b, r (node x a b) = x
  pu_node : ∀ x a b, pu (node x a b) = a
  pl_node : ∀ x a b, pl (node x a b) = b
  eta : ∀ nd, node (r nd) (pu nd) (pl nd) = nd

section Net
variable {α : Type} (V : View α)

/-- what a step of a system does to its nodes and its log.  `LNet`, `MNet`, `DNet` and the systems with a creator have
    node and net types of their own; every step of each of them is one of these three -/
inductive CStep (G : Nat → Nat → Call → Prop) : List α → List (Nat × Op) → List α → List (Nat × Op) → Prop
  | call {nodes : List α} {log : List (Nat × Op)} (i : Nat) (nd : α) (c : Call) (hi : nodes[i]? = some nd)
      (hg : G i (V.pl nd) c) : CStep G nodes log (nodes.set i (V.node ((V.r nd).call c).1 (V.pu nd) (V.pl nd))) log
  | push {nodes : List α} {log : List (Nat × Op)} (i : Nat) (nd : α) (o : Op) (hi : nodes[i]? = some nd)
      (ho : (V.r nd).buffer[V.pu nd]? = some o) :
      CStep G nodes log (nodes.set i (V.node (V.r nd) (V.pu nd + 1) (V.pl nd))) (log ++ [(i, o)])
  | pull {nodes : List α} {log : List (Nat × Op)} (i : Nat) (nd : α) (a : Nat) (o : Op) (hi : nodes[i]? = some nd)
      (hl : log[V.pl nd]? = some (a, o)) : CStep G nodes log
        (nodes.set i (V.node (if a = i then V.r nd else ((V.r nd).execRemoteBase o).1) (V.pu nd) (V.pl nd + 1))) log

/-- the invariant of a system with the ghost sequences `ap`: every node has its datatype part `D` and its `Book`, both over
    `ap i`; the log's authors are nodes, its keys distinct, its head has `H` -/
structure NetInv (P : Nat × Op → Prop) (D : Nat → Replica → Nat → List (Nat × Op) → Prop) (H : Nat × Op → Prop)
    (cuid : Nat → String) (n : Nat) (nodes : List α) (log : List (Nat × Op)) (ap : Nat → List (Nat × Op)) : Prop where
  distinct : ∀ i j, i < n → j < n → cuid i = cuid j → i = j
  len : nodes.length = n
  node : ∀ i nd, nodes[i]? = some nd →
    D i (V.r nd) (V.pl nd) (ap i) ∧ Book P (cuid i) log i (V.r nd).buffer (V.r nd).opId (V.pu nd) (V.pl nd) (ap i)
  log_auth : ∀ e ∈ log, e.1 < n
  log_keys : log.Pairwise (fun e e' => lkey e ≠ lkey e')
  log_head : ∀ e, log[0]? = some e → H e

namespace NetInv
variable {V} {P : Nat × Op → Prop} {D : Nat → Replica → Nat → List (Nat × Op) → Prop} {H : Nat × Op → Prop}
  {G : Nat → Nat → Call → Prop} {cuid : Nat → String} {n : Nat} {nodes : List α} {log : List (Nat × Op)}
  {ap : Nat → List (Nat × Op)}

theorem init {f : Nat → α} (hd : ∀ i j, i < n → j < n → cuid i = cuid j → i = j)
    (h : ∀ i, i < n → D i (V.r (f i)) (V.pl (f i)) (ap i) ∧
      Book P (cuid i) [] i (V.r (f i)).buffer (V.r (f i)).opId (V.pu (f i)) (V.pl (f i)) (ap i)) :
    NetInv V P D H cuid n ((List.range n).map f) [] ap := by
  refine ⟨hd, (List.length_map _).trans List.length_range, ?_, (fun _ h => nomatch h), .nil, (fun _ h => nomatch h)⟩
  intro i nd hi
  obtain ⟨rfl, hlt⟩ := range_map_node hi
  exact h i hlt

theorem lt_of_node (I : NetInv V P D H cuid n nodes log ap) {i : Nat} {nd : α} (hi : nodes[i]? = some nd) :
    i < n :=
  I.len ▸ (List.getElem?_eq_some_iff.mp hi).1

theorem log_mem (I : NetInv V P D H cuid n nodes log ap) {e : Nat × Op} (h : e ∈ log) :
    ∃ nd, nodes[e.1]? = some nd ∧ e.2 ∈ (V.r nd).buffer.take (V.pu nd) ∧ e ∈ ap e.1 ∧ P e := by
  have hlt : e.1 < nodes.length := I.len ▸ I.log_auth e h
  have B := (I.node e.1 _ (List.getElem?_eq_getElem hlt)).2
  have h1 := B.log_take (o := e.2) h
  have h2 := B.mem_buf_iff.mpr (List.mem_of_mem_take h1)
  exact ⟨_, List.getElem?_eq_getElem hlt, h1, h2, B.ent_ok e h2⟩

theorem log_entry {s : Nat × Op} (I : NetInv V P D (· = s) cuid n nodes log ap) {k : Nat} {e : Nat × Op}
    (h : log[k]? = some e) : P e ∧ (e = s ↔ k = 0) :=
  have ⟨_, _, _, _, hP⟩ := I.log_mem (List.mem_of_getElem? h)
  ⟨hP, fun hs => head_unique I.log_keys I.log_head (hs ▸ h), fun hk => I.log_head e (hk ▸ h)⟩

theorem deliver_core (I : NetInv V P D H cuid n nodes log ap)
    (auth : ∀ e, P e → e.1 < n ∧ e.2.id.cuid = cuid e.1) {j a : Nat} {nd : α} {o : Op} (hj : nodes[j]? = some nd)
    (hl : log[V.pl nd]? = some (a, o)) (ha : a ≠ j) :
    ∃ nda Pre S, nodes[a]? = some nda ∧ ap a = Pre ++ (a, o) :: S ∧ Pre ⊆ ap j ∧
      (∀ e ∈ ap j, lkey e ≠ lkey (a, o)) ∧ P (a, o) := by
  obtain ⟨nda, hna, _⟩ := I.log_mem (List.mem_of_getElem? hl)
  obtain ⟨Pre, S, h⟩ := (I.node j nd hj).2.deliver_core (I.node a nda hna).2 auth I.distinct I.log_keys hl ha
  exact ⟨nda, Pre, S, hna, h⟩

theorem replace (I : NetInv V P D H cuid n nodes log ap) {i : Nat} {r : Replica} {pu pl : Nat} {A' : List (Nat × Op)}
    (h : D i r pl A' ∧ Book P (cuid i) log i r.buffer r.opId pu pl A') :
    NetInv V P D H cuid n (nodes.set i (V.node r pu pl)) log (upd ap i A') := by
  refine ⟨I.distinct, List.length_set.trans I.len, ?_, I.log_auth, I.log_keys, I.log_head⟩
  refine forall_set (by rw [upd_self, V.r_node, V.pu_node, V.pl_node]; exact h) fun j nd'' hne hj => ?_
  rw [upd_of_ne hne]; exact I.node j nd'' hj

theorem call (C : Closed P D H G cuid n) (I : NetInv V P D H cuid n nodes log ap) {i : Nat} {nd : α}
    {c : Call} (hi : nodes[i]? = some nd) (hg : G i (V.pl nd) c) :
    ∃ ap', NetInv V P D H cuid n (nodes.set i (V.node ((V.r nd).call c).1 (V.pu nd) (V.pl nd))) log ap' ∧ Grows ap ap' := by
  rcases C.call (I.node i nd hi).1 (I.node i nd hi).2 (I.lt_of_node hi) hg with h | ⟨o, h⟩
  · exact ⟨_, I.replace h, grows_upd ap i (.inl rfl)⟩
  · exact ⟨_, I.replace h, grows_upd ap i (.inr ⟨_, rfl⟩)⟩

theorem push (C : Closed P D H G cuid n) (I : NetInv V P D H cuid n nodes log ap) {i : Nat} {nd : α}
    {o : Op} (hi : nodes[i]? = some nd) (ho : (V.r nd).buffer[V.pu nd]? = some o) :
    NetInv V P D H cuid n (nodes.set i (V.node (V.r nd) (V.pu nd + 1) (V.pl nd))) (log ++ [(i, o)]) ap := by
  obtain ⟨hD, hB⟩ := I.node i nd hi
  refine ⟨I.distinct, List.length_set.trans I.len, ?_, forall_mem_snoc I.log_auth (I.lt_of_node hi), ?_, ?_⟩
  · refine forall_set (by rw [V.r_node, V.pu_node, V.pl_node]; exact ⟨hD, hB.push_self ho⟩) fun j nd'' hne hj => ?_
    exact ⟨(I.node j nd'' hj).1, (I.node j nd'' hj).2.push_other (Ne.symm hne) o⟩
  · refine pairwise_snoc I.log_keys (hB.push_fresh C.auth I.distinct (fun e he => ?_) ho)
    obtain ⟨_, _, _, _, hP⟩ := I.log_mem he
    exact C.auth e hP
  · intro e he
    rcases getElem?_snoc he with ⟨_, h⟩ | ⟨h0, rfl⟩
    · exact I.log_head e h
    · obtain rfl := List.length_eq_zero_iff.mp h0.symm
      exact C.first hD hB ho

theorem pull (C : Closed P D H G cuid n) (I : NetInv V P D H cuid n nodes log ap) {i a : Nat} {nd : α}
    {o : Op} (hi : nodes[i]? = some nd) (hl : log[V.pl nd]? = some (a, o)) :
    ∃ ap', NetInv V P D H cuid n
      (nodes.set i (V.node (if a = i then V.r nd else ((V.r nd).execRemoteBase o).1) (V.pu nd) (V.pl nd + 1))) log ap' ∧
      Grows ap ap' := by
  obtain ⟨hD, hB⟩ := I.node i nd hi
  by_cases ha : a = i
  · rw [if_pos ha]
    rw [ha] at hl
    refine ⟨ap, ⟨I.distinct, List.length_set.trans I.len, ?_, I.log_auth, I.log_keys, I.log_head⟩, grows_refl ap⟩
    exact forall_set (by rw [V.r_node, V.pu_node, V.pl_node]; exact ⟨C.skip hD, hB.pull_own hl⟩)
      fun j nd'' _ hj => I.node j nd'' hj
  · rw [if_neg ha]
    obtain ⟨nda, Pre, S, hna, hsplit, hsub, hk, hP⟩ := I.deliver_core C.auth hi hl ha
    have B := hB.pull_other hl ha hk hP
    rw [← execRemoteBase_opId (V.r nd) o, ← execRemoteBase_buffer (V.r nd) o] at B
    have hD' := C.deliver hD hB (I.node a nda hna).1 (I.node a nda hna).2 I.log_keys I.log_head hl ha hsplit hsub hk hP
    exact ⟨_, I.replace ⟨hD', B⟩, grows_upd ap i (.inr ⟨_, rfl⟩)⟩

theorem step (C : Closed P D H G cuid n) (I : NetInv V P D H cuid n nodes log ap) {nodes' : List α}
    {log' : List (Nat × Op)} (h : CStep V G nodes log nodes' log') :
    ∃ ap', NetInv V P D H cuid n nodes' log' ap' ∧ Grows ap ap' := by
  cases h with
  | call i nd c hi hg => exact I.call C hi hg
  | push i nd o hi ho => exact ⟨ap, I.push C hi ho, grows_refl ap⟩
  | pull i nd a o hi hl => exact I.pull C hi hl

theorem caught_up_perm (I : NetInv V P D H cuid n nodes log ap) {i j : Nat} {ni nj : α}
    (hi : nodes[i]? = some ni) (hj : nodes[j]? = some nj) (pi : V.pu ni = (V.r ni).buffer.length)
    (li : V.pl ni = log.length) (pj : V.pu nj = (V.r nj).buffer.length) (lj : V.pl nj = log.length) :
    ((V.r ni).buffer ++ (oth i (log.take (V.pl ni))).map (·.2)).Perm
      ((V.r nj).buffer ++ (oth j (log.take (V.pl nj))).map (·.2)) :=
  (caught_up_of_own (I.node i ni hi).2.log_own pi li).trans (caught_up_of_own (I.node j nj hj).2.log_own pj lj).symm

end NetInv

/-- push everything, then pull everything, for any way of pushing and pulling: `dpu nd` measures what node `nd` has not
    pushed, `dpl L nd` what it has not consumed of a log of length `L`; a pull keeps the log and `dpu` -/
theorem quiesce_by {R Rs : List α × List (Nat × Op) → List α × List (Nat × Op) → Prop} (refl : ∀ a, Rs a a)
    (tail : ∀ {a b c}, Rs a b → R b c → Rs a c) {P : List α × List (Nat × Op) → Prop} (keep : ∀ {a b}, P a → R a b → P b)
    (dpu : α → Nat) (dpl : Nat → α → Nat)
    (push : ∀ {s : List α × List (Nat × Op)} {i : Nat} {nd : α}, P s → s.1[i]? = some nd → dpu nd ≠ 0 →
      ∃ nd' lg', R s (s.1.set i nd', lg') ∧ dpu nd' < dpu nd)
    (pull : ∀ {s : List α × List (Nat × Op)} {i : Nat} {nd : α}, P s → s.1[i]? = some nd → dpl s.2.length nd ≠ 0 →
      ∃ nd', R s (s.1.set i nd', s.2) ∧ dpl s.2.length nd' < dpl s.2.length nd ∧ dpu nd' = dpu nd)
    {s : List α × List (Nat × Op)} (hs : P s) :
    ∃ s', Rs s s' ∧ P s' ∧ ∀ nd ∈ s'.1, dpu nd = 0 ∧ dpl s'.2.length nd = 0 := by
  have pick : ∀ {t : List α × List (Nat × Op)} {f : α → Nat}, ¬ (∀ nd ∈ t.1, f nd = 0) →
      ∃ i nd, t.1[i]? = some nd ∧ f nd ≠ 0 := fun hn =>
    have ⟨nd, h⟩ := Classical.not_forall.mp hn
    have ⟨hnd, hne⟩ := Classical.not_imp.mp h
    have ⟨i, hi⟩ := List.mem_iff_getElem?.mp hnd
    ⟨i, nd, hi, hne⟩
  obtain ⟨s1, h1, hp1, hq1⟩ := descend (P := P) (Q := fun t => P t ∧ ∀ nd ∈ t.1, dpu nd = 0)
    (fun t => (t.1.map dpu).sum) @tail
    (fun t ht hn => by
      obtain ⟨i, nd, hi, hne⟩ := pick (f := dpu) fun h => hn ⟨ht, h⟩
      obtain ⟨nd', lg', hstep, hlt⟩ := push ht hi hne
      exact ⟨_, hstep, keep ht hstep, sum_map_set_lt _ _ i nd _ hi hlt⟩)
    _ s (Nat.le_refl _) (refl s) hs
  obtain ⟨s2, h2, ⟨hp2, hq2⟩, hl2⟩ := descend (P := fun t => P t ∧ ∀ nd ∈ t.1, dpu nd = 0)
    (Q := fun t => (P t ∧ ∀ nd ∈ t.1, dpu nd = 0) ∧ ∀ nd ∈ t.1, dpl t.2.length nd = 0)
    (fun t => (t.1.map (dpl t.2.length)).sum) @tail
    (fun t ht hn => by
      obtain ⟨i, nd, hi, hne⟩ := pick (f := dpl t.2.length) fun h => hn ⟨ht, h⟩
      obtain ⟨nd', hstep, hlt, hsame⟩ := pull ht.1 hi hne
      refine ⟨_, hstep, ⟨keep ht.1 hstep, fun x hx => ?_⟩, sum_map_set_lt _ _ i nd _ hi hlt⟩
      rcases List.mem_or_eq_of_mem_set hx with h' | rfl
      · exact ht.2 x h'
      · exact hsame.trans (ht.2 nd (List.mem_of_getElem? hi)))
    _ s1 (Nat.le_refl _) h1 ⟨hp1, hq1⟩
  exact ⟨s2, h2, hp2, fun nd hnd => ⟨hq2 nd hnd, hl2 nd hnd⟩⟩

/-- `quiesce_by` for single pushes and pulls, a node counting what it has left; `le`: under `P` no counter is ahead -/
theorem can_quiesce {R Rs : List α × List (Nat × Op) → List α × List (Nat × Op) → Prop} (refl : ∀ a, Rs a a)
    (tail : ∀ {a b c}, Rs a b → R b c → Rs a c)
    {P : List α × List (Nat × Op) → Prop} (keep : ∀ {a b}, P a → R a b → P b)
    (le : ∀ {s : List α × List (Nat × Op)} {i : Nat} {nd : α}, P s → s.1[i]? = some nd →
      V.pu nd ≤ (V.r nd).buffer.length ∧ V.pl nd ≤ s.2.length)
    (push : ∀ (ns : List α) (lg : List (Nat × Op)) (i : Nat) (nd : α) (o : Op), ns[i]? = some nd →
      (V.r nd).buffer[V.pu nd]? = some o → R (ns, lg) (ns.set i (V.node (V.r nd) (V.pu nd + 1) (V.pl nd)), lg ++ [(i, o)]))
    (pull : ∀ (ns : List α) (lg : List (Nat × Op)) (i : Nat) (nd : α) (a : Nat) (o : Op), ns[i]? = some nd →
      lg[V.pl nd]? = some (a, o) →
      R (ns, lg) (ns.set i (V.node (if a = i then V.r nd else ((V.r nd).execRemoteBase o).1) (V.pu nd) (V.pl nd + 1)), lg))
    {s : List α × List (Nat × Op)} (hs : P s) :
    ∃ s', Rs s s' ∧ ∀ nd ∈ s'.1, V.pu nd = (V.r nd).buffer.length ∧ V.pl nd = s'.2.length := by
  obtain ⟨s', hr, hp, hq⟩ := quiesce_by refl @tail keep (fun nd => (V.r nd).buffer.length - V.pu nd)
    (fun L nd => L - V.pl nd)
    (fun {t i nd} _ hi hne => by
      have hlt : V.pu nd < (V.r nd).buffer.length := Nat.lt_of_sub_ne_zero hne
      refine ⟨_, _, push t.1 t.2 i nd _ hi (List.getElem?_eq_getElem hlt), ?_⟩
      rw [V.r_node, V.pu_node]
      exact Nat.sub_lt_sub_left hlt (Nat.lt_succ_self _))
    (fun {t i nd} _ hi hne => by
      have hlt : V.pl nd < t.2.length := Nat.lt_of_sub_ne_zero hne
      refine ⟨_, pull t.1 t.2 i nd t.2[V.pl nd].1 t.2[V.pl nd].2 hi (List.getElem?_eq_getElem hlt), ?_, ?_⟩
      · rw [V.pl_node]; exact Nat.sub_lt_sub_left hlt (Nat.lt_succ_self _)
      · rw [V.pu_node, V.r_node]
        split
        · rfl
        · rw [execRemoteBase_buffer])
    hs
  refine ⟨s', hr, fun nd hnd => ?_⟩
  obtain ⟨i, hi⟩ := List.mem_iff_getElem?.mp hnd
  exact ⟨Nat.le_antisymm (le hp hi).1 (Nat.sub_eq_zero_iff_le.mp (hq nd hnd).1),
    Nat.le_antisymm (le hp hi).2 (Nat.sub_eq_zero_iff_le.mp (hq nd hnd).2)⟩

end Net

end Orda.NetBook
