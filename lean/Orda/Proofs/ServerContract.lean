/-
C13 (Create / Subscribe / SubscribeOrCreate contract), C17 (collections and datatypes are isolated),
C18 (every committed push is announced) for the server model `Model/Server`.

The refusals are computed from the equations of `evalCase` and the fact that the guards of `processPack`
pass a refusal of `dispatch` on (`SL.dsp_refuse`); the served subscriptions start from the row `SL.Path.subscribe`
(`SC.subscribe_okR`: `subscribe_gets_log`, and `resubscribe_keeps_record`, the store-level counterpart of
`JStep.serveSub` of Proofs/ProtocolJoin); everything else is read off the case principle `SL.processPack_cases`.

"A pack served for one collection leaves the datatype documents of the other collections untouched" is false
for an arbitrary store (`frame_other_collections_counterexample`); it holds under `DuidUnique st`
(`frame_other_collections_partial`).
-/
import Orda.Proofs.ServerLog
namespace Orda

def isErr (r : PPResult) (code : Nat) : Prop :=
  r.resp.error = true ∧ r.resp.ops = [⟨OpId.nil, .error code⟩] ∧ r.notif = none ∧ r.pushed = 0

namespace SC
open SL

theorem processPack_refused {st : Store} {cl : ClientDoc} {col : CollectionDoc} {p : Pack} {code : Nat}
    (hro : p.readOnly = false) (hd : dsp st cl col p = .refuse code) :
    processPack st cl col p = refuseR st p code := by
  rw [processPack_eq, hd, hro]; rfl


theorem isErr_refuseR (st : Store) (p : Pack) (code : Nat) : isErr (refuseR st p code) code := ⟨rfl, rfl, rfl, rfl⟩

theorem refused_of_dispatch {st : Store} {cl : ClientDoc} {col : CollectionDoc} {p : Pack} {code : Nat}
    (hro : p.readOnly = false)
    (h : dispatch (evalCase st col cl.cuid p).1 p.create p.subscribe (sameDuid p (evalCase st col cl.cuid p).2)
      = .refuse code) : isErr (processPack st cl col p) code ∧ (processPack st cl col p).store = st := by
  rw [processPack_refused hro (dsp_refuse h)]; exact ⟨isErr_refuseR _ _ _, rfl⟩

theorem subscribe_okR {st : Store} {cl : ClientDoc} {col : CollectionDoc} {p : Pack} {d : DatatypeDoc}
    (hs : p.subscribe = true) (hro : p.readOnly = false) (hk : st.getDatatypeByKey col.num p.key = some d)
    (ht : d.typ = p.typ) (hv : d.visible = true) (hor : (d.sub cl.cuid p.readOnly).isSome = false ∨ d.duid ≠ p.duid) :
    processPack st cl col p = okR st cl col p .subscribe d ⟨d.sseqEnd, (cp0 cl p d).cseq⟩ [] := by
  rw [(Path.subscribe hs hk ht hv hor).eq_finish hro, finish, pushRes_rw hro]; rfl
end SC

/-! ## C13 — Create, Subscribe and SubscribeOrCreate honour their contract -/

/-- creating a key that already exists (same or another type, this client not subscribed) is refused
    with "duplicate key" and changes nothing stored -/
theorem create_existing_refused (st : Store) (cl : ClientDoc) (col : CollectionDoc) (p : Pack) (d : DatatypeDoc)
    (hc : p.create = true) (hs : p.subscribe = false) (hro : p.readOnly = false)
    (hk : st.getDatatypeByKey col.num p.key = some d) (hv : d.visible = true)
    (hn : d.sub cl.cuid false = none) :
    isErr (processPack st cl col p) 302 ∧ (processPack st cl col p).store = st := by
  apply SC.refused_of_dispatch hro
  rw [SL.evalCase_byKey (by rw [hc]; rfl) hk, hc, hs, hro, hn, hv]
  by_cases ht : d.typ = p.typ
  · rw [if_pos ht]; cases SL.sameDuid p (some d) <;> rfl
  · rw [if_neg ht]; rfl

/-- subscribing to a key that does not exist is refused and changes nothing stored -/
theorem subscribe_missing_refused (st : Store) (cl : ClientDoc) (col : CollectionDoc) (p : Pack)
    (hc : p.create = false) (hs : p.subscribe = true) (hro : p.readOnly = false)
    (hk : st.getDatatypeByKey col.num p.key = none) :
    (isErr (processPack st cl col p) 304 ∨ isErr (processPack st cl col p) 301) ∧ (processPack st cl col p).store = st := by
  -- nothing under the key: the id is free (304) or in use (301)
  rcases SL.evalCase_cases st col cl.cuid p with ⟨_, _, he⟩ | ⟨x, _, _, _, he⟩ | he | ⟨x, _, hk', _⟩
  · have := SC.refused_of_dispatch (code := 304) hro (by rw [he, hc, hs]; rfl)
    exact ⟨.inl this.1, this.2⟩
  · have := SC.refused_of_dispatch (code := 301) hro (by rw [he, hc, hs]; rfl)
    exact ⟨.inr this.1, this.2⟩
  · have := SC.refused_of_dispatch (code := 301) hro (by rw [he, hc, hs]; rfl)
    exact ⟨.inr this.1, this.2⟩
  · rw [hk] at hk'; cases hk'

/-- using a key with a different datatype type is refused (create, subscribe or both) and changes nothing -/
theorem type_mismatch_refused (st : Store) (cl : ClientDoc) (col : CollectionDoc) (p : Pack) (d : DatatypeDoc)
    (hb : p.create = true ∨ p.subscribe = true) (hro : p.readOnly = false)
    (hk : st.getDatatypeByKey col.num p.key = some d) (ht : d.typ ≠ p.typ) :
    (isErr (processPack st cl col p) 302 ∨ isErr (processPack st cl col p) 304) ∧ (processPack st cl col p).store = st := by
  have hb' : (p.create || p.subscribe) = true := by rcases hb with h | h <;> rw [h] <;> simp
  have he := SL.evalCase_byKey (cuid := cl.cuid) hb' hk
  rw [if_neg ht] at he
  cases hc : p.create with
  | true =>
    have := SC.refused_of_dispatch (code := 302) hro (by rw [he, hc]; rfl)
    exact ⟨.inl this.1, this.2⟩
  | false =>
    have hs : p.subscribe = true := by rw [hc] at hb'; exact hb'
    have := SC.refused_of_dispatch (code := 304) hro (by rw [he, hc, hs]; rfl)
    exact ⟨.inr this.1, this.2⟩

/-- at most one datatype per (collection, key) -/
def KeyUnique (st : Store) : Prop :=
  ∀ d1 ∈ st.datatypes, ∀ d2 ∈ st.datatypes, d1.colNum = d2.colNum → d1.key = d2.key → d1.duid = d2.duid

/-- SubscribeOrCreate (and every other request) never yields a second datatype for a key: the
    invariant survives any pack, hence any number of racing requests served one at a time -/
theorem keyUnique_processPack (st : Store) (cl : ClientDoc) (col : CollectionDoc) (p : Pack)
    (h : KeyUnique st) (hd : DuidUnique st) :
    KeyUnique (processPack st cl col p).store ∧ DuidUnique (processPack st cl col p).store := by
  refine SL.processPack_cases st cl col p (fun r => KeyUnique r.store ∧ DuidUnique r.store)
    (fun _ => ⟨h, hd⟩) (fun _ _ _ => ⟨h, hd⟩) ?_
  intro d doc cp2 nd f _
  refine ⟨?_, SL.upsert_nodup hd⟩
  obtain ⟨hdu, hkey, hcol, -⟩ := SL.doc2_facts st cl p d doc cp2 nd
  -- every (colNum,key)-companion of the written document already has its duid
  have hcomp : ∀ y ∈ st.datatypes, y.colNum = doc.colNum → y.key = doc.key → y.duid = doc.duid := by
    intro y hy h1 h2
    rcases f.served.src with ⟨hid, -⟩ | hm
    · exact absurd (h2.trans f.key) (f.freshKey hid y hy (h1.trans f.served.colNum))
    · exact h y hy doc hm h1 h2
  intro d1 h1 d2 h2 hc hk
  rcases SL.mem_upsert h1 with e1 | m1 <;> rcases SL.mem_upsert h2 with e2 | m2
  · rw [e1, e2]
  · rw [e1, hdu]; rw [e1, hcol] at hc; rw [e1, hkey] at hk
    exact (hcomp d2 m2 hc.symm hk.symm).symm
  · rw [e2, hdu]; rw [e2, hcol] at hc; rw [e2, hkey] at hk
    exact hcomp d1 m1 hc hk
  · exact h d1 m1 d2 m2 hc hk

set_option linter.unusedVariables false in
/-- a fresh subscriber is answered with the subscribe bit, the datatype's id, the WHOLE log after its
    checkpoint, and the end of the log as its new checkpoint -/
theorem subscribe_gets_log (st : Store) (cl : ClientDoc) (col : CollectionDoc) (p : Pack) (d : DatatypeDoc)
    (hc : p.create = false) (hs : p.subscribe = true) (hro : p.readOnly = false) (hsn : p.snapshot = false)
    (hvol : cl.typ ≠ 2)
    (hk : st.getDatatypeByKey col.num p.key = some d) (ht : d.typ = p.typ) (hv : d.visible = true)
    (hn : d.sub cl.cuid false = none) (hb : d.sseqBegin ≤ p.cp.sseq + 1) :
    let r := processPack st cl col p
    r.resp.error = false ∧ r.resp.subscribe = true ∧ r.resp.duid = d.duid ∧
    r.resp.ops = (st.getOperations d.duid (p.cp.sseq + 1)).map (·.op) ∧ r.pushed = 0 ∧
    r.store.operations = st.operations := by
  rw [SC.subscribe_okR hs hro hk ht hv (.inl (by rw [hro, hn]; rfl))]
  exact ⟨rfl, rfl, rfl, by rw [SL.okR, SL.pulled_eq hvol hb hsn]; rfl, rfl, List.append_nil _⟩

set_option linter.unusedVariables false in
/-- Serving a subscribe request AGAIN (what `JStep.serveSub` of Proofs/ProtocolJoin claims, on the model's own server).  A subscribe request (no create flag, read-write, naming
    another datatype id than the stored one — every datatype object of a client gets a fresh random id)
    that is served when its client IS recorded already — a late duplicate, after the client has joined
    and pushed `s.cp.cseq` operations — is served as a subscription again: nothing is pushed (the
    operations it carries are dropped), no operation document is written, the answer is a subscribe
    response, not an error, and the record written back keeps the client's cseq. -/
theorem resubscribe_keeps_record (st : Store) (cl : ClientDoc) (col : CollectionDoc) (p : Pack) (d : DatatypeDoc)
    (hs : p.subscribe = true) (hc : p.create = false) (hro : p.readOnly = false)
    (hk : st.getDatatypeByKey col.num p.key = some d) (ht : d.typ = p.typ) (hv : d.visible = true)
    (hd : d.duid ≠ p.duid) (hty : cl.typ ≠ 2) (s : SubClient) (hrec : d.sub cl.cuid false = some s) :
    (processPack st cl col p).pushed = 0 ∧
    (processPack st cl col p).store.operations = st.operations ∧
    (processPack st cl col p).resp.subscribe = true ∧ (processPack st cl col p).resp.error = false ∧
    (processPack st cl col p).resp.cp.cseq = s.cp.cseq ∧
    ∃ d' ∈ (processPack st cl col p).store.datatypes, d'.duid = d.duid ∧
      ∃ n, d'.sub cl.cuid false = some ⟨⟨n, s.cp.cseq⟩, cl.typ⟩ := by
  rw [SC.subscribe_okR hs hro hk ht hv (.inr hd)]
  have h0 : (SL.cp0 cl p d).cseq = s.cp.cseq := by simp [SL.cp0, hro, hrec]
  refine ⟨rfl, by simp [SL.okR], by simp [SL.okR, SL.resp1], by simp [SL.okR, SL.resp1, SL.resp0], ?_, ?_⟩
  · show (SL.cp3 st cl p .subscribe d _ []).cseq = _
    rw [SL.cp3_cseq, h0]
  · refine ⟨_, SL.self_mem_upsert _ _, SL.doc2_duid .., (SL.cp3 st cl p .subscribe d ⟨d.sseqEnd, (SL.cp0 cl p d).cseq⟩ []).sseq, ?_⟩
    have hc3 : (SL.cp3 st cl p .subscribe d ⟨d.sseqEnd, (SL.cp0 cl p d).cseq⟩ []).cseq = s.cp.cseq := by
      rw [SL.cp3_cseq]; exact h0
    simp only [SL.doc2, hty, if_false, hro, DatatypeDoc.setSub, DatatypeDoc.sub, Bool.false_eq_true, alFind_alSet_self]
    generalize SL.cp3 st cl p .subscribe d ⟨d.sseqEnd, (SL.cp0 cl p d).cseq⟩ [] = c3 at hc3 ⊢
    cases c3
    simp only [] at hc3
    rw [hc3]

/-! ## C17 — collections are isolated -/

/-- a client registered in one collection cannot act in another: RPC error, nothing changes -/
theorem foreign_collection_refused (st : Store) (colName cuid : String) (packs : List Pack)
    (col : CollectionDoc) (cl : ClientDoc)
    (hcol : st.getCollection colName = some col) (hcl : st.getClient cuid = some cl) (hne : cl.colNum ≠ col.num) :
    st.processPushPull colName cuid packs = (st, .rpcErr 16, [], []) := by
  rw [SL.processPushPull_eq, hcol, hcl]
  exact if_pos hne

/-! For an arbitrary store a pack served for one collection can change a document of another:
`upsertDatatype` replaces the FIRST document carrying the written document's duid.  In a store where two
collections hold a document with the same duid, a subscription served in collection 1 overwrites the document of
collection 2. -/

def SC.cexStore : Store :=
  { datatypes := [{ duid := "a", key := "k", colNum := 2, typ := .counter },
                  { duid := "a", key := "k", colNum := 1, typ := .counter }] }
def SC.cexClient : ClientDoc := ⟨"c", "c", 1, 0, 0⟩
def SC.cexCol : CollectionDoc := ⟨"one", 1⟩
def SC.cexPack : Pack := { key := "k", duid := "b", subscribe := true, cp := ⟨0, 0⟩, typ := .counter, ops := [] }

/-- without `DuidUnique` the first clause of `frame_other_collections_partial` fails -/
theorem frame_other_collections_counterexample :
    ¬ ∀ (st : Store) (cl : ClientDoc) (col : CollectionDoc) (p : Pack),
        (processPack st cl col p).store.datatypes.filter (fun d => d.colNum ≠ col.num) =
          st.datatypes.filter (fun d => d.colNum ≠ col.num) := by
  intro h
  have h1 := congrArg List.length (h SC.cexStore SC.cexClient SC.cexCol SC.cexPack)
  revert h1
  decide

/-- frame (under unique datatype ids): a pack handled for collection `col` leaves every datatype document
    and every operation document of the OTHER collections untouched, adds none to them, and returns no
    operation stored under another collection -/
theorem frame_other_collections_partial (st : Store) (cl : ClientDoc) (col : CollectionDoc) (p : Pack)
    (hdu : DuidUnique st) :
    let st' := (processPack st cl col p).store
    st'.datatypes.filter (fun d => d.colNum ≠ col.num) = st.datatypes.filter (fun d => d.colNum ≠ col.num) ∧
    st'.operations.filter (fun o => o.colNum ≠ col.num) = st.operations.filter (fun o => o.colNum ≠ col.num) ∧
    st'.clients = st.clients ∧ st'.collections = st.collections ∧ st'.snapshots = st.snapshots ∧ st'.userDocs = st.userDocs := by
  refine SL.processPack_cases st cl col p (fun r =>
    r.store.datatypes.filter (fun d => d.colNum ≠ col.num) = st.datatypes.filter (fun d => d.colNum ≠ col.num) ∧
    r.store.operations.filter (fun o => o.colNum ≠ col.num) = st.operations.filter (fun o => o.colNum ≠ col.num) ∧
    r.store.clients = st.clients ∧ r.store.collections = st.collections ∧ r.store.snapshots = st.snapshots ∧
    r.store.userDocs = st.userDocs)
    (fun _ => ⟨rfl, rfl, rfl, rfl, rfl, rfl⟩) (fun _ _ _ => ⟨rfl, rfl, rfl, rfl, rfl, rfl⟩) ?_
  intro d doc cp2 nd f hp
  obtain ⟨h2du, -, h2col, -⟩ := SL.doc2_facts st cl p d doc cp2 nd
  have hcol : ∀ {n : Nat}, n = col.num → decide (n ≠ col.num) = false := fun h => decide_eq_false (not_not_intro h)
  refine ⟨?_, ?_, rfl, rfl, rfl, rfl⟩
  · -- the only stored document with the written id is `doc` itself, of this collection
    refine SL.upsert_filter _ (hcol (h2col.trans f.served.colNum)) (fun x hx hxd => hcol ?_)
    rcases f.served.src with ⟨hid, -⟩ | hm
    · exact absurd (hxd.trans h2du) (hid x hx)
    · rw [SL.eq_of_nodup_duid hdu hx hm (hxd.trans h2du)]; exact f.served.colNum
  · have : nd.filter (fun o => o.colNum ≠ col.num) = [] :=
      List.filter_eq_nil_iff.2 (fun o ho => by rw [hcol ((SL.pushRes_spec f.served hp).mem o ho).2]; exact Bool.noConfusion)
    show (st.operations ++ nd).filter _ = _
    rw [List.filter_append, this, List.append_nil]

/-- operations on one datatype never change another: documents and operations of every datatype id
    other than the one the response names are untouched -/
theorem frame_other_datatypes (st : Store) (cl : ClientDoc) (col : CollectionDoc) (p : Pack) :
    let r := processPack st cl col p
    r.store.datatypes.filter (fun d => d.duid ≠ r.resp.duid) = st.datatypes.filter (fun d => d.duid ≠ r.resp.duid) ∧
    r.store.operations.filter (fun o => o.duid ≠ r.resp.duid) = st.operations.filter (fun o => o.duid ≠ r.resp.duid) := by
  refine SL.processPack_cases st cl col p (fun r =>
    r.store.datatypes.filter (fun d => d.duid ≠ r.resp.duid) = st.datatypes.filter (fun d => d.duid ≠ r.resp.duid) ∧
    r.store.operations.filter (fun o => o.duid ≠ r.resp.duid) = st.operations.filter (fun o => o.duid ≠ r.resp.duid))
    (fun _ => ⟨rfl, rfl⟩) (fun _ _ _ => ⟨rfl, rfl⟩) ?_
  intro d doc cp2 nd f hp
  have hid : ∀ {u : String}, u = doc.duid → decide (u ≠ doc.duid) = false := fun h => decide_eq_false (not_not_intro h)
  have hr : (SL.okR st cl col p d doc cp2 nd).resp.duid = doc.duid := f.rduid
  rw [hr]
  constructor
  · exact SL.upsert_filter _ (hid (SL.doc2_duid ..)) (fun x _ hx => hid (hx.trans (SL.doc2_duid ..)))
  · have : nd.filter (fun o => o.duid ≠ doc.duid) = [] :=
      List.filter_eq_nil_iff.2 (fun o ho => by rw [hid ((SL.pushRes_spec f.served hp).mem o ho).1]; exact Bool.noConfusion)
    show (st.operations ++ nd).filter _ = _
    rw [List.filter_append, this, List.append_nil]

/-- resetting a collection removes exactly that collection's datatypes, operations, snapshots and
    clients (and its user documents) and nothing else -/
theorem reset_exact (st : Store) (name : String) (c : CollectionDoc) (h : st.getCollection name = some c) :
    let st' := st.resetCollection name
    st'.datatypes = st.datatypes.filter (fun d => d.colNum ≠ c.num) ∧
    st'.operations = st.operations.filter (fun o => o.colNum ≠ c.num) ∧
    st'.snapshots = st.snapshots.filter (fun s => s.colNum ≠ c.num) ∧
    st'.clients = st.clients.filter (fun x => x.colNum ≠ c.num) ∧
    st'.userDocs = st.userDocs.filter (fun u => u.col ≠ name) ∧
    st'.collections = st.collections := by
  unfold Store.resetCollection
  simp [h]

/-- collection numbers are never re-issued -/
def ColNumInv (st : Store) : Prop :=
  (∀ c ∈ st.collections, c.num ≤ st.counter.getD 0) ∧ (st.collections.map (·.num)).Nodup ∧
  (st.collections.map (·.name)).Nodup
theorem colNumInv_empty : ColNumInv {} := by
  simp [ColNumInv]

theorem colNumInv_makeCollection (st : Store) (name : String) (h : ColNumInv st) : ColNumInv (st.makeCollection name).1 := by
  unfold Store.makeCollection
  cases hg : st.getCollection name with
  | some c => exact h
  | none =>
    obtain ⟨h1, h2, h3⟩ := h
    have hn : ∀ c ∈ st.collections, c.name ≠ name :=
      fun c hc => of_decide_eq_false (Bool.eq_false_iff.2 (List.find?_eq_none.1 hg c hc))
    refine ⟨?_, ?_, ?_⟩
    · intro c hc
      simp only [List.mem_append, List.mem_singleton] at hc
      rcases hc with hc | hc
      · have := h1 c hc; simp; omega
      · subst hc; simp
    · simp only [List.map_append, List.map_cons, List.map_nil]
      rw [List.nodup_append]
      refine ⟨h2, by simp, ?_⟩
      intro a ha b hb
      simp at hb; subst hb
      obtain ⟨c, hc, rfl⟩ := List.mem_map.1 ha
      have := h1 c hc; omega
    · simp only [List.map_append, List.map_cons, List.map_nil]
      rw [List.nodup_append]
      refine ⟨h3, by simp, ?_⟩
      intro a ha b hb
      simp at hb; subst hb
      obtain ⟨c, hc, rfl⟩ := List.mem_map.1 ha
      exact hn c hc

theorem makeCollection_fresh (st : Store) (name : String) (h : ColNumInv st) (hnew : st.getCollection name = none) :
    ∀ c ∈ st.collections, c.num ≠ (st.makeCollection name).2 := by
  intro c hc
  have := h.1 c hc
  unfold Store.makeCollection
  simp [hnew]; omega

/-! ## C18 — every committed push is announced -/

/-- a notification is emitted exactly when at least one operation was stored; it names the topic of
    that collection and key, the pusher, the datatype and the new end of the log -/
theorem notify_iff_stored (st : Store) (cl : ClientDoc) (col : CollectionDoc) (p : Pack) :
    let r := processPack st cl col p
    (r.notif.isSome = true ↔ 0 < r.pushed) ∧
    (∀ n, r.notif = some n → n.cuid = cl.cuid ∧ n.duid = r.resp.duid ∧ n.sseq = r.resp.cp.sseq ∧
        ∃ d ∈ r.store.datatypes, d.duid = n.duid ∧ d.sseqEnd = n.sseq ∧ n.topic = col.name ++ "/" ++ d.key) := by
  have hnone : (none : Option Notification).isSome = true ↔ 0 < 0 := ⟨Bool.noConfusion, fun h => absurd h (Nat.lt_irrefl 0)⟩
  have hno : ∀ {P : Notification → Prop} (n : Notification), none = some n → P n := fun _ h => nomatch h
  refine SL.processPack_cases st cl col p (fun r =>
    (r.notif.isSome = true ↔ 0 < r.pushed) ∧
    (∀ n, r.notif = some n → n.cuid = cl.cuid ∧ n.duid = r.resp.duid ∧ n.sseq = r.resp.cp.sseq ∧
        ∃ d ∈ r.store.datatypes, d.duid = n.duid ∧ d.sseqEnd = n.sseq ∧ n.topic = col.name ++ "/" ++ d.key))
    (fun _ => ⟨hnone, hno⟩) (fun _ _ _ => ⟨hnone, hno⟩) ?_
  intro d doc cp2 nd f hp
  obtain ⟨h2du, h2key, -, h2end⟩ := SL.doc2_facts st cl p d doc cp2 nd
  cases nd with
  | nil => exact ⟨hnone, hno⟩
  | cons o nd =>
    -- something was stored, so the request is read-write and the new end of the log is its checkpoint
    have hro : p.readOnly = false := by
      cases h : p.readOnly with
      | false => rfl
      | true => exact absurd ((SL.pushRes_facts hp).2.1 h) (List.cons_ne_nil _ _)
    refine ⟨⟨fun _ => Nat.succ_pos _, fun _ => rfl⟩, ?_⟩
    intro n hn
    cases hn
    refine ⟨rfl, f.rduid.symm, rfl, _, SL.self_mem_upsert _ _, h2du, ?_, by rw [h2key]⟩
    rw [h2end, hro]; rfl

/-- pull-only syncs (no operations in the request) publish nothing -/
theorem pull_only_silent (st : Store) (cl : ClientDoc) (col : CollectionDoc) (p : Pack) (h : p.ops = []) :
    (processPack st cl col p).notif = none := by
  refine SL.processPack_cases st cl col p (fun r => r.notif = none) (fun _ => rfl) (fun _ _ _ => rfl) ?_
  intro d doc cp2 nd _ hp
  rw [SL.okR, (SL.pushRes_facts hp).2.2.2 h]; rfl
end Orda
