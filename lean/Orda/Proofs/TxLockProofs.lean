/-
The transaction lock (C20): proofs over the small-step model `Orda.Model.TxLock` (invariant by induction over
`Reach` for `fixed = true`, the protocol of the current source), and an explicit run showing that `fixed = false` is broken.
-/
import Orda.Model.TxLock
namespace Orda.TxLock

/-- the inductive invariant of the fixed protocol -/
structure Inv (n : Nat) (s : St) : Prop where
  crashed : s.crashed = false
  len : s.pcs.length = n
  noCU : ∀ i : Nat, s.pcs[i]? ≠ some .critUnlocked
  noRel : ∀ i : Nat, s.pcs[i]? ≠ some .released
  holder : ∀ i, s.pcs[i]? = some .critLocked ↔ s.mutex = some i
  flag : s.isLocked = true ↔ s.mutex.isSome = true
  ctx : s.txCtx = s.mutex
  nodup : s.queued.Nodup
  queued : ∀ i, i ∈ s.queued ↔ s.pcs[i]? = some .done

theorem inv_init (n : Nat) : Inv n (init n) := by
  have hp : ∀ i p, (init n).pcs[i]? = some p → p = Pc.idle :=
    fun i p h => List.eq_of_mem_replicate (List.mem_of_getElem? (l := List.replicate n Pc.idle) h)
  exact ⟨rfl, List.length_replicate, fun i h => (nomatch hp i _ h), fun i h => (nomatch hp i _ h),
    fun i => ⟨fun h => (nomatch hp i _ h), nofun⟩, ⟨nofun, nofun⟩, rfl, List.nodup_nil,
    fun i => ⟨nofun, fun h => nomatch hp i _ h⟩⟩

/-- Frame. Goroutine `i` moves from `u` to `v` without a crash; the clauses about the other goroutines carry over
when the step neither takes the mutex from one of them nor gives it to one, and queues nothing of theirs.  What
remains are the clauses about `i` itself and about the flags. -/
theorem Inv.update {n : Nat} {s : St} (hi : Inv n s) {i : Nat} {u v : Pc} (h : s.pcs[i]? = some u)
    {m c : Option Nat} {l : Bool} {q : List Nat} (hv1 : v ≠ .critUnlocked) (hv2 : v ≠ .released)
    (hmut : ∀ j, j ≠ i → (m = some j ↔ s.mutex = some j)) (hmi : v = .critLocked ↔ m = some i)
    (hflag : l = true ↔ m.isSome = true) (hctx : c = m) (hnd : q.Nodup)
    (hq : ∀ j, j ≠ i → (j ∈ q ↔ j ∈ s.queued)) (hqi : i ∈ q ↔ v = .done) :
    Inv n ⟨m, l, c, s.pcs.set i v, q, s.crashed⟩ := by
  have hself : (s.pcs.set i v)[i]? = some v := List.getElem?_set_self (List.getElem?_eq_some_iff.1 h).1
  have hset : ∀ j, j ≠ i → (s.pcs.set i v)[j]? = s.pcs[j]? := fun j hj => List.getElem?_set_ne (Ne.symm hj)
  have some_iff : ∀ p : Pc, some v = some p ↔ v = p := fun p => ⟨Option.some.inj, congrArg some⟩
  refine ⟨hi.crashed, (List.length_set ..).trans hi.len, fun j => ?_, fun j => ?_, fun j => ?_, hflag, hctx, hnd,
    fun j => ?_⟩
  · show (s.pcs.set i v)[j]? ≠ _
    by_cases hj : j = i
    · rw [hj, hself]; exact fun e => hv1 (Option.some.inj e)
    · rw [hset j hj]; exact hi.noCU j
  · show (s.pcs.set i v)[j]? ≠ _
    by_cases hj : j = i
    · rw [hj, hself]; exact fun e => hv2 (Option.some.inj e)
    · rw [hset j hj]; exact hi.noRel j
  · show (s.pcs.set i v)[j]? = _ ↔ m = some j
    by_cases hj : j = i
    · rw [hj, hself, some_iff]; exact hmi
    · rw [hset j hj, hmut j hj]; exact hi.holder j
  · show j ∈ q ↔ (s.pcs.set i v)[j]? = _
    by_cases hj : j = i
    · rw [hj, hself, some_iff]; exact hqi
    · rw [hset j hj, hq j hj]; exact hi.queued j

theorem inv_step {n : Nat} {s s' : St} (hi : Inv n s) (st : Step true s s') : Inv n s' := by
  cases st with
  | beginReentrant i h hf hl hc => cases hf
  | finishLockedOld i h hf => cases hf
  | clearFlagOld i h => exact absurd h (hi.noRel i)
  | finishUnlocked i h => exact absurd h (hi.noCU i)
  | beginWant i h hn =>
    exact hi.update (v := .wantLock) h nofun nofun (fun _ _ => Iff.rfl)
      ⟨nofun, fun e => nomatch h.symm.trans ((hi.holder i).2 e)⟩ hi.flag hi.ctx hi.nodup (fun _ _ => Iff.rfl)
      ⟨fun e => (nomatch h.symm.trans ((hi.queued i).1 e)), nofun⟩
  | lock i h hm =>
    refine hi.update (v := .critLocked) h nofun nofun (fun j hj => ?_) ⟨fun _ => rfl, fun _ => rfl⟩
      ⟨fun _ => rfl, fun _ => rfl⟩ rfl hi.nodup (fun _ _ => Iff.rfl)
      ⟨fun e => (nomatch h.symm.trans ((hi.queued i).1 e)), nofun⟩
    rw [hm]
    exact ⟨fun e => absurd (Option.some.inj e).symm hj, nofun⟩
  | finishLockedFixed i h hf =>
    have hm : s.mutex = some i := (hi.holder i).1 h
    have hnq : i ∉ s.queued := fun hq => nomatch h.symm.trans ((hi.queued i).1 hq)
    refine hi.update (v := .done) (m := none) h nofun nofun (fun j hj => ?_) ⟨nofun, nofun⟩ ⟨nofun, nofun⟩ rfl ?_
      (fun j hj => ?_) ⟨fun _ => rfl, fun _ => List.mem_append_right _ (List.mem_singleton_self i)⟩
    · rw [hm]
      exact ⟨nofun, fun e => absurd (Option.some.inj e).symm hj⟩
    · rw [List.nodup_append]
      refine ⟨hi.nodup, List.pairwise_singleton _ i, fun a ha b hb hab => ?_⟩
      cases List.mem_singleton.1 hb
      exact hnq (hab ▸ ha)
    · rw [List.mem_append, List.mem_singleton]
      exact ⟨fun e => e.resolve_right hj, Or.inl⟩

theorem inv_of_reach {n : Nat} {s : St} (h : Reach true n s) : Inv n s := by
  induction h with
  | init => exact inv_init n
  | step _ st ih => exact inv_step ih st

/-- C20 (fixed protocol), mutual exclusion, for ANY number of goroutines and ANY schedule: never two
    goroutines inside the critical section, nobody inside it without the mutex, the process never crashes,
    and the flags describe the mutex exactly -/
theorem fixed_mutual_exclusion (n : Nat) (s : St) (h : Reach true n s) :
    s.crashed = false ∧
    (∀ i : Nat, s.pcs[i]? ≠ some .critUnlocked) ∧ (∀ i : Nat, s.pcs[i]? ≠ some .released) ∧
    (∀ i j : Nat, s.pcs[i]? = some .critLocked → s.pcs[j]? = some .critLocked → i = j) ∧
    (∀ i, s.pcs[i]? = some .critLocked ↔ s.mutex = some i) ∧
    (s.isLocked = true ↔ s.mutex.isSome = true) ∧ (s.txCtx = s.mutex) ∧
    s.pcs.length = n := by
  have hi := inv_of_reach h
  refine ⟨hi.crashed, hi.noCU, hi.noRel, ?_, hi.holder, hi.flag, hi.ctx, hi.len⟩
  intro i j h1 h2
  have a := (hi.holder i).1 h1
  have b := (hi.holder j).1 h2
  rw [a] at b
  exact Option.some.inj b

/-- C20 (fixed protocol), no deadlock: as long as some goroutine is not done, some step is enabled -/
theorem fixed_no_deadlock (n : Nat) (s : St) (h : Reach true n s) (hnd : ∃ (i : Nat) (p : Pc), s.pcs[i]? = some p ∧ p ≠ .done) :
    ∃ s', Step true s s' := by
  have hi := inv_of_reach h
  obtain ⟨i, p, hp, hne⟩ := hnd
  cases p with
  | idle => exact ⟨_, Step.beginWant s i hp (Or.inl rfl)⟩
  | wantLock =>
    cases hm : s.mutex with
    | none => exact ⟨_, Step.lock s i hp hm⟩
    | some j => exact ⟨_, Step.finishLockedFixed s j ((hi.holder j).2 hm) rfl⟩
  | critLocked => exact ⟨_, Step.finishLockedFixed s i hp rfl⟩
  | critUnlocked => exact absurd hp (hi.noCU i)
  | released => exact absurd hp (hi.noRel i)
  | done => exact absurd rfl hne

/-- C20 (fixed protocol), every issued operation is queued exactly once: a goroutine's id is in `queued`
    iff it is done, and never twice -/
theorem fixed_queued_once (n : Nat) (s : St) (h : Reach true n s) :
    s.queued.Nodup ∧ ∀ i, i ∈ s.queued ↔ s.pcs[i]? = some .done :=
  ⟨(inv_of_reach h).nodup, (inv_of_reach h).queued⟩

/-- when everybody is done, exactly the n operations are queued -/
theorem fixed_all_done_all_queued (n : Nat) (s : St) (h : Reach true n s) (hd : ∀ i, i < n → s.pcs[i]? = some .done) :
    s.queued.length = n := by
  have hi := inv_of_reach h
  have hperm : s.queued.Perm (List.range n) := by
    rw [List.perm_ext_iff_of_nodup hi.nodup List.nodup_range]
    intro a
    rw [List.mem_range, hi.queued a]
    constructor
    · intro ha
      have := (List.getElem?_eq_some_iff.1 ha).1
      rw [hi.len] at this
      exact this
    · exact hd a
  rw [hperm.length_eq, List.length_range]

def o1 : St := ⟨none, false, none, [.wantLock, .idle], [], false⟩
def o2 : St := ⟨some 0, true, some 0, [.critLocked, .idle], [], false⟩
def o3 : St := ⟨none, true, none, [.released, .idle], [0], false⟩
def o4 : St := ⟨none, true, none, [.released, .critUnlocked], [0], false⟩
def o5 : St := ⟨none, true, none, [.released, .done], [0], true⟩

theorem reach_o4 : Reach false 2 o4 := by
  have r0 : Reach false 2 (init 2) := Reach.init
  have r1 : Reach false 2 o1 := Reach.step r0 (Step.beginWant (init 2) 0 rfl (Or.inr (by decide)))
  have r2 : Reach false 2 o2 := Reach.step r1 (Step.lock o1 0 rfl rfl)
  have r3 : Reach false 2 o3 := Reach.step r2 (Step.finishLockedOld o2 0 rfl rfl)
  exact Reach.step r3 (Step.beginReentrant o3 1 rfl rfl rfl rfl)

theorem reach_o5 : Reach false 2 o5 :=
  Reach.step reach_o4 (Step.finishUnlocked o4 1 rfl)

/-- the protocol with `fixed = false` (mutex released before `isLocked := false`; re-entrant path for a nil
    context) is broken: with two goroutines there is a reachable state in which one of them is inside the critical
    section without holding the mutex, and a reachable crashed state -/
theorem old_protocol_broken :
    (∃ s, Reach false 2 s ∧ ∃ i : Nat, s.pcs[i]? = some .critUnlocked) ∧ (∃ s, Reach false 2 s ∧ s.crashed = true) :=
  ⟨⟨o4, reach_o4, 1, rfl⟩, ⟨o5, reach_o5, rfl⟩⟩

end Orda.TxLock

