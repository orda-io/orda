/-
Local list operations seen through the live elements.  `insertAtLive` and `nthLive` find a position among the live
elements of any sequence (list nodes, array slots of a document).  The walk that `listSnapshot.deleteLocal` and
`updateLocal` share (`mapLiveFrom`, `Rga.updateLocal.go`) replaces, from the `p`-th live node on, the next live nodes, one
per stamp; seen from the result it is a map over the nodes: a node changes iff its identity is among the touched ones, and
then by the stamp at that position.  The stamps handed to the walk are a `delimSeq`.  On the live projection `lv` the
three local operations are take / drop / append, as soon as the stored size is the number of live elements (`Rga.SizeOK`).
-/
import Orda.Model.Datatypes
namespace Orda

theorem delimSeq_length : ∀ (n : Nat) (ts : Ts), (delimSeq ts n).length = n
  | 0, _ => rfl
  | n + 1, ts => congrArg Nat.succ (delimSeq_length n ts.nextDelim)

theorem nextDelim_add (ts : Ts) (i : Nat) :
    ({ ts.nextDelim with delim := ts.nextDelim.delim + i } : Ts) =
      { ts with delim := ts.delim + (i + 1) } :=
  congrArg (Ts.mk ts.era ts.lamport ts.cuid) ((Nat.add_assoc _ 1 i).trans (by rw [Nat.add_comm 1 i]))

theorem mem_delimSeq (n : Nat) (ts x : Ts) : x ∈ delimSeq ts n ↔
    ∃ i, i < n ∧ x = { ts with delim := ts.delim + i } := by
  induction n generalizing ts with
  | zero => exact ⟨fun h => (nomatch h), fun ⟨i, hi, _⟩ => absurd hi (Nat.not_lt_zero i)⟩
  | succ n ih =>
    rw [delimSeq, List.mem_cons, ih]
    constructor
    · rintro (rfl | ⟨i, hi, rfl⟩)
      · exact ⟨0, Nat.succ_pos n, rfl⟩
      · exact ⟨i + 1, Nat.succ_lt_succ hi, nextDelim_add ts i⟩
    · rintro ⟨_ | i, hi, rfl⟩
      · exact Or.inl rfl
      · exact Or.inr ⟨i, Nat.lt_of_succ_lt_succ hi, (nextDelim_add ts i).symm⟩

theorem delimSeq_nodup : ∀ (n : Nat) (ts : Ts), (delimSeq ts n).Nodup
  | 0, _ => List.nodup_nil
  | n + 1, ts => List.nodup_cons.mpr ⟨fun h => by
      obtain ⟨i, _, e⟩ := (mem_delimSeq n _ ts).mp h
      have := congrArg Ts.delim e
      simp only [Ts.nextDelim] at this
      omega, delimSeq_nodup n _⟩

/-- the walk shared by `mapLiveFrom` and `Rga.updateLocal.go`: from the `p`-th live node on, the next
    `sts.length` live nodes are replaced by `f` of the node and its stamp; also returns the nodes
    replaced, as they were -/
def walkLive {σ : Type} (f : RNode → σ → RNode) :
    Nat → List σ → List RNode → Option (List RNode × List RNode)
  | _, [], l => some (l, [])
  | _, _ :: _, [] => none
  | p, t :: ts, x :: xs =>
    if x.isLive then
      if p = 0 then (walkLive f 0 ts xs).map (fun (l, tc) => (f x t :: l, x :: tc))
      else (walkLive f (p - 1) (t :: ts) xs).map (fun (l, tc) => (x :: l, tc))
    else (walkLive f p (t :: ts) xs).map (fun (l, tc) => (x :: l, tc))

theorem mapLiveFrom_eq_walk (f : RNode → Ts → RNode) : ∀ (nodes : List RNode) (p : Nat) (ts : List Ts),
    mapLiveFrom f p ts nodes = walkLive f p ts nodes
  | _, _, [] => by rw [mapLiveFrom, walkLive]
  | [], _, _ :: _ => by rw [mapLiveFrom, walkLive]
  | x :: xs, p, t :: ts => by
    rw [mapLiveFrom, walkLive, mapLiveFrom_eq_walk f xs, mapLiveFrom_eq_walk f xs,
      mapLiveFrom_eq_walk f xs]

theorem updGo_eq_walk : ∀ (nodes : List RNode) (p : Nat) (st : List (Ts × JVal)),
    Rga.updateLocal.go p st nodes =
      walkLive (fun x (tv : Ts × JVal) => { x with v := some tv.2, t := tv.1 }) p st nodes
  | _, _, [] => by rw [Rga.updateLocal.go, walkLive]
  | [], _, _ :: _ => by rw [Rga.updateLocal.go, walkLive]
  | x :: xs, p, (t, v) :: st => by
    rw [Rga.updateLocal.go, walkLive, updGo_eq_walk xs, updGo_eq_walk xs, updGo_eq_walk xs]

theorem walkLive_length {σ : Type} (f : RNode → σ → RNode) : ∀ (nodes : List RNode) (p : Nat) (sts : List σ)
    (l tc : List RNode), walkLive f p sts nodes = some (l, tc) → tc.length = sts.length
  | _, _, [], _, _, h => by rw [walkLive] at h; cases h; rfl
  | [], _, _ :: _, _, _, h => by rw [walkLive] at h; cases h
  | x :: xs, p, s :: sts, l, tc, h => by
    rw [walkLive] at h
    split at h
    · split at h
      · obtain ⟨⟨l', tc'⟩, hr, he⟩ := Option.map_eq_some_iff.mp h
        cases he
        rw [List.length_cons, List.length_cons, walkLive_length f xs 0 sts l' tc' hr]
      · obtain ⟨⟨l', tc'⟩, hr, he⟩ := Option.map_eq_some_iff.mp h
        cases he
        exact walkLive_length f xs (p - 1) _ l' tc hr
    · obtain ⟨⟨l', tc'⟩, hr, he⟩ := Option.map_eq_some_iff.mp h
      cases he
      exact walkLive_length f xs p _ l' tc hr

/-- what the walk does to the node `z`, given the identities it touched: `f` with the stamp at the
    position of `z`'s identity, nothing if it is not among them -/
def walkEff {σ : Type} (f : RNode → σ → RNode) : List Ts → List σ → RNode → RNode
  | [], _, z => z
  | _ :: _, [], z => z
  | tg :: tgs, s :: sts, z => if tg = z.o then f z s else walkEff f tgs sts z

theorem walkEff_not_mem {σ : Type} (f : RNode → σ → RNode) (z : RNode) :
    ∀ (tgs : List Ts) (sts : List σ), z.o ∉ tgs → walkEff f tgs sts z = z
  | [], _, _ => by rw [walkEff]
  | _ :: _, [], _ => by rw [walkEff]
  | tg :: tgs, s :: sts, h => by
    rw [walkEff, if_neg fun e : tg = z.o => h (List.mem_cons.mpr (Or.inl e.symm)),
      walkEff_not_mem f z tgs sts fun e => h (List.mem_cons_of_mem _ e)]

/-- the walk as a map over the nodes.  `b`: whether `f` leaves a node live (`true` for an update, `false` for a delete); the
    last conjunct is the bookkeeping of the stored size: a walk that kills removes `sts.length` live nodes -/
theorem walkLive_map {σ : Type} (f : RNode → σ → RNode) (b : Bool) (hb : ∀ x s, (f x s).isLive = b) :
    ∀ (nodes : List RNode) (p : Nat) (sts : List σ) (l tc : List RNode),
      (nodes.map (·.o)).Nodup → walkLive f p sts nodes = some (l, tc) →
      l = nodes.map (walkEff f (tc.map (·.o)) sts) ∧ tc.Sublist nodes ∧ tc.length = sts.length ∧
        (∀ z ∈ nodes, z.o ∈ tc.map (·.o) → z.isLive = true) ∧
        l.countP RNode.isLive + (if b then 0 else sts.length) = nodes.countP RNode.isLive
  | nodes, p, [], l, tc, _, h => by
    rw [walkLive] at h
    cases h
    exact ⟨(List.map_id'' (fun _ => rfl) _).symm, List.nil_sublist _, rfl,
      fun _ _ h => absurd h List.not_mem_nil, by cases b <;> rfl⟩
  | [], p, s :: sts, l, tc, _, h => by rw [walkLive] at h; cases h
  | x :: xs, p, s :: sts, l, tc, hnd, h => by
    obtain ⟨hx, hnd'⟩ := List.nodup_cons.mp hnd
    -- `x` is passed over: the rest of the walk happens in `xs`
    have skip : ∀ (q : Nat) (l' tc' : List RNode), walkLive f q (s :: sts) xs = some (l', tc') →
        x :: l' = (x :: xs).map (walkEff f (tc'.map (·.o)) (s :: sts)) ∧ tc'.Sublist (x :: xs) ∧
          tc'.length = (s :: sts).length ∧
          (∀ z ∈ x :: xs, z.o ∈ tc'.map (·.o) → z.isLive = true) ∧
          (x :: l').countP RNode.isLive + (if b then 0 else (s :: sts).length) =
            (x :: xs).countP RNode.isLive := by
      intro q l' tc' hr
      obtain ⟨h1, h2, h3, h4, h5⟩ := walkLive_map f b hb xs q (s :: sts) l' tc' hnd' hr
      have hxt : x.o ∉ tc'.map (·.o) := fun e => hx ((h2.map _).subset e)
      refine ⟨by rw [List.map_cons, ← h1, walkEff_not_mem f x _ _ hxt], h2.cons x, h3, ?_, ?_⟩
      · intro z hz hzt
        rcases List.mem_cons.mp hz with rfl | hz
        · exact absurd hzt hxt
        · exact h4 z hz hzt
      · rw [List.countP_cons, List.countP_cons, ← h5]; omega
    rw [walkLive] at h
    by_cases hl : x.isLive = true
    · rw [if_pos hl] at h
      by_cases hp : p = 0
      · rw [if_pos hp] at h
        obtain ⟨⟨l', tc'⟩, hr, he⟩ := Option.map_eq_some_iff.mp h
        obtain ⟨rfl, rfl⟩ := Prod.mk.inj he
        obtain ⟨h1, h2, h3, h4, h5⟩ := walkLive_map f b hb xs 0 sts l' tc' hnd' hr
        have hne : ∀ z ∈ xs, x.o ≠ z.o := fun z hz e => hx (List.mem_map.mpr ⟨z, hz, e.symm⟩)
        refine ⟨?_, h2.cons_cons x, by rw [List.length_cons, h3, List.length_cons], ?_, ?_⟩
        · rw [List.map_cons, List.map_cons, walkEff, if_pos rfl, h1]
          exact congrArg _ (List.map_congr_left fun z hz => by rw [walkEff, if_neg (hne z hz)])
        · intro z hz hzt
          rcases List.mem_cons.mp hz with rfl | hz
          · exact hl
          · rcases List.mem_cons.mp hzt with e | hzt
            · exact absurd e.symm (hne z hz)
            · exact h4 z hz hzt
        · rw [List.countP_cons, List.countP_cons, hb, hl, ← h5, List.length_cons]
          cases b <;> simp <;> omega
      · rw [if_neg hp] at h
        obtain ⟨⟨l', tc'⟩, hr, he⟩ := Option.map_eq_some_iff.mp h
        obtain ⟨rfl, rfl⟩ := Prod.mk.inj he
        exact skip (p - 1) l' tc' hr
    · rw [if_neg hl] at h
      obtain ⟨⟨l', tc'⟩, hr, he⟩ := Option.map_eq_some_iff.mp h
      obtain ⟨rfl, rfl⟩ := Prod.mk.inj he
      exact skip p l' tc' hr

/-! ### positions among the live elements (any element type: list nodes, array slots of a document) -/

theorem insertAtLive_spec {β : Type} (isLive : β → Bool) (ns : List β) : ∀ (l : List β) (pos : Nat),
    pos ≤ (l.filter isLive).length →
    ∃ pre suf, l = pre ++ suf ∧ insertAtLive isLive ns pos l = some (pre ++ ns ++ suf) ∧
      (pre.filter isLive).length = pos := by
  intro l
  induction l with
  | nil =>
    intro pos h
    have : pos = 0 := by simpa using h
    subst this
    exact ⟨[], [], rfl, by simp [insertAtLive], rfl⟩
  | cons x xs ih =>
    intro pos h
    cases pos with
    | zero => exact ⟨[], x :: xs, rfl, by simp [insertAtLive], rfl⟩
    | succ p =>
      by_cases hl : isLive x = true
      · by_cases hp : p = 0
        · subst hp
          exact ⟨[x], xs, rfl, by simp [insertAtLive, hl], by simp [hl]⟩
        · have h' : p ≤ (xs.filter isLive).length := by
            simp only [List.filter_cons, hl, if_true, List.length_cons] at h; omega
          obtain ⟨pre, suf, e1, e2, e3⟩ := ih p h'
          refine ⟨x :: pre, suf, by rw [e1]; rfl, ?_, by simp [hl, e3]⟩
          simp [insertAtLive, hl, hp, e2]
      · have h' : p + 1 ≤ (xs.filter isLive).length := by
          simp only [List.filter_cons, hl, Bool.false_eq_true, if_false] at h; exact h
        obtain ⟨pre, suf, e1, e2, e3⟩ := ih (p + 1) h'
        refine ⟨x :: pre, suf, by rw [e1]; rfl, ?_, by simp [hl, e3]⟩
        simp [insertAtLive, hl, e2]

theorem nthLive_eq {β : Type} (isLive : β → Bool) : ∀ (l : List β) (p : Nat), nthLive isLive p l = (l.filter isLive)[p]?
  | [], _ => rfl
  | x :: xs, p => by
    rw [nthLive]
    by_cases hl : isLive x = true
    · rw [if_pos hl, List.filter_cons_of_pos hl]
      cases p with
      | zero => rfl
      | succ p => rw [if_neg (Nat.succ_ne_zero p), Nat.add_sub_cancel, List.getElem?_cons_succ]; exact nthLive_eq isLive xs p
    · rw [if_neg hl, List.filter_cons_of_neg hl]; exact nthLive_eq isLive xs p

theorem nthLive_some {β : Type} (isLive : β → Bool) (l : List β) (p : Nat) (h : p < (l.filter isLive).length) :
    ∃ x, nthLive isLive p l = some x :=
  ⟨_, (nthLive_eq isLive l p).trans (List.getElem?_eq_getElem h)⟩

theorem nthLive_mem {β : Type} (isLive : β → Bool) (l : List β) (p : Nat) (x : β)
    (h : nthLive isLive p l = some x) : x ∈ l :=
  (List.mem_filter.mp (List.mem_of_getElem? ((nthLive_eq isLive l p).symm.trans h))).1

/-! ### the live projection of a list -/

def lv (ns : List RNode) : List JVal := ns.filterMap (·.v)

theorem live_eq_lv (l : Rga) : l.live = lv l.nodes := rfl

theorem lv_cons_none (x : RNode) (xs : List RNode) (h : x.v = none) : lv (x :: xs) = lv xs := by
  simp [lv, h]

theorem lv_cons_some (x : RNode) (xs : List RNode) (v : JVal) (h : x.v = some v) :
    lv (x :: xs) = v :: lv xs := by
  simp [lv, h]

theorem lv_append (a b : List RNode) : lv (a ++ b) = lv a ++ lv b := List.filterMap_append

theorem lv_length (l : List RNode) : (lv l).length = (l.filter RNode.isLive).length := by
  induction l with
  | nil => rfl
  | cons x xs ih =>
    cases hv : x.v with
    | none => rw [lv_cons_none x xs hv, List.filter_cons_of_neg (by simp [RNode.isLive, hv]), ih]
    | some v => rw [lv_cons_some x xs v hv, List.filter_cons_of_pos (by simp [RNode.isLive, hv]), List.length_cons,
        List.length_cons, ih]

theorem insertAtLive_lv (ns : List RNode) (nodes : List RNode) (pos : Nat) (h : pos ≤ (lv nodes).length) :
    ∃ l, insertAtLive RNode.isLive ns pos nodes = some l ∧
      lv l = (lv nodes).take pos ++ lv ns ++ (lv nodes).drop pos ∧ ∀ n ∈ l, n ∈ ns ∨ n ∈ nodes := by
  obtain ⟨pre, suf, rfl, e, hp⟩ := insertAtLive_spec RNode.isLive ns nodes pos (lv_length nodes ▸ h)
  rw [← lv_length] at hp
  refine ⟨_, e, ?_, fun n hn => ?_⟩
  · rw [lv_append, lv_append, lv_append, ← hp, List.take_left, List.drop_left]
  · simp only [List.mem_append] at hn ⊢
    rcases hn with (hn | hn) | hn
    · exact Or.inr (Or.inl hn)
    · exact Or.inl hn
    · exact Or.inr (Or.inr hn)

theorem walkLive_spec {σ : Type} (f : RNode → σ → RNode) (g : σ → Option JVal)
    (hf : ∀ x s, (f x s).v = g s) (Q : RNode → Prop) :
    ∀ (nodes : List RNode) (p : Nat) (sts : List σ), p + sts.length ≤ (lv nodes).length →
      (∀ n ∈ nodes, Q n) → (∀ x s, Q x → s ∈ sts → Q (f x s)) →
      ∃ l tc, walkLive f p sts nodes = some (l, tc) ∧
        lv l = (lv nodes).take p ++ sts.filterMap g ++ (lv nodes).drop (p + sts.length) ∧
        lv tc = ((lv nodes).drop p).take sts.length ∧ ∀ n ∈ l, Q n := by
  intro nodes
  induction nodes with
  | nil =>
    intro p sts h hq _
    cases sts with
    | nil => exact ⟨[], [], by simp [walkLive], by simp [lv], by simp [lv], hq⟩
    | cons t ts => simp [lv] at h
  | cons x xs ih =>
    intro p sts h hq hfq
    cases sts with
    | nil => exact ⟨x :: xs, [], by simp [walkLive], by simp, by simp [lv], hq⟩
    | cons t ts =>
      obtain ⟨hqx, hqxs⟩ := List.forall_mem_cons.mp hq
      cases hv : x.v with
      | none =>
        have hl : x.isLive = false := by simp [RNode.isLive, hv]
        rw [lv_cons_none x xs hv] at h ⊢
        obtain ⟨l, tc, h1, h2, h3, h4⟩ := ih p (t :: ts) h hqxs hfq
        exact ⟨x :: l, tc, by simp [walkLive, hl, h1], by rw [lv_cons_none x l hv]; exact h2, h3,
          List.forall_mem_cons.mpr ⟨hqx, h4⟩⟩
      | some v =>
        have hl : x.isLive = true := by simp [RNode.isLive, hv]
        rw [lv_cons_some x xs v hv] at h ⊢
        by_cases hp : p = 0
        · subst hp
          obtain ⟨l, tc, h1, h2, h3, h4⟩ := ih 0 ts (by simp at h ⊢; omega) hqxs
            (fun y s hy hs => hfq y s hy (List.mem_cons_of_mem _ hs))
          refine ⟨f x t :: l, x :: tc, by simp [walkLive, hl, h1], ?_, ?_,
            List.forall_mem_cons.mpr ⟨hfq x t hqx List.mem_cons_self, h4⟩⟩
          · cases hg : g t with
            | none => rw [lv_cons_none _ l ((hf x t).trans hg), h2]; simp [hg]
            | some w => rw [lv_cons_some _ l w ((hf x t).trans hg), h2]; simp [hg]
          · rw [lv_cons_some x tc v hv, h3]; simp
        · obtain ⟨q, rfl⟩ : ∃ q, p = q + 1 := ⟨p - 1, by omega⟩
          obtain ⟨l, tc, h1, h2, h3, h4⟩ := ih q (t :: ts) (by simp at h ⊢; omega) hqxs hfq
          refine ⟨x :: l, tc, by simp [walkLive, hl, h1], ?_, ?_, List.forall_mem_cons.mpr ⟨hqx, h4⟩⟩
          · rw [lv_cons_some x l v hv, h2]
            have : q + 1 + (t :: ts).length = (q + (t :: ts).length) + 1 := by omega
            rw [this]; simp
          · rw [h3]; simp

/-! ### fresh nodes -/

theorem delimSeq_era_lamport (n : Nat) (ts t : Ts) (h : t ∈ delimSeq ts n) : t.era = ts.era ∧ t.lamport = ts.lamport := by
  obtain ⟨i, _, rfl⟩ := (mem_delimSeq n ts t).mp h
  exact ⟨rfl, rfl⟩

theorem mkNodes_cons (ts : Ts) (v : JVal) (vs : List JVal) :
    mkNodes ts (v :: vs) = ⟨ts, some v, ts⟩ :: mkNodes ts.nextDelim vs := by
  simp [mkNodes, delimSeq]

theorem lv_mkNodes : ∀ (vs : List JVal) (ts : Ts), lv (mkNodes ts vs) = vs := by
  intro vs
  induction vs with
  | nil => intro ts; rfl
  | cons v vs ih => intro ts; rw [mkNodes_cons, lv_cons_some _ _ v rfl, ih]

theorem mkNodes_mem (vs : List JVal) (ts : Ts) (n : RNode) (h : n ∈ mkNodes ts vs) :
    (n.o.era = ts.era ∧ n.o.lamport = ts.lamport) ∧ (n.t.era = ts.era ∧ n.t.lamport = ts.lamport) := by
  obtain ⟨⟨v, t⟩, hz, rfl⟩ := List.mem_map.mp h
  have := delimSeq_era_lamport _ _ _ (List.of_mem_zip hz).2
  exact ⟨this, this⟩

/-! ### the local operations of a list whose stored size is its number of live elements

What a validated local insert, delete, update does to the live sequence.  No local operation compares a timestamp, so the
size is all that is needed; `Q` is whatever else a caller wants kept of the nodes. -/

def Rga.SizeOK (l : Rga) : Prop := l.size = (l.live.length : Int)

theorem insertLocal_live (l : Rga) (pos : Nat) (ts : Ts) (vs : List JVal) (hs : l.SizeOK) (hp : pos ≤ l.live.length) :
    ∃ l' a, l.insertLocal pos ts vs = .ok (l', a) ∧ l'.live = l.live.take pos ++ vs ++ l.live.drop pos ∧ l'.SizeOK ∧
      ∀ n ∈ l'.nodes, n ∈ mkNodes ts vs ∨ n ∈ l.nodes := by
  unfold Rga.SizeOK at hs ⊢
  rw [live_eq_lv] at hp hs ⊢
  obtain ⟨nodes', h1, h2, h3⟩ := insertAtLive_lv (mkNodes ts vs) l.nodes pos hp
  have ha : ∃ a, l.anchorAt pos = some a := by
    unfold Rga.anchorAt
    by_cases h0 : pos = 0
    · exact ⟨Ts.oldest, by simp [h0]⟩
    · obtain ⟨x, hx⟩ := nthLive_some RNode.isLive l.nodes (pos - 1) (by rw [← lv_length]; omega)
      exact ⟨x.o, by simp [h0, hx]⟩
  obtain ⟨a, ha⟩ := ha
  rw [lv_mkNodes] at h2
  refine ⟨⟨nodes', l.size + vs.length⟩, a, by simp [Rga.insertLocal, ha, h1], h2, ?_, h3⟩
  show l.size + vs.length = ((lv nodes').length : Int)
  rw [h2, hs]
  simp only [List.length_append, List.length_take, List.length_drop]
  omega

theorem deleteLocal_live (l : Rga) (pos num : Nat) (ts : Ts) (hs : l.SizeOK) (hp : pos + num ≤ l.live.length)
    (Q : RNode → Prop) (hq : ∀ n ∈ l.nodes, Q n)
    (hf : ∀ x t, Q x → t ∈ delimSeq ts num → Q { x with v := none, t := t }) :
    ∃ l' tg, l.deleteLocal pos num ts = .ok (l', tg, (l.live.drop pos).take num) ∧
      l'.live = l.live.take pos ++ l.live.drop (pos + num) ∧ l'.SizeOK ∧ ∀ n ∈ l'.nodes, Q n := by
  unfold Rga.SizeOK at hs ⊢
  rw [live_eq_lv] at hp hs ⊢
  have hlen := delimSeq_length num ts
  obtain ⟨nodes', tc, h1, h2, h3, h4⟩ :=
    walkLive_spec (fun x t => { x with v := none, t := t }) (fun _ => none) (fun _ _ => rfl) Q l.nodes pos
      (delimSeq ts num) (by rw [hlen]; exact hp) hq hf
  rw [hlen, List.filterMap_eq_nil_iff.mpr fun _ _ => rfl, List.append_nil] at h2
  rw [hlen] at h3
  refine ⟨⟨nodes', l.size - num⟩, tc.map (·.o), ?_, h2, ?_, h4⟩
  · simp only [Rga.deleteLocal, mapLiveFrom_eq_walk, h1]
    rw [show tc.filterMap (·.v) = lv tc from rfl, h3]
  · show l.size - num = ((lv nodes').length : Int)
    rw [h2, hs]
    simp only [List.length_append, List.length_take, List.length_drop]
    omega

theorem updateLocal_live (l : Rga) (pos : Nat) (ts : Ts) (vs : List JVal) (hs : l.SizeOK)
    (hp : pos + vs.length ≤ l.live.length) (Q : RNode → Prop) (hq : ∀ n ∈ l.nodes, Q n)
    (hf : ∀ x t v, Q x → t ∈ delimSeq ts vs.length → Q { x with v := some v, t := t }) :
    ∃ l' tg, l.updateLocal pos ts vs = .ok (l', tg, (l.live.drop pos).take vs.length) ∧
      l'.live = l.live.take pos ++ vs ++ l.live.drop (pos + vs.length) ∧ l'.SizeOK ∧ ∀ n ∈ l'.nodes, Q n := by
  unfold Rga.SizeOK at hs ⊢
  rw [live_eq_lv] at hp hs ⊢
  have hlen := delimSeq_length vs.length ts
  have hzl : ((delimSeq ts vs.length).zip vs).length = vs.length := by rw [List.length_zip, hlen]; omega
  have hzs : ((delimSeq ts vs.length).zip vs).map (·.2) = vs := List.map_snd_zip (by omega)
  obtain ⟨nodes', tc, h1, h2, h3, h4⟩ :=
    walkLive_spec (fun x (tv : Ts × JVal) => { x with v := some tv.2, t := tv.1 }) (some ∘ Prod.snd)
      (fun _ _ => rfl) Q l.nodes pos ((delimSeq ts vs.length).zip vs) (by rw [hzl]; exact hp) hq
      (fun x tv hx htm => hf x tv.1 tv.2 hx (List.of_mem_zip htm).1)
  rw [hzl, List.filterMap_eq_map, hzs] at h2
  rw [hzl] at h3
  refine ⟨⟨nodes', l.size⟩, tc.map (·.o), ?_, h2, ?_, h4⟩
  · simp only [Rga.updateLocal, updGo_eq_walk, h1]
    rw [show tc.filterMap (·.v) = lv tc from rfl, h3]
  · show l.size = ((lv nodes').length : Int)
    rw [h2, hs]
    simp only [List.length_append, List.length_take, List.length_drop]
    omega

end Orda
