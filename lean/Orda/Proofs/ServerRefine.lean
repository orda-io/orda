/-
The store-level server (`processPack` of Model/Server, on a `Store`) refines the abstract server of the
protocol system `PSys` (Proofs/Protocol), per datatype id, under the abstraction `absLog` / `absCps` / `absRec`.

A read-write request that is served, on whichever dispatch path, is decided by the model's own `pushOps` run from
⟨|absLog|, recorded cseq⟩ under the protocol's labels (`pushOps` does not depend on the labels it writes,
`SL.pushOps_eq`; `served_decided`), and does to log and records what the protocol's server function does
(`served_commutes`).  Whether the client is recorded already is not a hypothesis: an unrecorded client is served
from ⟨0,0⟩, which is `PSys.recOf`'s default.

Runs: `SSys` = the real store + the protocol's clients and adversarial network.  Every `SStep` is a `PStep`
of the abstraction or invisible and keeps `Good`, so `PReach` of the abstraction is kept along every run.
One subscribe pack is stated here as well (`processPack_is_serveSub`: the abstract server on no operations); as STEPS of
runs, create / subscribe packs on the target itself are in Proofs/ServerRefineJoin.  Not covered: read-only and volatile
clients, snapshot requests.
-/
import Orda.Proofs.Protocol
namespace Orda.SRef
open Orda

/-! ## The abstraction -/

/-- the protocol's view of one datatype of the store: its operations in log (sseq) order (the same term as `Store.logOf` of
    Model/Snap, the name under which the snapshot theorems are stated) -/
def absLog (st : Store) (duid : String) : List Op := (st.getOperations duid 1).map (·.op)

/-- … and the checkpoint recorded per (read-write) client in the datatype document -/
def absCps (st : Store) (duid : String) : List (String × CheckPoint) :=
  match st.getDatatype duid with
  | none => []
  | some d => d.rw.map (fun e => (e.1, e.2.cp))

/-- the server's record of client `u` for datatype `duid`, read as `PSys.recOf` reads it -/
def absRec (st : Store) (duid u : String) : CheckPoint := (alFind u (absCps st duid)).getD ⟨0, 0⟩

/-! ## `getOperations` on a gapless log -/

/-- on a gapless log `1..E`, the operations from sseq `s+1` on are the log without its first `s` entries -/
theorem getOperations_drop {st : Store} {duid : String} {E : Nat}
    (hlog : (st.opsOf duid).map (·.sseq) = List.range' 1 E) (s : Nat) :
    st.getOperations duid (s + 1) = (st.opsOf duid).drop s :=
  SL.getOperations_eq_drop hlog s

theorem absLog_eq {st : Store} (inv : LogInv st) (duid : String) : absLog st duid = (st.opsOf duid).map (·.op) :=
  inv.log_eq duid

theorem absLog_length {st : Store} {duid : String} {E : Nat} (inv : LogInv st)
    (hlog : (st.opsOf duid).map (·.sseq) = List.range' 1 E) : (absLog st duid).length = E := by
  rw [absLog_eq inv, List.length_map]
  have := congrArg List.length hlog
  simpa using this

/-! ## One ordinary request -/

/-- an ORDINARY request of client `cl` (registered in collection `col`) for the datatype document `d`:
    no create / subscribe / snapshot bit, read-write, the datatype the pack names by id exists in the
    client's collection under the pack's key, the client is not volatile (a volatile client is neither
    recorded nor sent anything), and the log has not been cut beyond the request's checkpoint.
    (The datatype's type, visibility, and whether the client is recorded already are NOT needed: an
    unrecorded client is served from ⟨0,0⟩, which is what `PSys.recOf` says.) -/
structure Ordinary (st : Store) (cl : ClientDoc) (col : CollectionDoc) (p : Pack) (d : DatatypeDoc) : Prop where
  noCreate : p.create = false
  noSubscribe : p.subscribe = false
  readWrite : p.readOnly = false
  noSnapshot : p.snapshot = false
  found : st.getDatatype p.duid = some d
  sameCol : d.colNum = col.num
  sameKey : d.key = p.key
  notVolatile : cl.typ ≠ 2
  logKept : d.sseqBegin ≤ p.cp.sseq + 1

section one
variable {st : Store} {cl : ClientDoc} {col : CollectionDoc} {p : Pack} {d : DatatypeDoc}

theorem Ordinary.duid (h : Ordinary st cl col p d) : d.duid = p.duid := (SL.getDatatype_some h.found).2
theorem Ordinary.mem (h : Ordinary st cl col p d) : d ∈ st.datatypes := (SL.getDatatype_some h.found).1

theorem Ordinary.served (h : Ordinary st cl col p d) : SL.Served st col p .normal d :=
  ⟨by simp [SL.opDuid, h.duid], h.sameCol, Or.inr h.mem⟩

theorem Ordinary.path (h : Ordinary st cl col p d) : SL.Path st cl col p .normal d :=
  .byId h.noCreate h.noSubscribe h.found h.sameCol h.sameKey

theorem Ordinary.eq_finish (h : Ordinary st cl col p d) :
    processPack st cl col p = SL.finish st cl col p .normal d :=
  h.path.eq_finish h.readWrite

theorem Ordinary.gapless (inv : LogInv st) (h : Ordinary st cl col p d) :
    (st.opsOf p.duid).map (·.sseq) = List.range' 1 d.sseqEnd := by
  rw [← h.duid]; exact inv.gapless d h.mem

end one

/-! ## A served read-write request, on any dispatch path, in the protocol's terms -/

section served
variable {st : Store} {cl : ClientDoc} {col : CollectionDoc} {p : Pack} {d : Dispatch} {doc : DatatypeDoc}
  {cp2 : CheckPoint} {nd : List OpDoc}

theorem served_cps (inv : LogInv st) (hs : SL.Served st col p d doc) :
    absCps st doc.duid = doc.rw.map (fun e => (e.1, e.2.cp)) := by
  unfold absCps
  rcases hs.src with ⟨hf, -, hrw, -⟩ | hm
  · have : st.getDatatype doc.duid = none := List.find?_eq_none.2 (fun y hy => by simpa using hf y hy)
    rw [this, hrw]; rfl
  · rw [SL.getDatatype_of_mem inv hm]

theorem cp0_abs (inv : LogInv st) (hs : SL.Served st col p d doc) (hrw : p.readOnly = false) :
    SL.cp0 cl p doc = absRec st doc.duid cl.cuid := by
  unfold SL.cp0 absRec DatatypeDoc.sub
  rw [served_cps inv hs, hrw, if_neg Bool.false_ne_true, alFind_map (fun s : SubClient => s.cp)]
  cases alFind cl.cuid doc.rw <;> rfl

/-- `r`, the result `okR` of a served read-write pack of a non-volatile client (log not cut beyond its sseq), in the protocol's
    terms; `dc` is the document it wrote -/
structure OkRAbs (st : Store) (cl : ClientDoc) (p : Pack) (doc : DatatypeDoc) (cp2 : CheckPoint) (nd : List OpDoc)
    (dc : DatatypeDoc) (r : PPResult) : Prop where
  log : absLog r.store doc.duid = absLog st doc.duid ++ nd.map (·.op)
  cps : absCps r.store doc.duid = alSet cl.cuid cp2 (absCps st doc.duid)
  respOps : r.resp.ops = (absLog st doc.duid).drop p.cp.sseq
  respCp : r.resp.cp = cp2
  stored : r.store.getDatatype doc.duid = some dc
  other : ∀ u, u ≠ doc.duid →
    r.store.getDatatype u = st.getDatatype u ∧ ∀ f, r.store.getOperations u f = st.getOperations u f
  inv : LogInv r.store

theorem okR_abs (inv : LogInv st) (hs : SL.Served st col p d doc) (hp : SL.pushRes cl col p d doc = .ok (cp2, nd))
    (hrw : p.readOnly = false) (hv : cl.typ ≠ 2) (hsn : p.snapshot = false) (hb : doc.sseqBegin ≤ p.cp.sseq + 1) :
    OkRAbs st cl p doc cp2 nd (SL.doc2 st cl p d doc cp2 nd) (SL.okR st cl col p d doc cp2 nd) := by
  have hndu : ∀ o ∈ nd, o.duid = doc.duid := fun o ho => ((SL.pushRes_spec hs hp).mem o ho).1
  have hc3 : SL.cp3 st cl p d doc cp2 nd = cp2 := SL.cp3_eq inv hs hp hrw
  have inv' : LogInv (SL.okR st cl col p d doc cp2 nd).store := SL.logInv_okR inv hs hp
  have h2du : (SL.doc2 st cl p d doc cp2 nd).duid = doc.duid := SL.doc2_duid ..
  have hget : (SL.okR st cl col p d doc cp2 nd).store.getDatatype doc.duid = some (SL.doc2 st cl p d doc cp2 nd) :=
    SL.getDatatype_upsert_of_duid _ _ h2du
  refine ⟨?_, ?_, ?_, hc3, hget, ?_, inv'⟩
  · -- the stored documents of the id: the old ones, then the new ones
    rw [absLog_eq inv', absLog_eq inv]
    show ((st.operations ++ nd).filter _).map _ = _
    rw [List.filter_append, List.map_append, List.filter_eq_self.2 (fun o ho => decide_eq_true (hndu o ho))]
    rfl
  · have hrw2 : (SL.doc2 st cl p d doc cp2 nd).rw = alSet cl.cuid ⟨cp2, cl.typ⟩ doc.rw := by
      rw [SL.doc2_eq, hc3]
      exact if_neg (fun h => h.elim hv (by rw [hrw]; exact Bool.noConfusion))
    rw [served_cps inv hs]
    unfold absCps
    rw [hget]
    simp only [hrw2]
    exact alSet_map (fun s : SubClient => s.cp) cl.cuid ⟨cp2, cl.typ⟩ doc.rw
  · show (SL.pulled st cl p d doc).map (·.op) = _
    rw [SL.pulled_eq hv hb hsn, hs.duid, inv.getOperations, absLog_eq inv, List.map_drop]
  · exact fun u hu => ⟨SL.getDatatype_upsert_ne _ _ (by rw [h2du]; exact hu), SL.getOperations_other hndu hu⟩

end served

/-- **Every path at once.**  A read-write pack that goes on to `finish` on `d`/`doc` is decided by the model's own
    `pushOps`, run from ⟨|log|, recorded cseq⟩ under the protocol's labels on what the path pushes (nothing, for a
    subscription).  With `okR_abs` this is the abstract `serve` / `serveSub` / `refuse`, whichever the path. -/
theorem served_decided {st : Store} {cl : ClientDoc} {col : CollectionDoc} {p : Pack} {d : Dispatch} {doc : DatatypeDoc}
    (inv : LogInv st) (hs : SL.Served st col p d doc) (heq : processPack st cl col p = SL.finish st cl col p d doc)
    (hrw : p.readOnly = false) :
    match pushOps pDuid pCol ⟨(absLog st doc.duid).length, (absRec st doc.duid cl.cuid).cseq⟩
        (SL.inOps p d) [] with
    | .ok (cp2, docs) => ∃ nd, nd.map (·.op) = docs.map (·.op) ∧ SL.pushRes cl col p d doc = .ok (cp2, nd) ∧
        processPack st cl col p = SL.okR st cl col p d doc cp2 nd
    | .error code => processPack st cl col p = SL.pushErrR st p d doc code := by
  rw [heq, SL.finish, SL.pushRes_rw hrw, cp0_abs inv hs hrw, absLog_length inv (SL.served_log inv hs), SL.pushOps_eq,
    SL.pushOps_eq]
  -- both runs accept the same operations; they differ in the labels of the documents
  cases SL.accepted (absRec st doc.duid cl.cuid).cseq (SL.inOps p d) with
  | error e => rfl
  | ok a => exact ⟨_, by simp only [List.nil_append, SL.mkDocs_ops], rfl, rfl⟩

/-- **The square commutes.**  Under the abstraction, a read-write pack of a non-volatile client that goes on to `finish` on
    `d`/`doc` (log not cut beyond its sseq) does to (log, records) of `doc`'s id, and answers, what the protocol's server
    function does on the operations the path pushes — on whichever path, served or refused by `pushOps`.  The answer is
    stated as the list a network gains (nothing for an error pack), `mk` building its response: the form of `PStep.of_absServe`. -/
theorem served_commutes {st : Store} {cl : ClientDoc} {col : CollectionDoc} {p : Pack} {d : Dispatch} {doc : DatatypeDoc}
    (inv : LogInv st) (hs : SL.Served st col p d doc) (heq : processPack st cl col p = SL.finish st cl col p d doc)
    (hrw : p.readOnly = false) (hv : cl.typ ≠ 2) (hsn : p.snapshot = false) (hb : doc.sseqBegin ≤ p.cp.sseq + 1) :
    let o := absServe (absLog st doc.duid) (absCps st doc.duid) cl.cuid p.cp.sseq (SL.inOps p d)
    absLog (processPack st cl col p).store doc.duid = o.1 ∧ absCps (processPack st cl col p).store doc.duid = o.2.1 ∧
    ∀ {β : Type} (mk : List Op → CheckPoint → β),
      (if (processPack st cl col p).resp.error then []
       else [mk (processPack st cl col p).resp.ops (processPack st cl col p).resp.cp]) =
        (o.2.2.map fun a => mk a.1 a.2).toList := by
  have hsd := served_decided inv hs heq hrw
  unfold absRec at hsd
  unfold absServe
  generalize pushOps pDuid pCol ⟨(absLog st doc.duid).length, ((alFind cl.cuid (absCps st doc.duid)).getD ⟨0, 0⟩).cseq⟩
    (SL.inOps p d) [] = res at hsd ⊢
  rcases res with code | ⟨cp2, docs⟩
  · rw [show processPack st cl col p = SL.pushErrR st p d doc code from hsd]; exact ⟨rfl, rfl, fun _ => rfl⟩
  · obtain ⟨nd, hndop, hpr, heq'⟩ := hsd
    have a := okR_abs inv hs hpr hrw hv hsn hb
    rw [heq', a.log, a.cps, a.respOps, a.respCp, hndop]; exact ⟨rfl, rfl, fun _ => rfl⟩

/-- what "`r` is the abstract `serve` step with result `(cp2, docs)`" means for a store-level result `r` -/
structure IsServe (st : Store) (cl : ClientDoc) (p : Pack) (cp2 : CheckPoint) (docs : List OpDoc) (r : PPResult) : Prop where
  /-- the log grows by exactly the operations `pushOps` accepts -/
  log : absLog r.store p.duid = absLog st p.duid ++ docs.map (·.op)
  /-- the client's record becomes `cp2`; the association list changes exactly as in `PStep.serve` -/
  cps : absCps r.store p.duid = alSet cl.cuid cp2 (absCps st p.duid)
  /-- the response carries ALL operations of the OLD log after the request's sseq (own ones included) -/
  respOps : r.resp.ops = (absLog st p.duid).drop p.cp.sseq
  respCp : r.resp.cp = cp2
  respOk : r.resp.error = false ∧ r.resp.key = p.key ∧ r.resp.duid = p.duid
  pushed : r.pushed = docs.length
  otherClients : ∀ u, u ≠ cl.cuid → absRec r.store p.duid u = absRec st p.duid u
  otherDatatypes : ∀ u, u ≠ p.duid →
    r.store.getDatatype u = st.getDatatype u ∧ ∀ f, r.store.getOperations u f = st.getOperations u f
  otherAbs : ∀ u, u ≠ p.duid → absLog r.store u = absLog st u ∧ absCps r.store u = absCps st u
  rest : r.store.collections = st.collections ∧ r.store.counter = st.counter ∧ r.store.clients = st.clients ∧
    r.store.snapshots = st.snapshots ∧ r.store.userDocs = st.userDocs
  inv : LogInv r.store

section one
variable {st : Store} {cl : ClientDoc} {col : CollectionDoc} {p : Pack} {d : DatatypeDoc}

/-- **One ordinary request served by the store-level server is the abstract `serve` step.** -/
theorem processPack_is_serve (inv : LogInv st) (h : Ordinary st cl col p d) {cp2 : CheckPoint} {docs : List OpDoc}
    (hpush : pushOps pDuid pCol ⟨(absLog st p.duid).length, (absRec st p.duid cl.cuid).cseq⟩ p.ops [] = .ok (cp2, docs)) :
    IsServe st cl p cp2 docs (processPack st cl col p) := by
  have hps := served_decided inv h.served h.eq_finish h.readWrite
  rw [SL.inOps_of_ne p (d := .normal) nofun, h.duid, hpush] at hps
  obtain ⟨nd, hndop, hpr, heq⟩ := hps
  have a := okR_abs inv h.served hpr h.readWrite h.notVolatile h.noSnapshot h.logKept
  have e := h.duid
  rw [heq]
  refine ⟨by rw [← e, a.log, hndop], e ▸ a.cps, e ▸ a.respOps, a.respCp, ⟨rfl, rfl, rfl⟩, ?_, ?_, e ▸ a.other, ?_,
    ⟨rfl, rfl, rfl, rfl, rfl⟩, a.inv⟩
  · show nd.length = docs.length
    rw [← List.length_map (·.op), hndop, List.length_map]
  · intro u hu
    unfold absRec
    rw [← e, a.cps, alFind_alSet_ne _ _ hu]
  · intro u hu
    obtain ⟨h1, h2⟩ := a.other u (e ▸ hu)
    exact ⟨by unfold absLog; rw [h2], by unfold absCps; rw [h1]⟩

/-- **… and when `pushOps` refuses (a gap in the client's sequence numbers), the store is unchanged and the
    response is the error pack carrying `pushOps`' code: the abstract `refuse`.** -/
theorem processPack_is_refuse (inv : LogInv st) (h : Ordinary st cl col p d) {code : Nat}
    (hpush : pushOps pDuid pCol ⟨(absLog st p.duid).length, (absRec st p.duid cl.cuid).cseq⟩ p.ops [] = .error code) :
    let r := processPack st cl col p
    r.store = st ∧ r.resp.error = true ∧ r.resp.ops = [⟨OpId.nil, .error code⟩] ∧
    r.resp.key = p.key ∧ r.resp.duid = p.duid ∧ r.pushed = 0 ∧ r.notif = none := by
  have heq := served_decided inv h.served h.eq_finish h.readWrite
  rw [SL.inOps_of_ne p (d := .normal) nofun, h.duid, hpush] at heq
  rw [heq]
  exact ⟨rfl, rfl, rfl, rfl, rfl, rfl, rfl⟩

/-- an ordinary request is answered with an error pack exactly when `pushOps` refuses it -/
theorem error_iff_refused (inv : LogInv st) (h : Ordinary st cl col p d) :
    (processPack st cl col p).resp.error = true ↔
      ∃ code, pushOps pDuid pCol ⟨(absLog st p.duid).length, (absRec st p.duid cl.cuid).cseq⟩ p.ops [] = .error code := by
  cases hp : pushOps pDuid pCol ⟨(absLog st p.duid).length, (absRec st p.duid cl.cuid).cseq⟩ p.ops [] with
  | error code => exact ⟨fun _ => ⟨code, rfl⟩, fun _ => (processPack_is_refuse inv h hp).2.1⟩
  | ok r =>
    obtain ⟨cp2, docs⟩ := r
    have := (processPack_is_serve inv h hp).respOk.1
    constructor
    · intro he; rw [this] at he; cases he
    · rintro ⟨code, hc⟩; cases hc

end one

/-! ## One subscribe request: the abstract server on no operations (what `JStep.serveSub` of Proofs/ProtocolJoin does) -/

/-- a SUBSCRIBE request (no create bit, read-write, no snapshot bit) of a non-volatile client for a key
    that exists in its collection, with the right type, visible, stored under another id than the one
    the client's fresh datatype object carries, log not cut beyond the request's sseq -/
structure SubscribeReq (st : Store) (cl : ClientDoc) (col : CollectionDoc) (p : Pack) (d : DatatypeDoc) : Prop where
  subscribe : p.subscribe = true
  noCreate : p.create = false
  readWrite : p.readOnly = false
  noSnapshot : p.snapshot = false
  byKey : st.getDatatypeByKey col.num p.key = some d
  sameType : d.typ = p.typ
  visible : d.visible = true
  otherId : d.duid ≠ p.duid
  notVolatile : cl.typ ≠ 2
  logKept : d.sseqBegin ≤ p.cp.sseq + 1

theorem processPack_is_serveSub {st : Store} {cl : ClientDoc} {col : CollectionDoc} {p : Pack} {d : DatatypeDoc}
    (inv : LogInv st) (h : SubscribeReq st cl col p d) :
    let r := processPack st cl col p
    let cp2 : CheckPoint := ⟨(absLog st d.duid).length, (absRec st d.duid cl.cuid).cseq⟩
    absLog r.store d.duid = absLog st d.duid ∧
    absCps r.store d.duid = alSet cl.cuid cp2 (absCps st d.duid) ∧
    r.resp.ops = (absLog st d.duid).drop p.cp.sseq ∧
    r.resp.cp = cp2 ∧
    r.resp.error = false ∧ r.resp.subscribe = true ∧ r.resp.duid = d.duid ∧ r.resp.key = p.key ∧
    r.store.operations = st.operations ∧ r.pushed = 0 ∧
    (∀ u, u ≠ d.duid → r.store.getDatatype u = st.getDatatype u) ∧
    LogInv r.store := by
  have hpath : SL.Path st cl col p .subscribe d := .subscribe h.subscribe h.byKey h.sameType h.visible (.inr h.otherId)
  -- the subscribe path pushes nothing: `pushOps` on `[]` returns ⟨end of the log, recorded cseq⟩
  obtain ⟨nd, hnd, hpr, heq⟩ := served_decided inv hpath.okFacts.served (hpath.eq_finish h.readWrite) h.readWrite
  cases List.map_eq_nil_iff.1 hnd
  have a := okR_abs inv hpath.okFacts.served hpr h.readWrite h.notVolatile h.noSnapshot h.logKept
  intro r cp2
  have hr : r = SL.okR st cl col p .subscribe d cp2 [] := heq
  rw [hr]
  exact ⟨a.log.trans (List.append_nil _), a.cps, a.respOps, a.respCp, rfl, rfl, rfl, rfl, List.append_nil _, rfl,
    fun u hu => (a.other u hu).1, a.inv⟩

/-! ## Runs: the store-level system and its simulation by `PSys` -/

/-- the store-level system: the REAL store, together with the protocol's clients and its adversarial
    network (requests ever sent, responses ever produced) -/
structure SSys where
  st : Store
  clients : List PClient
  reqs : List PReq
  resps : List PResp

/-- the datatype whose protocol is observed: its id, its key, the collection it lives in -/
structure Target where
  col : CollectionDoc
  duid : String
  key : String

/-- the abstraction function -/
def SSys.abs (T : SSys) (tg : Target) : PSys :=
  ⟨T.clients, absLog T.st tg.duid, absCps T.st tg.duid, T.reqs, T.resps⟩

/-- pack `p` carries request `r` for the target as an ordinary push-pull pack (what `WDt.createPack` builds
    for a subscribed datatype: no option bit, the client's sseq, its pending operations) -/
structure PackOf (tg : Target) (r : PReq) (p : Pack) : Prop where
  key : p.key = tg.key
  duid : p.duid = tg.duid
  noCreate : p.create = false
  noSubscribe : p.subscribe = false
  readWrite : p.readOnly = false
  noSnapshot : p.snapshot = false
  ops : p.ops = r.ops
  sseq : p.cp.sseq = r.s

theorem packOf_createPack {tg : Target} (w : WDt) (i : Nat) (hs : w.dstate = .subscribed)
    (hk : w.key = tg.key) (hd : w.duid = tg.duid) : PackOf tg ⟨i, w.rep.cp.sseq, w.rep.pending⟩ w.createPack := by
  refine ⟨hk, hd, ?_, ?_, rfl, rfl, rfl, rfl⟩ <;> simp [WDt.createPack, hs]

/-- the response the network carries back for a store-level result -/
def respOf (i : Nat) (r : PPResult) : List PResp := if r.resp.error then [] else [⟨i, r.resp.ops, r.resp.cp⟩]

inductive SStep (tg : Target) : SSys → SSys → Prop
  /-- as `PStep.localOp` -/
  | localOp (T : SSys) (i : Nat) (cl : PClient) (o : Op) :
      T.clients[i]? = some cl → o.id.cuid = cl.cuid → o.id.seq = cl.buf.length + 1 →
      SStep tg T { T with clients := T.clients.set i { cl with buf := cl.buf ++ [o] } }
  /-- as `PStep.send`: the request is cut from the client's buffer -/
  | send (T : SSys) (i : Nat) (cl : PClient) :
      T.clients[i]? = some cl →
      SStep tg T { T with reqs := T.reqs ++ [⟨i, cl.cp.sseq, cl.buf.drop cl.cp.cseq⟩] }
  /-- the STORE-LEVEL server handles any request ever sent, as an ordinary pack of the (non-volatile)
      client document `cd`, by `processPack`; its answer, unless an error pack, joins the responses -/
  | serve (T : SSys) (r : PReq) (cl : PClient) (cd : ClientDoc) (p : Pack) :
      r ∈ T.reqs → T.clients[r.i]? = some cl → cd.cuid = cl.cuid → cd.typ ≠ 2 → PackOf tg r p →
      SStep tg T { T with st := (processPack T.st cd tg.col p).store,
                          resps := T.resps ++ respOf r.i (processPack T.st cd tg.col p) }
  /-- as `PStep.deliver` -/
  | deliver (T : SSys) (p : PResp) (cl : PClient) :
      p ∈ T.resps → T.clients[p.i]? = some cl →
      SStep tg T { T with clients := T.clients.set p.i (cl.receive p) }
  /-- ANY pack of ANY client in ANY collection that is answered for another datatype id -/
  | other (T : SSys) (cd : ClientDoc) (col : CollectionDoc) (p : Pack) :
      (processPack T.st cd col p).resp.duid ≠ tg.duid →
      SStep tg T { T with st := (processPack T.st cd col p).store }
  /-- anything that leaves the datatype and operation collections alone (`makeCollection`,
      `processClient`, `updateSnapshot`, …) -/
  | frame (T : SSys) (st' : Store) :
      st'.datatypes = T.st.datatypes → st'.operations = T.st.operations → SStep tg T { T with st := st' }

/-- what the runs keep: the log invariant, and the target exists, in its collection, under its key, with
    an uncut log -/
structure Good (tg : Target) (T : SSys) : Prop where
  inv : LogInv T.st
  target : ∃ d, T.st.getDatatype tg.duid = some d ∧ d.colNum = tg.col.num ∧ d.key = tg.key ∧ d.sseqBegin ≤ 1

inductive SRun (tg : Target) : SSys → SSys → Prop
  | refl (T : SSys) : SRun tg T T
  | step {T T' T'' : SSys} : SRun tg T T' → SStep tg T' T'' → SRun tg T T''

theorem abs_of_same {st st' : Store} (hd : st'.datatypes = st.datatypes) (ho : st'.operations = st.operations) (u : String) :
    st'.getDatatype u = st.getDatatype u ∧ absLog st' u = absLog st u ∧ absCps st' u = absCps st u := by
  have h1 : st'.getDatatype u = st.getDatatype u := by unfold Store.getDatatype; rw [hd]
  refine ⟨h1, ?_, ?_⟩
  · unfold absLog; rw [SL.getOperations_eq, SL.getOperations_eq, ho]
  · unfold absCps; rw [h1]

theorem other_abs (st : Store) (cd : ClientDoc) (col : CollectionDoc) (p : Pack) {u : String}
    (hne : (processPack st cd col p).resp.duid ≠ u) :
    (processPack st cd col p).store.getDatatype u = st.getDatatype u ∧
    absLog (processPack st cd col p).store u = absLog st u ∧ absCps (processPack st cd col p).store u = absCps st u := by
  refine SL.processPack_cases st cd col p (fun r => r.resp.duid ≠ u → r.store.getDatatype u = st.getDatatype u ∧
    absLog r.store u = absLog st u ∧ absCps r.store u = absCps st u)
    (fun _ _ => ⟨rfl, rfl, rfl⟩) (fun _ _ _ _ => ⟨rfl, rfl, rfl⟩) ?_ hne
  intro d doc cp2 nd f hp hne
  have hu : u ≠ doc.duid := fun e => hne (f.rduid.trans e.symm)
  have h1 : (SL.okR st cd col p d doc cp2 nd).store.getDatatype u = st.getDatatype u :=
    SL.getDatatype_upsert_ne _ _ (by rw [SL.doc2_duid]; exact hu)
  have h2 := SL.getOperations_other (st := st) (dts := upsertDatatype (SL.doc2 st cd p d doc cp2 nd) st.datatypes)
    (fun o ho => ((SL.pushRes_spec f.served hp).mem o ho).1) hu 1
  exact ⟨h1, by unfold absLog; exact congrArg _ h2, by unfold absCps; rw [h1]⟩

theorem Good.processPack {tg : Target} {T : SSys} (g : Good tg T) (cd : ClientDoc) (col : CollectionDoc) (p : Pack)
    (cls : List PClient) (rq : List PReq) (rs : List PResp) : Good tg ⟨(processPack T.st cd col p).store, cls, rq, rs⟩ := by
  obtain ⟨d, hd, hc, hk, hb⟩ := g.target
  obtain ⟨d', h1, h2, h3, h4, -, -, -⟩ := processPack_keeps T.st cd col p g.inv hd
  exact ⟨logInv_processPack _ _ _ _ g.inv, d', h1, h3.trans hc, h2.trans hk, by rw [h4]; exact hb⟩

theorem Good.ordinary {tg : Target} {T : SSys} (g : Good tg T) {r : PReq} {p : Pack} {cd : ClientDoc}
    (hp : PackOf tg r p) (hv : cd.typ ≠ 2) : ∃ d, Ordinary T.st cd tg.col p d := by
  obtain ⟨d, hd, hc, hk, hb⟩ := g.target
  exact ⟨d, hp.noCreate, hp.noSubscribe, hp.readWrite, hp.noSnapshot, by rw [hp.duid]; exact hd, hc,
    by rw [hk, hp.key], hv, by omega⟩

theorem serve_simulates {tg : Target} {T : SSys} (g : Good tg T) {r : PReq} {cl : PClient} {cd : ClientDoc} {p : Pack}
    (hr : r ∈ T.reqs) (hi : T.clients[r.i]? = some cl) (hcu : cd.cuid = cl.cuid) (hv : cd.typ ≠ 2) (hp : PackOf tg r p) :
    PStep (T.abs tg) (SSys.abs { T with st := (processPack T.st cd tg.col p).store,
                                        resps := T.resps ++ respOf r.i (processPack T.st cd tg.col p) } tg) := by
  obtain ⟨d, hord⟩ := g.ordinary hp hv
  obtain ⟨e1, e2, e3⟩ := served_commutes g.inv hord.served hord.eq_finish hord.readWrite hv hord.noSnapshot hord.logKept
  rw [SL.inOps_of_ne p (d := .normal) nofun, hord.duid, hp.duid, hcu, hp.sseq, hp.ops] at e1 e2 e3
  show PStep (T.abs tg) ⟨T.clients, absLog (processPack T.st cd tg.col p).store tg.duid,
    absCps (processPack T.st cd tg.col p).store tg.duid, T.reqs, T.resps ++ respOf r.i (processPack T.st cd tg.col p)⟩
  unfold respOf
  rw [e1, e2, e3 (PResp.mk r.i)]
  exact PStep.of_absServe (T.abs tg) r cl hr hi

theorem store_step_simulates {tg : Target} {T T' : SSys} (g : Good tg T) (s : SStep tg T T') :
    Good tg T' ∧ (PStep (T.abs tg) (T'.abs tg) ∨ T'.abs tg = T.abs tg) := by
  cases s with
  | localOp i cl o hi hu hs => exact ⟨⟨g.inv, g.target⟩, Or.inl (PStep.localOp (T.abs tg) i cl o hi hu hs)⟩
  | send i cl hi => exact ⟨⟨g.inv, g.target⟩, Or.inl (PStep.send (T.abs tg) i cl hi)⟩
  | deliver q cl hq hi => exact ⟨⟨g.inv, g.target⟩, Or.inl (PStep.deliver (T.abs tg) q cl hq hi)⟩
  | serve r cl cd p hr hi hcu hv hp => exact ⟨g.processPack .., Or.inl (serve_simulates g hr hi hcu hv hp)⟩
  | other cd col p hne =>
    obtain ⟨-, h2, h3⟩ := other_abs T.st cd col p hne
    refine ⟨g.processPack .., Or.inr ?_⟩
    show PSys.mk _ _ _ _ _ = PSys.mk _ _ _ _ _
    rw [h2, h3]
  | frame st' hd ho =>
    obtain ⟨h1, h2, h3⟩ := abs_of_same hd ho tg.duid
    refine ⟨⟨SL.logInv_congr hd ho g.inv, ?_⟩, Or.inr ?_⟩
    · show ∃ d, st'.getDatatype tg.duid = some d ∧ _
      rw [h1]; exact g.target
    · show PSys.mk _ _ _ _ _ = PSys.mk _ _ _ _ _
      rw [h2, h3]

/-- **Runs.**  Every run of the store-level system — local operations, requests cut from the clients'
    buffers, `processPack` serving any request ever sent any number of times as an ordinary pack,
    deliveries of any response ever produced in any order, interleaved with arbitrary requests on other
    datatypes and with administrative changes — is matched step by step by the protocol system under the
    abstraction `SSys.abs`: from a good store whose abstraction is protocol-reachable, every state of the
    run is good and its abstraction is protocol-reachable. -/
theorem store_run_simulates_protocol {tg : Target} {cuids : List String} {T0 T : SSys}
    (g0 : Good tg T0) (h0 : PReach cuids (T0.abs tg)) (run : SRun tg T0 T) :
    Good tg T ∧ PReach cuids (T.abs tg) := by
  induction run with
  | refl => exact ⟨g0, h0⟩
  | step _ s ih =>
    obtain ⟨g, h⟩ := ih
    obtain ⟨g', hs⟩ := store_step_simulates g s
    refine ⟨g', ?_⟩
    rcases hs with hs | hs
    · exact PReach.step h hs
    · rw [hs]; exact h

/-! ### the protocol invariants, as theorems about the STORE -/

/-- **Exactly once, on the store.**  In every state of a run of the store-level system, the operation
    documents stored for the target, in store order (which is sseq order, and what `getOperations` returns),
    carry: no (client, seq) pair twice; exactly the operations issued by the clients and acknowledged by
    the server's records; per client, its acknowledged operations in the order it issued them; and every
    client has applied exactly the foreign operations of the log prefix it has seen, each once, in log
    order — whatever was duplicated, lost, delayed or reordered on the way. -/
theorem store_log_exactly_once {tg : Target} {cuids : List String} {T0 T : SSys}
    (g0 : Good tg T0) (h0 : PReach cuids (T0.abs tg)) (run : SRun tg T0 T) :
    let log := (T.st.opsOf tg.duid).map (·.op)
    (T.st.getOperations tg.duid 1).map (·.op) = log ∧
    (log.map (fun o => (o.id.cuid, o.id.seq))).Nodup ∧
    (∀ o, o ∈ log ↔ ∃ cl ∈ T.clients, o ∈ cl.buf.take (absRec T.st tg.duid cl.cuid).cseq) ∧
    ∀ cl ∈ T.clients,
      log.filter (fun o => o.id.cuid = cl.cuid) = cl.buf.take (absRec T.st tg.duid cl.cuid).cseq ∧
      cl.applied = (log.take cl.cp.sseq).filter (fun o => o.id.cuid ≠ cl.cuid) := by
  obtain ⟨g, h⟩ := store_run_simulates_protocol g0 h0 run
  intro log
  have e : absLog T.st tg.duid = log := absLog_eq g.inv tg.duid
  refine ⟨e, ?_, ?_, ?_⟩
  · have := log_ids_nodup h
    rw [← e]; exact this
  · have := log_is_exactly_issued h
    rw [← e]; exact this
  · intro cl hcl
    have := proto_inv_client h cl hcl
    rw [← e]
    exact ⟨this.1, this.2.2.2.2.2⟩

/-- **No spurious refusal, on the store.**  In every state of a run, `processPack` answers any request ever
    sent (a retry, a duplicate, a late one), carried as an ordinary pack, without an error. -/
theorem store_never_refuses {tg : Target} {cuids : List String} {T0 T : SSys}
    (g0 : Good tg T0) (h0 : PReach cuids (T0.abs tg)) (run : SRun tg T0 T)
    {r : PReq} {cl : PClient} {cd : ClientDoc} {p : Pack}
    (hr : r ∈ T.reqs) (hi : T.clients[r.i]? = some cl) (hcu : cd.cuid = cl.cuid) (hv : cd.typ ≠ 2) (hp : PackOf tg r p) :
    (processPack T.st cd tg.col p).resp.error = false := by
  obtain ⟨g, h⟩ := store_run_simulates_protocol g0 h0 run
  obtain ⟨d, hord⟩ := g.ordinary hp hv
  obtain ⟨cp2, docs, hpush⟩ := never_refused h (r := r) (cl := cl) hr hi
  have hpush' : pushOps pDuid pCol ⟨(absLog T.st p.duid).length, (absRec T.st p.duid cd.cuid).cseq⟩ p.ops [] = .ok (cp2, docs) := by
    rw [hp.duid, hcu, hp.ops]; exact hpush
  exact (processPack_is_serve g.inv hord hpush').respOk.1

/-- the initial state: any good store in which the target has no operation and no recorded client yet -/
def SSys.init (st0 : Store) (cuids : List String) : SSys :=
  ⟨st0, cuids.map (fun u => ⟨u, [], ⟨0, 0⟩, []⟩), [], []⟩

theorem abs_init {tg : Target} {st0 : Store} (cuids : List String)
    (hl : absLog st0 tg.duid = []) (hc : absCps st0 tg.duid = []) : (SSys.init st0 cuids).abs tg = PSys.init cuids := by
  show PSys.mk _ (absLog st0 tg.duid) (absCps st0 tg.duid) _ _ = PSys.mk _ _ _ _ _
  rw [hl, hc]
  rfl

theorem store_run_from_fresh {tg : Target} {cuids : List String} {st0 : Store} {T : SSys} (hnd : cuids.Nodup)
    (g0 : Good tg (SSys.init st0 cuids)) (hl : absLog st0 tg.duid = []) (hc : absCps st0 tg.duid = [])
    (run : SRun tg (SSys.init st0 cuids) T) : Good tg T ∧ PReach cuids (T.abs tg) :=
  store_run_simulates_protocol g0 (by rw [abs_init cuids hl hc]; exact PReach.init hnd) run

/-! ### the RPC entry point -/

/-- `processPushPull` with one pack, for a client registered in the collection, is `processPack` -/
theorem processPushPull_single {st : Store} {colName cuid : String} {col : CollectionDoc} {cl : ClientDoc} (p : Pack)
    (hc : st.getCollection colName = some col) (hcl : st.getClient cuid = some cl) (hn : cl.colNum = col.num) :
    (st.processPushPull colName cuid [p]).1 = (processPack st cl col p).store ∧
    (st.processPushPull colName cuid [p]).2.1 = .ok [(processPack st cl col p).resp] := by
  rw [SL.processPushPull_eq, hc, hcl]
  simp [hn, SL.step]

/-- what the client does with the store's answer is what it does with the abstract answer (they are equal) -/
theorem receive_same {st : Store} {cl : ClientDoc} {col : CollectionDoc} {p : Pack} {d : DatatypeDoc}
    (inv : LogInv st) (h : Ordinary st cl col p d) {cp2 : CheckPoint} {docs : List OpDoc}
    (hpush : pushOps pDuid pCol ⟨(absLog st p.duid).length, (absRec st p.duid cl.cuid).cseq⟩ p.ops [] = .ok (cp2, docs))
    (pc : PClient) (i : Nat) :
    pc.receive ⟨i, (processPack st cl col p).resp.ops, (processPack st cl col p).resp.cp⟩ =
      pc.receive ⟨i, (absLog st p.duid).drop p.cp.sseq, cp2⟩ := by
  rw [(processPack_is_serve inv h hpush).respOps, (processPack_is_serve inv h hpush).respCp]

/-! ## Non-vacuity

A concrete store: collection "c" made, clients "a" and "b" registered, datatype "k" created by a's create
pack (carrying its snapshot operation `a1`), b subscribed (its datatype object has another id, "d2"; the
answer tells it the stored id "d1").  Then ONE ordinary push-pull of b carrying `b1`. -/
namespace Ex

def col : CollectionDoc := ⟨"c", 1⟩
def a1 : Op := ⟨⟨0, 1, "a", 1⟩, .snapshot (.counter 0)⟩
def b1 : Op := ⟨⟨0, 2, "b", 1⟩, .increase 5⟩
def packCreate : Pack := { key := "k", duid := "d1", create := true, cp := ⟨0, 1⟩, typ := .counter, ops := [a1] }
def packSub : Pack := { key := "k", duid := "d2", subscribe := true, cp := ⟨0, 0⟩, typ := .counter, ops := [] }
def packB : Pack := { key := "k", duid := "d1", cp := ⟨1, 1⟩, typ := .counter, ops := [b1] }

def s0 : Store := (({} : Store).makeCollection "c").1
def s1 : Store := (s0.processClient false "c" ⟨"a", "alice", 0, 0, 0⟩).1
def s2 : Store := (s1.processClient false "c" ⟨"b", "bob", 0, 0, 0⟩).1
def cA : ClientDoc := ⟨"a", "alice", 1, 0, 0⟩
def cB : ClientDoc := ⟨"b", "bob", 1, 0, 0⟩
def s3 : Store := (processPack s2 cA col packCreate).store
def s4 : Store := (processPack s3 cB col packSub).store
def s5 : Store := (processPack s4 cB col packB).store

def d4 : DatatypeDoc := ⟨"d1", "k", 1, .counter, 0, 1, 0, true, [("a", ⟨⟨1, 1⟩, 0⟩), ("b", ⟨⟨1, 0⟩, 0⟩)], []⟩
def d3 : DatatypeDoc := ⟨"d1", "k", 1, .counter, 0, 1, 0, true, [("a", ⟨⟨1, 1⟩, 0⟩)], []⟩

/-! the stores, evaluated: the proofs below rewrite with these before they compute -/
theorem s2_val : s2 = ⟨[col], some 1, [cA, cB], [], [], [], []⟩ := by rfl
theorem s3_val : s3 = ⟨[col], some 1, [cA, cB], [d3], [⟨"d1", 1, 1, a1⟩], [], []⟩ := by rw [s3, s2_val]; rfl
theorem s4_val : s4 = ⟨[col], some 1, [cA, cB], [d4], [⟨"d1", 1, 1, a1⟩], [], []⟩ := by rw [s4, s3_val]; rfl
theorem s5_val : s5 = ⟨[col], some 1, [cA, cB],
    [⟨"d1", "k", 1, .counter, 0, 2, 0, true, [("a", ⟨⟨1, 1⟩, 0⟩), ("b", ⟨⟨2, 1⟩, 0⟩)], []⟩],
    [⟨"d1", 1, 1, a1⟩, ⟨"d1", 1, 2, b1⟩], [], []⟩ := by rw [s5, s4_val]; rfl
theorem absLog4 : absLog s4 "d1" = [a1] := by rw [s4_val]; rfl
theorem absCps4 : absCps s4 "d1" = [("a", ⟨1, 1⟩), ("b", ⟨1, 0⟩)] := by rw [s4_val]; rfl

example : s2.getCollection "c" = some col ∧ s2.getClient "a" = some cA ∧ s2.getClient "b" = some cB := by
  rw [s2_val]; exact ⟨rfl, rfl, rfl⟩

theorem inv4 : LogInv s4 :=
  logInv_processPack _ _ _ _ (logInv_processPack _ _ _ _ (logInv_processClient _ _ _ _
    (logInv_processClient _ _ _ _ (logInv_makeCollection _ _ logInv_empty))))

theorem ord : Ordinary s4 cB col packB d4 := by
  rw [s4_val]; exact ⟨rfl, rfl, rfl, rfl, rfl, rfl, rfl, by decide, by decide⟩

theorem push : pushOps pDuid pCol ⟨(absLog s4 packB.duid).length, (absRec s4 packB.duid cB.cuid).cseq⟩ packB.ops []
    = .ok (⟨2, 1⟩, [⟨pDuid, pCol, 2, b1⟩]) := by
  rw [show packB.duid = "d1" from rfl, absLog4, absRec, absCps4]; rfl

example : absLog s5 "d1" = [a1, b1] := by
  have h := (processPack_is_serve inv4 ord push).log
  rwa [show packB.duid = "d1" from rfl, absLog4] at h
example : absCps s5 "d1" = [("a", ⟨1, 1⟩), ("b", ⟨2, 1⟩)] := by
  have h := (processPack_is_serve inv4 ord push).cps
  rwa [show packB.duid = "d1" from rfl, absCps4] at h
example : (processPack s4 cB col packB).resp.ops = [] ∧ (processPack s4 cB col packB).resp.cp = ⟨2, 1⟩ := by
  have h := (processPack_is_serve inv4 ord push).respOps
  rw [show packB.duid = "d1" from rfl, absLog4] at h
  exact ⟨h, (processPack_is_serve inv4 ord push).respCp⟩
example : absLog s4 "d1" = [a1] ∧ absLog s5 "d1" = [a1, b1] := ⟨absLog4, by rw [s5_val]; rfl⟩

def tg : Target := ⟨col, "d1", "k"⟩
def A : PClient := ⟨"a", [a1], ⟨1, 1⟩, []⟩
def reqA : PReq := ⟨0, 0, [a1]⟩
def reqB0 : PReq := ⟨1, 0, []⟩
def respA : PResp := ⟨0, [], ⟨1, 1⟩⟩
def respB0 : PResp := ⟨1, [a1], ⟨1, 0⟩⟩
def reqB1 : PReq := ⟨1, 1, [b1]⟩
def respB1 : PResp := ⟨1, [], ⟨2, 1⟩⟩
def T4 : SSys := ⟨s4, [A, ⟨"b", [], ⟨1, 0⟩, [a1]⟩], [reqA, reqB0], [respA, respB0]⟩
def T5 : SSys := ⟨s5, [A, ⟨"b", [b1], ⟨2, 1⟩, [a1]⟩], [reqA, reqB0, reqB1], [respA, respB0, respB1]⟩

theorem good4 : Good tg T4 := ⟨inv4, d4, rfl, rfl, rfl, by decide⟩

def A0 (buf : List Op) : PClient := ⟨"a", buf, ⟨0, 0⟩, []⟩
def B0 : PClient := ⟨"b", [], ⟨0, 0⟩, []⟩
def B4 : PClient := ⟨"b", [], ⟨1, 0⟩, [a1]⟩
def cpsA : List (String × CheckPoint) := [("a", ⟨1, 1⟩)]
def cpsAB : List (String × CheckPoint) := [("a", ⟨1, 1⟩), ("b", ⟨1, 0⟩)]
def P1 : PSys := ⟨[A0 [a1], B0], [], [], [], []⟩
def P2 : PSys := ⟨[A0 [a1], B0], [], [], [reqA], []⟩
def P3 : PSys := ⟨[A0 [a1], B0], [a1], cpsA, [reqA], [respA]⟩
def P4 : PSys := ⟨[A, B0], [a1], cpsA, [reqA], [respA]⟩
def P5 : PSys := ⟨[A, B0], [a1], cpsA, [reqA, reqB0], [respA]⟩
def P6 : PSys := ⟨[A, B0], [a1], cpsAB, [reqA, reqB0], [respA, respB0]⟩
def P7 : PSys := ⟨[A, B4], [a1], cpsAB, [reqA, reqB0], [respA, respB0]⟩

/-- the abstraction of the store-level state after create and subscribe IS that protocol state -/
theorem abs4 : T4.abs tg = P7 := by rfl

theorem reach4 : PReach ["a", "b"] (T4.abs tg) := by
  have h0 : PReach ["a", "b"] (PSys.init ["a", "b"]) := .init (by decide)
  have h1 : PReach ["a", "b"] P1 := .step h0 (.localOp _ 0 (A0 []) a1 rfl rfl rfl)
  have h2 : PReach ["a", "b"] P2 := .step h1 (.send _ 0 (A0 [a1]) rfl)
  have h3 : PReach ["a", "b"] P3 :=
    .step h2 (.serve _ reqA (A0 [a1]) ⟨1, 1⟩ [⟨pDuid, pCol, 1, a1⟩] (.head _) rfl rfl)
  have h4 : PReach ["a", "b"] P4 := .step h3 (.deliver _ respA (A0 [a1]) (.head _) rfl)
  have h5 : PReach ["a", "b"] P5 := .step h4 (.send _ 1 B0 rfl)
  have h6 : PReach ["a", "b"] P6 := .step h5 (.serve _ reqB0 B0 ⟨1, 0⟩ [] (.tail _ (.head _)) rfl rfl)
  have h7 : PReach ["a", "b"] P7 := .step h6 (.deliver _ respB0 B0 (.tail _ (.head _)) rfl)
  exact h7

def T4a : SSys := ⟨s4, [A, ⟨"b", [b1], ⟨1, 0⟩, [a1]⟩], [reqA, reqB0], [respA, respB0]⟩
def T4b : SSys := ⟨s4, [A, ⟨"b", [b1], ⟨1, 0⟩, [a1]⟩], [reqA, reqB0, reqB1], [respA, respB0]⟩
def T4c : SSys := ⟨s5, [A, ⟨"b", [b1], ⟨1, 0⟩, [a1]⟩], [reqA, reqB0, reqB1], [respA, respB0, respB1]⟩

theorem run45 : SRun tg T4 T5 := by
  have r1 : SRun tg T4 T4a := .step (.refl T4) (.localOp _ 1 B4 b1 rfl rfl rfl)
  have r2 : SRun tg T4 T4b := .step r1 (.send _ 1 ⟨"b", [b1], ⟨1, 0⟩, [a1]⟩ rfl)
  have r3 : SRun tg T4 T4c := .step r2 (.serve _ reqB1 ⟨"b", [b1], ⟨1, 0⟩, [a1]⟩ cB packB (.tail _ (.tail _ (.head _))) rfl rfl (by decide)
    ⟨rfl, rfl, rfl, rfl, rfl, rfl, rfl, rfl⟩)
  exact .step r3 (.deliver _ respB1 ⟨"b", [b1], ⟨1, 0⟩, [a1]⟩ (.tail _ (.tail _ (.head _))) rfl)

example : PReach ["a", "b"] (T5.abs tg) := (store_run_simulates_protocol good4 reach4 run45).2

/-- exactly-once, read off the STORE s5, from the theorem … -/
example : ((s5.opsOf "d1").map (·.op)).filter (fun o => o.id.cuid = "b") = [b1] :=
  ((store_log_exactly_once good4 reach4 run45).2.2.2 ⟨"b", [b1], ⟨2, 1⟩, [a1]⟩ (.tail _ (.head _))).1
/-- … and by evaluation -/
example : (s5.opsOf "d1").map (·.op) = [a1, b1] := by rw [s5_val]; rfl

/-! the subscribe request of b (from s3 to s4) satisfies `SubscribeReq`, and `processPack_is_serveSub` gives
    the record ⟨1, 0⟩ and the answer `[a1]` -/
theorem inv3 : LogInv s3 :=
  logInv_processPack _ _ _ _ (logInv_processClient _ _ _ _
    (logInv_processClient _ _ _ _ (logInv_makeCollection _ _ logInv_empty)))

theorem subReq : SubscribeReq s3 cB col packSub d3 := by
  rw [s3_val]; exact ⟨rfl, rfl, rfl, rfl, rfl, rfl, rfl, by decide, by decide, by decide⟩

example : absCps s4 "d1" = [("a", ⟨1, 1⟩), ("b", ⟨1, 0⟩)] ∧ (processPack s3 cB col packSub).resp.ops = [a1] ∧
    (processPack s3 cB col packSub).resp.duid = "d1" :=
  ⟨(processPack_is_serveSub inv3 subReq).2.1, (processPack_is_serveSub inv3 subReq).2.2.1,
   (processPack_is_serveSub inv3 subReq).2.2.2.2.2.2.1⟩

/-! Why the hypotheses of `Ordinary` are there (each `rfl` evaluates `processPack`): a VOLATILE client is
    sent nothing and not recorded although its operation is stored; with the SNAPSHOT bit nothing is
    pulled; the abstract `serve` would answer with `[a1]` from sseq 0 in both cases. -/
example : (processPack s4 ⟨"b", "bob", 1, 2, 0⟩ col { packB with cp := ⟨0, 1⟩ }).resp.ops = [] ∧
    absCps (processPack s4 ⟨"b", "bob", 1, 2, 0⟩ col { packB with cp := ⟨0, 1⟩ }).store "d1" = absCps s4 "d1" ∧
    absLog (processPack s4 ⟨"b", "bob", 1, 2, 0⟩ col { packB with cp := ⟨0, 1⟩ }).store "d1" = [a1, b1] ∧
    (absLog s4 "d1").drop 0 = [a1] := by rw [s4_val]; exact ⟨rfl, rfl, rfl, rfl⟩
example : (processPack s4 cB col { packB with cp := ⟨0, 1⟩, snapshot := true }).resp.ops = [] ∧
    (processPack s4 cB col { packB with cp := ⟨0, 1⟩ }).resp.ops = [a1] := by rw [s4_val]; exact ⟨rfl, rfl⟩

end Ex

end Orda.SRef
