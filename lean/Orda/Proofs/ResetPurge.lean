/-
`Store.resetCollection` (PurgeCollection + CreateCollection) and the clients of the collection: their records are
purged, their later push-pulls are refused at RPC level with code 5 (the model's answer to an unknown client, as to an
unknown collection), and they can register again.

`getClient cuid` is `find?` of the FIRST record with that cuid.  After the reset (`clients.filter (·.colNum ≠ c.num)`)
the lookup finds the first SURVIVING record with the cuid, so "the first record with this cuid is in the collection" is
NOT enough (`first_record_not_enough`): the exact condition is that EVERY record with the cuid is in the collection
(`reset_purges_clients_iff`).
-/
import Orda.Proofs.ServerContract
namespace Orda.RP
open Orda

/-! ## list facts -/

theorem find?_filter_none {α : Type} (p q : α → Bool) (l : List α) :
    (l.filter q).find? p = none ↔ ∀ x ∈ l, p x = true → q x = false := by
  rw [List.find?_filter, List.find?_eq_none]
  exact forall₂_congr fun x _ => by cases p x <;> cases q x <;> decide

theorem find?_filter_some {α : Type} (p q : α → Bool) (l : List α) {a : α} (h : l.find? p = some a) (hq : q a = true) :
    (l.filter q).find? p = some a := by
  -- the first match of `p` is `a`; nothing before it matches `p`, so nothing before it matches `q` and `p`
  rw [List.find?_filter, List.find?_eq_some_iff_append] at *
  obtain ⟨hp, as, bs, e, hn⟩ := h
  exact ⟨by simp [hp, hq], as, bs, e, fun x hx => by simp [hn x hx]⟩

/-! ## the reset on the clients and the collections -/

theorem reset_clients {st : Store} {name : String} {c : CollectionDoc} (h : st.getCollection name = some c) :
    (st.resetCollection name).clients = st.clients.filter (fun x => x.colNum ≠ c.num) :=
  (reset_exact st name c h).2.2.2.1

theorem reset_getCollection {st : Store} {name : String} {c : CollectionDoc} (h : st.getCollection name = some c)
    (n : String) : (st.resetCollection name).getCollection n = st.getCollection n := by
  unfold Store.resetCollection; rw [h]; rfl

/-! ## the clients of the collection are purged, the others are found unchanged -/

/-- EXACTLY when every record carrying the cuid belongs to the collection, the cuid is unknown afterwards -/
theorem reset_purges_clients_iff {st : Store} {name : String} {c : CollectionDoc} (h : st.getCollection name = some c)
    (cuid : String) :
    (st.resetCollection name).getClient cuid = none ↔ ∀ x ∈ st.clients, x.cuid = cuid → x.colNum = c.num := by
  unfold Store.getClient
  rw [reset_clients h, find?_filter_none]
  constructor
  · intro hh x hx hc
    have := hh x hx (by simp [hc])
    simpa using this
  · intro hh x hx hc
    have := hh x hx (by simpa using hc)
    simp [this]

/-- every client record of the reset collection is gone: the cuid is unknown afterwards (the only hypothesis needed is
    that no record with this cuid lives in ANOTHER collection; that the client exists at all is not needed) -/
theorem reset_purges_clients {st : Store} {name : String} {c : CollectionDoc} (h : st.getCollection name = some c)
    (cuid : String) (hall : ∀ x ∈ st.clients, x.cuid = cuid → x.colNum = c.num) :
    (st.resetCollection name).getClient cuid = none :=
  (reset_purges_clients_iff h cuid).2 hall

/-- in particular under unique client ids (at most one record per cuid), a found client of the collection is purged -/
theorem reset_purges_client_unique {st : Store} {name : String} {c : CollectionDoc} (h : st.getCollection name = some c)
    {cuid : String} {cl : ClientDoc} (_hg : st.getClient cuid = some cl) (hc : cl.colNum = c.num)
    (huniq : ∀ x ∈ st.clients, x.cuid = cuid → x = cl) : (st.resetCollection name).getClient cuid = none :=
  reset_purges_clients h cuid (fun x hx hxc => by rw [huniq x hx hxc]; exact hc)

/-- clients of other collections are still found, unchanged (no uniqueness needed) -/
theorem reset_keeps_other_clients {st : Store} {name : String} {c : CollectionDoc} (h : st.getCollection name = some c)
    {cuid : String} {cl : ClientDoc} (hg : st.getClient cuid = some cl) (hc : cl.colNum ≠ c.num) :
    (st.resetCollection name).getClient cuid = some cl := by
  unfold Store.getClient at hg ⊢
  rw [reset_clients h]
  exact find?_filter_some _ _ _ hg (by simp [hc])

/-- "the FIRST record with this cuid is in the collection" is not enough: a second record of the same cuid in another
    collection surfaces after the reset -/
theorem first_record_not_enough :
    let st : Store := { collections := [⟨"one", 1⟩, ⟨"two", 2⟩],
                        clients := [⟨"u", "u", 1, 0, 0⟩, ⟨"u", "u'", 2, 0, 0⟩] }
    (st.getClient "u").map (·.colNum) = some 1 ∧
    ((st.resetCollection "one").getClient "u").map (·.colNum) = some 2 := ⟨rfl, rfl⟩

/-! ## a purged client is refused -/

/-- every later push-pull of a purged client — for whatever collection name, with whatever packs — is refused at RPC
    level with code 5 (what the model answers for an unknown client, and for an unknown collection), store untouched,
    nothing published, no snapshot job -/
theorem purged_client_is_refused {st : Store} {name : String} {c : CollectionDoc} (h : st.getCollection name = some c)
    (cuid : String) (hall : ∀ x ∈ st.clients, x.cuid = cuid → x.colNum = c.num) (colName : String) (packs : List Pack) :
    (st.resetCollection name).processPushPull colName cuid packs = (st.resetCollection name, .rpcErr 5, [], []) := by
  rw [SL.processPushPull_eq]
  cases hc : (st.resetCollection name).getCollection colName with
  | none => rfl
  | some col => simp only [reset_purges_clients h cuid hall]

/-! ## … and can register again -/

/-- after the reset the purged client registers (for ANY existing collection — the reset one included, its collection
    document stays): accepted, its record is appended with the collection's number, and it is found again -/
theorem purged_client_can_register_again {st : Store} {name : String} {c : CollectionDoc}
    (h : st.getCollection name = some c) (cl : ClientDoc)
    (hall : ∀ x ∈ st.clients, x.cuid = cl.cuid → x.colNum = c.num)
    {colName : String} {col : CollectionDoc} (hcol : st.getCollection colName = some col) :
    let r := (st.resetCollection name).processClient false colName cl
    r.2 = .ok () ∧
    r.1.clients = (st.resetCollection name).clients ++ [{ cl with colNum := col.num }] ∧
    r.1.getClient cl.cuid = some { cl with colNum := col.num } ∧
    r.1.collections = (st.resetCollection name).collections ∧ r.1.datatypes = (st.resetCollection name).datatypes ∧
    r.1.operations = (st.resetCollection name).operations := by
  have hnone := reset_purges_clients h cl.cuid hall
  have hcol' : (st.resetCollection name).getCollection colName = some col := by rw [reset_getCollection h]; exact hcol
  have heq : (st.resetCollection name).processClient false colName cl =
      ({ st.resetCollection name with clients := (st.resetCollection name).clients ++ [{ cl with colNum := col.num }] },
       .ok ()) := by
    unfold Store.processClient
    simp only [Bool.false_eq_true, if_false, hcol', hnone]
  intro r
  have hr : r = _ := heq
  rw [hr]
  refine ⟨rfl, rfl, ?_, rfl, rfl, rfl⟩
  unfold Store.getClient at hnone ⊢
  simp only [List.find?_append, hnone, Option.none_or]
  simp

/-- … and is served again: its push-pull passes the RPC-level checks -/
theorem registered_again_is_served {st : Store} {name : String} {c : CollectionDoc}
    (h : st.getCollection name = some c) (cl : ClientDoc)
    (hall : ∀ x ∈ st.clients, x.cuid = cl.cuid → x.colNum = c.num)
    {colName : String} {col : CollectionDoc} (hcol : st.getCollection colName = some col) (packs : List Pack) :
    ∃ resps, (((st.resetCollection name).processClient false colName cl).1.processPushPull colName cl.cuid packs).2.1
      = .ok resps := by
  obtain ⟨_, _, h3, h4, _, _⟩ := purged_client_can_register_again h cl hall hcol
  have hcol' : ((st.resetCollection name).processClient false colName cl).1.getCollection colName = some col := by
    unfold Store.getCollection; rw [h4]
    have := reset_getCollection h colName
    unfold Store.getCollection at this
    rw [this]; exact hcol
  rw [SL.processPushPull_eq, hcol', h3]
  simp

/-! ## Non-vacuity

Two collections "one" and "two"; client "a" registered in "one", client "b" in "two"; each creates a counter with one
push-pull.  Then "one" is reset: a's record, datatype and operation are gone, b's are there; a's next push-pull is refused
with RPC error 5 (store untouched), b's is served; a registers again (this time for "two") and is served. -/
namespace Ex

def opA : Op := ⟨⟨0, 1, "a", 1⟩, .snapshot (.counter 0)⟩
def opB : Op := ⟨⟨0, 1, "b", 1⟩, .snapshot (.counter 0)⟩
def opB2 : Op := ⟨⟨0, 2, "b", 2⟩, .increase 3⟩
def createA : Pack := { key := "ka", duid := "da", create := true, cp := ⟨0, 1⟩, typ := .counter, ops := [opA] }
def createB : Pack := { key := "kb", duid := "db", create := true, cp := ⟨0, 1⟩, typ := .counter, ops := [opB] }
def pushB : Pack := { key := "kb", duid := "db", cp := ⟨1, 2⟩, typ := .counter, ops := [opB2] }
def clA : ClientDoc := ⟨"a", "alice", 0, 0, 0⟩
def clB : ClientDoc := ⟨"b", "bob", 0, 0, 0⟩

def t0 : Store := ((({} : Store).makeCollection "one").1.makeCollection "two").1
def t1 : Store := ((t0.processClient false "one" clA).1.processClient false "two" clB).1
def t2 : Store := ((t1.processPushPull "one" "a" [createA]).1.processPushPull "two" "b" [createB]).1
def t3 : Store := t2.resetCollection "one"

example : t2.getCollection "one" = some ⟨"one", 1⟩ ∧ t2.getClient "a" = some { clA with colNum := 1 } ∧
    t2.getClient "b" = some { clB with colNum := 2 } ∧ t2.datatypes.map (·.duid) = ["da", "db"] ∧
    t2.operations.map (·.op.id.cuid) = ["a", "b"] := ⟨rfl, rfl, rfl, rfl, rfl⟩

theorem hallA : ∀ x ∈ t2.clients, x.cuid = "a" → x.colNum = 1 := by
  intro x hx hc
  have : t2.clients = [{ clA with colNum := 1 }, { clB with colNum := 2 }] := rfl
  rw [this] at hx
  simp only [List.mem_cons, List.not_mem_nil, or_false] at hx
  rcases hx with rfl | rfl
  · rfl
  · exact absurd hc (by decide)

/-- from the theorems: a is purged, b is kept; and by evaluation -/
example : t3.getClient "a" = none := reset_purges_clients (c := ⟨"one", 1⟩) rfl "a" hallA
example : t3.getClient "b" = some { clB with colNum := 2 } :=
  reset_keeps_other_clients (c := ⟨"one", 1⟩) rfl (cl := { clB with colNum := 2 }) rfl (by decide)
example : t3.clients.map (·.cuid) = ["b"] ∧ t3.datatypes.map (·.duid) = ["db"] ∧
    t3.operations.map (·.op.id.cuid) = ["b"] ∧ t3.collections.map (·.name) = ["one", "two"] := ⟨rfl, rfl, rfl, rfl⟩

/-- a's request is refused with RPC error 5, the store untouched — from the theorem, for any collection name -/
example (colName : String) : t3.processPushPull colName "a" [createA] = (t3, .rpcErr 5, [], []) :=
  purged_client_is_refused (c := ⟨"one", 1⟩) rfl "a" hallA colName [createA]
example : (t3.processPushPull "one" "a" [createA]).2.1 = .rpcErr 5 := rfl

/-- … while b's request is still served: its operation is stored under sseq 2 -/
example : ((t3.processPushPull "two" "b" [pushB]).2.1 = .ok [{ key := "kb", duid := "db", cp := ⟨2, 2⟩, typ := .counter, ops := [] }]) ∧
    (t3.processPushPull "two" "b" [pushB]).1.operations.map (fun o => (o.duid, o.sseq)) = [("db", 1), ("db", 2)] :=
  ⟨rfl, rfl⟩

/-- a registers again, for "two" — from the theorem and by evaluation — and is served -/
example : (t3.processClient false "two" clA).2 = .ok () ∧
    (t3.processClient false "two" clA).1.getClient "a" = some { clA with colNum := 2 } :=
  have h := purged_client_can_register_again (c := ⟨"one", 1⟩) (st := t2) rfl clA hallA (colName := "two") (col := ⟨"two", 2⟩) rfl
  ⟨h.1, h.2.2.1⟩
example : ((t3.processClient false "two" clA).1.processPushPull "two" "a" []).2.1 = .ok [] := rfl

end Ex

end Orda.RP
