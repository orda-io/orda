/-
Transactions over the server log are all-or-nothing on every replica (C09 end to end, List datatype).
The system is `LNet`'s (nodes around ONE server log) with the steps `call`, `tx` (a user transaction with ANY body), `pushAll`
(the whole unpushed rest of the buffer) and `pullAll` (the foreign rest of the log through ONE `Replica.receive`); no step
has a side condition.  The same system started by a creating client is `FTxNetC.L` (Proofs/FlatTxNetCreate.lean, with the maps' and
counters'; Proofs/TxNetCreate.lean is the documents').

The argument is `GTx`'s (Proofs/TxCore.lean), at the view of `LNet.Node`: convergence comes from an INVARIANT `SI` of the
header-free system, used as a black box on the header-erased state (`Abs`, `TxInv.abs`).  (An invariant and not `LNet.Reach`: a
header consumes an operation identifier, so the replicas of the two systems stamp their operations differently and no run of
`ListNet` matches a run of this system step for step.)  All that is asked of `SI` is `FreeInv`: `GTx.HeaderFree`, the interface of `GTx`
(what is remembered of every operation in buffers and log is `RemoteSafe`: its delivery to a list cannot panic), and every state
it admits is the remote application of the node's operations; `headerFree_inv` is the instance `LNet.Inv`.
Validated local list operations never panic when Size = number of live elements, remote ones never when the body is
`RemoteSafe` — needed because a panic in a transaction body would leave operations in the state that are not in the buffer.
-/
import Orda.Proofs.TxCore
import Orda.Proofs.ListNet
import Orda.Proofs.PlainRefine
namespace Orda.LTx
open Orda.RF Orda.LNet

/-! ## list operations never panic where the system uses them -/

theorem liveCount_nonneg (l : List RNode) : 0 ≤ liveCount l := by
  unfold liveCount; omega

theorem updGo_length (l : List RNode) (p : Nat) (st : List (Ts × JVal)) (l' tc : List RNode)
    (h : Rga.updateLocal.go p st l = some (l', tc)) : tc.length = st.length := by
  rw [updGo_eq_walk] at h
  exact walkLive_length _ _ _ _ _ _ h

theorem prepare_list_done {l : Rga} {c : Call} {o : Outcome Ret} (h : c.prepare (.list l) = .done o) :
    o.isPanic = false := by
  cases c <;> simp only [Call.prepare] at h
  all_goals (try split at h) <;> (try split at h) <;>
    first
      | (cases h; done)
      | (simp only [Prep.done.injEq] at h; subst h; rfl)

/-- a panic is the one outcome the plain list does not have -/
theorem execLocal_prepared_no_panic {l : Rga} (hsz : l.size = liveCount l.nodes) {c : Call} {b : OpBody}
    {post : Ret → Ret} (h : c.prepare (.list l) = .op b post) (ts : Ts) (w : String) :
    execLocal (.list l) ts b ≠ .panic w := by
  have g := agrees_list_of_sizeOK ts l c ((sizeOK_iff l).mpr hsz) (fun _ => True) (fun _ _ => trivial)
    (fun _ _ _ => trivial) (fun _ _ _ _ _ _ => trivial)
  unfold AgreesWith at g
  intro he
  simp only [h, he] at g

theorem updateRemote_go_some : ∀ (tgs : List Ts) (vs : List JVal) (t : Ts) (l : List RNode),
    tgs.length ≤ vs.length → ∃ l', Rga.updateRemote.go tgs vs t l = some l'
  | [], vs, t, l, _ => ⟨l, by unfold Rga.updateRemote.go; rfl⟩
  | tg :: tgs, [], t, l, h => by simp at h
  | tg :: tgs, v :: vs, t, l, h => by
    unfold Rga.updateRemote.go
    exact updateRemote_go_some tgs vs _ _ (by simpa using h)

/-- the wire bodies whose remote execution on a list cannot panic: no insert without anchor, no update with fewer
    values than targets (transaction headers and every other body included) -/
def RemoteSafe (b : OpBody) : Prop :=
  (∀ p vs, b ≠ .insert p none vs) ∧ (∀ p tg vs, b = .update p tg vs → tg.length ≤ vs.length)

theorem execRemote_list_safe (l : Rga) (ts : Ts) (b : OpBody) (h : RemoteSafe b) :
    ∃ l', execRemote (.list l) ts b = .ok (.list l') := by
  cases b with
  | snapshot s => cases s <;> exact ⟨_, rfl⟩
  | insert p t vs =>
    cases t with
    | none => exact absurd rfl (h.1 p vs)
    | some a =>
      simp only [execRemote]
      unfold Rga.insertRemote
      cases insertAfterId RNode.o a (mkNodes ts vs) l.nodes <;> exact ⟨_, rfl⟩
  | update p tg vs =>
    simp only [execRemote]
    unfold Rga.updateRemote
    obtain ⟨l', hl'⟩ := updateRemote_go_some tg vs ts l.nodes (h.2 p tg vs rfl)
    simp only [hl']
    exact ⟨_, rfl⟩
  | delete p k tg => exact ⟨_, rfl⟩
  | _ => exact ⟨_, rfl⟩

theorem execRemoteBase_safe (r : Replica) (l : Rga) (hs : r.state = .list l) (o : Op) (h : RemoteSafe o.body) :
    (r.execRemoteBase o).2 = none ∧ ∃ l', (r.execRemoteBase o).1.state = .list l' := by
  obtain ⟨l', hl'⟩ := execRemote_list_safe l o.id.ts o.body h
  simp [Replica.execRemoteBase, hs, hl']

theorem localOp_safe {l l' : Rga} {ts : Ts} {b : OpBody} (h : LocalOp l ts b l') :
    RemoteSafe b ∧ b.isMeta = false ∧ (∀ tag k, b ≠ .transaction tag k) := by
  rcases h with ⟨pos, a, vs, rfl, _⟩ | ⟨pos, num, tg, old, rfl, _⟩ | ⟨pos, tg, vs, old, rfl, hl⟩
  · exact ⟨⟨fun p vs' e => (by cases e), fun p tg vs' e => (by cases e)⟩, rfl, fun _ _ e => (by cases e)⟩
  · exact ⟨⟨fun p vs' e => (by cases e), fun p tg vs' e => (by cases e)⟩, rfl, fun _ _ e => (by cases e)⟩
  · refine ⟨⟨fun p vs' e => (by cases e), ?_⟩, rfl, fun _ _ e => (by cases e)⟩
    intro p tg' vs' e
    simp only [OpBody.update.injEq] at e
    obtain ⟨_, rfl, rfl⟩ := e
    unfold Rga.updateLocal at hl
    simp only at hl
    cases hr : Rga.updateLocal.go pos ((delimSeq ts vs.length).zip vs) l.nodes with
    | none => rw [hr] at hl; cases hl
    | some res =>
      obtain ⟨l'', tc⟩ := res
      rw [hr] at hl
      simp only [Outcome.ok.injEq, Prod.mk.injEq] at hl
      obtain ⟨_, rfl, _⟩ := hl
      have := updGo_length _ _ _ _ _ hr
      rw [List.length_zip, delimSeq_length] at this
      simp [this]

/-! ## the system: list replicas with transactions around ONE server log, whole-buffer pushes, whole-log pulls -/

/-- what node `i` hands to `receive` when it pulls: the operations of the others in the rest of the log, in log order -/
def pullOps (log : List LEnt) (i : Nat) (nd : Node) : List Op := (oth i (log.drop nd.pulled)).map (·.2)

inductive Step : Net → Net → Prop
  /-- node `i` issues the public call `c` — ANY `Call` -/
  | call (net : Net) (i : Nat) (nd : Node) (c : Call) (hi : net.nodes[i]? = some nd) :
      Step net ⟨net.nodes.set i { nd with r := (nd.r.call c).1 }, net.log⟩
  /-- node `i` runs the user transaction `tag` whose body issues `calls` (ANY calls; `stopOnErr`: the body returns at
      the first refused call; `failAtEnd`: the user function returns an error) -/
  | tx (net : Net) (i : Nat) (nd : Node) (tag : String) (calls : List Call) (stopOnErr failAtEnd : Bool)
      (hi : net.nodes[i]? = some nd) :
      Step net ⟨net.nodes.set i { nd with r := (nd.r.txCalls tag calls stopOnErr failAtEnd).1 }, net.log⟩
  /-- ALL unpushed operations of node `i`'s buffer are appended to the log, in buffer order (one request) -/
  | pushAll (net : Net) (i : Nat) (nd : Node) (hi : net.nodes[i]? = some nd) :
      Step net ⟨net.nodes.set i { nd with pushed := nd.r.buffer.length },
                net.log ++ (nd.r.buffer.drop nd.pushed).map (fun o => (i, o))⟩
  /-- node `i` consumes the whole rest of the log: the entries of the others go through ONE `Replica.receive` -/
  | pullAll (net : Net) (i : Nat) (nd : Node) (hi : net.nodes[i]? = some nd) :
      Step net ⟨net.nodes.set i { nd with r := (nd.r.receive (pullOps net.log i nd)).1, pulled := net.log.length },
                net.log⟩

/-- reachable from `n` fresh subscribers `Replica.new .list (cuid i) false` with pairwise distinct client identifiers -/
inductive Reach (cuid : Nat → String) (n : Nat) : Net → Prop
  | init (hc : CuidsDistinct cuid n) : Reach cuid n (Net.init cuid n)
  | step {net net' : Net} : Reach cuid n net → Step net net' → Reach cuid n net'

/-! ## the executable form -/

inductive Act where
  | call (i : Nat) (c : Call)
  | tx (i : Nat) (tag : String) (calls : List Call) (stopOnErr failAtEnd : Bool)
  | pushAll (i : Nat)
  | pullAll (i : Nat)

def act (net : Net) : Act → Option Net
  | .call i c =>
    match net.nodes[i]? with
    | some nd => some ⟨net.nodes.set i { nd with r := (nd.r.call c).1 }, net.log⟩
    | none => none
  | .tx i tag calls s f =>
    match net.nodes[i]? with
    | some nd => some ⟨net.nodes.set i { nd with r := (nd.r.txCalls tag calls s f).1 }, net.log⟩
    | none => none
  | .pushAll i =>
    match net.nodes[i]? with
    | some nd => some ⟨net.nodes.set i { nd with pushed := nd.r.buffer.length },
        net.log ++ (nd.r.buffer.drop nd.pushed).map (fun o => (i, o))⟩
    | none => none
  | .pullAll i =>
    match net.nodes[i]? with
    | some nd => some ⟨net.nodes.set i { nd with r := (nd.r.receive (pullOps net.log i nd)).1,
                                                  pulled := net.log.length }, net.log⟩
    | none => none

def run (net : Net) : List Act → Option Net
  | [] => some net
  | a :: as => match act net a with
    | some net' => run net' as
    | none => none

theorem step_of_act {net net' : Net} {a : Act} (h : act net a = some net') : Step net net' := by
  cases a <;> simp only [act] at h <;> split at h <;> cases h
  · exact .call net _ _ _ ‹_›
  · exact .tx net _ _ _ _ _ _ ‹_›
  · exact .pushAll net _ _ ‹_›
  · exact .pullAll net _ _ ‹_›

theorem reach_run {cuid : Nat → String} {n : Nat} : ∀ (as : List Act) {net net' : Net}, Reach cuid n net →
    run net as = some net' → Reach cuid n net' := fun as _ _ hr h =>
  ListAux.run_induction (Q := fun _ => True) (fun _ => rfl) (fun s a _ => by simp only [run]; cases act s a <;> rfl)
    (fun hr _ h => .step hr (step_of_act h)) as hr h fun _ _ => trivial

/-! ## calls on a list; the header-erased state -/

/-- a public call on a list whose stored Size is its number of live elements never panics -/
theorem call_no_panic (r : Replica) (l : Rga) (hs : r.state = .list l) (hsz : l.size = liveCount l.nodes) (c : Call) :
    (r.call c).2.isPanic = false :=
  call_no_panic_of (fun _ hp => prepare_list_done (hs ▸ hp))
    (fun _ _ w hp => hs ▸ execLocal_prepared_no_panic hsz (hs ▸ hp) r.opId.next.ts w)

/-- what is known of an operation node `i` queues: the `Good i o` of `GTx.HeaderFree` -/
structure GoodOp (cuid : Nat → String) (i : Nat) (o : Op) : Prop where
  nh : isHdr o = false
  safe : RemoteSafe o.body
  cu : o.id.cuid = cuid i

theorem queued_good {cuid : Nat → String} {i : Nat} {r : Replica} {l : Rga} (hs : r.state = .list l) (c : Call) {o : Op}
    (hb : (r.call c).1.buffer = r.buffer ++ [o]) (hcu : o.id.cuid = cuid i) : GoodOp cuid i o := by
  rcases call_cases r l hs c with h | ⟨o', l', q⟩
  · exact absurd (h.buffer.symm.trans hb) (by simp)
  · obtain rfl : o' = o := List.singleton_inj.mp (List.append_cancel_left (q.buffer.symm.trans hb))
    obtain ⟨s1, _, s3⟩ := localOp_safe q.op
    exact ⟨isHdr_false_of s3, s1, hcu⟩

theorem hdr_safe {o : Op} (ho : isHdr o = true) : RemoteSafe o.body := by
  unfold isHdr at ho
  split at ho
  · rename_i tag k hb
    rw [hb]
    exact ⟨fun _ _ e => (by cases e), fun _ _ _ e => (by cases e)⟩
  · cases ho

theorem toL_hdr {o : Op} (h : isHdr o = true) : toL o = none := by
  unfold isHdr at h
  unfold toL
  split at h
  · rename_i tag k hb; rw [hb]
  · cases h

/-- node `nd0` of `ListNet` is node `nd` of this system with the headers erased: `GTx.AbsC` on the two nodes (`Abs.ofG`) -/
structure AbsNode (log : List LEnt) (nd nd0 : Node) : Prop where
  st : nd0.r.state = nd.r.state
  id : nd0.r.opId = nd.r.opId
  buf : nd0.r.buffer = eraseB nd.r.buffer
  pushed : nd0.pushed = (eraseB (nd.r.buffer.take nd.pushed)).length
  pulled : nd0.pulled = (eraseL (log.take nd.pulled)).length

/-- `net0` is `net` with the headers erased from log and buffers -/
structure Abs (net net0 : Net) : Prop where
  log : net0.log = eraseL net.log
  len : net0.nodes.length = net.nodes.length
  node : ∀ (i : Nat) (nd : Node), net.nodes[i]? = some nd → ∃ nd0, net0.nodes[i]? = some nd0 ∧ AbsNode net.log nd nd0

theorem Abs.ofG {ns ns0 : List Node} {lg lg0 : List LEnt} (h : GTx.Abs view ns lg ns0 lg0) : Abs ⟨ns, lg⟩ ⟨ns0, lg0⟩ :=
  ⟨h.log, h.len, fun i nd hi =>
    have ⟨nd0, h0, An⟩ := h.node i nd hi
    ⟨nd0, h0, An.st, An.id, An.buf, An.pushed, An.pulled⟩⟩

/-! ## `ListNet`'s invariant as the header-free side -/

/-- `SI` is an invariant of the header-free system that `GTx` can use — the steps of `ListNet`, a node `i` calling only where
    `G i pulled`; of every operation in buffers and log it is remembered that it is `RemoteSafe` —, and every state it admits
    is the remote application of the node's operations.  It serves `LNet.Inv` (here, `G` true) and `FNetC.L.InvC`
    (Proofs/FlatTxNetCreate.lean: the system started by a creating client, `G` its guard) alike. -/
structure FreeInv (cuid : Nat → String) (n : Nat) (G : Nat → Nat → Prop) (SI : Net → Prop) : Prop where
  toG : GTx.HeaderFree view cuid n G (fun _ => True) (GoodOp cuid) (fun o => RemoteSafe o.body) (fun ns lg => SI ⟨ns, lg⟩)
  applied : ∀ {net : Net}, SI net → ∃ applied, AppliedBy net applied

/-- `LNet.Inv`, as `NetBook` states it -/
abbrev SNet (cuid : Nat → String) (n : Nat) (net : Net) : Prop :=
  ∃ ap, NetBook.NetInv view (EntOK cuid n) (fun _ r _ A => Dt r A) (fun _ => True) cuid n net.nodes net.log ap

theorem headerFree_inv (cuid : Nat → String) (n : Nat) : FreeInv cuid n (fun _ _ => True) (SNet cuid n) where
  toG := GTx.HeaderFree.of_net (V := view) (closed cuid n)
      (guard := fun _ _ => trivial)
      (good := fun g => ⟨g.nh, g.cu, g.safe⟩)
      (hdr_safe := hdr_safe)
      (bump := Dt.bump)
      (nopanic := fun d _ => call_no_panic _ _ d.st (size_eq_liveCount _ d.lc) _)
      (queued := fun d _ hb hcu => queued_good d.st _ hb hcu)
      (deliver := fun I hi _ _ hs => (execRemoteBase_safe _ _ (I.node _ _ hi).1.st _ hs).1)
  applied := fun ⟨_, I⟩ => ⟨_, appliedBy_of_net I id⟩

abbrev TxInv (cuid : Nat → String) (n : Nat) (SI : Net → Prop) (net : Net) : Prop :=
  GTx.TInv view cuid n (fun o => RemoteSafe o.body) (fun ns lg => SI ⟨ns, lg⟩) net.nodes net.log

theorem net_eta (net : Net) : (⟨net.nodes, net.log⟩ : Net) = net := rfl

/-! ## what the invariant gives -/

section headerFree
variable {cuid : Nat → String} {n : Nat} {G : Nat → Nat → Prop} {SI : Net → Prop}

theorem TxInv.abs {net : Net} (T : TxInv cuid n SI net) : ∃ net0, SI net0 ∧ Abs net net0 :=
  have ⟨ns0, lg0, I, Ab⟩ := T.sim
  ⟨⟨ns0, lg0⟩, I, .ofG Ab⟩

namespace TxInv
variable {net : Net} (F : FreeInv cuid n G SI) (T : TxInv cuid n SI net)
include T

section node
variable {i : Nat} {nd : Node} (hi : net.nodes[i]? = some nd)
include F hi

/-- `hg`: the guard, read on the header-free side -/
theorem committed (tag : String) (calls : List Call) (s f : Bool)
    (hg : G i (eraseL (net.log.take nd.pulled)).length) (hok : (nd.r.txCalls tag calls s f).2.2 = .ok ()) :
    ∃ ops : List Op,
      (nd.r.txCalls tag calls s f).1.buffer =
        nd.r.buffer ++ (⟨nd.r.opId.next, .transaction tag ((ops.length : Int) + 1)⟩ :: ops) ∧
      IsUnit (⟨nd.r.opId.next, .transaction tag ((ops.length : Int) + 1)⟩ :: ops) ∧
      ∀ o ∈ ops, isHdr o = false ∧ RemoteSafe o.body ∧ o.id.cuid = cuid i ∧ nd.r.opId.lamport + 1 < o.id.lamport := by
  obtain ⟨ops, hb, hu, h⟩ := GTx.TInv.committed F.toG T hi tag calls (fun _ _ => trivial) s f hg hok
  exact ⟨ops, hb, hu, fun o ho => ⟨(h o ho).1.nh, (h o ho).1.safe, (h o ho).1.cu, (h o ho).2⟩⟩

end node

include F in
theorem nodes_applied_ops : ∃ applied, AppliedBy net applied := by
  obtain ⟨ns0, lg0, I, Ab⟩ := T.sim
  obtain ⟨applied, ha⟩ := F.applied I
  refine ⟨applied, fun i nd hi => ?_⟩
  obtain ⟨nd0, h0, hst, hops⟩ := Ab.ops hi
  obtain ⟨h1, h2, h3⟩ := ha i nd0 h0
  have e : appliedOps lg0 i nd0 = eraseB (appliedOps net.log i nd) := hops
  exact ⟨hst ▸ h1, h2, by rw [← filterMap_eraseB toL_hdr, ← e]; exact h3⟩

include F in
theorem same_operations_same_state (i j : Nat) (hi : i < net.nodes.length) (hj : j < net.nodes.length)
    (hsame : SameOps net i j) : net.nodes[i].r.state = net.nodes[j].r.state := by
  obtain ⟨applied, ha⟩ := T.nodes_applied_ops F
  obtain ⟨ni, nj, hni, hnj, hperm⟩ := hsame
  obtain ⟨a1, a2, a3⟩ := ha i ni hni
  obtain ⟨b1, b2, b3⟩ := ha j nj hnj
  cases (List.getElem?_eq_getElem hi).symm.trans hni
  cases (List.getElem?_eq_getElem hj).symm.trans hnj
  rw [a1, b1, rga_full_converge_state _ _ ((a3.trans (hperm.filterMap toL)).trans b3.symm) a2 b2]

theorem sameOps_of_quiescent (hq : Quiescent net) {i j : Nat} (hi : i < net.nodes.length)
    (hj : j < net.nodes.length) : SameOps net i j :=
  ⟨_, _, List.getElem?_eq_getElem hi, List.getElem?_eq_getElem hj,
    GTx.TInv.caught_up_perm T (List.getElem?_eq_getElem hi) (List.getElem?_eq_getElem hj) (hq _ (List.getElem_mem hi)).1
      (hq _ (List.getElem_mem hi)).2 (hq _ (List.getElem_mem hj)).1 (hq _ (List.getElem_mem hj)).2⟩

include F in
theorem quiescent_converged (hq : Quiescent net) (i j : Nat) (hi : i < net.nodes.length) (hj : j < net.nodes.length) :
    net.nodes[i].r.state = net.nodes[j].r.state :=
  T.same_operations_same_state F i j hi hj (T.sameOps_of_quiescent hq hi hj)

end TxInv
end headerFree

/-! ## the theorems: `ListNet`'s invariant on the header-free side, every call allowed -/

theorem tinv_init {cuid : Nat → String} {n : Nat} (hc : CuidsDistinct cuid n) :
    TxInv cuid n (SNet cuid n) (Net.init cuid n) :=
  .init ⟨_, (inv_init hc).toNet⟩ fun i nd hi => by
    obtain ⟨rfl, _⟩ := ListAux.range_map_node hi
    exact ⟨rfl, rfl, rbInv_new _ _ _, GTx.unitsB_nil, .nil, fun _ ho => nomatch ho⟩

theorem tinv_reach {cuid : Nat → String} {n : Nat} {net : Net} (h : Reach cuid n net) :
    TxInv cuid n (SNet cuid n) net := by
  induction h with
  | init hc => exact tinv_init hc
  | step _ hs ih =>
    have HF := (headerFree_inv cuid n).toG
    cases hs with
    | call i nd c hi => exact GTx.TInv.call HF ih hi trivial trivial
    | tx i nd tag calls s f hi => exact GTx.TInv.tx HF ih hi tag calls (fun _ _ => trivial) s f trivial
    | pushAll i nd hi => exact GTx.TInv.pushAll HF ih hi
    | pullAll i nd hi => exact GTx.TInv.pullAll HF ih hi

section theorems
variable {cuid : Nat → String} {n : Nat} {net : Net}

/-- in a reachable state a transaction (ANY body) never panics: it ends with `.ok ()` or with an error -/
theorem ltx_tx_never_panics (h : Reach cuid n net) {i : Nat} {nd : Node} (hi : net.nodes[i]? = some nd)
    (tag : String) (calls : List Call) (stopOnErr failAtEnd : Bool) :
    (nd.r.txCalls tag calls stopOnErr failAtEnd).2.2 = .ok () ∨
      ∃ c, (nd.r.txCalls tag calls stopOnErr failAtEnd).2.2 = .err c :=
  GTx.TInv.tx_never_panics (headerFree_inv cuid n).toG (tinv_reach h) hi tag calls (fun _ _ => trivial) stopOnErr failAtEnd
    trivial

/-- a failing transaction changes nothing on its node: operation identifier, state, buffer, checkpoint are what they
    were (whatever the body did before it failed: valid and refused calls, reads, early return, failing user function) -/
theorem ltx_failed_tx_is_noop (h : Reach cuid n net) {i : Nat} {nd : Node} (hi : net.nodes[i]? = some nd)
    (tag : String) (calls : List Call) (stopOnErr failAtEnd : Bool) (c : Nat)
    (herr : (nd.r.txCalls tag calls stopOnErr failAtEnd).2.2 = .err c) :
    let r' := (nd.r.txCalls tag calls stopOnErr failAtEnd).1
    r'.opId = nd.r.opId ∧ r'.state = nd.r.state ∧ r'.buffer = nd.r.buffer ∧ r'.cp = nd.r.cp :=
  txCalls_fail_restores nd.r ((tinv_reach h).node i nd hi).rb tag calls stopOnErr failAtEnd c herr

/-- … stated for the system: after the `tx` step of a failing transaction the log is the same and every node has the same
    state, operation identifier, buffer, checkpoint and counters as before -/
theorem ltx_failed_tx_is_noop_net (h : Reach cuid n net) {i : Nat} {nd : Node} (hi : net.nodes[i]? = some nd)
    (tag : String) (calls : List Call) (stopOnErr failAtEnd : Bool) (c : Nat)
    (herr : (nd.r.txCalls tag calls stopOnErr failAtEnd).2.2 = .err c) {net' : Net}
    (hnet : net' = ⟨net.nodes.set i { nd with r := (nd.r.txCalls tag calls stopOnErr failAtEnd).1 }, net.log⟩) :
    Step net net' ∧ net'.log = net.log ∧ ∀ (j : Nat) (nd' : Node), net'.nodes[j]? = some nd' →
      ∃ ndj, net.nodes[j]? = some ndj ∧ nd'.r.opId = ndj.r.opId ∧ nd'.r.state = ndj.r.state ∧
        nd'.r.buffer = ndj.r.buffer ∧ nd'.r.cp = ndj.r.cp ∧ nd'.pushed = ndj.pushed ∧ nd'.pulled = ndj.pulled := by
  subst hnet
  exact ⟨.tx net i nd tag calls stopOnErr failAtEnd hi, rfl, (tinv_reach h).failed_noop hi tag calls stopOnErr failAtEnd c herr⟩

/-- a committed transaction appends exactly ONE unit `header :: ops` to the buffer; the header carries the first
    identifier of the transaction and announces the unit's length; `ops` (the operations of the successful calls of the
    body) contains no header, and every operation is safe to execute remotely and carries the node's client identifier -/
theorem ltx_committed_tx_is_one_unit (h : Reach cuid n net) {i : Nat} {nd : Node} (hi : net.nodes[i]? = some nd)
    (tag : String) (calls : List Call) (stopOnErr failAtEnd : Bool)
    (hok : (nd.r.txCalls tag calls stopOnErr failAtEnd).2.2 = .ok ()) :
    let r' := (nd.r.txCalls tag calls stopOnErr failAtEnd).1
    ∃ ops : List Op,
      r'.buffer = nd.r.buffer ++ (⟨nd.r.opId.next, .transaction tag ((ops.length : Int) + 1)⟩ :: ops) ∧
      IsUnit (⟨nd.r.opId.next, .transaction tag ((ops.length : Int) + 1)⟩ :: ops) ∧
      ∀ o ∈ ops, isHdr o = false ∧ RemoteSafe o.body ∧ o.id.cuid = cuid i ∧ nd.r.opId.lamport + 1 < o.id.lamport :=
  (tinv_reach h).committed (headerFree_inv cuid n) hi tag calls stopOnErr failAtEnd trivial hok

/-- units are contiguous in the log, in every reachable state: the log is a concatenation of units -/
theorem ltx_log_is_units (h : Reach cuid n net) : ∃ units : List (Nat × List Op),
    net.log = units.flatMap (fun (a, u) => u.map (a, ·)) ∧ ∀ au ∈ units, IsUnit au.2 :=
  (tinv_reach h).log_is_units

/-- `receive` never refuses and never panics in the system: what a node hands to `receive` when it pulls is accepted -/
theorem ltx_receive_ok (h : Reach cuid n net) {i : Nat} {nd : Node} (hi : net.nodes[i]? = some nd) :
    (nd.r.receive (pullOps net.log i nd)).2 = .ok () :=
  GTx.TInv.receive_ok (headerFree_inv cuid n).toG (tinv_reach h) hi

/-- ALL OR NOTHING, by log position: there is ONE decomposition of the log into units such that every node, at every
    moment, has consumed (`p < pulled`) either ALL positions of a unit or NONE of them — `pulled` never sits inside a unit.
    (`ltx_nodes_applied_ops` ties `pulled` to the state: the state of a node is the application of its own operations and
    of the foreign entries among the first `pulled` ones.) -/
theorem ltx_all_or_nothing_pos (h : Reach cuid n net) : ∃ units : List (Nat × List Op),
    net.log = flatU units ∧ (∀ au ∈ units, IsUnit au.2) ∧
    ∀ (i : Nat) (nd : Node), net.nodes[i]? = some nd → ∀ j, j < units.length →
      (∀ p, unitStart units j ≤ p → p < unitStart units (j + 1) → p < nd.pulled) ∨
      (∀ p, unitStart units j ≤ p → p < unitStart units (j + 1) → ¬ p < nd.pulled) :=
  (tinv_reach h).all_or_nothing_pos

/-- no two entries of the log are equal (headers included) -/
theorem ltx_log_nodup (h : Reach cuid n net) : net.log.Nodup := (tinv_reach h).log_nodup

/-- node `i` has applied the log entry `e` of another node: `e` is among the entries `i` has consumed -/
def Applied (net : Net) (i : Nat) (e : LEnt) : Prop :=
  ∃ nd, net.nodes[i]? = some nd ∧ e ∈ oth i (net.log.take nd.pulled)

/-- ALL OR NOTHING: in every reachable state every node has applied, of every unit of the log authored by another
    node, either ALL operations or NONE -/
theorem ltx_all_or_nothing (h : Reach cuid n net) : ∃ units : List (Nat × List Op),
    net.log = units.flatMap (fun (a, u) => u.map (a, ·)) ∧ (∀ au ∈ units, IsUnit au.2) ∧
    ∀ (i : Nat) (nd : Node), net.nodes[i]? = some nd → ∀ au ∈ units, au.1 ≠ i →
      (∀ o ∈ au.2, Applied net i (au.1, o)) ∨ (∀ o ∈ au.2, ¬ Applied net i (au.1, o)) :=
  (tinv_reach h).all_or_nothing

/-- erasing the headers from log and buffers (`Abs`) turns every reachable state into a
    state that satisfies the invariant `LNet.Inv` of `ListNet` — every step of this system is a sequence of `ListNet` steps
    (`NetBook.NetInv.call`, `.push`, `.pull`) and clock bumps (`GTx.HeaderFree.of_net`), under which that invariant is closed -/
theorem ltx_erased_satisfies_lnet_inv {cuid : Nat → String} {n : Nat} {net : Net} (h : Reach cuid n net) :
    ∃ net0 ap, Inv cuid n net0 ap ∧ Abs net net0 := by
  obtain ⟨net0, ⟨ap, I⟩, Ab⟩ := (tinv_reach h).abs
  exact ⟨net0, ap, .of_net I, Ab⟩

/-- every node's state IS the remote application of a causal sequence that is a permutation of what the operations the
    node has (own buffer, foreign entries among the first `pulled` of the log; headers denote nothing) denote -/
theorem ltx_nodes_applied_ops (h : Reach cuid n net) : ∃ applied : Nat → List LOp,
    ∀ (i : Nat) (nd : Node), net.nodes[i]? = some nd →
      nd.r.state = .list (Rga.empty.applyAllL (applied i)) ∧ LCausal (applied i) ∧
      (applied i).Perm ((appliedOps net.log i nd).filterMap toL) :=
  (tinv_reach h).nodes_applied_ops (headerFree_inv cuid n)

/-- convergence survives: two nodes that have the same operations (`LNet.SameOps`: own buffer ++ consumed foreign log
    entries, as multisets — headers included) hold the SAME list state -/
theorem ltx_same_operations_same_state (h : Reach cuid n net) (i j : Nat) (hi : i < net.nodes.length)
    (hj : j < net.nodes.length) (hsame : SameOps net i j) : net.nodes[i].r.state = net.nodes[j].r.state :=
  (tinv_reach h).same_operations_same_state (headerFree_inv cuid n) i j hi hj hsame

/-- at quiescence (`LNet.Quiescent`: every buffer completely pushed, every node has consumed the whole log) all nodes
    hold the same list state -/
theorem ltx_quiescent_converged (h : Reach cuid n net) (hq : Quiescent net) (i j : Nat) (hi : i < net.nodes.length)
    (hj : j < net.nodes.length) : net.nodes[i].r.state = net.nodes[j].r.state :=
  (tinv_reach h).quiescent_converged (headerFree_inv cuid n) hq i j hi hj

/-! ## quiescence is reachable from every state -/

/-- for any step relation `R` that has the two synchronisation steps (this system's `Step`, `FTxNetC.L.StepC`) -/
theorem can_quiesce {R Rs : Net → Net → Prop} (refl : ∀ a, Rs a a) (tail : ∀ {a b c}, Rs a b → R b c → Rs a c)
    (push : ∀ (net : Net) (i : Nat) (nd : Node), net.nodes[i]? = some nd →
      R net ⟨net.nodes.set i { nd with pushed := nd.r.buffer.length },
        net.log ++ (nd.r.buffer.drop nd.pushed).map (fun o => (i, o))⟩)
    (pull : ∀ (net : Net) (i : Nat) (nd : Node), net.nodes[i]? = some nd →
      R net ⟨net.nodes.set i { nd with r := (nd.r.receive (pullOps net.log i nd)).1, pulled := net.log.length },
        net.log⟩)
    (net : Net) : ∃ net', Rs net net' ∧ Quiescent net' :=
  have ⟨s', hr, hq⟩ := GTx.can_quiesce view (R := fun a b => R ⟨a.1, a.2⟩ ⟨b.1, b.2⟩) (Rs := fun a b => Rs ⟨a.1, a.2⟩ ⟨b.1, b.2⟩)
    (fun _ => refl _) tail (fun ns lg => push ⟨ns, lg⟩) (fun ns lg => pull ⟨ns, lg⟩) (net.nodes, net.log)
  ⟨⟨s'.1, s'.2⟩, hr, hq⟩

/-- zero or more steps -/
inductive Reaches : Net → Net → Prop
  | refl (net : Net) : Reaches net net
  | tail {a b c : Net} : Reaches a b → Step b c → Reaches a c

theorem reach_of_reaches {net' : Net} (hr : Reach cuid n net) (h : Reaches net net') : Reach cuid n net' := by
  induction h with
  | refl => exact hr
  | tail _ hs ih => exact .step ih hs

/-- quiescence is reachable: from EVERY state (reachable or not) zero or more steps lead to a quiescent one — `pushAll` by
    every node, then `pullAll` by every node; neither step has a side condition -/
theorem ltx_can_quiesce (net : Net) : ∃ net', Reaches net net' ∧ Quiescent net' :=
  can_quiesce .refl .tail .pushAll .pullAll net

end theorems

/-! ## non-vacuity: three nodes, transactions (committed, failing, empty), concurrent plain calls, a run to quiescence

Node 0 inserts `[1, 2]` (plain call), pushes; everybody pulls.  Then, CONCURRENTLY:
  * node 1 commits the transaction `"t1"` whose body inserts `"b"` at 1, deletes element 0, reads, updates element 0 — a unit
    of FOUR log entries (header + three operations; the read queues nothing);
  * node 2 runs `"t2"` (insert, then an insert out of range; the body stops at the refused call): rolled back;
  * node 2 runs `"t3"` (insert, delete; the user function fails at the end): rolled back;
  * node 0 commits the EMPTY transaction `"t4"`: a unit that is a lone header announcing 1;
  * node 2 inserts `"c"` at 1 and node 0 deletes element 1 (plain calls).
Everybody pushes (2, 1, 0); node 0 pulls (`midNet`: NOT quiescent — node 0 has applied ALL of `"t1"`, nodes 1 and 2 are
behind); then 1 and 2 pull (`finalNet`: quiescent). -/
namespace Ex

def cu : Nat → String
  | 0 => "a" | 1 => "b" | _ => "c"

def acts : List Act := [
  .call 0 (.linsert 0 [.num 1, .num 2]),
  .pushAll 0, .pullAll 0, .pullAll 1, .pullAll 2,
  .tx 1 "t1" [.linsert 1 [.str "b"], .ldelete 0, .lget 0, .lupdate 0 [.str "u"]] false false,
  .tx 2 "t2" [.linsert 1 [.str "x"], .linsert 7 [.str "y"]] true false,
  .tx 2 "t3" [.linsert 1 [.str "z"], .ldelete 0] false true,
  .tx 0 "t4" [] false false,
  .call 2 (.linsert 1 [.str "c"]),
  .call 0 (.ldelete 1),
  .pushAll 2, .pushAll 1, .pushAll 0,
  .pullAll 0, .pullAll 1, .pullAll 2]

def finalNet : Net := (run (Net.init cu 3) acts).getD ⟨[], []⟩
def midNet : Net := (run (Net.init cu 3) (acts.take 15)).getD ⟨[], []⟩

theorem run_final : run (Net.init cu 3) acts = some finalNet := ListAux.some_getD (by decide +kernel)
theorem run_mid : run (Net.init cu 3) (acts.take 15) = some midNet := ListAux.some_getD (by decide +kernel)

theorem cu_distinct : CuidsDistinct cu 3 := NetBook.distinct3 (by decide) (by decide) (by decide)

theorem reach_final : Reach cu 3 finalNet := reach_run acts (.init cu_distinct) run_final
theorem reach_mid : Reach cu 3 midNet := reach_run (acts.take 15) (.init cu_distinct) run_mid

theorem quiescent_final : Quiescent finalNet := by
  unfold Quiescent
  decide +kernel

theorem len_final : finalNet.nodes.length = 3 := by decide +kernel
theorem len_mid : midNet.nodes.length = 3 := by decide +kernel

/-- eight entries went through the log: the plain insert, node 2's plain insert, the unit of `"t1"` (header announcing 4 and
    three operations), the lone header of `"t4"`, node 0's plain delete; the two failed transactions left nothing -/
example : finalNet.log.map (·.1) = [0, 2, 1, 1, 1, 1, 0, 0] ∧
    finalNet.log.map (fun e => isHdr e.2) = [false, false, true, false, false, false, true, false] := by decide +kernel

/-- the failing transactions returned an error and changed neither state nor buffer (here: `"t2"` on the replica of node 2
    as it stood after everybody had pulled node 0's insert) -/
example : ∃ nd, (((run (Net.init cu 3) (acts.take 6)).getD ⟨[], []⟩).nodes[2]? = some nd) ∧
    (nd.r.txCalls "t2" [.linsert 1 [.str "x"], .linsert 7 [.str "y"]] true false).2.2 = .err Err.transaction ∧
    (nd.r.txCalls "t2" [.linsert 1 [.str "x"], .linsert 7 [.str "y"]] true false).1.buffer = nd.r.buffer := by
  refine ⟨_, rfl, ?_, ?_⟩ <;> rfl

/-- why `ltx_failed_tx_is_noop` is about identifier, state, buffer and checkpoint and NOT `net' = net`: the rollback
    re-bases the rollback data (here the rollback operations of node 2, which held the insert it had pulled, are emptied) -/
example : ∃ nd, (((run (Net.init cu 3) (acts.take 6)).getD ⟨[], []⟩).nodes[2]? = some nd) ∧
    nd.r.rbOps.length = 1 ∧
    (nd.r.txCalls "t2" [.linsert 1 [.str "x"], .linsert 7 [.str "y"]] true false).1.rbOps.length = 0 := by
  refine ⟨_, rfl, ?_, ?_⟩ <;> rfl

/-- `ltx_quiescent_converged` instantiated -/
example : (finalNet.nodes[0]'(by rw [len_final]; decide)).r.state = (finalNet.nodes[1]'(by rw [len_final]; decide)).r.state :=
  ltx_quiescent_converged reach_final quiescent_final 0 1 (by rw [len_final]; decide) (by rw [len_final]; decide)
example : (finalNet.nodes[1]'(by rw [len_final]; decide)).r.state = (finalNet.nodes[2]'(by rw [len_final]; decide)).r.state :=
  ltx_quiescent_converged reach_final quiescent_final 1 2 (by rw [len_final]; decide) (by rw [len_final]; decide)

def a0 : Ts := ⟨0, 1, "a", 0⟩
def a1 : Ts := ⟨0, 1, "a", 1⟩

/-- … and the common state -/
def common : DState := .list
  ⟨[⟨a0, none, ⟨0, 4, "b", 0⟩⟩, ⟨⟨0, 3, "b", 0⟩, some (.str "u"), ⟨0, 5, "b", 0⟩⟩,
    ⟨⟨0, 2, "c", 0⟩, some (.str "c"), ⟨0, 2, "c", 0⟩⟩, ⟨a1, none, ⟨0, 3, "a", 0⟩⟩], 2⟩

/-- a decidable rendering of a list state: (identity, live?, value timestamp) per node, the stored Size, and whether the
    live values are `["u", "c"]` -/
def render : DState → Option (List (Ts × Bool × Ts) × Int × Bool)
  | .list l => some (l.nodes.map (fun nd => (nd.o, nd.v.isSome, nd.t)), l.size, l.live == [.str "u", .str "c"])
  | _ => none

/-- all three nodes hold `common` (kernel evaluation of the run) -/
theorem final_states : finalNet.nodes.map (fun nd => render nd.r.state) = List.replicate 3 (render common) := by
  decide +kernel

/-- `ltx_all_or_nothing` instantiated in the NON-quiescent state `midNet`, and both alternatives occur there for the unit
    of `"t1"` (log positions 2–5, written by node 1): node 0 has consumed all of it, node 2 none of it -/
example : ∃ units : List (Nat × List Op), midNet.log = units.flatMap (fun (a, u) => u.map (a, ·)) ∧
    (∀ au ∈ units, IsUnit au.2) ∧
    ∀ (i : Nat) (nd : Node), midNet.nodes[i]? = some nd → ∀ au ∈ units, au.1 ≠ i →
      (∀ o ∈ au.2, Applied midNet i (au.1, o)) ∨ (∀ o ∈ au.2, ¬ Applied midNet i (au.1, o)) :=
  ltx_all_or_nothing reach_mid

example : ¬ Quiescent midNet := by
  unfold Quiescent
  decide +kernel

example : (midNet.nodes.map (·.pulled)) = [8, 1, 1] ∧ midNet.log.length = 8 := by decide +kernel

/-- `receive` accepts what node 2 pulls next in `midNet` (six foreign entries, among them the unit of four) -/
example : ∃ nd, midNet.nodes[2]? = some nd ∧ (nd.r.receive (pullOps midNet.log 2 nd)).2 = .ok () :=
  ⟨_, rfl, ltx_receive_ok reach_mid rfl⟩

end Ex

end Orda.LTx
