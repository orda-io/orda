/-
Document ARRAY elements are never duplicated, lost, resurrected or reordered, end to end over the server log (C04 for
documents).  Continues namespace `Orda.DNet` of `Proofs/DocNet.lean`; no hypothesis beyond `Reach cuid n net`.

On the abstraction `DC.abs d` the entries of an array only grow and dead entries stay dead under every abstract operation
(`Grow`, `AGrow`); so an applicable remote operation only adds slots and keeps tombstones, and a step changes the document of
a node not at all or by ONE applicable remote operation (`step_node_applies`).  Every reachable state can be continued to a
quiescent one (`dnet_can_quiesce`, by `NetBook.can_quiesce`); there all nodes have the same duplicate-free
slot list, of which the slot lists of any two nodes NOW are sublists: hence `dnet_same_relative_order_everywhere`.
-/
import Orda.Proofs.DocNet
namespace Orda.DNet
open Orda Orda.DC Orda.DA Orda.DM Orda.DCausal Orda.ListAux

/-! ## arrays in the abstraction: entries are only added, dead entries stay dead -/

/-- the child of slot `o` of the array `p` is a tombstone -/
def slotDead (d : Doc) (p o : Ts) : Prop := ∃ s ∈ slotsOf d p, s.1 = o ∧ d.isTomb s.2 = true

def aEnts (A : Abs) (p : Ts) : List Ent :=
  match A.shape p with
  | some (_, .arr E) => E
  | _ => []

theorem aEnts_abs (d : Doc) (p : Ts) : aEnts (abs d) p = (slotsOf d p).map (entOf d) := by
  unfold aEnts abs shapeOf slotsOf Doc.findArr
  simp only
  cases d.find p with
  | none => rfl
  | some n =>
    obtain ⟨nc, nd, np, nk⟩ := n
    cases nk with
    | elem v => cases nd <;> rfl
    | obj m s => rfl
    | arr sl s => rfl

theorem slotIds_abs (d : Doc) (p : Ts) : slotIds d p = (aEnts (abs d) p).map (·.1) := by
  rw [aEnts_abs, List.map_map]; rfl

theorem slotDead_abs (d : Doc) (p o : Ts) :
    slotDead d p o ↔ ∃ e ∈ aEnts (abs d) p, e.1 = o ∧ e.2.2.tomb = true := by
  rw [aEnts_abs]
  constructor
  · rintro ⟨s, hs, h1, h2⟩
    exact ⟨entOf d s, List.mem_map.mpr ⟨s, hs, rfl⟩, h1, h2⟩
  · rintro ⟨e, he, h1, h2⟩
    obtain ⟨s, hs, rfl⟩ := List.mem_map.mp he
    exact ⟨s, hs, h1, h2⟩

/-- entries are only added (order kept) and dead entries stay dead -/
def Grow (E E' : List Ent) : Prop :=
  (E.map (·.1)).Sublist (E'.map (·.1)) ∧
    ∀ e ∈ E, e.2.2.tomb = true → ∃ e' ∈ E', e'.1 = e.1 ∧ e'.2.2.tomb = true

theorem grow_refl (E : List Ent) : Grow E E := ⟨List.Sublist.refl _, fun e he ht => ⟨e, he, rfl, ht⟩⟩
theorem grow_trans {E1 E2 E3 : List Ent} (h1 : Grow E1 E2) (h2 : Grow E2 E3) : Grow E1 E3 := by
  refine ⟨h1.1.trans h2.1, ?_⟩
  intro e he ht
  obtain ⟨e', he', h3, h4⟩ := h1.2 e he ht
  obtain ⟨e'', he'', h5, h6⟩ := h2.2 e' he' h4
  exact ⟨e'', he'', h5.trans h3, h6⟩
theorem grow_nil (E : List Ent) : Grow [] E := ⟨by simp, by intro e he; cases he⟩
theorem grow_of_sublist {E E' : List Ent} (h : E.Sublist E') : Grow E E' :=
  ⟨h.map _, fun e he ht => ⟨e, h.subset he, rfl, ht⟩⟩

def AGrow (A B : Abs) : Prop := ∀ p, Grow (aEnts A p) (aEnts B p)

theorem agrow_refl (A : Abs) : AGrow A A := fun _ => grow_refl _
theorem agrow_trans {A B C : Abs} (h1 : AGrow A B) (h2 : AGrow B C) : AGrow A C :=
  fun p => grow_trans (h1 p) (h2 p)
theorem agrow_of_shape {A B : Abs} (h : ∀ p, A.shape p = B.shape p) : AGrow A B := by
  intro p; unfold aEnts; rw [h p]; exact grow_refl _

theorem agrow_union (A N : Abs) : AGrow A (union A N) := by
  intro p
  unfold aEnts union
  simp only
  cases h : A.shape p with
  | none => exact grow_nil _
  | some x => exact grow_refl _

theorem agrow_kill (A : Abs) (x : Option Ts) : AGrow A (kill A x) := by
  cases x with
  | none => exact agrow_refl A
  | some x =>
    intro p
    unfold aEnts kill
    simp only
    by_cases h : p = x ∧ Shape.isElem (A.shape x) = true
    · rw [if_pos h]
      obtain ⟨rfl, h2⟩ := h
      cases hs : A.shape p with
      | none => exact grow_nil _
      | some y =>
        obtain ⟨par, sh⟩ := y
        cases sh with
        | elem v => exact grow_nil _
        | obj => simp [Shape.isElem, hs] at h2
        | arr E => simp [Shape.isElem, hs] at h2
    · rw [if_neg h]; exact grow_refl _

theorem agrow_setKey (A : Abs) (p : Ts) (k : String) (st : Option KeySt) (ds : Int) : AGrow A (setKey A p k st ds) :=
  agrow_of_shape (fun _ => rfl)

theorem agrow_setArr {A : Abs} {p : Ts} {par par' : Option Ts} {E E' : List Ent} (s : Int)
    (h : A.shape p = some (par, .arr E)) (hg : Grow E E') : AGrow A (setArr A p par' E' s) := by
  intro q
  unfold aEnts setArr
  simp only
  by_cases e : q = p
  · subst e; rw [if_pos rfl, h]; exact hg
  · rw [if_neg e]; exact grow_refl _

theorem agrow_absOp (o : ObjOp) (A : Abs) : AGrow A (absOp o A) := by
  unfold absOp aop applyStep
  exact agrow_trans (agrow_union A _) (agrow_trans (agrow_setKey _ _ _ _ _) (agrow_kill _ _))

theorem agrow_insSlots (A : Abs) (p an : Ts) (cs : List Ts) : AGrow A (insSlots A p an cs) := by
  unfold insSlots
  cases h : A.shape p with
  | none => exact agrow_refl A
  | some x =>
    obtain ⟨par, sh⟩ := x
    cases sh with
    | elem v => exact agrow_refl A
    | obj => exact agrow_refl A
    | arr E =>
      simp only
      cases hi : insertAfterId (fun (e : Ent) => e.1) an (cs.map newEnt) E with
      | none => exact agrow_refl A
      | some E' =>
        exact agrow_setArr _ h (grow_of_sublist (insertAfterId_sublist _ an _ E E' hi))

theorem setEntry_ids (tg c : Ts) (st : KeySt) : ∀ E : List Ent, (setEntry tg c st E).map (·.1) = E.map (·.1)
  | [] => rfl
  | e :: es => by
    unfold setEntry
    split
    · next h => simp [h]
    · simp [setEntry_ids tg c st es]

theorem grow_setEntry {tg c : Ts} {st : KeySt} : ∀ {E : List Ent} {e0 : Ent},
    E.find? (fun e => e.1 = tg) = some e0 → (e0.2.2.tomb = true → st.tomb = true) →
    Grow E (setEntry tg c st E) := by
  intro E e0 hf hst
  refine ⟨by rw [setEntry_ids], ?_⟩
  induction E with
  | nil => intro e he; cases he
  | cons x xs ih =>
    intro e he ht
    unfold setEntry
    by_cases hx : x.1 = tg
    · rw [if_pos hx]
      have : e0 = x := by
        simp only [List.find?_cons, hx, decide_true] at hf
        exact (Option.some.inj hf).symm
      subst this
      rcases List.mem_cons.mp he with rfl | he
      · exact ⟨(tg, c, st), by simp, hx.symm, hst ht⟩
      · exact ⟨e, by simp [he], rfl, ht⟩
    · rw [if_neg hx]
      rcases List.mem_cons.mp he with rfl | he
      · exact ⟨e, by simp, rfl, ht⟩
      · have hf' : xs.find? (fun e => e.1 = tg) = some e0 := by
          simpa only [List.find?_cons, hx, decide_false] using hf
        obtain ⟨e', he', h1, h2⟩ := ih hf' e he ht
        exact ⟨e', List.mem_cons_of_mem _ he', h1, h2⟩

theorem agrow_applySlot (A : Abs) (p tg : Ts) {f : Ts → KeySt → SStep}
    (hf : ∀ c st, st.tomb = true → (f c st).st.tomb = true) : AGrow A (applySlot A p tg f) := by
  unfold applySlot
  cases h : A.shape p with
  | none => exact agrow_refl A
  | some x =>
    obtain ⟨par, sh⟩ := x
    cases sh with
    | elem v => exact agrow_refl A
    | obj => exact agrow_refl A
    | arr E =>
      simp only
      cases hi : E.find? (fun e => e.1 = tg) with
      | none => exact agrow_refl A
      | some e0 =>
        simp only
        exact agrow_trans (agrow_setArr _ h (grow_setEntry hi (hf _ _))) (agrow_kill _ _)

theorem aDelStep_tomb (t c : Ts) (st : KeySt) (h : st.tomb = true) : (aDelStep t c st).st.tomb = true := by
  unfold aDelStep
  split
  · rfl
  · split
    · rfl
    · exact h

theorem aUpdStep_tomb (t c : Ts) (st : KeySt) (h : st.tomb = true) : (aUpdStep t c st).st.tomb = true := by
  unfold aUpdStep
  simp [h]

theorem agrow_absE (e : EOp) (A : Abs) : AGrow A (absE e A) := by
  cases e with
  | ins p an ts vs => exact agrow_trans (agrow_union A _) (agrow_insSlots _ _ _ _)
  | del1 p tg t => exact agrow_applySlot A p tg (aDelStep_tomb t)
  | upd1 p tg t v => exact agrow_trans (agrow_union A _) (agrow_applySlot _ p tg (aUpdStep_tomb t))

/-! ## one remote document operation: slots are only added, dead slots stay dead -/

theorem agrow_applyAllE : ∀ (l : List EOp) {z : Doc}, GoodE z l → AGrow (abs z) (abs (applyAllE z l))
  | [], _, _ => agrow_refl _
  | e :: l, z, h => by
    refine agrow_trans ?_ (agrow_applyAllE l (goodE_step h))
    show AGrow (abs z) (abs (applyE z e))
    rw [abs_applyE h.1 e (h.2.1 e List.mem_cons_self)]
    exact agrow_absE e _

theorem agrow_applyD {d : Doc} {x : DOp} (h : GoodD d [x]) : AGrow (abs d) (abs (applyD d x)) := by
  cases x with
  | o a =>
    obtain ⟨hwf, ha⟩ := DR.goodD_obj h
    show AGrow (abs d) (abs (applyOp d a))
    rw [sim_op hwf a ha]
    exact agrow_absOp a _
  | a a =>
    obtain ⟨g, hd⟩ := goodD_arr_flat h
    show AGrow (abs d) (abs (applyA d a))
    rw [sim_of_docEq hd]
    exact agrow_applyAllE _ g

theorem applyD_slotIds_sublist {d : Doc} {x : DOp} (h : GoodD d [x]) (p : Ts) :
    (slotIds d p).Sublist (slotIds (applyD d x) p) := by
  rw [slotIds_abs, slotIds_abs]
  exact (agrow_applyD h p).1

theorem applyD_slotDead {d : Doc} {x : DOp} (h : GoodD d [x]) (p o : Ts) (hd : slotDead d p o) :
    slotDead (applyD d x) p o := by
  rw [slotDead_abs] at hd ⊢
  obtain ⟨e, he, h1, h2⟩ := hd
  obtain ⟨e', he', h3, h4⟩ := (agrow_applyD h p).2 e he h2
  exact ⟨e', he', h3.trans h1, h4⟩

/-! ## what a step does to ONE node: nothing, or it applies ONE applicable remote operation -/

theorem step_node_applies {cuid : Nat → String} {n : Nat} {net net' : Net} (hr : Reach cuid n net)
    (hs : Step net net') (i : Nat) (d d' : Doc) (h1 : Holds net i d) (h2 : Holds net' i d') :
    d' = d ∨ ∃ x, GoodD d [x] ∧ d' = applyD d x := by
  obtain ⟨ap, I⟩ := inv_reach hr
  obtain ⟨ap', I', hg⟩ := I.step_grows hs
  obtain ⟨nd1, hn1, hs1⟩ := h1
  obtain ⟨nd2, hn2, hs2⟩ := h2
  -- both documents are what the ghost sequences denote, and the ghost sequence has grown by at most one (valid) entry
  have N2 := I'.node i nd2 hn2
  have e1 : d = applyAllD Doc.empty (den (ap i)) := DState.doc.inj (hs1.symm.trans (I.node i nd1 hn1).st)
  have e2 : d' = applyAllD Doc.empty (den (ap' i)) := DState.doc.inj (hs2.symm.trans N2.st)
  rcases hg i with h | ⟨e, h⟩
  · exact .inl (by rw [e2, h, e1])
  · obtain ⟨x, hx, _⟩ := (N2.ent_ok e (by rw [h]; exact List.mem_append_right _ List.mem_cons_self)).den
    have hv := N2.valid
    rw [h, den_snoc hx] at hv
    exact .inr ⟨x, e1 ▸ (valid_append.mp hv).2.1, by rw [e2, h, den_snoc hx, applyAllD_append, e1]; rfl⟩

/-- a step never removes or reorders slots of any array on any node -/
theorem dnet_step_only_adds_slots {cuid : Nat → String} {n : Nat} {net net' : Net} :
    Reach cuid n net → Step net net' → ∀ (i : Nat) (d d' : Doc) (p : Ts), Holds net i d → Holds net' i d' →
    (slotIds d p).Sublist (slotIds d' p) := by
  intro hr hs i d d' p h1 h2
  rcases step_node_applies hr hs i d d' h1 h2 with rfl | ⟨x, hg, rfl⟩
  · exact List.Sublist.refl _
  · exact applyD_slotIds_sublist hg p

/-- … and a slot whose element is deleted (tombstone) on node `i` stays deleted on node `i` -/
theorem dnet_step_keeps_deleted_slots {cuid : Nat → String} {n : Nat} {net net' : Net} :
    Reach cuid n net → Step net net' → ∀ (i : Nat) (d d' : Doc) (p o : Ts), Holds net i d → Holds net' i d' →
    slotDead d p o → slotDead d' p o := by
  intro hr hs i d d' p o h1 h2 hd
  rcases step_node_applies hr hs i d d' h1 h2 with rfl | ⟨x, hg, rfl⟩
  · exact hd
  · exact applyD_slotDead hg p o hd

/-! ## runs: monotonicity along any continuation, and every state can be continued to a quiescent one -/

/-- `net'` is reached from `net` by finitely many steps -/
inductive Reaches : Net → Net → Prop
  | refl (net : Net) : Reaches net net
  | step {a b c : Net} : Reaches a b → Step b c → Reaches a c

theorem Reaches.single {a b : Net} (h : Step a b) : Reaches a b := .step (.refl a) h

theorem reach_of_reaches {cuid : Nat → String} {n : Nat} {a b : Net} (hr : Reach cuid n a) (h : Reaches a b) :
    Reach cuid n b := by
  induction h with
  | refl => exact hr
  | step _ hs ih => exact .step ih hs

theorem reach_len {cuid : Nat → String} {n : Nat} {net : Net} (hr : Reach cuid n net) : net.nodes.length = n := by
  obtain ⟨ap, I⟩ := inv_reach hr
  exact I.len

theorem reach_holds {cuid : Nat → String} {n : Nat} {net : Net} (hr : Reach cuid n net) {i : Nat} (hi : i < n) :
    ∃ d, Holds net i d := by
  obtain ⟨ap, I⟩ := inv_reach hr
  have hlt : i < net.nodes.length := by rw [I.len]; exact hi
  have h := List.getElem?_eq_getElem hlt
  exact ⟨_, _, h, (I.node i _ h).st⟩

theorem holds_lt {cuid : Nat → String} {n : Nat} {net : Net} (hr : Reach cuid n net) {i : Nat} {d : Doc}
    (h : Holds net i d) : i < n := by
  obtain ⟨hi, _⟩ := h.state
  exact reach_len hr ▸ hi

theorem reaches_mono {cuid : Nat → String} {n : Nat} {net net' : Net} (hr : Reach cuid n net) (h : Reaches net net')
    (i : Nat) (d : Doc) (h1 : Holds net i d) :
    ∃ d', Holds net' i d' ∧ (∀ p, (slotIds d p).Sublist (slotIds d' p)) ∧
      ∀ p o, slotDead d p o → slotDead d' p o := by
  induction h with
  | refl => exact ⟨d, h1, fun p => List.Sublist.refl _, fun p o h => h⟩
  | step hab hs ih =>
    obtain ⟨d1, hd1, hsub, hdead⟩ := ih
    have hrb := reach_of_reaches hr hab
    obtain ⟨d2, hd2⟩ := reach_holds (.step hrb hs) (holds_lt hr h1)
    refine ⟨d2, hd2, ?_, ?_⟩
    · intro p
      exact (hsub p).trans (dnet_step_only_adds_slots hrb hs i d1 d2 p hd1 hd2)
    · intro p o h
      exact dnet_step_keeps_deleted_slots hrb hs i d1 d2 p o hd1 hd2 (hdead p o h)

/-- every reachable state can be continued to a quiescent one (push every buffer, then pull the whole log everywhere) -/
theorem dnet_can_quiesce {cuid : Nat → String} {n : Nat} {net : Net} :
    Reach cuid n net → ∃ net', Reaches net net' ∧ Quiescent net' := fun hr =>
  have ⟨s', h, hq⟩ := NetBook.can_quiesce view (R := fun a b => Step ⟨a.1, a.2⟩ ⟨b.1, b.2⟩)
    (Rs := fun a b => Reaches ⟨a.1, a.2⟩ ⟨b.1, b.2⟩) (P := fun a => Reach cuid n ⟨a.1, a.2⟩)
    (refl := fun _ => .refl _) (tail := .step) (keep := fun hr hs => .step hr hs)
    (le := fun hr hi => have ⟨_, I⟩ := inv_reach hr; ⟨(I.node _ _ hi).pushed_le, (I.node _ _ hi).pulled_le⟩)
    (push := fun ns lg i nd o hi ho => .push ⟨ns, lg⟩ i nd o hi ho)
    (pull := fun ns lg i nd a o hi hl => .pull ⟨ns, lg⟩ i nd a o hi hl) (s := (net.nodes, net.log)) hr
  ⟨⟨s'.1, s'.2⟩, h, hq⟩

/-! ## the same relative order on all nodes -/

/-- no duplicates: the slot identifiers of every array on every node are pairwise distinct -/
theorem dnet_slots_nodup {cuid : Nat → String} {n : Nat} {net : Net} :
    Reach cuid n net → ∀ (i : Nat) (d : Doc) (p : Ts), Holds net i d → (slotIds d p).Nodup := by
  intro hr i d p ⟨nd, hi, hs⟩
  obtain ⟨applied, h⟩ := net_nodes_applied net hr
  obtain ⟨I, _⟩ := (h i nd hi).1.of_state hs
  unfold slotIds slotsOf
  cases hp : d.findArr p with
  | none => simp
  | some x =>
    obtain ⟨pn, sl, sz⟩ := x
    obtain ⟨h1, h2⟩ := findArr_some_iff.mp hp
    have := I.ordnd p pn h1
    rw [h2] at this
    exact this

/-- at EVERY moment, on ANY two nodes, for ANY array node `p`, any two slots present on both appear in
    the same relative order -/
theorem dnet_same_relative_order_everywhere {cuid : Nat → String} {n : Nat} {net : Net} :
    Reach cuid n net → ∀ (i j : Nat) (di dj : Doc) (p x y : Ts), Holds net i di → Holds net j dj →
    x ∈ slotIds di p → y ∈ slotIds di p → x ∈ slotIds dj p → y ∈ slotIds dj p →
    ([x, y].Sublist (slotIds di p) ↔ [x, y].Sublist (slotIds dj p)) := by
  intro hr i j di dj p x y hi hj xi yi xj yj
  obtain ⟨net', hrs, hq⟩ := dnet_can_quiesce hr
  have hr' := reach_of_reaches hr hrs
  obtain ⟨di', hi', si, _⟩ := reaches_mono hr hrs i di hi
  obtain ⟨dj', hj', sj, _⟩ := reaches_mono hr hrs j dj hj
  obtain ⟨hli, hsi⟩ := hi'.state
  obtain ⟨hlj, hsj⟩ := hj'.state
  have hconv := (net_quiescent_converged net' hr' hq i j hli hlj di' dj' hsi hsj).1
  have heq := slotIds_asim hconv p
  have hnd := dnet_slots_nodup hr' i di' p hi'
  have sj' : (slotIds dj p).Sublist (slotIds di' p) := heq ▸ sj p
  rw [sublist_order_iff hnd (si p) xi yi, sublist_order_iff hnd sj' xj yj]

/-! ## non-vacuity: the run `DNet.Ex`, in the NON-quiescent state `Ex.midNet` (node 2 has not yet received node 1's insert
    into node 0's array, nor node 0's delete of its head) -/
namespace Ex

def m2 : Doc := docOf (midNet.nodes[2]'(by rw [len_mid]; decide)).r
/-- the two slots node 0 created with its array -/
def sA : Ts := ⟨0, 1, "a", 1⟩
def sB : Ts := ⟨0, 1, "a", 2⟩

theorem holds_m0 : Holds midNet 0 m0 := ⟨_, List.getElem?_eq_getElem _, state_docOf reach_mid 0 _⟩
theorem holds_m2 : Holds midNet 2 m2 := ⟨_, List.getElem?_eq_getElem _, state_docOf reach_mid 2 _⟩

theorem mid_eval :
    slotsOf m0 arrId = [(sA, sA), (⟨0, 3, "b", 0⟩, ⟨0, 3, "b", 0⟩), (⟨0, 3, "b", 1⟩, ⟨0, 3, "b", 1⟩), (sB, sB)] ∧
    m0.isTomb sA = true ∧
    slotsOf m2 arrId = [(sA, sA), (sB, sB)] ∧ m2.isTomb sA = false := by
  decide +kernel

example : ¬ Quiescent midNet := mid_facts.2.1
theorem slotIds_m0 : slotIds m0 arrId = [sA, ⟨0, 3, "b", 0⟩, ⟨0, 3, "b", 1⟩, sB] := by rw [slotIds, mid_eval.1]; rfl
theorem slotIds_m2 : slotIds m2 arrId = [sA, sB] := by rw [slotIds, mid_eval.2.2.1]; rfl
example : slotIds m0 arrId = [sA, ⟨0, 3, "b", 0⟩, ⟨0, 3, "b", 1⟩, sB] ∧ slotIds m2 arrId = [sA, sB] :=
  ⟨slotIds_m0, slotIds_m2⟩
example : slotIds m0 arrId ≠ slotIds m2 arrId := by rw [slotIds_m0, slotIds_m2]; decide

/-- both slots are present on both nodes … -/
theorem sA_m0 : sA ∈ slotIds m0 arrId := by rw [slotIds_m0]; decide
theorem sB_m0 : sB ∈ slotIds m0 arrId := by rw [slotIds_m0]; decide
theorem sA_m2 : sA ∈ slotIds m2 arrId := by rw [slotIds_m2]; decide
theorem sB_m2 : sB ∈ slotIds m2 arrId := by rw [slotIds_m2]; decide

example : [sA, sB].Sublist (slotIds m0 arrId) ↔ [sA, sB].Sublist (slotIds m2 arrId) :=
  dnet_same_relative_order_everywhere reach_mid 0 2 m0 m2 arrId sA sB holds_m0 holds_m2 sA_m0 sB_m0 sA_m2 sB_m2

example : [sA, sB].Sublist (slotIds m2 arrId) ∧ [sA, sB].Sublist (slotIds m0 arrId) := by
  have h : [sA, sB].Sublist (slotIds m2 arrId) := by rw [slotIds_m2]
  exact ⟨h, (dnet_same_relative_order_everywhere reach_mid 0 2 m0 m2 arrId sA sB holds_m0 holds_m2 sA_m0 sB_m0 sA_m2
    sB_m2).mpr h⟩

example : (slotIds m0 arrId).Nodup := dnet_slots_nodup reach_mid 0 m0 arrId holds_m0

/-- the head `sA` is deleted on node 0 and still live on node 2 -/
theorem dead_m0 : slotDead m0 arrId sA := ⟨(sA, sA), by rw [mid_eval.1]; exact List.mem_cons_self, rfl, mid_eval.2.1⟩
example : ¬ slotDead m2 arrId sA := by
  rintro ⟨s, hs, h1, h2⟩
  rw [mid_eval.2.2.1] at hs
  simp only [List.mem_cons, List.mem_nil_iff, or_false] at hs
  rcases hs with rfl | rfl
  · exact absurd (mid_eval.2.2.2 ▸ h2) (by decide)
  · exact absurd h1 (by decide)

example : ∃ net' d', Reaches midNet net' ∧ Quiescent net' ∧ Holds net' 0 d' ∧
    (slotIds m0 arrId).Sublist (slotIds d' arrId) ∧ slotDead d' arrId sA := by
  obtain ⟨net', hrs, hq⟩ := dnet_can_quiesce reach_mid
  obtain ⟨d', hd', hsub, hdead⟩ := reaches_mono reach_mid hrs 0 m0 holds_m0
  exact ⟨net', d', hrs, hq, hd', hsub arrId, hdead arrId sA dead_m0⟩

end Ex

end Orda.DNet

