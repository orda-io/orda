/-
RGA list, full state: two replicas that applied the same inserts, updates and deletes, each in a causal
order, hold the same `Rga` value; and the merge rule the model implements.

Order: deletes/updates never touch `nodes.map (·.o)` and `insertRemote` only looks at `o`, so `rga_converge`
applies to the insert sub-sequence.  Payload: on a duplicate-free list an update/delete is a `map` of a
per-node transformer, one of `id`, `delF t`, `updF v t` (`RF.Eff`), so the final node is a fold over the
operations (`nodes_fold`); what the fold computes is the merge rule `RF.PSpec` (`fold_spec`), which speaks of the
SET of operations only and, timestamps being distinct, names one node (`PSpec.unique`): hence convergence.
Size: the stored `size` is the number of live nodes in every reachable state.
-/
import Orda.Proofs.Rga
namespace Orda

/-- a list operation as it is applied remotely -/
inductive LOp where
  | ins (anchor ts : Ts) (vals : List JVal)
  | del (targets : List Ts) (ts : Ts)
  | upd (targets : List Ts) (vals : List JVal) (ts : Ts)

/-- remote application (list.ExecuteRemote under Replica.execRemoteBase): an error (unknown anchor) or a
    panic (`values[i]` out of range) leaves the state unchanged -/
def Rga.applyL (s : Rga) : LOp → Rga
  | .ins a ts vals =>
    match s.insertRemote a ts vals with
    | .ok s' => s'
    | _ => s
  | .del tgs ts => s.deleteRemote tgs ts
  | .upd tgs vals ts =>
    match s.updateRemote tgs vals ts with
    | .ok s' => s'
    | _ => s

def Rga.applyAllL (s : Rga) (ops : List LOp) : Rga := ops.foldl Rga.applyL s

def LOp.ts : LOp → Ts
  | .ins _ ts _ => ts
  | .del _ ts => ts
  | .upd _ _ ts => ts

/-- a delete or an update -/
def LOp.isMod : LOp → Bool
  | .ins .. => false
  | _ => true

def LOp.targets : LOp → List Ts
  | .ins .. => []
  | .del tgs _ => tgs
  | .upd tgs _ _ => tgs

/-- the identities an operation creates -/
def LOp.insIds : LOp → List Ts
  | .ins _ ts vals => delimSeq ts vals.length
  | _ => []

namespace RF

def toIns : LOp → Option InsOp
  | .ins a ts vals => some ⟨a, ts, vals⟩
  | _ => none

/-- the insert sub-sequence -/
def insOps (ops : List LOp) : List InsOp := ops.filterMap toIns

theorem insOps_append (ops : List LOp) (p : LOp) :
    insOps (ops ++ [p]) = insOps ops ++ (toIns p).toList := by
  unfold insOps
  rw [List.filterMap_append]
  cases h : toIns p <;> simp [List.filterMap, h]

theorem mem_insOps {ops : List LOp} {a ts : Ts} {vals : List JVal} (h : LOp.ins a ts vals ∈ ops) :
    (⟨a, ts, vals⟩ : InsOp) ∈ insOps ops :=
  List.mem_filterMap.mpr ⟨_, h, rfl⟩

theorem insIds_mem_insOps {ops : List LOp} {q : LOp} (hq : q ∈ ops) {x : Ts} (hx : x ∈ q.insIds) :
    ∃ io ∈ insOps ops, x ∈ io.ids := by
  cases q with
  | ins a ts vals => exact ⟨⟨a, ts, vals⟩, mem_insOps hq, hx⟩
  | del tgs ts => simp [LOp.insIds] at hx
  | upd tgs vs ts => simp [LOp.insIds] at hx

/-- what one delete/update does to ONE node: nothing, `delF t`, or `updF v t` -/
inductive Eff where
  | none
  | del (t : Ts)
  | upd (v : JVal) (t : Ts)

def Eff.app : Eff → RNode → RNode
  | .none, z => z
  | .del t, z => delF t z
  | .upd v t, z => updF v t z

def Eff.stamp? : Eff → Option Ts
  | .none => Option.none
  | .del t => some t
  | .upd _ t => some t

/-- the loop of deleteRemote seen from identity `x`: the FIRST occurrence of `x` among the targets
    decides the stamp (later occurrences are no-ops, `delF_idem`) -/
def delEff : List Ts → Ts → Ts → Eff
  | [], _, _ => .none
  | tg :: tgs, t, x => if tg = x then .del t else delEff tgs t.nextDelim x

/-- the loop of updateRemote seen from identity `x` -/
def updEff : List Ts → List JVal → Ts → Ts → Eff
  | tg :: tgs, v :: vs, t, x => if tg = x then .upd v t else updEff tgs vs t.nextDelim x
  | _, _, _, _ => .none

end RF

/-- the effect of an operation on the node with identity `x`; an update with too few values panics
    as a whole and has no effect -/
def LOp.eff : LOp → Ts → RF.Eff
  | .ins .., _ => .none
  | .del tgs ts, x => RF.delEff tgs ts x
  | .upd tgs vs ts, x => if tgs.length ≤ vs.length then RF.updEff tgs vs ts x else .none

/-- causal delivery of operations generated by replicas:
* `ins`: the insert sub-sequence is causal in the sense of `InsCausal` (anchor inserted earlier or head,
  fresh timestamp keys, delimiter 0, non-empty batches);
* `distinct`: two different deletes/updates never carry `Compare`-equal timestamps
  (nothing is asked of a delete/update timestamp against an insert timestamp);
* `targeted`: every target of a delete/update was created by an EARLIER insert of the sequence. -/
structure LCausal (ops : List LOp) : Prop where
  ins : InsCausal (RF.insOps ops)
  distinct : ops.Pairwise (fun a b => a.isMod = true → b.isMod = true → a.ts.cmp b.ts ≠ .eq)
  targeted : ∀ i (hi : i < ops.length), ∀ x ∈ (ops[i]).targets,
      ∃ j, ∃ hj : j < i, x ∈ (ops[j]'(by omega)).insIds

/-- `targeted`, target by target, in the shape of `Anch`: an operation does not aim at `x`, or an earlier one created it -/
theorem LCausal.anch {ops : List LOp} (h : LCausal ops) (x : Ts) :
    Anch (fun o => x ∉ o.targets) (fun m _ => x ∈ m.insIds) ops :=
  fun i hi => (Classical.em (x ∈ (ops[i]).targets)).symm.imp_right (h.targeted i hi x)

theorem targeted_of_anch {ops : List LOp} (h : ∀ x, Anch (fun o => x ∉ o.targets) (fun m _ => x ∈ m.insIds) ops) :
    ∀ i (hi : i < ops.length), ∀ x ∈ (ops[i]).targets, ∃ j, ∃ hj : j < i, x ∈ (ops[j]'(by omega)).insIds :=
  fun i hi x hx => (h x i hi).resolve_left fun n => n hx

theorem LCausal.init {ops : List LOp} {p : LOp} (h : LCausal (ops ++ [p])) :
    LCausal ops where
  ins := by
    have := h.ins
    rw [RF.insOps_append] at this
    cases hp : RF.toIns p with
    | none => rwa [hp, Option.toList, List.append_nil] at this
    | some io => rw [hp] at this; exact this.init
  distinct := (List.pairwise_append.mp h.distinct).1
  targeted := targeted_of_anch fun x => (h.anch x).prefix

theorem LCausal.targets_mem {ops : List LOp} (h : LCausal ops) :
    ∀ p ∈ ops, ∀ x ∈ p.targets, ∃ q ∈ ops, x ∈ q.insIds := by
  intro p hp x hx
  obtain ⟨i, hi, rfl⟩ := List.mem_iff_getElem.mp hp
  obtain ⟨j, hj, hm⟩ := h.targeted i hi x hx
  exact ⟨_, List.getElem_mem _, hm⟩

theorem LCausal.nil : LCausal [] :=
  ⟨InsCausal.nil, List.Pairwise.nil, fun _ h => (nomatch h)⟩

theorem LCausal.snoc {ops : List LOp} {p : LOp} (h : LCausal ops)
    (hi : InsCausal (RF.insOps ops ++ (RF.toIns p).toList))
    (hd : ∀ q ∈ ops, q.isMod = true → p.isMod = true → q.ts.cmp p.ts ≠ .eq)
    (ht : ∀ x ∈ p.targets, ∃ q ∈ ops, x ∈ q.insIds) : LCausal (ops ++ [p]) where
  ins := RF.insOps_append ops p ▸ hi
  distinct := List.pairwise_append.mpr ⟨h.distinct, List.pairwise_singleton _ _,
    fun a ha _ hb => List.mem_singleton.mp hb ▸ hd a ha⟩
  targeted := targeted_of_anch fun x => (h.anch x).snoc ((Classical.em (x ∈ p.targets)).symm.imp_right (ht x))

namespace RF

/-! ## `Ts.cmp`: not `.gt` read as `≤` -/

theorem cmp_lt_of_le_of_lt {a b c : Ts} (h1 : a.cmp b ≠ .gt) (h2 : b.cmp c = .lt) : a.cmp c = .lt := by
  cases h : a.cmp b with
  | lt => exact cmp_lt_trans a b c h h2
  | eq => rw [cmp_congr_key a b c c ((cmp_eq_iff a b).mp h) rfl]; exact h2
  | gt => exact absurd h h1

theorem cmp_not_lt_of_not_gt {a b : Ts} (h : a.cmp b ≠ .gt) : b.cmp a ≠ .lt :=
  fun h' => h ((cmp_gt_iff_lt a b).mpr h')

/-! ## the per-node effect of an operation -/

theorem Eff.app_o (e : Eff) (z : RNode) : (e.app z).o = z.o := by
  cases e with
  | none => rfl
  | del t => exact delF_o t z
  | upd v t => exact updF_o v t z

/-- the node transformer of an operation -/
def opNode (p : LOp) (z : RNode) : RNode := (p.eff z.o).app z

theorem opNode_o (p : LOp) (z : RNode) : (opNode p z).o = z.o := Eff.app_o _ z

/-! ## `delF` / `updF` algebra -/

theorem isLive_iff (z : RNode) : z.isLive = true ↔ z.v.isSome = true := Iff.rfl

theorem delF_live (z : RNode) {w : JVal} (t : Ts) (h : z.v = some w) :
    delF t z = { z with v := none, t := t } := by
  simp [delF, RNode.isLive, h]

theorem delF_tomb_lt (z : RNode) {t : Ts} (h : z.v = none) (a : z.t.cmp t = .lt) :
    delF t z = { z with t := t } := by
  simp [delF, RNode.isLive, h, a]

theorem delF_tomb_ge (z : RNode) {t : Ts} (h : z.v = none) (a : z.t.cmp t ≠ .lt) : delF t z = z := by
  simp [delF, RNode.isLive, h, a]

theorem updF_tomb (z : RNode) (v : JVal) (t : Ts) (h : z.v = none) : updF v t z = z := by
  simp [updF, h]

theorem updF_live_lt (z : RNode) {w : JVal} (v : JVal) {t : Ts} (h : z.v = some w)
    (a : z.t.cmp t = .lt) : updF v t z = { z with v := some v, t := t } := by
  simp [updF, h, a]

theorem updF_live_ge (z : RNode) {w : JVal} (v : JVal) {t : Ts} (h : z.v = some w)
    (a : z.t.cmp t ≠ .lt) : updF v t z = z := by
  simp [updF, h, a]

/-- after `delF t` the node is a tombstone stamped `t` or newer, so a second delete with a
    `Compare`-equal stamp changes nothing -/
theorem delF_idem {t t' : Ts} (hk : t'.key = t.key) (z : RNode) : delF t' (delF t z) = delF t z := by
  refine delF_tomb_ge _ (delF_v t z) ?_
  rw [cmp_congr_key _ _ t' t rfl hk]
  cases hv : z.v with
  | some w => rw [delF_live z t hv]; exact cmp_lt_irrefl t
  | none =>
    by_cases a : z.t.cmp t = .lt
    · rw [delF_tomb_lt z hv a]; exact cmp_lt_irrefl t
    · rw [delF_tomb_ge z hv a]; exact a

theorem updF_idem {t t' : Ts} (hk : t'.key = t.key) (v v' : JVal) (z : RNode) :
    updF v' t' (updF v t z) = updF v t z := by
  cases hv : z.v with
  | none => rw [updF_tomb z v t hv, updF_tomb z v' t' hv]
  | some w =>
    by_cases a : z.t.cmp t = .lt
    · rw [updF_live_lt z v hv a]
      exact updF_live_ge _ v' rfl (by rw [cmp_congr_key _ _ t' t rfl hk]; exact cmp_lt_irrefl t)
    · rw [updF_live_ge z v hv a]
      exact updF_live_ge z v' hv (by rw [cmp_congr_key _ _ t' t rfl hk]; exact a)

/-! ## what `delEff` / `updEff` return -/

theorem delEff_cases (tgs : List Ts) (t x : Ts) :
    delEff tgs t x = .none ∨ ∃ t', delEff tgs t x = .del t' ∧ t'.key = t.key := by
  induction tgs generalizing t with
  | nil => exact Or.inl rfl
  | cons tg tgs ih =>
    unfold delEff
    split
    · exact Or.inr ⟨t, rfl, rfl⟩
    · exact ih t.nextDelim

theorem updEff_cases (tgs : List Ts) (vs : List JVal) (t x : Ts) :
    updEff tgs vs t x = .none ∨ ∃ v' t', updEff tgs vs t x = .upd v' t' ∧ t'.key = t.key := by
  induction tgs generalizing vs t with
  | nil => exact Or.inl rfl
  | cons tg tgs ih =>
    cases vs with
    | nil => exact Or.inl rfl
    | cons v vs =>
      unfold updEff
      split
      · exact Or.inr ⟨v, t, rfl, rfl⟩
      · exact ih vs t.nextDelim

theorem delEff_not_mem (tgs : List Ts) (t x : Ts) (h : x ∉ tgs) : delEff tgs t x = .none := by
  induction tgs generalizing t with
  | nil => rfl
  | cons tg tgs ih =>
    rw [delEff, if_neg fun e : tg = x => h (e ▸ List.mem_cons_self),
      ih _ fun e => h (List.mem_cons_of_mem _ e)]

theorem updEff_not_mem (tgs : List Ts) (vs : List JVal) (t x : Ts) (h : x ∉ tgs) :
    updEff tgs vs t x = .none := by
  induction tgs generalizing vs t with
  | nil => rfl
  | cons tg tgs ih =>
    cases vs with
    | nil => rfl
    | cons v vs =>
      rw [updEff, if_neg fun e : tg = x => h (e ▸ List.mem_cons_self),
        ih _ _ fun e => h (List.mem_cons_of_mem _ e)]

/-- position of the first occurrence -/
def idxIn (x : Ts) : List Ts → Nat
  | [] => 0
  | tg :: tgs => if tg = x then 0 else idxIn x tgs + 1

/-- the stamp handed to the `i`-th target -/
def stampAt (t : Ts) (i : Nat) : Ts := { t with delim := t.delim + i }

theorem stampAt_zero (t : Ts) : stampAt t 0 = t := rfl

theorem stampAt_succ (t : Ts) (i : Nat) : stampAt t.nextDelim i = stampAt t (i + 1) :=
  nextDelim_add t i

theorem stampAt_key (t : Ts) (i : Nat) : (stampAt t i).key = t.key := rfl

theorem idxIn_cons_self (x : Ts) (tgs : List Ts) : idxIn x (x :: tgs) = 0 := if_pos rfl

theorem idxIn_cons_ne {tg x : Ts} (e : tg ≠ x) (tgs : List Ts) :
    idxIn x (tg :: tgs) = idxIn x tgs + 1 := if_neg e

theorem delEff_mem (tgs : List Ts) (t x : Ts) (h : x ∈ tgs) :
    delEff tgs t x = .del (stampAt t (idxIn x tgs)) := by
  induction tgs generalizing t with
  | nil => exact nomatch h
  | cons tg tgs ih =>
    by_cases e : tg = x
    · subst e; rw [delEff, if_pos rfl, idxIn_cons_self]; rfl
    · rw [delEff, if_neg e, idxIn_cons_ne e, ← stampAt_succ,
        ih _ ((List.mem_cons.mp h).resolve_left (Ne.symm e))]

theorem updEff_mem (tgs : List Ts) (vs : List JVal) (t x : Ts) (hl : tgs.length ≤ vs.length)
    (h : x ∈ tgs) :
    ∃ v, vs[idxIn x tgs]? = some v ∧ updEff tgs vs t x = .upd v (stampAt t (idxIn x tgs)) := by
  induction tgs generalizing vs t with
  | nil => exact nomatch h
  | cons tg tgs ih =>
    cases vs with
    | nil => exact (Nat.not_succ_le_zero _ hl).elim
    | cons v vs =>
      by_cases e : tg = x
      · subst e
        exact ⟨v, by rw [idxIn_cons_self]; rfl, by rw [updEff, if_pos rfl, idxIn_cons_self]; rfl⟩
      · obtain ⟨w, hw, he⟩ := ih vs t.nextDelim (Nat.le_of_succ_le_succ hl)
          ((List.mem_cons.mp h).resolve_left (Ne.symm e))
        exact ⟨w, by rw [idxIn_cons_ne e, List.getElem?_cons_succ]; exact hw,
          by rw [updEff, if_neg e, he, stampAt_succ, idxIn_cons_ne e]⟩

theorem eff_ins (a ts : Ts) (vals : List JVal) (x : Ts) : (LOp.ins a ts vals).eff x = .none := rfl
theorem eff_del (tgs : List Ts) (ts x : Ts) : (LOp.del tgs ts).eff x = delEff tgs ts x := rfl
theorem eff_upd (tgs : List Ts) (vs : List JVal) (ts x : Ts) :
    (LOp.upd tgs vs ts).eff x = if tgs.length ≤ vs.length then updEff tgs vs ts x else .none := rfl

theorem eff_not_target (p : LOp) (x : Ts) (h : x ∉ p.targets) : p.eff x = .none := by
  cases p with
  | ins a ts vals => rfl
  | del tgs ts => exact delEff_not_mem tgs ts x h
  | upd tgs vs ts =>
    rw [eff_upd]
    split
    · exact updEff_not_mem tgs vs ts x h
    · rfl

theorem eff_stamp (p : LOp) (x t : Ts) (h : (p.eff x).stamp? = some t) :
    p.isMod = true ∧ t.key = p.ts.key := by
  cases p with
  | ins a ts vals => simp [LOp.eff, Eff.stamp?] at h
  | del tgs ts =>
    refine ⟨rfl, ?_⟩
    rcases delEff_cases tgs ts x with h' | ⟨t', h', hk⟩
    · simp [LOp.eff, h', Eff.stamp?] at h
    · simp only [LOp.eff, h', Eff.stamp?, Option.some.injEq] at h
      subst h; exact hk
  | upd tgs vs ts =>
    refine ⟨rfl, ?_⟩
    rw [eff_upd] at h
    split at h
    · rcases updEff_cases tgs vs ts x with h' | ⟨v', t', h', hk⟩
      · simp [h', Eff.stamp?] at h
      · simp only [h', Eff.stamp?, Option.some.injEq] at h
        subst h; exact hk
    · simp [Eff.stamp?] at h

/-! ## the model's loops are `map opNode` on duplicate-free lists -/

theorem updNode_eq_map (tg : Ts) (f : RNode → RNode) (l : List RNode) (h : (l.map (·.o)).Nodup) :
    updNode tg f l = l.map (fun z => if z.o = tg then f z else z) := by
  induction l with
  | nil => rfl
  | cons y ys ih =>
    obtain ⟨h1, h2⟩ := List.nodup_cons.mp h
    rw [updNode, List.map_cons]
    split
    next hy =>
      -- `tg` does not occur again
      refine congrArg (f y :: ·) ((List.map_id ys).symm.trans (List.map_congr_left fun z hz => ?_))
      exact (if_neg fun e => h1 (List.mem_map.mpr ⟨z, hz, e.trans hy.symm⟩)).symm
    next hy => rw [ih h2]

/-- one round of the loops, seen from one node: the round's own target is stamped now, and nothing
    later changes it (`delF_idem`, `updF_idem`) -/
theorem delEff_cons_app (tg : Ts) (tgs : List Ts) (t : Ts) (z : RNode) :
    (delEff tgs t.nextDelim z.o).app (if z.o = tg then delF t z else z) =
      (delEff (tg :: tgs) t z.o).app z := by
  by_cases e : z.o = tg
  · rw [if_pos e, delEff, if_pos e.symm]
    rcases delEff_cases tgs t.nextDelim z.o with h | ⟨t', h, hk⟩
    · rw [h]; rfl
    · rw [h]; exact delF_idem (t := t) hk z
  · rw [if_neg e, delEff, if_neg (Ne.symm e)]

theorem updEff_cons_app (tg : Ts) (tgs : List Ts) (v : JVal) (vs : List JVal) (t : Ts) (z : RNode) :
    (updEff tgs vs t.nextDelim z.o).app (if z.o = tg then updF v t z else z) =
      (updEff (tg :: tgs) (v :: vs) t z.o).app z := by
  by_cases e : z.o = tg
  · rw [if_pos e, updEff, if_pos e.symm]
    rcases updEff_cases tgs vs t.nextDelim z.o with h | ⟨v', t', h, hk⟩
    · rw [h]; rfl
    · rw [h]; exact updF_idem (t := t) hk v v' z
  · rw [if_neg e, updEff, if_neg (Ne.symm e)]

theorem ite_o {f : RNode → RNode} (hf : ∀ y, (f y).o = y.o) (tg : Ts) (z : RNode) :
    (if z.o = tg then f z else z).o = z.o := by
  split
  · exact hf z
  · rfl

theorem deleteRemote_go_map (tgs : List Ts) (t : Ts) (l : List RNode) (sz : Int)
    (h : (l.map (·.o)).Nodup) :
    (Rga.deleteRemote.go tgs t l sz).1 = l.map (fun z => (delEff tgs t z.o).app z) := by
  induction tgs generalizing t l sz with
  | nil => exact (List.map_id l).symm
  | cons tg tgs ih =>
    rw [deleteRemote_go_cons, ih _ _ _ (by rw [updNode_ids tg _ (delF_o t)]; exact h),
      updNode_eq_map tg _ l h, List.map_map]
    refine List.map_congr_left fun z _ => ?_
    rw [Function.comp, ite_o (delF_o t)]
    exact delEff_cons_app tg tgs t z

theorem applyL_del_nodes (s : Rga) (tgs : List Ts) (ts : Ts) (h : s.ids.Nodup) :
    (s.applyL (.del tgs ts)).nodes = s.nodes.map (opNode (.del tgs ts)) :=
  deleteRemote_go_map tgs ts s.nodes s.size h

theorem updateRemote_go_map (tgs : List Ts) (vs : List JVal) (t : Ts) (l : List RNode)
    (h : (l.map (·.o)).Nodup) (hl : tgs.length ≤ vs.length) :
    Rga.updateRemote.go tgs vs t l = some (l.map (fun z => (updEff tgs vs t z.o).app z)) := by
  induction tgs generalizing vs t l with
  | nil => exact congrArg some (List.map_id l).symm
  | cons tg tgs ih =>
    cases vs with
    | nil => exact (Nat.not_succ_le_zero _ hl).elim
    | cons v vs =>
      rw [updateRemote_go_cons, ih vs _ _ (by rw [updNode_ids tg _ (updF_o v t)]; exact h)
        (Nat.le_of_succ_le_succ hl), updNode_eq_map tg _ l h, List.map_map]
      refine congrArg some (List.map_congr_left fun z _ => ?_)
      rw [Function.comp, ite_o (updF_o v t)]
      exact updEff_cons_app tg tgs v vs t z

/-- with fewer values than targets the loop ends in Go's index panic -/
theorem updateRemote_go_none (tgs : List Ts) (vs : List JVal) (t : Ts) (l : List RNode)
    (h : vs.length < tgs.length) : Rga.updateRemote.go tgs vs t l = none := by
  induction tgs generalizing vs t l with
  | nil => exact (Nat.not_lt_zero _ h).elim
  | cons tg tgs ih =>
    cases vs with
    | nil => rfl
    | cons v vs =>
      rw [updateRemote_go_cons]
      exact ih vs _ _ (Nat.lt_of_succ_lt_succ h)

theorem applyL_upd_nodes (s : Rga) (tgs : List Ts) (vs : List JVal) (ts : Ts) (h : s.ids.Nodup) :
    (s.applyL (.upd tgs vs ts)).nodes = s.nodes.map (opNode (.upd tgs vs ts)) := by
  show (match s.updateRemote tgs vs ts with | .ok s' => s' | _ => s).nodes = _
  unfold Rga.updateRemote opNode
  by_cases hl : tgs.length ≤ vs.length
  · rw [updateRemote_go_map tgs vs ts s.nodes h hl]
    simp only [eff_upd, if_pos hl]
  · rw [updateRemote_go_none tgs vs ts s.nodes (Nat.lt_of_not_le hl)]
    simp only [eff_upd, if_neg hl]
    exact (List.map_id _).symm

theorem applyL_ins (s : Rga) (a ts : Ts) (vals : List JVal) :
    s.applyL (.ins a ts vals) = s.applyIns ⟨a, ts, vals⟩ := rfl

/-! ## order: the identities are those of the insert sub-sequence -/

theorem applyL_mod_ids (s : Rga) (p : LOp) (hp : p.isMod = true) : (s.applyL p).ids = s.ids := by
  cases p with
  | ins a ts vals => simp [LOp.isMod] at hp
  | del tgs ts => exact deleteRemote_ids s tgs ts
  | upd tgs vs ts =>
    show (match s.updateRemote tgs vs ts with | .ok s' => s' | _ => s).ids = _
    cases h : s.updateRemote tgs vs ts with
    | ok s' => exact updateRemote_ids s s' tgs vs ts h
    | err c => rfl
    | panic w => rfl

theorem applyAllL_ids_gen (ops : List LOp) (s s' : Rga) (h : s.ids = s'.ids) :
    (s.applyAllL ops).ids = (s'.applyAllIns (insOps ops)).ids := by
  induction ops generalizing s s' with
  | nil => exact h
  | cons p ops ih =>
    rw [Rga.applyAllL, List.foldl_cons]
    by_cases hp : p.isMod = true
    · have e : insOps (p :: ops) = insOps ops := by
        cases p with
        | ins a ts vals => exact nomatch hp
        | del tgs ts => rfl
        | upd tgs vs ts => rfl
      rw [e]
      exact ih _ s' ((applyL_mod_ids s p hp).trans h)
    · cases p with
      | ins a ts vals =>
        exact ih _ (s'.applyIns ⟨a, ts, vals⟩) (by rw [applyL_ins, applyIns_ids, applyIns_ids, h])
      | del tgs ts => exact absurd rfl hp
      | upd tgs vs ts => exact absurd rfl hp

theorem applyAllL_ids (ops : List LOp) :
    (Rga.empty.applyAllL ops).ids = (Rga.empty.applyAllIns (insOps ops)).ids :=
  applyAllL_ids_gen ops _ _ rfl

theorem ids_nodup {ops : List LOp} (h : LCausal ops) : (Rga.empty.applyAllL ops).ids.Nodup := by
  rw [applyAllL_ids]
  exact rga_ids_nodup _ h.ins

theorem applyAllL_append (ops : List LOp) (p : LOp) :
    Rga.empty.applyAllL (ops ++ [p]) = (Rga.empty.applyAllL ops).applyL p := by
  simp [Rga.applyAllL, List.foldl_append]

/-! ## the final node as a fold over the operations -/

/-- one step of the payload fold for identity `x` -/
def step (x : Ts) (z : RNode) (p : LOp) : RNode := (p.eff x).app z

theorem step_o (x : Ts) (z : RNode) (p : LOp) : (step x z p).o = z.o := Eff.app_o _ z

theorem opNode_eq_step (p : LOp) (z : RNode) : opNode p z = step z.o z p := rfl

theorem foldl_fix {α β : Type} (f : β → α → β) (z : β) (l : List α) (h : ∀ p ∈ l, f z p = z) :
    l.foldl f z = z := by
  induction l with
  | nil => rfl
  | cons p l ih =>
    rw [List.foldl_cons, h p List.mem_cons_self]
    exact ih fun q hq => h q (List.mem_cons_of_mem _ hq)

theorem applyL_mod_nodes (s : Rga) (p : LOp) (hp : p.isMod = true) (h : s.ids.Nodup) :
    (s.applyL p).nodes = s.nodes.map (opNode p) := by
  cases p with
  | ins a ts vals => exact nomatch hp
  | del tgs ts => exact applyL_del_nodes s tgs ts h
  | upd tgs vs ts => exact applyL_upd_nodes s tgs vs ts h

theorem nodes_fold : ∀ ops : List LOp, LCausal ops → ∀ n ∈ (Rga.empty.applyAllL ops).nodes,
    ∃ a ts vals, LOp.ins a ts vals ∈ ops ∧ ∃ n0 ∈ mkNodes ts vals, n0.o = n.o ∧
      ops.foldl (step n.o) n0 = n := by
  intro ops
  induction ops using List.reverseRecOn with
  | nil => intro _ n hn; exact nomatch hn
  | append_singleton ops p ih =>
    intro hc n hn
    have hc0 := hc.init
    have hnd := ids_nodup hc0
    rw [applyAllL_append] at hn
    have old : ∀ m ∈ (Rga.empty.applyAllL ops).nodes, step m.o m p = n →
        ∃ a ts vals, LOp.ins a ts vals ∈ ops ++ [p] ∧ ∃ n0 ∈ mkNodes ts vals, n0.o = n.o ∧
          (ops ++ [p]).foldl (step n.o) n0 = n := by
      rintro m hm rfl
      obtain ⟨a, ts, vals, hmem, n0, hn0, ho, hfold⟩ := ih hc0 m hm
      exact ⟨a, ts, vals, List.mem_append_left _ hmem, n0, hn0, ho.trans (step_o _ _ _).symm, by
        rw [List.foldl_append, step_o, hfold]; rfl⟩
    by_cases hp : p.isMod = true
    · rw [applyL_mod_nodes _ p hp hnd] at hn
      obtain ⟨m, hm, e⟩ := List.mem_map.mp hn
      exact old m hm e
    · obtain ⟨a, ts, vals, rfl⟩ : ∃ a ts vals, p = .ins a ts vals := by
        cases p with
        | ins a ts vals => exact ⟨a, ts, vals, rfl⟩
        | del tgs ts => exact absurd rfl hp
        | upd tgs vs ts => exact absurd rfl hp
      rw [applyL_ins, applyIns_nodes] at hn
      have hmem : n ∈ mkNodes ts vals ∨ n ∈ (Rga.empty.applyAllL ops).nodes := by
        cases hi : insertAfterId RNode.o a (mkNodes ts vals) (Rga.empty.applyAllL ops).nodes with
        | none => rw [hi] at hn; exact Or.inr hn
        | some l' =>
          rw [hi] at hn
          exact List.mem_append.mp ((insertAfterId_perm RNode.o a _ _ l' hi).subset hn)
      rcases hmem with hnew | hold
      · -- a node of the new batch: nothing before this insert mentions it
        have hins := hc.ins
        rw [insOps_append] at hins
        have hfresh : ∀ q ∈ ops, n.o ∉ q.insIds := fun q hq hx => by
          obtain ⟨io, hio, hxi⟩ := insIds_mem_insOps hq hx
          exact (InsCausal.last (o := ⟨a, ts, vals⟩) hins).1 io hio
            ((delimSeq_key hxi).symm.trans (mkNodes_key hnew))
        refine ⟨a, ts, vals, List.mem_append_right _ (List.mem_singleton_self _), n, hnew, rfl, ?_⟩
        rw [List.foldl_append, foldl_fix (step n.o) n ops fun q hq => ?_]
        · rfl
        · have : q.eff n.o = .none := eff_not_target q _ fun hx => by
            obtain ⟨q', hq', hx'⟩ := hc0.targets_mem q hq _ hx
            exact hfresh q' hq' hx'
          rw [step, this]; rfl
      · exact old n hold rfl

/-! ## the node an insert created; equal lists from equal images -/

theorem created_unique {ops : List LOp} (hc : LCausal ops) {a ts a' ts' : Ts} {vals vals' : List JVal}
    (h : LOp.ins a ts vals ∈ ops) (h' : LOp.ins a' ts' vals' ∈ ops) {m m' : RNode}
    (hm : m ∈ mkNodes ts vals) (hm' : m' ∈ mkNodes ts' vals') (ho : m.o = m'.o) : m = m' := by
  have hk : ts.key = ts'.key := by rw [← mkNodes_key hm, ← mkNodes_key hm', ho]
  have := hc.ins.wf.uniq _ (mem_insOps h) _ (mem_insOps h') hk
  simp only [InsOp.mk.injEq] at this
  obtain ⟨rfl, rfl, rfl⟩ := this
  have hnd : ((mkNodes ts vals).map (·.o)).Nodup := by rw [mkNodes_ids]; exact delimSeq_nodup _ _
  have e := ListAux.find?_of_nodup (·.o) _ hnd m hm
  rw [ho, ListAux.find?_of_nodup (·.o) _ hnd m' hm'] at e
  exact (Option.some.inj e).symm

theorem eq_of_map_eq {α β : Type} {f : α → β} {l l' : List α} (h : l.map f = l'.map f)
    (hinj : ∀ a ∈ l, ∀ b ∈ l', f a = f b → a = b) : l = l' := by
  induction l generalizing l' with
  | nil => exact (List.map_eq_nil_iff.mp h.symm).symm
  | cons a l ih =>
    obtain ⟨b, l', rfl⟩ := List.exists_cons_of_ne_nil (l := l') fun e => by rw [e] at h; cases h
    obtain ⟨h1, h2⟩ := List.cons.inj h
    exact congrArg₂ List.cons (hinj a List.mem_cons_self b List.mem_cons_self h1)
      (ih h2 fun x hx y hy => hinj x (List.mem_cons_of_mem _ hx) y (List.mem_cons_of_mem _ hy))

theorem mem_mkNodes {ts : Ts} {vals : List JVal} {n : RNode} (h : n ∈ mkNodes ts vals) :
    ∃ v, n = ⟨n.o, some v, n.o⟩ := by
  unfold mkNodes at h
  obtain ⟨⟨v, t⟩, _, rfl⟩ := List.mem_map.mp h
  exact ⟨v, rfl⟩

/-! ## the merge rule: what the fold computes -/

def HasDel (ops : List LOp) (x : Ts) : Prop := ∃ p ∈ ops, ∃ t, p.eff x = .del t

theorem hasDel_append (ops : List LOp) (p : LOp) (x : Ts) :
    HasDel (ops ++ [p]) x ↔ HasDel ops x ∨ ∃ t, p.eff x = .del t := by
  unfold HasDel
  constructor
  · rintro ⟨q, hq, t, ht⟩
    rcases List.mem_append.mp hq with hq | hq
    · exact Or.inl ⟨q, hq, t, ht⟩
    · simp only [List.mem_singleton] at hq
      subst hq; exact Or.inr ⟨t, ht⟩
  · rintro (⟨q, hq, t, ht⟩ | ⟨t, ht⟩)
    · exact ⟨q, by simp [hq], t, ht⟩
    · exact ⟨p, by simp, t, ht⟩

/-- the payload rule for the node `x`, created with value `v0` and value timestamp `t0`:
* deleted ⇒ tombstone whose timestamp is the GREATEST delete stamp (updates play no role, whatever
  their timestamps);
* never deleted ⇒ the inserted value if no update is newer than `t0`, else the value and stamp of the
  greatest update. -/
structure PSpec (x t0 : Ts) (v0 : JVal) (ops : List LOp) (z : RNode) : Prop where
  tomb : HasDel ops x → z.v = none ∧ (∃ p ∈ ops, p.eff x = .del z.t) ∧
    ∀ p ∈ ops, ∀ t, p.eff x = .del t → t.cmp z.t ≠ .gt
  live : ¬ HasDel ops x →
    (z.v = some v0 ∧ z.t = t0 ∧ ∀ p ∈ ops, ∀ v t, p.eff x = .upd v t → t0.cmp t ≠ .lt) ∨
    (∃ p ∈ ops, ∃ v, p.eff x = .upd v z.t ∧ z.v = some v ∧ t0.cmp z.t = .lt ∧
      ∀ q ∈ ops, ∀ v' t', q.eff x = .upd v' t' → t'.cmp z.t ≠ .gt)

theorem PSpec.v_none_iff {x t0 : Ts} {v0 : JVal} {ops : List LOp} {z : RNode}
    (h : PSpec x t0 v0 ops z) : z.v = none ↔ HasDel ops x := by
  constructor
  · intro hv
    by_cases hd : HasDel ops x
    · exact hd
    · rcases h.live hd with ⟨h1, _⟩ | ⟨_, _, _, _, h1, _⟩ <;> rw [hv] at h1 <;> cases h1
  · exact fun hd => (h.tomb hd).1

theorem PSpec.step_none {x t0 : Ts} {v0 : JVal} {ops : List LOp} {z : RNode} {p : LOp}
    (h : PSpec x t0 v0 ops z) (he : p.eff x = .none) : PSpec x t0 v0 (ops ++ [p]) z := by
  have hd_iff : HasDel (ops ++ [p]) x ↔ HasDel ops x :=
    (hasDel_append ops p x).trans (or_iff_left fun ⟨_, ht⟩ => Eff.noConfusion (he.symm.trans ht))
  constructor
  · intro hd
    obtain ⟨h1, ⟨p0, hp0, h2⟩, h3⟩ := h.tomb (hd_iff.mp hd)
    exact ⟨h1, ⟨p0, List.mem_append_left _ hp0, h2⟩,
      forall_mem_snoc h3 fun _ ht => Eff.noConfusion (he.symm.trans ht)⟩
  · intro hd
    rcases h.live (mt hd_iff.mpr hd) with ⟨h1, h2, h3⟩ | ⟨p0, hp0, v, h1, h2, h3, h4⟩
    · exact Or.inl ⟨h1, h2, forall_mem_snoc h3 fun _ _ ht => Eff.noConfusion (he.symm.trans ht)⟩
    · exact Or.inr ⟨p0, List.mem_append_left _ hp0, v, h1, h2, h3,
        forall_mem_snoc h4 fun _ _ ht => Eff.noConfusion (he.symm.trans ht)⟩

theorem PSpec.step_del {x t0 : Ts} {v0 : JVal} {ops : List LOp} {z : RNode} {p : LOp} {t : Ts}
    (h : PSpec x t0 v0 ops z) (he : p.eff x = .del t) : PSpec x t0 v0 (ops ++ [p]) (delF t z) := by
  have hp : p ∈ ops ++ [p] := List.mem_append_right _ (List.mem_singleton_self p)
  have hpt : ∀ {s : Ts}, t.cmp s ≠ .gt → ∀ t', p.eff x = .del t' → t'.cmp s ≠ .gt :=
    fun hs t' ht => Eff.del.inj (he.symm.trans ht) ▸ hs
  refine ⟨fun _ => ?_, fun hd => absurd ((hasDel_append ops p x).mpr (Or.inr ⟨t, he⟩)) hd⟩
  by_cases hd : HasDel ops x
  · obtain ⟨h1, ⟨p0, hp0, h2⟩, h3⟩ := h.tomb hd
    by_cases a : z.t.cmp t = .lt
    · rw [delF_tomb_lt z h1 a]
      exact ⟨h1, ⟨p, hp, he⟩, forall_mem_snoc
        (fun q hq t' ht => cmp_lt_ne_gt (cmp_lt_of_le_of_lt (h3 q hq t' ht) a))
        (hpt (cmp_self_ne_gt t))⟩
    · rw [delF_tomb_ge z h1 a]
      exact ⟨h1, ⟨p0, List.mem_append_left _ hp0, h2⟩,
        forall_mem_snoc h3 (hpt (cmp_not_gt_of_not_lt a))⟩
  · obtain ⟨w, hw⟩ : ∃ w, z.v = some w := by
      rcases h.live hd with ⟨h1, _⟩ | ⟨_, _, v, _, h1, _⟩
      · exact ⟨_, h1⟩
      · exact ⟨_, h1⟩
    rw [delF_live z t hw]
    exact ⟨rfl, ⟨p, hp, he⟩, forall_mem_snoc (fun q hq t' ht => absurd ⟨q, hq, t', ht⟩ hd)
      (hpt (cmp_self_ne_gt t))⟩

theorem PSpec.step_upd {x t0 : Ts} {v0 : JVal} {ops : List LOp} {z : RNode} {p : LOp} {v : JVal}
    {t : Ts} (h : PSpec x t0 v0 ops z) (he : p.eff x = .upd v t) :
    PSpec x t0 v0 (ops ++ [p]) (updF v t z) := by
  have hd_iff : HasDel (ops ++ [p]) x ↔ HasDel ops x :=
    (hasDel_append ops p x).trans (or_iff_left fun ⟨_, ht⟩ => Eff.noConfusion (he.symm.trans ht))
  have hp : p ∈ ops ++ [p] := List.mem_append_right _ (List.mem_singleton_self p)
  have hpt : ∀ {P : Ts → Prop}, P t → ∀ v' t', p.eff x = .upd v' t' → P t' :=
    fun hs v' t' ht => (Eff.upd.inj (he.symm.trans ht)).2 ▸ hs
  constructor
  · intro hd
    obtain ⟨h1, ⟨p0, hp0, h2⟩, h3⟩ := h.tomb (hd_iff.mp hd)
    rw [updF_tomb z v t h1]
    exact ⟨h1, ⟨p0, List.mem_append_left _ hp0, h2⟩,
      forall_mem_snoc h3 fun _ ht => Eff.noConfusion (he.symm.trans ht)⟩
  · intro hd
    rcases h.live (mt hd_iff.mpr hd) with ⟨h1, h2, h3⟩ | ⟨p0, hp0, v1, h1, h2, h3, h4⟩
    · by_cases a : z.t.cmp t = .lt
      · rw [updF_live_lt z v h1 a]
        rw [h2] at a
        exact Or.inr ⟨p, hp, v, he, rfl, a, forall_mem_snoc
          (fun q hq v' t' ht => cmp_lt_ne_gt
            (cmp_lt_of_le_of_lt (cmp_not_gt_of_not_lt (h3 q hq v' t' ht)) a))
          (hpt (P := fun s => s.cmp t ≠ .gt) (cmp_self_ne_gt t))⟩
      · rw [updF_live_ge z v h1 a]
        exact Or.inl ⟨h1, h2, forall_mem_snoc h3 (hpt (P := fun s => t0.cmp s ≠ .lt) (h2 ▸ a))⟩
    · by_cases a : z.t.cmp t = .lt
      · rw [updF_live_lt z v h2 a]
        exact Or.inr ⟨p, hp, v, he, rfl, cmp_lt_trans _ _ _ h3 a, forall_mem_snoc
          (fun q hq v' t' ht => cmp_lt_ne_gt (cmp_lt_of_le_of_lt (h4 q hq v' t' ht) a))
          (hpt (P := fun s => s.cmp t ≠ .gt) (cmp_self_ne_gt t))⟩
      · rw [updF_live_ge z v h2 a]
        exact Or.inr ⟨p0, List.mem_append_left _ hp0, v1, h1, h2, h3,
          forall_mem_snoc h4 (hpt (P := fun s => s.cmp z.t ≠ .gt) (cmp_not_gt_of_not_lt a))⟩

theorem fold_spec (x t0 : Ts) (v0 : JVal) (o : Ts) : ∀ ops : List LOp,
    PSpec x t0 v0 ops (ops.foldl (step x) ⟨o, some v0, t0⟩) := by
  intro ops
  induction ops using List.reverseRecOn with
  | nil =>
    refine ⟨fun ⟨_, hp, _⟩ => by simp at hp, fun _ => Or.inl ⟨rfl, rfl, fun p hp => by simp at hp⟩⟩
  | append_singleton ops p ih =>
    rw [List.foldl_append, List.foldl_cons, List.foldl_nil]
    unfold step
    cases he : p.eff x with
    | none => exact ih.step_none he
    | del t => exact ih.step_del he
    | upd v t => exact ih.step_upd he

/-- `hu`: the stamps of the effects on `x` tell the operations apart (`eff_stamp_unique`) -/
theorem PSpec.unique {x t0 : Ts} {v0 : JVal} {ops ops' : List LOp} {z z' : RNode} (hm : ∀ p, p ∈ ops ↔ p ∈ ops')
    (hu : ∀ p ∈ ops, ∀ q ∈ ops, ∀ t t', (p.eff x).stamp? = some t → (q.eff x).stamp? = some t' → t.cmp t' = .eq → p = q)
    (h : PSpec x t0 v0 ops z) (h' : PSpec x t0 v0 ops' z') : z.v = z'.v ∧ z.t = z'.t := by
  have hd : HasDel ops x ↔ HasDel ops' x :=
    ⟨fun ⟨p, hp, t⟩ => ⟨p, (hm p).mp hp, t⟩, fun ⟨p, hp, t⟩ => ⟨p, (hm p).mpr hp, t⟩⟩
  -- two greatest stamps are `Compare`-equal, so they are the stamp of one operation
  have key : ∀ {p q : LOp} {t t' : Ts}, p ∈ ops → q ∈ ops → (p.eff x).stamp? = some t → (q.eff x).stamp? = some t' →
      t.cmp t' ≠ .gt → t'.cmp t ≠ .gt → p = q := fun hp hq e e' h1 h2 =>
    hu _ hp _ hq _ _ e e' (by
      cases hc : Ts.cmp _ _ with
      | lt => exact absurd (cmp_lt_asymm hc) h2
      | eq => rfl
      | gt => exact absurd hc h1)
  by_cases hD : HasDel ops x
  · obtain ⟨a1, ⟨p, hp, e⟩, a3⟩ := h.tomb hD
    obtain ⟨b1, ⟨q, hq, e'⟩, b3⟩ := h'.tomb (hd.mp hD)
    have hq := (hm q).mpr hq
    obtain rfl := key hp hq (by rw [e]; rfl) (by rw [e']; rfl) (b3 p ((hm p).mp hp) _ e) (a3 q hq _ e')
    exact ⟨a1.trans b1.symm, Eff.del.inj (e.symm.trans e')⟩
  · rcases h.live hD with ⟨a1, a2, a3⟩ | ⟨p, hp, v, e, a1, a2, a3⟩ <;>
      rcases h'.live (mt hd.mpr hD) with ⟨b1, b2, b3⟩ | ⟨q, hq, v', e', b1, b2, b3⟩
    · exact ⟨a1.trans b1.symm, a2.trans b2.symm⟩
    · exact absurd b2 (a3 q ((hm q).mpr hq) _ _ e')
    · exact absurd a2 (b3 p ((hm p).mp hp) _ _ e)
    · have hq := (hm q).mpr hq
      obtain rfl := key hp hq (by rw [e]; rfl) (by rw [e']; rfl) (b3 p ((hm p).mp hp) _ _ e) (a3 q hq _ _ e')
      obtain ⟨rfl, ht⟩ := Eff.upd.inj (e.symm.trans e')
      exact ⟨a1.trans b1.symm, ht⟩

end RF

/-- under `LCausal` the maxima of `rga_payload_spec` are unique -/
theorem eff_stamp_unique (ops : List LOp) (hc : LCausal ops) (x : Ts) (p q : LOp) (hp : p ∈ ops)
    (hq : q ∈ ops) (t1 t2 : Ts) (h1 : (p.eff x).stamp? = some t1) (h2 : (q.eff x).stamp? = some t2)
    (he : t1.cmp t2 = .eq) : p = q := by
  obtain ⟨mp, kp⟩ := RF.eff_stamp p x t1 h1
  obtain ⟨mq, kq⟩ := RF.eff_stamp q x t2 h2
  rw [cmp_congr_key t1 p.ts t2 q.ts kp kq] at he
  rcases pairwise_mem_cases hc.distinct hp hq with e | h | h
  · exact e
  · exact absurd he (h mp mq)
  · exact absurd ((cmp_eq_iff _ _).mpr ((cmp_eq_iff _ _).mp he).symm) (h mq mp)

/-- full convergence: two replicas that applied the same inserts, updates and deletes, each in a
    causal order, hold the same nodes — same order (`rga_converge` on the inserts), and for every node the same value,
    value timestamp and tombstone flag (both satisfy the merge rule `PSpec` for the same operations) -/
theorem rga_full_converge (ops ops' : List LOp) (hp : ops.Perm ops') (hc : LCausal ops)
    (hc' : LCausal ops') :
    (Rga.empty.applyAllL ops).nodes = (Rga.empty.applyAllL ops').nodes := by
  have hids := rga_converge (RF.insOps ops) (RF.insOps ops') (hp.filterMap _) hc.ins hc'.ins
  rw [← RF.applyAllL_ids, ← RF.applyAllL_ids] at hids
  refine RF.eq_of_map_eq hids fun n hn n' hn' ho => ?_
  obtain ⟨a, ts, vals, hmem, n0, hn0, ho0, hfold⟩ := RF.nodes_fold ops hc n hn
  obtain ⟨a', ts', vals', hmem', n0', hn0', ho0', hfold'⟩ := RF.nodes_fold ops' hc' n' hn'
  obtain rfl : n0 = n0' := RF.created_unique hc hmem (hp.mem_iff.mpr hmem') hn0 hn0'
    (ho0.trans (ho.trans ho0'.symm))
  obtain ⟨v0, hv0⟩ := RF.mem_mkNodes hn0
  have s := RF.fold_spec n.o n0.o v0 n0.o ops
  have s' := RF.fold_spec n.o n0.o v0 n0.o ops'
  rw [← hv0, hfold] at s
  rw [← hv0, ho, hfold'] at s'
  obtain ⟨hv, ht⟩ := s.unique (fun _ => hp.mem_iff)
    (fun p hp q hq t t' => eff_stamp_unique ops hc n.o p q hp hq t t') (ho ▸ s')
  cases n; cases n'; simp only at ho hv ht; rw [ho, hv, ht]

namespace RF

/-! ## size: the stored `size` is the number of live nodes -/

def liveCount (l : List RNode) : Int := (l.countP RNode.isLive : Nat)

theorem delF_not_live (t : Ts) (z : RNode) : (delF t z).isLive = false := by
  simp [RNode.isLive, delF_v t z]

theorem updF_isLive (v : JVal) (t : Ts) (z : RNode) : (updF v t z).isLive = z.isLive := by
  obtain ⟨o, w, tz⟩ := z
  cases w with
  | none => simp [updF, RNode.isLive]
  | some w => by_cases a : tz.cmp t = .lt <;> simp [updF, RNode.isLive, a]

theorem liveCount_cons (y : RNode) (ys : List RNode) :
    liveCount (y :: ys) = liveCount ys + if y.isLive then 1 else 0 := by
  unfold liveCount
  rw [List.countP_cons, Int.natCast_add]
  split <;> rfl

theorem updNode_delF_count (tg t : Ts) (l : List RNode) (h : (l.map (·.o)).Nodup) :
    liveCount (updNode tg (delF t) l) =
      if l.any (fun x => x.o = tg && x.isLive) then liveCount l - 1 else liveCount l := by
  induction l with
  | nil => rfl
  | cons y ys ih =>
    obtain ⟨h1, h2⟩ := List.nodup_cons.mp h
    rw [updNode, List.any_cons, liveCount_cons y]
    by_cases hy : y.o = tg
    · have hno : ys.any (fun x => x.o = tg && x.isLive) = false :=
        List.any_eq_false.mpr fun z hz => by
          have : z.o ≠ tg := fun e => h1 (List.mem_map.mpr ⟨z, hz, e.trans hy.symm⟩)
          simp [this]
      rw [if_pos hy, liveCount_cons, delF_not_live, hno, decide_eq_true hy, Bool.true_and,
        Bool.or_false]
      cases y.isLive <;> simp
    · rw [if_neg hy, liveCount_cons, ih h2, decide_eq_false hy, Bool.false_and, Bool.false_or]
      split <;> omega

theorem deleteRemote_go_size (tgs : List Ts) (t : Ts) (l : List RNode) (sz : Int)
    (hnd : (l.map (·.o)).Nodup) (h : sz = liveCount l) :
    (Rga.deleteRemote.go tgs t l sz).2 = liveCount (Rga.deleteRemote.go tgs t l sz).1 := by
  induction tgs generalizing t l sz with
  | nil => exact h
  | cons tg tgs ih =>
    rw [deleteRemote_go_cons]
    exact ih _ _ _ (by rw [updNode_ids tg _ (delF_o t)]; exact hnd)
      (by rw [updNode_delF_count tg t l hnd, h])

theorem deleteRemote_size (s : Rga) (tg : List Ts) (ts : Ts) :
    (s.deleteRemote tg ts).size = (Rga.deleteRemote.go tg ts s.nodes s.size).2 := rfl

theorem mkNodes_liveCount (ts : Ts) (vals : List JVal) : liveCount (mkNodes ts vals) = vals.length := by
  have h1 : (mkNodes ts vals).countP RNode.isLive = (mkNodes ts vals).length := by
    rw [List.countP_eq_length]
    intro n hn
    obtain ⟨v, hv⟩ := mem_mkNodes hn
    rw [hv]; rfl
  have h2 : (mkNodes ts vals).length = vals.length := by
    simp [mkNodes, delimSeq_length]
  unfold liveCount
  rw [h1, h2]

theorem applyL_upd_size (s : Rga) (tgs : List Ts) (vs : List JVal) (ts : Ts) :
    (s.applyL (.upd tgs vs ts)).size = s.size := by
  show (match s.updateRemote tgs vs ts with | .ok s' => s' | _ => s).size = _
  unfold Rga.updateRemote
  cases Rga.updateRemote.go tgs vs ts s.nodes <;> rfl

theorem opNode_upd_isLive (tgs : List Ts) (vs : List JVal) (ts : Ts) (z : RNode) :
    (opNode (.upd tgs vs ts) z).isLive = z.isLive := by
  unfold opNode
  rw [eff_upd]
  split
  · rcases updEff_cases tgs vs ts z.o with h | ⟨v', t', h, _⟩
    · rw [h]; rfl
    · rw [h]; exact updF_isLive v' t' z
  · rfl

theorem size_eq_liveCount : ∀ ops : List LOp, LCausal ops →
    (Rga.empty.applyAllL ops).size = liveCount (Rga.empty.applyAllL ops).nodes := by
  intro ops
  induction ops using List.reverseRecOn with
  | nil => intro _; rfl
  | append_singleton ops p ih =>
    intro hc
    have hc0 := hc.init
    have ih := ih hc0
    have hnd := ids_nodup hc0
    rw [applyAllL_append]
    generalize Rga.empty.applyAllL ops = s at ih hnd
    cases p with
    | del tgs ts =>
      show (s.deleteRemote tgs ts).size = liveCount (s.deleteRemote tgs ts).nodes
      rw [deleteRemote_size, deleteRemote_nodes]
      exact deleteRemote_go_size tgs ts s.nodes s.size hnd ih
    | upd tgs vs ts =>
      rw [applyL_upd_size, applyL_upd_nodes _ _ _ _ hnd, ih]
      unfold liveCount
      rw [List.countP_map]
      congr 2
      funext z
      exact (opNode_upd_isLive tgs vs ts z).symm
    | ins a ts vals =>
      rw [applyL_ins]
      unfold Rga.applyIns Rga.insertRemote
      cases hi : insertAfterId RNode.o a (mkNodes ts vals) s.nodes with
      | none => exact ih
      | some l' =>
        have hperm := insertAfterId_perm RNode.o a _ _ l' hi
        show s.size + (vals.length : Int) = liveCount l'
        unfold liveCount at ih ⊢
        rw [hperm.countP_eq, List.countP_append, ih]
        have := mkNodes_liveCount ts vals
        unfold liveCount at this
        omega

end RF

theorem rga_full_converge_size (ops ops' : List LOp) (hp : ops.Perm ops') (hc : LCausal ops)
    (hc' : LCausal ops') :
    (Rga.empty.applyAllL ops).size = (Rga.empty.applyAllL ops').size := by
  rw [RF.size_eq_liveCount ops hc, RF.size_eq_liveCount ops' hc', rga_full_converge ops ops' hp hc hc']

/-- the two replicas hold the same `Rga` value -/
theorem rga_full_converge_state (ops ops' : List LOp) (hp : ops.Perm ops') (hc : LCausal ops)
    (hc' : LCausal ops') : Rga.empty.applyAllL ops = Rga.empty.applyAllL ops' := by
  have h1 := rga_full_converge ops ops' hp hc hc'
  have h2 := rga_full_converge_size ops ops' hp hc hc'
  cases h : Rga.empty.applyAllL ops
  cases h' : Rga.empty.applyAllL ops'
  rw [h, h'] at h1 h2
  simp only at h1 h2
  rw [h1, h2]

namespace RF

theorem eff_eq_del_iff (p : LOp) (x t : Ts) :
    p.eff x = .del t ↔ ∃ tgs ts, p = .del tgs ts ∧ x ∈ tgs ∧ t = stampAt ts (idxIn x tgs) := by
  constructor
  · intro h
    cases p with
    | ins a ts vals => rw [eff_ins] at h; cases h
    | del tgs ts =>
      rw [eff_del] at h
      by_cases hx : x ∈ tgs
      · rw [delEff_mem tgs ts x hx] at h
        cases h
        exact ⟨tgs, ts, rfl, hx, rfl⟩
      · rw [delEff_not_mem tgs ts x hx] at h; cases h
    | upd tgs vs ts =>
      rw [eff_upd] at h
      split at h
      · rcases updEff_cases tgs vs ts x with h' | ⟨_, _, h', _⟩ <;> rw [h'] at h <;> cases h
      · cases h
  · rintro ⟨tgs, ts, rfl, hx, rfl⟩
    rw [eff_del, delEff_mem tgs ts x hx]

theorem eff_eq_upd_iff (p : LOp) (x t : Ts) (v : JVal) :
    p.eff x = .upd v t ↔ ∃ tgs vs ts, p = .upd tgs vs ts ∧ tgs.length ≤ vs.length ∧ x ∈ tgs ∧
      vs[idxIn x tgs]? = some v ∧ t = stampAt ts (idxIn x tgs) := by
  constructor
  · intro h
    cases p with
    | ins a ts vals => rw [eff_ins] at h; cases h
    | del tgs ts =>
      rw [eff_del] at h
      rcases delEff_cases tgs ts x with h' | ⟨_, h', _⟩ <;> rw [h'] at h <;> cases h
    | upd tgs vs ts =>
      rw [eff_upd] at h
      split at h
      next hl =>
        by_cases hx : x ∈ tgs
        · obtain ⟨w, hw, he⟩ := updEff_mem tgs vs ts x hl hx
          rw [he] at h
          cases h
          exact ⟨tgs, vs, ts, rfl, hl, hx, hw, rfl⟩
        · rw [updEff_not_mem tgs vs ts x hx] at h; cases h
      next => cases h
  · rintro ⟨tgs, vs, ts, rfl, hl, hx, hv, rfl⟩
    obtain ⟨w, hw, he⟩ := updEff_mem tgs vs ts x hl hx
    rw [hv] at hw
    cases hw
    rw [eff_upd, if_pos hl, he]

theorem hasDel_iff (ops : List LOp) (x : Ts) :
    HasDel ops x ↔ ∃ tgs ts, LOp.del tgs ts ∈ ops ∧ x ∈ tgs := by
  unfold HasDel
  constructor
  · rintro ⟨p, hp, t, ht⟩
    obtain ⟨tgs, ts, rfl, hx, _⟩ := (eff_eq_del_iff p x t).mp ht
    exact ⟨tgs, ts, hp, hx⟩
  · rintro ⟨tgs, ts, hp, hx⟩
    exact ⟨_, hp, _, (eff_eq_del_iff _ x _).mpr ⟨tgs, ts, rfl, hx, rfl⟩⟩

end RF

open RF in
/-- the merge rule the model implements, for every node `n` of a state reached by a causal history.
    `n` was created by an insert of the history with some value `v0` (and value timestamp `n.o`), and:
* if SOME delete targets `n.o`, `n` is a tombstone and `n.t` is the greatest delete stamp — updates are
  irrelevant, even an update newer than every delete, arriving before or after it (a live node is
  always deleted, a tombstone is never revived);
* if NO delete targets it, `n` holds `v0` with timestamp `n.o` when no update targeting it is newer than
  the insert, and otherwise the value and stamp of the update with the greatest timestamp.
  `LOp.eff` says which operations count: `eff_eq_del_iff`, `eff_eq_upd_iff` (an update with fewer values
  than targets panics as a whole and counts for nothing; the stamp of the `i`-th target is `ts` with
  delimiter `+ i`, first occurrence of the target). -/
theorem rga_payload_spec (ops : List LOp) (hc : LCausal ops) (n : RNode)
    (hn : n ∈ (Rga.empty.applyAllL ops).nodes) :
    ∃ a ts vals v0, LOp.ins a ts vals ∈ ops ∧ (⟨n.o, some v0, n.o⟩ : RNode) ∈ mkNodes ts vals ∧
      ((∃ p ∈ ops, ∃ t, p.eff n.o = .del t) →
        n.v = none ∧ (∃ p ∈ ops, p.eff n.o = .del n.t) ∧
        ∀ p ∈ ops, ∀ t, p.eff n.o = .del t → t.cmp n.t ≠ .gt) ∧
      ((¬ ∃ p ∈ ops, ∃ t, p.eff n.o = .del t) →
        (n.v = some v0 ∧ n.t = n.o ∧ ∀ p ∈ ops, ∀ v t, p.eff n.o = .upd v t → n.o.cmp t ≠ .lt) ∨
        (∃ p ∈ ops, ∃ v, p.eff n.o = .upd v n.t ∧ n.v = some v ∧ n.o.cmp n.t = .lt ∧
          ∀ q ∈ ops, ∀ v' t', q.eff n.o = .upd v' t' → t'.cmp n.t ≠ .gt)) := by
  obtain ⟨a, ts, vals, hp, n0, hm, ho, hz⟩ := nodes_fold ops hc n hn
  obtain ⟨v0, hv0⟩ := mem_mkNodes hm
  rw [ho] at hv0
  have hs := fold_spec n.o n.o v0 n.o ops
  rw [← hv0, hz] at hs
  exact ⟨a, ts, vals, v0, hp, hv0 ▸ hm, hs.tomb, hs.live⟩

open RF in
/-- tombstone ⇔ some delete targeted the element -/
theorem rga_tombstone_iff (ops : List LOp) (hc : LCausal ops) (n : RNode)
    (hn : n ∈ (Rga.empty.applyAllL ops).nodes) :
    n.v = none ↔ ∃ tgs ts, LOp.del tgs ts ∈ ops ∧ n.o ∈ tgs := by
  obtain ⟨a, ts, vals, v0, _, _, h1, h2⟩ := rga_payload_spec ops hc n hn
  have hs : PSpec n.o n.o v0 ops n := ⟨h1, h2⟩
  rw [hs.v_none_iff, hasDel_iff]

/-! ## non-vacuity and the delete-dominates rule on a concrete history

`i1` inserts the batch `[1, 2]` at the head; `i2` and `i3` are concurrent inserts after element `a·0`;
`u` updates element `a·1` to `7` at lamport 5; `d` deletes `a·1` at lamport 3 (OLDER than the update).
Both arrival orders are causal, and give: order `a·0, c, b, a·1`; `a·1` is a tombstone stamped by the
delete although the update is newer. -/

namespace RFEx

def a0 : Ts := ⟨0, 1, "a", 0⟩
def a1 : Ts := ⟨0, 1, "a", 1⟩
def i1 : LOp := .ins Ts.oldest a0 [.num 1, .num 2]
def i2 : LOp := .ins a0 ⟨0, 2, "b", 0⟩ [.num 10]
def i3 : LOp := .ins a0 ⟨0, 2, "c", 0⟩ [.num 20]
def u : LOp := .upd [a1] [.num 7] ⟨0, 5, "b", 0⟩
def d : LOp := .del [a1] ⟨0, 3, "c", 0⟩

/-- update before delete -/
def opsA : List LOp := [i1, i2, i3, u, d]
/-- delete before update, the other concurrent insert first -/
def opsB : List LOp := [i1, i3, d, i2, u]

theorem causal1 : LCausal [i1] :=
  LCausal.nil.snoc (InsCausal.nil.snoc rfl (List.cons_ne_nil _ _) (by decide) (by decide) (Or.inl rfl))
    (by decide) (fun _ h => (List.not_mem_nil h).elim)

theorem a1_target (ops : List LOp) : ∀ x ∈ [a1], ∃ q ∈ i1 :: ops, x ∈ q.insIds :=
  List.forall_mem_singleton.mpr ⟨i1, List.mem_cons_self, List.mem_cons_of_mem _ List.mem_cons_self⟩

theorem causalA : LCausal opsA := by
  have h2 : LCausal [i1, i2] := causal1.snoc (causal1.ins.snoc rfl (List.cons_ne_nil _ _) (by decide)
    (by decide) (Or.inr ⟨_, List.mem_cons_self, List.mem_cons_self, by decide⟩))
    (by decide) (fun _ h => (List.not_mem_nil h).elim)
  have h3 : LCausal [i1, i2, i3] := h2.snoc (h2.ins.snoc rfl (List.cons_ne_nil _ _) (by decide)
    (by decide) (Or.inr ⟨_, List.mem_cons_self, List.mem_cons_self, by decide⟩))
    (by decide) (fun _ h => (List.not_mem_nil h).elim)
  have h4 : LCausal [i1, i2, i3, u] :=
    h3.snoc ((List.append_nil _).symm ▸ h3.ins) (by decide) (a1_target _)
  exact h4.snoc ((List.append_nil _).symm ▸ h4.ins) (by decide) (a1_target _)

theorem causalB : LCausal opsB := by
  have h2 : LCausal [i1, i3] := causal1.snoc (causal1.ins.snoc rfl (List.cons_ne_nil _ _) (by decide)
    (by decide) (Or.inr ⟨_, List.mem_cons_self, List.mem_cons_self, by decide⟩))
    (by decide) (fun _ h => (List.not_mem_nil h).elim)
  have h3 : LCausal [i1, i3, d] :=
    h2.snoc ((List.append_nil _).symm ▸ h2.ins) (by decide) (a1_target _)
  have h4 : LCausal [i1, i3, d, i2] := h3.snoc (h3.ins.snoc rfl (List.cons_ne_nil _ _) (by decide)
    (by decide) (Or.inr ⟨_, List.mem_cons_self, List.mem_cons_self, by decide⟩))
    (by decide) (fun _ h => (List.not_mem_nil h).elim)
  exact h4.snoc ((List.append_nil _).symm ▸ h4.ins) (by decide) (a1_target _)

theorem permAB : opsA.Perm opsB :=
  ((List.Perm.swap i3 i2 [u, d]).trans
    ((List.perm_append_comm (l₁ := [i2, u]) (l₂ := [d])).cons i3)).cons i1

/-- the final state, computed: siblings newest first (`c` before `b`), the batch stays chained, and
    `a·1` is a tombstone carrying the DELETE's stamp (lamport 3) although the update (lamport 5) is newer -/
example : (Rga.empty.applyAllL opsA).nodes =
    [⟨a0, some (.num 1), a0⟩,
     ⟨⟨0, 2, "c", 0⟩, some (.num 20), ⟨0, 2, "c", 0⟩⟩,
     ⟨⟨0, 2, "b", 0⟩, some (.num 10), ⟨0, 2, "b", 0⟩⟩,
     ⟨a1, none, ⟨0, 3, "c", 0⟩⟩] := rfl

example : (Rga.empty.applyAllL opsB).nodes =
    [⟨a0, some (.num 1), a0⟩,
     ⟨⟨0, 2, "c", 0⟩, some (.num 20), ⟨0, 2, "c", 0⟩⟩,
     ⟨⟨0, 2, "b", 0⟩, some (.num 10), ⟨0, 2, "b", 0⟩⟩,
     ⟨a1, none, ⟨0, 3, "c", 0⟩⟩] := rfl

example : (Rga.empty.applyAllL opsA).size = 3 ∧ (Rga.empty.applyAllL opsB).size = 3 := by decide +kernel

/-- the theorem applies to this pair -/
example : (Rga.empty.applyAllL opsA).nodes = (Rga.empty.applyAllL opsB).nodes :=
  rga_full_converge opsA opsB permAB causalA causalB

/-- midway (before the delete arrives) the update is visible: `a·1` holds 7 stamped lamport 5 -/
example : (Rga.empty.applyAllL [i1, i2, i3, u]).nodes.map (fun n => (n.o, n.v.isSome, n.t)) =
    [(a0, true, a0), (⟨0, 2, "c", 0⟩, true, ⟨0, 2, "c", 0⟩), (⟨0, 2, "b", 0⟩, true, ⟨0, 2, "b", 0⟩),
     (a1, true, ⟨0, 5, "b", 0⟩)] := by decide +kernel

/-- why `targeted` is needed: a delete delivered BEFORE the insert that creates its target is a no-op,
    so the two orders diverge -/
example : (Rga.empty.applyAllL [d, i1]).nodes.map (·.v.isSome) = [true, true] ∧
    (Rga.empty.applyAllL [i1, d]).nodes.map (·.v.isSome) = [true, false] := by decide +kernel

/-- why `distinct` is needed: two updates of the same element with `Compare`-equal timestamps —
    the first to arrive wins -/
example :
    (Rga.empty.applyAllL [i1, .upd [a1] [.num 7] ⟨0, 5, "b", 0⟩, .upd [a1] [.num 8] ⟨0, 5, "b", 0⟩]).nodes.map
        (fun n => n.v.isSome && n.v == some (.num 7)) = [false, true] ∧
    (Rga.empty.applyAllL [i1, .upd [a1] [.num 8] ⟨0, 5, "b", 0⟩, .upd [a1] [.num 7] ⟨0, 5, "b", 0⟩]).nodes.map
        (fun n => n.v.isSome && n.v == some (.num 7)) = [false, false] := by decide +kernel

end RFEx

end Orda
