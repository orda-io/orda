/-
The exchange argument.  A state machine `f : σ → ο → σ`, an applicability predicate `OK s x`, an equivalence `R` on
states and an invariant `I s l` ("state `s` is fit for the remaining operations `l`", closed under permutation of `l`).
If applicable operations stay applicable after one another (`mono`), commute up to `R` (`comm`), and applicability and
the step are carried along `R` (`carry`), then two runs of permuted lists in each of which every operation is applicable
at its turn (`Runs`) end in `R`-equivalent states (`exchange`).  With `OK` trivial this is the permutation lemma for
lists that are applicable in any order (`perm_fold_equiv`).  `deliver`: causal delivery.
-/
import Mathlib.Data.List.Perm.Subperm
namespace Orda.Exch

variable {σ ο : Type}

def Runs (f : σ → ο → σ) (OK : σ → ο → Prop) : σ → List ο → Prop
  | _, [] => True
  | s, x :: l => OK s x ∧ Runs f OK (f s x) l

structure Sys (f : σ → ο → σ) (R : σ → σ → Prop) (OK : σ → ο → Prop) (I : σ → List ο → Prop) : Prop where
  equiv : Equivalence R
  perm : ∀ {s l l'}, l.Perm l' → I s l → I s l'
  step : ∀ {s x l}, I s (x :: l) → OK s x → I (f s x) l
  mono : ∀ {s x y l}, I s (x :: y :: l) → OK s x → OK s y → OK (f s y) x
  comm : ∀ {s x y l}, I s (x :: y :: l) → OK s x → OK s y → R (f (f s x) y) (f (f s y) x)
  carry : ∀ {a b x l}, I a (x :: l) → I b (x :: l) → R a b → OK a x → OK b x ∧ R (f a x) (f b x)

variable {f : σ → ο → σ} {R : σ → σ → Prop} {OK : σ → ο → Prop} {I : σ → List ο → Prop}

theorem Sys.transfer (S : Sys f R OK I) : ∀ (l : List ο) {a b : σ}, I a l → I b l → R a b → Runs f OK a l →
    Runs f OK b l ∧ R (l.foldl f a) (l.foldl f b)
  | [], _, _, _, _, h, _ => ⟨trivial, h⟩
  | _ :: l, _, _, ia, ib, h, hv => by
    obtain ⟨ok, r⟩ := S.carry ia ib h hv.1
    obtain ⟨v, s⟩ := S.transfer l (S.step ia hv.1) (S.step ib ok) r hv.2
    exact ⟨⟨ok, v⟩, s⟩

theorem Sys.bubble (S : Sys f R OK I) : ∀ (l1 : List ο) {s : σ} {x : ο} {l2 : List ο}, OK s x →
    I s (l1 ++ x :: l2) → Runs f OK s (l1 ++ x :: l2) →
    Runs f OK s (x :: (l1 ++ l2)) ∧ R ((l1 ++ x :: l2).foldl f s) ((x :: (l1 ++ l2)).foldl f s)
  | [], _, _, _, _, _, hv => ⟨hv, S.equiv.refl _⟩
  | y :: l1, s, x, l2, hx, hi, hv => by
    obtain ⟨hy, hv'⟩ := hv
    have iyx : I s (y :: x :: (l1 ++ l2)) := S.perm (List.Perm.cons y List.perm_middle) hi
    have ixy : I s (x :: y :: (l1 ++ l2)) := S.perm (List.Perm.swap x y _) iyx
    have hx' : OK (f s y) x := S.mono ixy hx hy
    have hy' : OK (f s x) y := S.mono iyx hy hx
    -- `x` moves to the front of the rest of the run after `y`; then `x` and `y` are exchanged
    obtain ⟨⟨_, hvr⟩, hs⟩ := S.bubble l1 hx' (S.step hi hy) hv'
    obtain ⟨vb, sb⟩ := S.transfer (l1 ++ l2) (S.step (S.step iyx hy) hx') (S.step (S.step ixy hx) hy')
      (S.comm iyx hy hx) hvr
    exact ⟨⟨hx, hy', vb⟩, S.equiv.trans hs sb⟩

theorem Sys.exchange_same (S : Sys f R OK I) : ∀ (L : List ο) {d : σ} {L' : List ο}, L.Perm L' → I d L →
    Runs f OK d L → Runs f OK d L' → R (L.foldl f d) (L'.foldl f d)
  | [], _, _, hp, _, _, _ => by rw [← hp.nil_eq]; exact S.equiv.refl _
  | x :: l, d, L', hp, hi, hv, hv' => by
    obtain ⟨l1, l2, rfl⟩ := List.append_of_mem (hp.subset List.mem_cons_self)
    obtain ⟨hvb, hsb⟩ := S.bubble l1 hv.1 (S.perm hp hi) hv'
    exact S.equiv.trans
      (S.exchange_same l (hp.trans List.perm_middle).cons_inv (S.step hi hv.1) hv.2 hvb.2) (S.equiv.symm hsb)

theorem Sys.exchange (S : Sys f R OK I) {L L' : List ο} (hp : L.Perm L') {d d' : σ} (hi : I d L) (hi' : I d' L)
    (h : R d d') (hv : Runs f OK d L) (hv' : Runs f OK d' L') : R (L.foldl f d) (L'.foldl f d') := by
  obtain ⟨v, s⟩ := S.transfer L hi hi' h hv
  exact S.equiv.trans s (S.exchange_same L hp hi' v hv')

theorem runs_append : ∀ (l1 : List ο) {s : σ} {l2 : List ο},
    Runs f OK s (l1 ++ l2) ↔ Runs f OK s l1 ∧ Runs f OK (l1.foldl f s) l2
  | [], _, _ => ⟨fun h => ⟨trivial, h⟩, fun h => h.2⟩
  | x :: l1, s, l2 => by
    show _ ∧ Runs f OK (f s x) (l1 ++ l2) ↔ (_ ∧ Runs f OK (f s x) l1) ∧ _
    rw [runs_append l1, and_assoc]; rfl

theorem Sys.stepAll (S : Sys f R OK I) : ∀ (l : List ο) {s : σ} {r : List ο}, I s (l ++ r) → Runs f OK s l →
    I (l.foldl f s) r
  | [], _, _, hi, _ => hi
  | _ :: l, _, _, hi, hv => S.stepAll l (S.step hi hv.1) hv.2

theorem Sys.after (S : Sys f R OK I) : ∀ (r : List ο) {s : σ} {x : ο}, OK s x → Runs f OK s r → I s (x :: r) →
    OK (r.foldl f s) x
  | [], _, _, hx, _, _ => hx
  | _ :: r, _, _, hx, hv, hi =>
    S.after r (S.mono hi hx hv.1) hv.2 (S.step (S.perm (List.Perm.swap _ _ _) hi) hv.1)

theorem Sys.reorder (S : Sys f R OK I) : ∀ (P : List ο) {s : σ} {B : List ο}, Runs f OK s P → Runs f OK s B →
    P.Subperm B → I s B →
    ∃ T, B.Perm (P ++ T) ∧ Runs f OK s (P ++ T) ∧ R (B.foldl f s) ((P ++ T).foldl f s)
  | [], _, B, _, hvB, _, _ => ⟨B, List.Perm.refl _, hvB, S.equiv.refl _⟩
  | p :: P, s, B, hvP, hvB, hsub, hi => by
    obtain ⟨l1, l2, rfl⟩ := List.append_of_mem (hsub.subset List.mem_cons_self)
    obtain ⟨hvb, hsb⟩ := S.bubble l1 hvP.1 hi hvB
    have hperm : (l1 ++ p :: l2).Perm (p :: (l1 ++ l2)) := List.perm_middle
    obtain ⟨T, h1, h2, h3⟩ := S.reorder P hvP.2 hvb.2 ((List.subperm_cons p).mp ((hperm.subperm_left).mp hsub))
      (S.step (S.perm hperm hi) hvP.1)
    exact ⟨T, hperm.trans (h1.cons p), ⟨hvP.1, h2⟩, S.equiv.trans hsb h3⟩

/-- CAUSAL DELIVERY: `x` was applicable in the state reached by the run `P`; a state reached by a run `B` that
    contains `P` (as a sub-multiset) can apply `x`.  `drop` (the invariant survives forgetting a pending operation) is asked
    here only: `exchange` shortens the pending list by `step` alone. -/
theorem Sys.deliver (S : Sys f R OK I) (drop : ∀ {s x l}, I s (x :: l) → I s l) {s : σ} {P B : List ο} {x : ο}
    (hvP : Runs f OK s P) (hx : OK (P.foldl f s) x) (hvB : Runs f OK s B) (hsub : P.Subperm B) (hi : I s (x :: B)) :
    OK (B.foldl f s) x := by
  obtain ⟨T, hperm, hv, hs⟩ := S.reorder P hvP hvB hsub (drop hi)
  have hvPT := (runs_append P).1 hv
  have h1 : OK ((P ++ T).foldl f s) x := by
    rw [List.foldl_append]
    exact S.after T hx hvPT.2
      (S.stepAll P (S.perm ((hperm.cons x).trans List.perm_middle.symm) hi) hvP)
  have iB : I (B.foldl f s) [x] := S.stepAll B (S.perm (List.perm_append_singleton x B).symm hi) hvB
  have iPT : I ((P ++ T).foldl f s) [x] :=
    S.stepAll (P ++ T) (S.perm ((hperm.cons x).trans (List.perm_append_singleton x _).symm) hi) hv
  exact (S.carry iPT iB (S.equiv.symm hs) h1).1

theorem runs_trivial (f : σ → ο → σ) : ∀ (l : List ο) (s : σ), Runs f (fun _ _ => True) s l
  | [], _ => trivial
  | _ :: l, _ => ⟨trivial, runs_trivial f l _⟩

/-- generic: if the operations of a list pairwise commute up to an equivalence `R` that every operation
    respects (both under an invariant `Inv z l` = "state `z` is ready for the operations `l` in any
    order"), then any two permutations of the list lead to `R`-equivalent states -/
theorem perm_fold_equiv {σ ο : Type} (f : σ → ο → σ) (R : σ → σ → Prop) (hR : Equivalence R)
    (Inv : σ → List ο → Prop)
    (inv_perm : ∀ z l l', l.Perm l' → Inv z l → Inv z l')
    (inv_step : ∀ z x l, Inv z (x :: l) → Inv (f z x) l)
    (congr : ∀ z z' x l, Inv z (x :: l) → Inv z' (x :: l) → R z z' → R (f z x) (f z' x))
    (comm : ∀ z x y l, Inv z (x :: y :: l) → R (f (f z x) y) (f (f z y) x)) :
    ∀ l l', l.Perm l' → ∀ z z', Inv z l → Inv z' l → R z z' → R (l.foldl f z) (l'.foldl f z') :=
  -- the exchange argument for runs (`Sys.exchange`) where every operation is applicable
  fun _ _ hp _ _ h1 h2 h =>
    Sys.exchange (f := f) (R := R) (OK := fun _ _ => True) (I := Inv)
      ⟨hR, inv_perm _ _ _, fun h _ => inv_step _ _ _ h, fun _ _ _ => trivial, fun h _ _ => comm _ _ _ _ h,
        fun ha hb h _ => ⟨trivial, congr _ _ _ _ ha hb h⟩⟩
      hp h1 h2 h (runs_trivial f _ _) (runs_trivial f _ _)

end Orda.Exch
