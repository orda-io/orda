/-
Association lists keyed by strings (`alFind`, `alSet` of Model/Datatypes.lean): lookup after update, membership, keys.
-/
import Orda.Model.Datatypes
namespace Orda

section alist
variable {α : Type}

theorem alFind_alSet (k k' : String) (e : α) (l : List (String × α)) :
    alFind k' (alSet k e l) = if k = k' then some e else alFind k' l := by
  induction l with
  | nil => simp [alSet, alFind]
  | cons x xs ih =>
    obtain ⟨k0, e0⟩ := x
    simp only [alSet]
    by_cases h0 : k0 = k
    · subst h0
      simp only [if_true, alFind]
      by_cases h1 : k0 = k' <;> simp [h1]
    · simp only [h0, if_false, alFind, ih]
      by_cases h1 : k0 = k'
      · subst h1
        simp [Ne.symm h0]
      · simp [h1]

theorem alFind_alSet_self (k : String) (e : α) (l : List (String × α)) : alFind k (alSet k e l) = some e := by
  rw [alFind_alSet, if_pos rfl]

theorem alFind_alSet_ne {k k' : String} (e : α) (l : List (String × α)) (h : k' ≠ k) :
    alFind k' (alSet k e l) = alFind k' l := by
  rw [alFind_alSet, if_neg (Ne.symm h)]

theorem alFind_none_iff (k : String) (l : List (String × α)) :
    alFind k l = none ↔ k ∉ l.map (·.1) := by
  induction l with
  | nil => simp [alFind]
  | cons x xs ih =>
    obtain ⟨k0, e0⟩ := x
    simp only [alFind, List.map_cons, List.mem_cons, not_or]
    by_cases h : k0 = k
    · simp [h]
    · simp [h, ih, Ne.symm h]

theorem alFind_some_mem (k : String) (e : α) (l : List (String × α)) (h : alFind k l = some e) :
    (k, e) ∈ l := by
  induction l with
  | nil => simp [alFind] at h
  | cons x xs ih =>
    obtain ⟨k0, e0⟩ := x
    simp only [alFind] at h
    by_cases h0 : k0 = k
    · simp only [h0, if_true, Option.some.injEq] at h
      subst h; subst h0; simp
    · simp only [h0, if_false] at h
      exact List.mem_cons_of_mem _ (ih h)

theorem alFind_of_mem (k : String) (e : α) (l : List (String × α)) (hnd : (l.map (·.1)).Nodup)
    (h : (k, e) ∈ l) : alFind k l = some e := by
  induction l with
  | nil => cases h
  | cons x xs ih =>
    obtain ⟨k0, e0⟩ := x
    simp only [List.map_cons, List.nodup_cons] at hnd
    simp only [alFind]
    rcases List.mem_cons.mp h with h | h
    · simp only [Prod.mk.injEq] at h
      simp [h.1, h.2]
    · have hne : k0 ≠ k := by
        intro hk
        apply hnd.1
        rw [hk]
        exact List.mem_map.mpr ⟨(k, e), h, rfl⟩
      simp only [hne, if_false]
      exact ih hnd.2 h

theorem alSet_of_none (k : String) (e : α) (l : List (String × α)) (h : alFind k l = none) :
    alSet k e l = l ++ [(k, e)] := by
  induction l with
  | nil => simp [alSet]
  | cons x xs ih =>
    obtain ⟨k0, e0⟩ := x
    simp only [alFind] at h
    by_cases h0 : k0 = k
    · simp [h0] at h
    · simp only [h0, if_false] at h
      simp [alSet, h0, ih h]

theorem alSet_keys_of_some (k : String) (e old : α) (l : List (String × α))
    (h : alFind k l = some old) : (alSet k e l).map (·.1) = l.map (·.1) := by
  induction l with
  | nil => simp [alFind] at h
  | cons x xs ih =>
    obtain ⟨k0, e0⟩ := x
    simp only [alFind] at h
    by_cases h0 : k0 = k
    · simp [alSet, h0]
    · simp only [h0, if_false] at h
      simp [alSet, h0, ih h]

theorem mem_alSet (k : String) (e : α) :
    ∀ (l : List (String × α)) (x : String × α), x ∈ alSet k e l → x = (k, e) ∨ x ∈ l := by
  intro l
  induction l with
  | nil => intro x h; simp [alSet] at h; exact Or.inl h
  | cons y ys ih =>
    intro x h
    obtain ⟨k0, e0⟩ := y
    simp only [alSet] at h
    split at h
    · rcases List.mem_cons.mp h with h | h
      · exact Or.inl h
      · exact Or.inr (List.mem_cons_of_mem _ h)
    · rcases List.mem_cons.mp h with h | h
      · exact Or.inr (h ▸ List.mem_cons_self)
      · rcases ih x h with h | h
        · exact Or.inl h
        · exact Or.inr (List.mem_cons_of_mem _ h)

theorem alSet_keys_nodup (k : String) (e : α) :
    ∀ l : List (String × α), (l.map (·.1)).Nodup → ((alSet k e l).map (·.1)).Nodup := by
  intro l h
  cases hf : alFind k l with
  | none =>
    rw [alSet_of_none k e l hf, List.map_append, List.nodup_append]
    refine ⟨h, by simp, fun a ha b hb e' => (alFind_none_iff k l).mp hf ?_⟩
    rw [List.map_cons, List.map_nil, List.mem_singleton] at hb
    exact (show k = a from (e'.trans hb).symm) ▸ ha
  | some old => rw [alSet_keys_of_some k e old l hf]; exact h

theorem alSet_count (p : α → Bool) (k : String) (e : α) (l : List (String × α)) :
    (((alSet k e l).filter (fun x => p x.2)).length : Int) =
      (l.filter (fun x => p x.2)).length + (if p e then 1 else 0) -
        (match alFind k l with | some old => if p old then 1 else 0 | none => 0) := by
  have cast : ∀ b : Bool, ((if b then 1 else 0 : Nat) : Int) = if b then 1 else 0 :=
    fun b => by cases b <;> rfl
  simp only [← List.countP_eq_length_filter]
  induction l with
  | nil => simp only [alSet, alFind, List.countP_cons, List.countP_nil]; split <;> rfl
  | cons x xs ih =>
    obtain ⟨k0, e0⟩ := x
    simp only [alSet, alFind]
    by_cases h0 : k0 = k
    · simp only [h0, if_true, List.countP_cons, Int.natCast_add, cast]
      omega
    · simp only [h0, if_false, List.countP_cons, Int.natCast_add, ih, cast]
      omega

theorem alFind_map {β : Type} (f : α → β) (k : String) (l : List (String × α)) :
    alFind k (l.map (fun e => (e.1, f e.2))) = (alFind k l).map f := by
  induction l with
  | nil => rfl
  | cons x xs ih =>
    obtain ⟨k', e'⟩ := x
    by_cases h : k' = k <;> simp [alFind, h, ih]

theorem alSet_map {β : Type} (f : α → β) (k : String) (v : α) (l : List (String × α)) :
    (alSet k v l).map (fun e => (e.1, f e.2)) = alSet k (f v) (l.map (fun e => (e.1, f e.2))) := by
  induction l with
  | nil => rfl
  | cons x xs ih =>
    obtain ⟨k', e'⟩ := x
    by_cases h : k' = k <;> simp [alSet, h, ih]

theorem alFind_cons_self (k : String) (v : α) (r : List (String × α)) : alFind k ((k, v) :: r) = some v :=
  if_pos rfl

theorem alFind_cons_ne {k k' : String} (h : k' ≠ k) (v : α) (r : List (String × α)) :
    alFind k ((k', v) :: r) = alFind k r := if_neg h

theorem alFind_append (k : String) (rest : List (String × α)) :
    ∀ pre : List (String × α), (∀ p ∈ pre, p.1 ≠ k) → alFind k (pre ++ rest) = alFind k rest
  | [], _ => rfl
  | (k', v') :: r, h => by
    rw [List.cons_append, alFind_cons_ne (h (k', v') List.mem_cons_self),
      alFind_append k rest r fun p hp => h p (List.mem_cons_of_mem _ hp)]

theorem alFind_filter_ne (k k' : String) :
    ∀ l : List (String × α), alFind k' (l.filter (fun p => p.1 ≠ k)) = if k' = k then none else alFind k' l := by
  intro l
  induction l with
  | nil => simp [alFind]
  | cons y ys ih =>
    obtain ⟨k0, e0⟩ := y
    by_cases h0 : k0 = k
    · subst h0
      rw [List.filter_cons, if_neg (by simp), ih]
      by_cases h : k' = k0
      · simp [h]
      · have h' : ¬ k0 = k' := fun hh => h hh.symm
        simp [h, h', alFind]
    · rw [List.filter_cons, if_pos (by simpa using h0)]
      simp only [alFind, ih]
      by_cases h : k0 = k'
      · subst h; simp [h0]
      · simp [h]

theorem al_length_eq {β : Type} {l : List (String × α)} {l' : List (String × β)}
    (hn : (l.map (·.1)).Nodup) (hn' : (l'.map (·.1)).Nodup)
    (h : ∀ k, alFind k l = none ↔ alFind k l' = none) : l.length = l'.length := by
  have hp := (List.perm_ext_iff_of_nodup hn hn').mpr fun k => Decidable.not_iff_not.mp (by
    rw [← alFind_none_iff, ← alFind_none_iff]; exact h k)
  simpa only [List.length_map] using hp.length_eq

end alist

end Orda

namespace Orda

theorem alFind_split {α : Type} {k : String} {c : α} : ∀ {m : List (String × α)}, alFind k m = some c →
    ∃ A B, m = A ++ (k, c) :: B ∧ alFind k A = none ∧ ∀ e, alSet k e m = A ++ (k, e) :: B := by
  intro m
  induction m with
  | nil => intro h; simp [alFind] at h
  | cons x r ih =>
    obtain ⟨k0, c0⟩ := x
    intro h
    simp only [alFind] at h
    by_cases h0 : k0 = k
    · simp only [h0, if_true, Option.some.injEq] at h
      subst h; subst h0
      exact ⟨[], r, rfl, rfl, fun e => by simp [alSet]⟩
    · simp only [h0, if_false] at h
      obtain ⟨A, B, e1, e2, e3⟩ := ih h
      refine ⟨(k0, c0) :: A, B, by rw [e1]; rfl, by simp [alFind, h0, e2], fun e => ?_⟩
      simp [alSet, h0, e3 e]

end Orda
