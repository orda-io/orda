/-
Bridge between the REGENERATED decision paths of the server's request dispatch
(`Gen.dispatchPaths`, `Gen.validatePaths`: every path through PushPullHandler.processSubscribeOrCreate /
validatePushPullPack of the current source, produced by tools/gofacts) and the model's `dispatch` +
guards of `processPack`.  A change of the dispatch logic in the source changes the generated paths and
breaks `dispatch_is_source` (or makes the translator report an untranslatable construct).
-/
import Orda.Proofs.ServerLog
namespace Orda.DB
open Orda

def caseName : PPCase → String
  | .matchNothing => "MatchNothing"
  | .usedDUID => "UsedDUID"
  | .matchKeyNotType => "MatchKeyNotType"
  | .allMatchedSubscribed => "AllMatchedSubscribed"
  | .allMatchedNotSubscribed => "AllMatchedNotSubscribed"
  | .allMatchedNotVisible => "AllMatchedNotVisible"

def codeOf (name : String) : Option Nat := (Gen.errorCodes.find? (fun e => e.1 == name)).map (·.2)

def retToDispatch : DRet → Option Dispatch
  | .create => some .create
  | .subscribe => some .subscribe
  | .init => some .normal
  | .err n => (codeOf n).map Dispatch.refuse
  | _ => none

/-- what `evaluatePushPullCase` can hand to the dispatch: no document for matchNothing, a document for
    every matched case, and the ids can only differ when there is a document -/
def consistent (c : PPCase) (create subscribe sameDuid docNil : Bool) : Bool :=
  (c != .matchNothing || docNil) && (c == .matchNothing || c == .usedDUID || !docNil) && (!docNil || sameDuid) &&
  (create || subscribe || c == .matchNothing || c == .usedDUID)   -- the key is only looked up with create/subscribe

def allCases : List PPCase :=
  [.matchNothing, .usedDUID, .matchKeyNotType, .allMatchedSubscribed, .allMatchedNotSubscribed, .allMatchedNotVisible]

def sourceDecision (c : PPCase) (create subscribe sameDuid docNil : Bool) : Option Dispatch :=
  (evalPaths Gen.dispatchPaths ⟨create, subscribe, false, false, docNil, !sameDuid, caseName c⟩).bind retToDispatch

def agreeAll : Bool :=
  allCases.all fun c => [true, false].all fun cr => [true, false].all fun su => [true, false].all fun sd =>
    [true, false].all fun dn =>
      !consistent c cr su sd dn || sourceDecision c cr su sd dn == some (modelDecision c cr su sd dn)

theorem agreeAll_true : agreeAll = true := by decide +kernel

theorem mem_allCases (c : PPCase) : c ∈ allCases := by cases c <;> decide

/-- for EVERY case / option bits / id relation the dispatch of the current source (regenerated paths)
    and the model's decision coincide -/
theorem dispatch_is_source (c : PPCase) (create subscribe sameDuid docNil : Bool)
    (h : consistent c create subscribe sameDuid docNil = true) :
    sourceDecision c create subscribe sameDuid docNil = some (modelDecision c create subscribe sameDuid docNil) := by
  have h0 := agreeAll_true
  unfold agreeAll at h0
  have h1 := List.all_eq_true.1 h0 c (mem_allCases c)
  have h2 := List.all_eq_true.1 h1 create (by cases create <;> simp)
  have h3 := List.all_eq_true.1 h2 subscribe (by cases subscribe <;> simp)
  have h4 := List.all_eq_true.1 h3 sameDuid (by cases sameDuid <;> simp)
  have h5 := List.all_eq_true.1 h4 docNil (by cases docNil <;> simp)
  rw [h] at h5
  simpa using h5

/-- what the model's `evalCase` hands over is always `consistent` -/
theorem evalCase_consistent (st : Store) (col : CollectionDoc) (cuid : String) (p : Pack) :
    consistent (evalCase st col cuid p).1 p.create p.subscribe (SL.sameDuid p (evalCase st col cuid p).2)
      (evalCase st col cuid p).2.isNone = true := by
  -- `consistent` on each outcome of `evalCase`, the option bits left as variables
  have h0 : ∀ cr su, consistent .matchNothing cr su true true = true := by decide
  have hid : ∀ cr su dn, consistent .usedDUID cr su true dn = true := by decide
  have hkey : ∀ c, c ≠ .matchNothing → ∀ cr su sd, (cr || su) = true → consistent c cr su sd false = true := by
    intro c; cases c <;> decide
  rcases SL.evalCase_cases st col cuid p with ⟨_, _, he⟩ | ⟨d, hg, _, _, he⟩ | he | ⟨d, hb, _, hc, he⟩
  · rw [he]; exact h0 _ _
  · rw [he]
    have : SL.sameDuid p (some d) = true := decide_eq_true (SL.getDatatype_some hg).2
    rw [this]; exact hid _ _ _
  · rw [he]; exact hid _ _ _
  · rw [he]; exact hkey _ hc _ _ _ hb

/-- on every store and request, the model's final dispatch IS the decision of the current source -/
theorem model_dispatch_is_source (st : Store) (cl : ClientDoc) (col : CollectionDoc) (p : Pack) :
    sourceDecision (evalCase st col cl.cuid p).1 p.create p.subscribe (SL.sameDuid p (evalCase st col cl.cuid p).2)
      (evalCase st col cl.cuid p).2.isNone = some (SL.dsp st cl col p) := by
  rw [SL.dsp_of_evalCase rfl]
  exact dispatch_is_source _ _ _ _ _ (evalCase_consistent st col cl.cuid p)

/-- validatePushPullPack: the source's paths are the two read-only refusals of `processPack` -/
def validateAgree : Bool :=
  [true, false].all fun ro => [true, false].all fun cr => [true, false].all fun ops =>
    (evalPaths Gen.validatePaths ⟨cr, false, ro, ops, false, false, ""⟩) ==
      some (if ro && cr then .err "PushPullAbortionOfClient" else if ro && ops then .err "PushPullAbortionOfClient" else .ok)

theorem validate_is_source : validateAgree = true := by decide +kernel

theorem abortionOfClient_is_301 : codeOf "PushPullAbortionOfClient" = some 301 := by decide +kernel

end Orda.DB
