/-
What one public call does to a replica, for every datatype: `Replica.call` is `Call.prepare` (a read, a refusal, or an
operation body, never a meta body), then `execLocal` on the state with the next identifier.  `CallCase` lists the four
outcomes with the whole resulting replica; `call_case` says `Replica.call` produces one of them.  Files that reason about
calls split on `call_case` (or rewrite with the `call_of_*` equation of the case they are in) and do not unfold
`Replica.call`, `Replica.callLocal`, `Replica.execLocalBase`.  A call reads state and clock only: `CallAgree`, `call_agree`.
A delivery (`Replica.execRemoteBase`) touches clock and state only: `execRemoteBase_eq`.
-/
import Orda.Model.Api
namespace Orda

theorem next_rollBack (o : OpId) : o.next.rollBack = o := rfl

/-- stated on the whole result, so that the case analysis of `Call.prepare` closes every branch by evaluation -/
def notMetaPrep : Prep → Bool
  | .op b _ => !b.isMeta
  | .done _ => true

theorem prepareDoc_notMeta (d : Doc) (c : Call) : notMetaPrep (c.prepareDoc d) = true := by
  unfold Call.prepareDoc
  repeat' split
  all_goals rfl

theorem prepare_notMetaPrep (s : DState) (c : Call) : notMetaPrep (c.prepare s) = true := by
  unfold Call.prepare
  repeat' split
  all_goals first | rfl | exact prepareDoc_notMeta _ _

theorem prepare_notMeta {s : DState} {c : Call} {b : OpBody} {post : Ret → Ret} (h : c.prepare s = .op b post) :
    b.isMeta = false := by
  have := prepare_notMetaPrep s c
  rw [h] at this
  exact Bool.not_eq_true' _ ▸ this

/-- the replica after the body `b` was executed locally with new state `s`: next identifier, the operation recorded
    for rollback, its wire form queued -/
def Replica.queued (r : Replica) (s : DState) (b : OpBody) : Replica :=
  { r with opId := r.opId.next, state := s, rbOps := r.rbOps ++ [⟨r.opId.next, b⟩],
           buffer := r.buffer ++ [Op.wire ⟨r.opId.next, b⟩] }

/-- what `r.call c` can be -/
inductive CallCase (r : Replica) (c : Call) : Replica × Outcome Ret → Prop
  /-- a read or a refusal by `prepare`: nothing changes -/
  | done {o} (hp : c.prepare r.state = .done o) : CallCase r c (r, o)
  /-- the datatype executed the body: the operation (targets filled in) is queued -/
  | ok {b post s' b' ret} (hp : c.prepare r.state = .op b post)
      (he : execLocal r.state r.opId.next.ts b = .ok (s', b', ret)) : CallCase r c (r.queued s' b', .ok (post ret))
  /-- the datatype refused: the identifier is rolled back, nothing changes -/
  | err {b post e} (hp : c.prepare r.state = .op b post)
      (he : execLocal r.state r.opId.next.ts b = .err e) : CallCase r c (r, .err e)
  /-- a panic consumes the identifier -/
  | panic {b post w} (hp : c.prepare r.state = .op b post)
      (he : execLocal r.state r.opId.next.ts b = .panic w) : CallCase r c ({ r with opId := r.opId.next }, .panic w)

theorem call_of_done {r : Replica} {c : Call} {o : Outcome Ret} (h : c.prepare r.state = .done o) :
    r.call c = (r, o) := by
  unfold Replica.call; rw [h]

theorem call_of_ok {r : Replica} {c : Call} {b : OpBody} {post : Ret → Ret} {s' : DState} {b' : OpBody} {ret : Ret}
    (h : c.prepare r.state = .op b post) (he : execLocal r.state r.opId.next.ts b = .ok (s', b', ret)) :
    r.call c = (r.queued s' b', .ok (post ret)) := by
  unfold Replica.call
  rw [h]
  simp only [Replica.callLocal, Replica.execLocalBase, prepare_notMeta h, Bool.false_eq_true, if_false, he, mapOut,
    Replica.queued]

theorem call_of_err {r : Replica} {c : Call} {b : OpBody} {post : Ret → Ret} {e : Nat}
    (h : c.prepare r.state = .op b post) (he : execLocal r.state r.opId.next.ts b = .err e) : r.call c = (r, .err e) := by
  unfold Replica.call
  rw [h]
  simp only [Replica.callLocal, Replica.execLocalBase, prepare_notMeta h, Bool.false_eq_true, if_false, he,
    next_rollBack, mapOut]

theorem call_of_panic {r : Replica} {c : Call} {b : OpBody} {post : Ret → Ret} {w : String}
    (h : c.prepare r.state = .op b post) (he : execLocal r.state r.opId.next.ts b = .panic w) :
    r.call c = ({ r with opId := r.opId.next }, .panic w) := by
  unfold Replica.call
  rw [h]
  simp only [Replica.callLocal, Replica.execLocalBase, prepare_notMeta h, Bool.false_eq_true, if_false, he, mapOut]

theorem call_case (r : Replica) (c : Call) : CallCase r c (r.call c) := by
  cases hp : c.prepare r.state with
  | done o => rw [call_of_done hp]; exact .done hp
  | op b post =>
    cases he : execLocal r.state r.opId.next.ts b with
    | ok x => obtain ⟨s', b', ret⟩ := x; rw [call_of_ok hp he]; exact .ok hp he
    | err e => rw [call_of_err hp he]; exact .err hp he
    | panic w => rw [call_of_panic hp he]; exact .panic hp he

theorem call_err_same (r : Replica) (c : Call) {e : Nat} (he : (r.call c).2 = .err e) : (r.call c).1 = r := by
  have s := call_case r c
  generalize r.call c = x at s he
  cases s with
  | done _ => rfl
  | err _ _ => rfl
  | ok _ _ => cases he
  | panic _ _ => cases he

def Outcome.isPanic {α} : Outcome α → Bool
  | .panic _ => true
  | _ => false

theorem call_no_panic_of {r : Replica} {c : Call} (hd : ∀ o, c.prepare r.state = .done o → o.isPanic = false)
    (he : ∀ b post w, c.prepare r.state = .op b post → execLocal r.state r.opId.next.ts b ≠ .panic w) :
    (r.call c).2.isPanic = false := by
  have s := call_case r c
  generalize r.call c = x at s ⊢
  cases s with
  | done hp => exact hd _ hp
  | err _ _ | ok _ _ => rfl
  | panic hp h => exact absurd h (he _ _ _ hp)

theorem call_buffer (r : Replica) (c : Call) :
    (r.call c).1.buffer = r.buffer ∨ ∃ o : Op, (r.call c).1.buffer = r.buffer ++ [o] ∧ o.id = r.opId.next := by
  have s := call_case r c
  generalize r.call c = x at s
  cases s with
  | ok _ _ => exact Or.inr ⟨_, rfl, rfl⟩
  | done _ => exact Or.inl rfl
  | err _ _ => exact Or.inl rfl
  | panic _ _ => exact Or.inl rfl

/-- what a call appends to the buffer: nothing, or one operation with the next identifier, which is then the clock -/
theorem call_new (r : Replica) (c : Call) {new : List Op} (hb : (r.call c).1.buffer = r.buffer ++ new) :
    r.opId.lamport ≤ (r.call c).1.opId.lamport ∧
    (new = [] ∨ ∃ o, new = [o] ∧ o.id = r.opId.next ∧ (r.call c).1.opId = r.opId.next) := by
  have s := call_case r c
  generalize r.call c = x at s hb
  cases s with
  | done _ | err _ _ => exact ⟨Nat.le_refl _, .inl (List.append_right_eq_self.mp hb.symm)⟩
  | panic _ _ => exact ⟨Nat.le_succ _, .inl (List.append_right_eq_self.mp hb.symm)⟩
  | ok _ _ => exact ⟨Nat.le_succ _, .inr ⟨_, (List.append_cancel_left hb).symm, rfl, rfl⟩⟩

/-- `f` agrees with `r` on state and clock, which is all a call reads: the two calls answer alike, end in the same state
    and clock, leave the other fields of `f` alone, and append the same operations `new` (rollback list: as executed;
    buffer: their wire form) -/
structure CallAgree (r f : Replica) (c : Call) (new : List Op) : Prop where
  out : (f.call c).2 = (r.call c).2
  state : (f.call c).1.state = (r.call c).1.state
  opId : (f.call c).1.opId = (r.call c).1.opId
  buffer_f : (f.call c).1.buffer = f.buffer ++ new.map Op.wire
  buffer_r : (r.call c).1.buffer = r.buffer ++ new.map Op.wire
  rbOps_f : (f.call c).1.rbOps = f.rbOps ++ new
  rbOps_r : (r.call c).1.rbOps = r.rbOps ++ new

theorem call_agree (r f : Replica) (c : Call) (hs : f.state = r.state) (hi : f.opId = r.opId) :
    ∃ new, CallAgree r f c new := by
  -- `f.call c` is the same case of `call_case` as `r.call c`, by the equation of that case; `none`: nothing is queued
  have none : ∀ {f' r' : Replica} {o : Outcome Ret}, f.call c = (f', o) → r.call c = (r', o) → f'.state = r'.state →
      f'.opId = r'.opId → f'.buffer = f.buffer → r'.buffer = r.buffer → f'.rbOps = f.rbOps → r'.rbOps = r.rbOps →
      ∃ new, CallAgree r f c new := fun hf hr h1 h2 h3 h4 h5 h6 =>
    ⟨[], by rw [hf, hr], by rw [hf, hr]; exact h1, by rw [hf, hr]; exact h2, by rw [hf]; simpa using h3,
      by rw [hr]; simpa using h4, by rw [hf]; simpa using h5, by rw [hr]; simpa using h6⟩
  have s := call_case r c
  generalize hx : r.call c = x at s
  cases s with
  | done hp => exact none (call_of_done (hs ▸ hp)) hx hs hi rfl rfl rfl rfl
  | err hp he => exact none (call_of_err (hs ▸ hp) (hs ▸ hi ▸ he)) hx hs hi rfl rfl rfl rfl
  | panic hp he => exact none (call_of_panic (hs ▸ hp) (hs ▸ hi ▸ he)) hx hs (hi ▸ rfl) rfl rfl rfl rfl
  | @ok b post s' b' ret hp he =>
    have hf := call_of_ok (r := f) (hs ▸ hp) (hs ▸ hi ▸ he)
    exact ⟨[⟨r.opId.next, b'⟩], by rw [hf, hx], by rw [hf, hx]; rfl, by rw [hf, hx]; exact congrArg OpId.next hi,
      by rw [hf, Replica.queued, hi]; rfl, by rw [hx]; rfl, by rw [hf, Replica.queued, hi], by rw [hx]; rfl⟩

/-- a clock bump: state and buffer untouched, the clock (same client, same era) not lowered.  It is what a refused call
    does to a replica, and what a transaction header amounts to for a replica that does not see headers. -/
structure Bump (r r' : Replica) : Prop where
  state : r'.state = r.state
  buffer : r'.buffer = r.buffer
  cuid : r'.opId.cuid = r.opId.cuid
  era : r'.opId.era = r.opId.era
  lamport : r.opId.lamport ≤ r'.opId.lamport

/-! ### a delivery -/

/-- the state a delivery leaves: a refusal is dropped, a panic leaves the state -/
def remoteState (s : DState) (o : Op) : DState :=
  match execRemote s o.id.ts o.body with
  | .ok s' => s'
  | _ => s

def remotePanic (s : DState) (o : Op) : Option String :=
  match execRemote s o.id.ts o.body with
  | .panic w => some w
  | _ => none

theorem execRemoteBase_eq (r : Replica) (o : Op) :
    r.execRemoteBase o =
      ({ r with opId := r.opId.syncLamport o.id.lamport, state := remoteState r.state o }, remotePanic r.state o) := by
  unfold Replica.execRemoteBase remoteState remotePanic
  cases execRemote r.state o.id.ts o.body <;> rfl

theorem execRemoteBase_buffer (r : Replica) (o : Op) : (r.execRemoteBase o).1.buffer = r.buffer := by
  rw [execRemoteBase_eq]

theorem execRemoteBase_opId (r : Replica) (o : Op) :
    (r.execRemoteBase o).1.opId = r.opId.syncLamport o.id.lamport := by
  rw [execRemoteBase_eq]

/-- what `createPack` sends: when the first queued operation carries sequence number 1 (the queue is never trimmed), the
    pending operations are the queue beyond the acknowledged sequence number -/
theorem pending_eq_drop (r : Replica) (h : ∀ o ∈ r.buffer.head?, o.id.seq = 1) : r.pending = r.buffer.drop r.cp.cseq := by
  unfold Replica.pending
  cases hb : r.buffer with
  | nil => exact List.drop_nil.symm
  | cons first rest =>
    have h1 : first.id.seq = 1 := h first (by rw [hb]; rfl)
    have e : ((r.cp.cseq : Int) + 1 - ((1 : Nat) : Int)) = (r.cp.cseq : Int) := Int.add_sub_cancel _ _
    simp only [h1, e, Int.toNat_natCast, Int.natCast_nonneg, decide_true, Bool.true_and, decide_eq_true_eq]
    split
    · rfl
    · next hlt => exact (List.drop_eq_nil_of_le (Nat.le_of_not_lt hlt)).symm

theorem syncLamport_fields (o : OpId) (n : Nat) :
    (o.syncLamport n).cuid = o.cuid ∧ (o.syncLamport n).seq = o.seq ∧ (o.syncLamport n).era = o.era ∧
      o.lamport ≤ (o.syncLamport n).lamport ∧ n ≤ (o.syncLamport n).lamport := by
  unfold OpId.syncLamport
  split <;> simp <;> omega

end Orda
