/-
The document invariant `DP.DocInv` survives REMOTE operations (C19 / C03 for documents shaped by concurrency).

A wire operation denotes a remote document operation (`toDOp`), and executing it IS applying that operation
(`execRemoteBase_is_applyD`).  Every elementary operation is a step in the closed form `DC.Eff` of the convergence proofs,
and there are four kinds of effect on the parent's entries, whichever the sort of container (`DP.Cont`): new roots join them
(`dinv_add`: put on a new key, insert), one entry gives way to a new root and its child is buried (`dinv_exchange`: put or
update that wins), the new root loses and is buried unlinked (`dinv_lose`), a child is stamped dead (`dinv_tomb`: remove,
delete).  Each is an instance of the general step `DP.GStp`, which keeps `DP.DInv` (`DP.GStp.next`), followed by the count
of the live entries; `dinv_put … dinv_upd1` compute the effect and call one of them (a remove or delete that loses changes
nothing: `dinv_docEq`).  Well-formedness and acyclicity are taken from the convergence proofs, freshness of the new
identifiers is a hypothesis (causal delivery).  The four kinds are
those of the five operations there are; an operation with another effect on the entries (one that moves a child to another key,
say) instantiates `DP.GStp` itself, as `dinv_tomb` does, and then counts the live entries through `Cont.ch` / `Cont.sz`.
Batches follow by `applyA_flat`.  `Life` = calls and deliveries in any order; `Ex` is a run with a concurrent losing put and a
later array update.
-/
import Orda.Proofs.DocPlain
import Orda.Proofs.DocMixed
import Orda.Proofs.DocHist
namespace Orda.DR
open Orda Orda.DC Orda.DA Orda.DM
open Orda.DP (DInv St NodeOK ShapeOK Cont cont_obj cont_arr)

/-! ## the denoted operation -/

/-- the remote document operation a wire operation denotes (timestamps from the operation's identifier) -/
def toDOp (o : Op) : Option DOp :=
  match o.body with
  | .docPut p k v => some (.o (.put p k v o.id.ts))
  | .docRemove p k => some (.o (.del p k o.id.ts))
  | .docInsert p _ (some a) vs => some (.a (.ins p a o.id.ts vs))
  | .docDelete p _ _ tgs => some (.a (.del p tgs o.id.ts))
  | .docUpdate p _ tgs vs => some (.a (.upd p o.id.ts tgs vs))
  | _ => none

/-- the values an operation carries: no null inside, no duplicate keys -/
def ValuesOK : DOp → Prop
  | .o (.put _ _ v _) => v.hasNull = false ∧ JKeysND v
  | .o (.del _ _ _) => True
  | .a (.ins _ _ _ vs) => JVal.hasNullList vs = false ∧ JKeysNDList vs
  | .a (.del _ _ _) => True
  | .a (.upd _ _ _ vs) => JVal.hasNullList vs = false ∧ JKeysNDList vs

/-! ## executing the wire operation = applying the denoted operation -/

theorem execRemote_ins {d : Doc} {p a ts : Ts} {vs : List JVal} (h : EOK d (.ins p a ts vs)) :
    ∃ d', d.insertRemoteInArray p a ts vs = .ok d' := by
  obtain ⟨harr, ⟨ns, cs, t', hc⟩, _, _, _⟩ := h
  obtain ⟨pn, sl, sz, hp⟩ := isArr_iff.mp harr
  unfold Doc.insertRemoteInArray
  simp only [hp, hc]
  cases insertAfterId (fun (s : Ts × Ts) => s.1) a (cs.map fun c => (c, c)) sl with
  | none => exact ⟨_, rfl⟩
  | some sl' => exact ⟨_, rfl⟩

theorem execRemote_delArr (d : Doc) (p : Ts) (tgs : List Ts) (ts : Ts) :
    (∃ d', d.deleteRemoteInArray p tgs ts = .ok d') ∨ ∃ c, d.deleteRemoteInArray p tgs ts = .err c := by
  unfold Doc.deleteRemoteInArray
  cases d.findArr p with
  | none => exact Or.inr ⟨_, rfl⟩
  | some x =>
    obtain ⟨pn, sl, sz⟩ := x
    simp only
    generalize Doc.deleteRemoteInArray.go sl tgs ts d 0 = r
    obtain ⟨d1, k⟩ := r
    simp only
    cases d1.findArr p with
    | none => exact Or.inl ⟨_, rfl⟩
    | some y => exact Or.inl ⟨_, rfl⟩

theorem execRemote_upd {d : Doc} {p ts : Ts} {tgs : List Ts} {vs : List JVal}
    (h : GoodE d (flatUpd p tgs vs ts)) (hl : tgs.length ≤ vs.length) :
    (∃ d', d.updateRemoteInArray p ts tgs vs = .ok d') ∨ ∃ c, d.updateRemoteInArray p ts tgs vs = .err c := by
  unfold Doc.updateRemoteInArray
  cases d.findArr p with
  | none => exact Or.inr ⟨_, rfl⟩
  | some x =>
    simp only
    have := upd_go_flat p tgs vs ts d [] (by simpa using h) hl
    exact Or.inl ⟨_, this⟩

theorem execRemoteBase_is_applyD (r : Replica) (d : Doc) (hs : r.state = .doc d) (o : Op) (x : DOp) (hx : toDOp o = some x)
    (hok : GoodD d [x]) : (r.execRemoteBase o).1.state = .doc (applyD d x) ∧ (r.execRemoteBase o).2 = none := by
  obtain ⟨oid, body⟩ := o
  unfold toDOp at hx
  unfold Replica.execRemoteBase
  simp only [hs]
  cases body with
  | docPut p k v =>
    simp only [Option.some.injEq] at hx
    subst hx
    obtain ⟨hwf, hop⟩ := goodD_obj hok
    obtain ⟨d', r', h1, h2⟩ := op_returns_ok hwf _ hop
    simp only [execRemote, h1, applyD, h2, and_self]
  | docRemove p k =>
    simp only [Option.some.injEq] at hx
    subst hx
    obtain ⟨hwf, hop⟩ := goodD_obj hok
    obtain ⟨d', r', h1, h2⟩ := op_returns_ok hwf _ hop
    simp only [execRemote, h1, applyD, h2, and_self]
  | docInsert p pos t vs =>
    cases t with
    | none => simp at hx
    | some a =>
      simp only [Option.some.injEq] at hx
      subst hx
      obtain ⟨hg, _⟩ := goodD_arr hok
      have he : EOK d (.ins p a oid.ts vs) := hg.2.1 _ (by simp [flat])
      obtain ⟨d', h1⟩ := execRemote_ins he
      simp only [execRemote, h1, applyD, applyA, and_self]
  | docDelete p pos num tgs =>
    simp only [Option.some.injEq] at hx
    subst hx
    rcases execRemote_delArr d p tgs oid.ts with ⟨d', h1⟩ | ⟨c, h1⟩
    · simp only [execRemote, h1, applyD, applyA, and_self]
    · simp only [execRemote, h1, applyD, applyA, and_self]
  | docUpdate p pos tgs vs =>
    simp only [Option.some.injEq] at hx
    subst hx
    obtain ⟨hg, hb⟩ := goodD_arr hok
    rcases execRemote_upd (by simpa [flat] using hg) hb with ⟨d', h1⟩ | ⟨c, h1⟩
    · simp only [execRemote, h1, applyD, applyA, and_self]
    · simp only [execRemote, h1, applyD, applyA, and_self]
  | snapshot s => simp at hx
  | error c => simp at hx
  | transaction t n => simp at hx
  | increase dl => simp at hx
  | put k v => simp at hx
  | remove k => simp at hx
  | insert pos t vs => simp at hx
  | delete pos num tg => simp at hx
  | update pos tg vs => simp at hx

/-! ## transport of the invariant -/

theorem st_sync {L : OpId} {t : Ts} (n : Nat) (h : St L 0 t) : St (L.syncLamport n) 0 t := by
  obtain ⟨h1, h2⟩ := h
  have h3 : t.lamport ≤ L.lamport := by rcases h2 with h2 | h2 <;> omega
  unfold OpId.syncLamport
  split
  · exact ⟨h1, Or.inl (by simp only; omega)⟩
  · exact ⟨h1, Or.inl (by simp only; omega)⟩

theorem st_sync_new (L id : OpId) (he : id.era = L.era) : St (L.syncLamport id.lamport) 0 id.ts := by
  unfold OpId.syncLamport
  split
  · exact ⟨he, Or.inl (by simp only [OpId.ts]; omega)⟩
  · exact ⟨he, Or.inl (by simp only [OpId.ts]; omega)⟩

theorem st_key {L : OpId} {t t' : Ts} (h : St L 0 t) (he : t'.era = t.era) (hl : t'.lamport = t.lamport) :
    St L 0 t' := by
  obtain ⟨h1, h2⟩ := h
  exact ⟨he.trans h1, Or.inl (by rcases h2 with h2 | h2 <;> omega)⟩

theorem dinv_sync {L : OpId} {d : Doc} (n : Nat) (I : DInv L 0 d) : DInv (L.syncLamport n) 0 d :=
  I.restamp fun _ => st_sync n

theorem dinv_docEq {L : OpId} {a b : Doc} (h : DocEq a b) (hb : (ids b.table).Nodup) (I : DInv L 0 a) :
    DInv L 0 b := by
  have hf : ∀ {c n}, b.find c = some n → a.find c = some n := fun {c n} hc => by rw [h c]; exact hc
  refine ⟨wf_docEq h hb I.wf, ?_, ?_, ?_, ?_, ?_, ?_, ?_⟩
  · obtain ⟨rk, hr⟩ := I.acyc
    exact ⟨rk, fun p n hp c hc => hr p n (hf hp) c hc⟩
  · obtain ⟨m, s, hr⟩ := I.root
    exact ⟨m, s, by rw [← h]; exact hr⟩
  · intro c n hc
    exact DP.sizeOK_congr (fun y _ => (docEq_isTomb h y).symm) (I.sizes c n (hf hc))
  · intro c n hc; exact I.stamps c n (hf hc)
  · intro c n hc; exact I.ordnd c n (hf hc)
  · intro c n hc hl
    rcases I.linked c n (hf hc) hl with e | ⟨p, pn, h1, h2, h3⟩
    · exact Or.inl e
    · exact Or.inr ⟨p, pn, h1, by rw [← h p]; exact h2, h3⟩
  · intro c n v hc; exact I.scalar c n v (hf hc)

theorem viewOK_of_dinv {L : OpId} {d : Doc} (I : DInv L 0 d) (hk : KeysND d) : ViewOK d := by
  obtain ⟨m, s, hr⟩ := I.root
  exact ⟨hk, bounded_of I.wf I.acyc ⟨_, _, hr⟩, ⟨_, m, s, hr, rfl⟩⟩

/-! ## a generic remote step, in the closed form `Eff` of the convergence proofs

`d'.find = e.run d.find`: the new nodes `e.ns` enter the table, the parent `e.p` gets the kind `K'`, and one more
entry `e.x` is left alone (`id`), buried (`fun1 t`: a child of the parent that leaves its key / slot, or the root of
the new nodes when the operation LOSES against the occupant) or tombstoned (`setD t`: a child of the parent). -/

theorem block_st {L : OpId} {ts ts' : Ts} {ns : List DNode} (hb : Block ts ns ts') (hst : St L 0 ts) :
    ∀ c ∈ ids ns, St L 0 c := by
  intro c hc
  obtain ⟨a1, a2, _⟩ := hb.mem_ids hc
  exact st_key hst a1 a2

section steps
variable {L : OpId} {d d' : Doc} {p x : Ts} {pn : DNode} {K' : DKind} {ns : List DNode}
  {s : Option DNode → Option DNode}

theorem run_parent {g : Option DNode → Option DNode} (hp : d.find p = some pn) (hfresh : Fresh d ns)
    (hs : s (some pn) = some { pn with kind := K' }) (hxp : x ≠ p ∨ g = id) :
    Eff.run ⟨ns, p, s, x, g⟩ d.find p = some { pn with kind := K' } := by
  have hU : U ns d.find p = some pn := by
    rw [U_old fun hm => by have := hfresh p hm; rw [hp] at this; cases this]; exact hp
  unfold Eff.run
  rcases hxp with hxp | rfl
  · rw [upd_other _ _ hxp.symm, upd_same, hU]; exact hs
  · rw [upd_id, upd_same, hU]; exact hs

/-- a remote step that buries `x`: an old child of the parent that leaves its key / slot, or the root of the new
    nodes (a value that loses against the occupant and stays unlinked) -/
theorem step_bury {t : Ts} (I : DInv L 0 d) (hp : d.find p = some pn)
    (hfind : d'.find = Eff.run ⟨ns, p, s, x, fun1 t⟩ d.find) (hs : s (some pn) = some { pn with kind := K' })
    {ts ts' : Ts} (hblock : Block ts ns ts') (hst : St L 0 ts) (hfresh : Fresh d ns) (hnodeok : ∀ n ∈ ns, NodeOK n)
    {cs : List Ts} (hlnk : DP.Lnk ns cs p) (hcs : ∀ c ∈ cs, c ∈ kids K' ∨ c = x) (ht : St L 0 t)
    (hx : x ∈ kids pn.kind ∨ (x ∈ ids ns ∧ ∀ n ∈ ns, x ∉ kids n.kind))
    (keep : ∀ c ∈ kids pn.kind, c ∈ kids K' ∨ c = x) (shape : ShapeOK L 0 pn.kind K') :
    DP.GStp L 0 0 d p pn K' ns (DP.buryOf (some x) t) (fun _ => none) d' := by
  have hxp : x ≠ p := hx.elim (fun hk => DP.DInv.kid_ne I hp hk) fun hn e' => by
    have := hfresh p (e' ▸ hn.1); rw [hp] at this; cases this
  refine {
    inv := I, hp := hp, find' := fun c => ?_, block := ⟨ts, ts', hblock⟩, fresh := hfresh, newst := block_st hblock hst,
    bb := Nat.le_refl 0, nodeok := hnodeok, shape := shape
    lnk := fun n hn => (hlnk n hn).imp
      (fun h1 => ⟨h1.2, (hcs _ h1.1).imp id fun e' => ⟨t, by rw [e']; exact DP.buryOf_self _ _⟩⟩) id
    buried := fun y t' hy => ?_
    tombed := fun _ _ hy => (nomatch hy)
    keep := fun c hc hb => (keep c hc).resolve_right fun e' => (by rw [e', DP.buryOf_self] at hb; cases hb) }
  · rw [hfind]
    unfold DP.gFind
    by_cases hc : c = p
    · rw [hc, run_parent hp hfresh hs (Or.inl hxp), if_pos rfl]
    · rw [if_neg hc]
      unfold Eff.run
      by_cases hcx : c = x
      · rw [hcx, upd_same, upd_other _ _ hxp, DP.buryOf_self]; rfl
      · rw [upd_other _ _ hcx, upd_other _ _ hc, DP.buryOf_ne hcx]; rfl
  · obtain ⟨e1, e2⟩ := DP.buryOf_some hy
    cases e1
    exact ⟨e2 ▸ ht, hx⟩

/-- ADD: new nodes whose roots `new` join the entries of the parent (a put on a new key, an insert); nothing is buried -/
theorem dinv_add {α : Type} {l new l' : List (α × Ts)} {n : Int} {ts ts' : Ts} (I : DInv L 0 d) (hp : d.find p = some pn)
    (hfind : d'.find = Eff.run ⟨ns, p, s, x, id⟩ d.find) (hs : s (some pn) = some { pn with kind := K' })
    (hblock : Block ts ns ts') (hst : St L 0 ts) (hfresh : Fresh d ns) (hnodeok : ∀ n ∈ ns, NodeOK n)
    (hlnk : DP.Lnk ns (new.map (·.2)) p) (hroots : ∀ e ∈ new, ∃ m ∈ ns, m.c = e.2)
    (hc : Cont pn.kind l n) (hc' : Cont K' l' (n + new.length)) (hperm : l'.Perm (new ++ l))
    (shape : ShapeOK L 0 pn.kind K') (hwf' : d'.WF) (hac' : ∃ rk, Ranked d' rk) : DInv L 0 d' := by
  have hmem : ∀ {c}, c ∈ new.map (·.2) ∨ c ∈ kids pn.kind → c ∈ kids K' := fun {c} h => by
    rw [hc'.ch, (hperm.map _).mem_iff, List.map_append, List.mem_append, ← hc.ch]; exact h
  have hrs : DP.GStp L 0 0 d p pn K' ns (fun _ => none) (fun _ => none) d' := by
    refine {
      inv := I, hp := hp, find' := fun c => ?_, block := ⟨ts, ts', hblock⟩, fresh := hfresh, newst := block_st hblock hst,
      bb := Nat.le_refl 0, nodeok := hnodeok, shape := shape
      lnk := fun m hm => (hlnk m hm).imp (fun h1 => ⟨h1.2, Or.inl (hmem (Or.inl h1.1))⟩) id
      buried := fun _ _ hx => (nomatch hx)
      tombed := fun _ _ hx => (nomatch hx)
      keep := fun c hc _ => hmem (Or.inr hc) }
    rw [hfind]
    unfold DP.gFind
    by_cases hc : c = p
    · rw [hc, run_parent hp hfresh hs (Or.inr rfl), if_pos rfl]
    · rw [if_neg hc]
      unfold Eff.run
      rw [upd_id, upd_other _ _ hc]
      rfl
  refine hrs.next hwf' hac' ((hc'.sz d').2 ?_)
  have hnew : new.filter (fun e => !d'.isTomb e.2) = new := List.filter_eq_self.mpr fun e he => by
    obtain ⟨m, hm, e'⟩ := hroots e he
    rw [← e', hrs.isTomb_new hm rfl]; rfl
  have hold : l.filter (fun e => !d'.isTomb e.2) = l.filter fun e => !d.isTomb e.2 := List.filter_congr fun e he => by
    rw [hrs.isTomb_old_kid (hc.ch ▸ List.mem_map_of_mem he) rfl rfl]
  rw [(hperm.filter _).length_eq, List.filter_append, List.length_append, hnew, hold, (hc.sz d).1 (I.sizes p pn hp)]
  push_cast; omega

/-- EXCHANGE: the entry `x` of the parent gives way to the root `t` of the new nodes and its child is buried (a put or an
    update that wins against the occupant) -/
theorem dinv_exchange {α : Type} {A B : List (α × Ts)} {x : α × Ts} {a : α} {n : Int} {t ts' : Ts} (I : DInv L 0 d)
    (hp : d.find p = some pn) (hfind : d'.find = Eff.run ⟨ns, p, s, x.2, fun1 t⟩ d.find)
    (hs : s (some pn) = some { pn with kind := K' }) (hblock : Block t ns ts') (hst : St L 0 t) (hfresh : Fresh d ns)
    (hnodeok : ∀ n ∈ ns, NodeOK n) (hlnk : DP.Lnk ns [t] p) (hroot : ∃ m ∈ ns, m.c = t)
    (hc : Cont pn.kind (A ++ x :: B) n) (hc' : Cont K' (A ++ (a, t) :: B) (if d.isTomb x.2 then n + 1 else n))
    (shape : ShapeOK L 0 pn.kind K') (hwf' : d'.WF) (hac' : ∃ rk, Ranked d' rk) : DInv L 0 d' := by
  have hxk : x.2 ∈ kids pn.kind := hc.ch ▸ snd_mem_map_mid A B x
  have hrs := step_bury I hp hfind hs hblock hst hfresh hnodeok hlnk
    (fun c hc => Or.inl (by rw [List.mem_singleton.mp hc, hc'.ch]; exact snd_mem_map_mid A B (a, t))) hst (Or.inl hxk)
    (fun c hc0 => (mem_swap (a, t) (hc.ch ▸ hc0)).imp_left fun h => by rw [hc'.ch]; exact h) shape
  refine hrs.next hwf' hac' ((hc'.sz d').2 ?_)
  obtain ⟨m, hm, hmt⟩ := hroot
  have htx : t ≠ x.2 := fun e => hrs.kid_not_new hxk (e ▸ hmt ▸ List.mem_map_of_mem hm)
  have h2 : d'.isTomb t = false := hmt ▸ hrs.isTomb_new hm (DP.buryOf_ne (hmt ▸ htx))
  rw [filter_swap_length _ _ A B x (a, t) (hrs.live_others hc.ch fun c hc => ⟨DP.buryOf_ne hc, rfl⟩),
    ← (hc.sz d).1 (I.sizes p pn hp)]
  cases d.isTomb x.2 <;> simp [h2]

/-- LOSE: the value loses against the occupant; the parent stays as it is and the root `c` of the new nodes is buried,
    unlinked, under the stamp `t` of the occupant -/
theorem dinv_lose {c t ts' : Ts} (I : DInv L 0 d) (hp : d.find p = some pn)
    (hfind : d'.find = Eff.run ⟨ns, p, s, c, fun1 t⟩ d.find) (hs : s (some pn) = some { pn with kind := pn.kind })
    (hblock : Block c ns ts') (hst : St L 0 c) (hfresh : Fresh d ns) (hnodeok : ∀ n ∈ ns, NodeOK n)
    (hlnk : DP.Lnk ns [c] p) (ht : St L 0 t) (hnew : c ∈ ids ns) (hunl : ∀ n ∈ ns, c ∉ kids n.kind)
    (shape : ShapeOK L 0 pn.kind pn.kind) (hwf' : d'.WF) (hac' : ∃ rk, Ranked d' rk) : DInv L 0 d' := by
  have hrs := step_bury I hp hfind hs hblock hst hfresh hnodeok hlnk (fun c' hc' => Or.inr (List.mem_singleton.mp hc'))
    ht (Or.inr ⟨hnew, hunl⟩) (fun _ h => Or.inl h) shape
  refine hrs.next hwf' hac' (DP.sizeOK_congr (fun c' hc' => hrs.isTomb_old_kid hc' (DP.buryOf_ne ?_) rfl) (I.sizes p pn hp))
  rintro rfl
  exact hrs.kid_not_new hc' hnew

/-- TOMB: nothing is created; the child of the entry `x` is stamped dead (a remove, a delete), or stamped again -/
theorem dinv_tomb {α : Type} {l : List (α × Ts)} {x : α × Ts} {n : Int} {t : Ts} (I : DInv L 0 d) (hp : d.find p = some pn)
    (hfind : d'.find = Eff.run ⟨[], p, s, x.2, setD t⟩ d.find) (hs : s (some pn) = some { pn with kind := K' })
    (ht : St L 0 t) (hx : x ∈ l) (hc : Cont pn.kind l n) (hc' : Cont K' l (if d.isTomb x.2 then n else n - 1))
    (shape : ShapeOK L 0 pn.kind K') (hwf' : d'.WF) (hac' : ∃ rk, Ranked d' rk) : DInv L 0 d' := by
  have hxk : x.2 ∈ kids pn.kind := hc.ch ▸ List.mem_map_of_mem hx
  have hxp : x.2 ≠ p := DP.DInv.kid_ne I hp hxk
  have hfresh : Fresh d [] := fun _ hc => (nomatch hc)
  have hrs : DP.GStp L 0 0 d p pn K' [] (fun _ => none) (DP.buryOf (some x.2) t) d' := by
    refine {
      inv := I, hp := hp, find' := fun c => ?_, block := ⟨t, t, block_nil t⟩, fresh := hfresh, bb := Nat.le_refl 0, shape := shape
      newst := fun _ hc => (nomatch hc)
      nodeok := fun _ hn => (nomatch hn)
      lnk := fun _ hn => (nomatch hn)
      buried := fun _ _ hy => (nomatch hy)
      tombed := fun y t' hy => ?_
      keep := fun c hc0 _ => by rw [hc'.ch, ← hc.ch]; exact hc0 }
    · rw [hfind]
      unfold DP.gFind
      by_cases hc : c = p
      · rw [hc, run_parent hp hfresh hs (Or.inl hxp), if_pos rfl]
      · rw [if_neg hc]
        unfold Eff.run
        by_cases hcx : c = x.2
        · rw [hcx, upd_same, upd_other _ _ hxp, DP.buryOf_self, U_nil]
        · rw [upd_other _ _ hcx, upd_other _ _ hc, DP.buryOf_ne hcx]; rfl
    · obtain ⟨e1, e2⟩ := DP.buryOf_some hy
      cases e1
      exact ⟨e2 ▸ ht, hxk⟩
  refine hrs.next hwf' hac' ((hc'.sz d').2 ?_)
  have h2 : d'.isTomb x.2 = true := hrs.isTomb_tm rfl (DP.buryOf_self _ _)
  obtain ⟨A, B, rfl⟩ := List.append_of_mem hx
  rw [filter_swap_length _ _ A B x x (hrs.live_others hc.ch fun c hc => ⟨rfl, DP.buryOf_ne hc⟩),
    ← (hc.sz d).1 (I.sizes p pn hp)]
  cases d.isTomb x.2 <;> simp [h2]

end steps

/-! ## the elementary operations as steps -/

theorem arr_ord {L : OpId} {d : Doc} (I : DInv L 0 d) {p : Ts} {pn : DNode} {sl : List (Ts × Ts)} {sz : Int}
    (hp : d.find p = some pn) (hk : pn.kind = .arr sl sz) :
    (sl.map (·.1)).Nodup ∧ ∀ o ∈ sl.map (·.1), St L 0 o := by
  have h1 := I.ordnd p pn hp
  have h2 := (I.stamps p pn hp).2.2
  rw [hk] at h1 h2
  exact ⟨h1, h2⟩

theorem dinv_put {L : OpId} {d : Doc} (I : DInv L 0 d) {p : Ts} {k : String} {v : JVal} {ts : Ts}
    (hok : OpOK d (.put p k v ts)) (hst : St L 0 ts) (hwf' : (applyOp d (.put p k v ts)).WF)
    (hac' : ∃ rk, Ranked (applyOp d (.put p k v ts)) rk) : DInv L 0 (applyOp d (.put p k v ts)) := by
  obtain ⟨pn, m, size, ts', hpre⟩ := putPre_of_ok I.wf hok
  have hfind := find_applyOp_eff I.wf _ hok
  unfold effOf at hfind
  simp only [hpre.findObj] at hfind
  generalize applyOp d (.put p k v ts) = d' at hfind hwf' hac' ⊢
  generalize nodesOf (.put p k v ts) = ns at hpre hfind
  obtain ⟨hnodeok, hlnk⟩ := DP.createNode_spec2 p ts v _ hpre.hc
  have hshape : ∀ m' s', ShapeOK L 0 pn.kind (.obj m' s') := fun _ _ => by rw [hpre.hk]; trivial
  have hs := skG_some hpre.hk
  obtain ⟨n0, rest, hns0, hn0c, _⟩ := hpre.root
  have hroot : ∃ n ∈ ns, n.c = ts := ⟨n0, hns0 ▸ List.mem_cons_self, hn0c⟩
  have hc : Cont pn.kind m size := hpre.hk ▸ cont_obj m size
  cases hf : alFind k m with
  | none =>
    simp only [hf] at hfind
    refine dinv_add (new := [(k, ts)]) I hpre.hp hfind (hs _) hpre.block hst hpre.fresh hnodeok hlnk
      (fun e he => List.mem_singleton.mp he ▸ hroot) hc (cont_obj _ _) ?_ (hshape _ _) hwf' hac'
    rw [alSet_of_none k _ m hf]
    exact List.perm_append_comm
  | some old =>
    simp only [hf] at hfind
    obtain ⟨A, B, e1, _, e3⟩ := alFind_split hf
    by_cases hlt : (d.timeOf old).cmp ts = .lt
    · simp only [hlt, if_true] at hfind
      exact dinv_exchange (x := (k, old)) I hpre.hp hfind (hs _) hpre.block hst hpre.fresh hnodeok hlnk hroot (e1 ▸ hc)
        (by rw [← e3 ts]; exact cont_obj _ _) (hshape _ _) hwf' hac'
    · simp only [hlt, if_false] at hfind
      obtain ⟨no, hno, _⟩ := hpre.old_find hf
      exact dinv_lose I hpre.hp hfind rfl hpre.block hst hpre.fresh hnodeok hlnk (find_some_c hno ▸ (I.stamps old no hno).1)
        hpre.ts_new (fun n hn hmem => hpre.root_unlinked n.c n (find_addAll_new (block_ids_nodup hpre.block) hn) hmem)
        (hpre.hk ▸ hshape m size) hwf' hac'

theorem dinv_del {L : OpId} {d : Doc} (I : DInv L 0 d) {p : Ts} {k : String} {ts : Ts}
    (hok : OpOK d (.del p k ts)) (hst : St L 0 ts) (hwf' : (applyOp d (.del p k ts)).WF)
    (hac' : ∃ rk, Ranked (applyOp d (.del p k ts)) rk) : DInv L 0 (applyOp d (.del p k ts)) := by
  obtain ⟨pn, m, size, c, hpre⟩ := delPre_of_ok I.wf hok
  have hfind := find_applyOp_eff I.wf _ hok
  unfold effOf at hfind
  simp only [findObj_some_iff.mpr ⟨hpre.hp, hpre.hk⟩, hpre.hf] at hfind
  generalize applyOp d (.del p k ts) = d' at hfind hwf' hac' ⊢
  by_cases hlt : (d.timeOf c).cmp ts = .lt
  · simp only [hlt, if_true] at hfind
    obtain ⟨A, B, e1, _, _⟩ := alFind_split hpre.hf
    exact dinv_tomb (x := (k, c)) I hpre.hp hfind (skG_some hpre.hk _) hst (e1 ▸ List.mem_append_right _ List.mem_cons_self)
      (hpre.hk ▸ cont_obj m size) (cont_obj _ _) (by rw [hpre.hk]; trivial) hwf' hac'
  · simp only [hlt, if_false, Eff.run, upd_id, U_nil] at hfind
    exact dinv_docEq (fun c => by rw [hfind]) hwf'.nodup I

theorem dinv_applyOp {L : OpId} {d : Doc} (I : DInv L 0 d) (hkeys : KeysND d) (o : ObjOp) (hok : OpOK d o)
    (hst : St L 0 o.ts) (hv : OpKeysND o) : DInv L 0 (applyOp d o) ∧ KeysND (applyOp d o) := by
  obtain ⟨_, _, r, hK⟩ := rstep_applyOp I.wf o hok
  have hf := find_applyOp_eff I.wf o hok
  have hwf' := wf_op I.wf o hok
  have hac' := let ⟨_, hr⟩ := I.acyc; r.ranked_next hf hr
  refine ⟨?_, r.keysND_next hf hkeys (effOf_ns hok ▸ nodesKeysND_of_op o hv) (hK hkeys)⟩
  cases o with
  | put p k v ts => exact dinv_put I hok hst hwf' hac'
  | del p k ts => exact dinv_del I hok hst hwf' hac'

theorem dinv_ins {L : OpId} {d : Doc} (I : DInv L 0 d) {p an ts : Ts} {vs : List JVal}
    (hok : EOK d (.ins p an ts vs)) (hst : St L 0 ts) (hwf' : (applyE d (.ins p an ts vs)).WF)
    (hac' : ∃ rk, Ranked (applyE d (.ins p an ts vs)) rk) : DInv L 0 (applyE d (.ins p an ts vs)) := by
  have hfind := find_applyE I.wf _ hok
  obtain ⟨harr, ⟨ns, cs, t', hc⟩, hf, hnew, hanc⟩ := hok
  obtain ⟨pn, sl, sz, hp⟩ := isArr_iff.mp harr
  obtain ⟨hp1, hk⟩ := findArr_some_iff.mp hp
  have hn : nodesE (.ins p an ts vs) = ns := by simp [nodesE, hc]
  have hcs : newSlots (.ins p an ts vs) = cs := by simp [newSlots, hc]
  rw [hn] at hf
  rw [hcs] at hnew
  have hsl : slotIds d p = sl.map (·.1) := by unfold slotIds; rw [slotsOf_of_findArr hp]
  rw [hsl] at hnew hanc
  simp only [effE, hn, hcs] at hfind
  generalize applyE d (.ins p an ts vs) = d' at hfind hwf' hac' ⊢
  obtain ⟨hblock, hcsnd, hroots⟩ := createMany_block hc
  obtain ⟨hnodeok, hlnk⟩ := DP.createArrItems_spec2 p ts vs ns cs t' hc
  have hperm := loopSl_perm (cs := cs) hanc
  have e2 : (cs.map fun c => (c, c)).map (·.2) = cs := by simp [List.map_map, Function.comp_def]
  refine dinv_add (K' := .arr (loopSl an cs sl) (sz + cs.length)) (new := cs.map fun c => (c, c)) I hp1 hfind
    (by simp only [mapArr_some hk, insK_of_anchor sz hanc])
    hblock hst hf hnodeok (e2.symm ▸ hlnk) (fun e he => ?_) (hk ▸ cont_arr sl sz)
    (by rw [List.length_map]; exact cont_arr _ _) hperm ?_ hwf' hac'
  · obtain ⟨c, hc', rfl⟩ := List.mem_map.mp he
    obtain ⟨nc, hnc, h1, _⟩ := hroots c hc'
    exact ⟨nc, hnc, h1⟩
  · rw [hk]
    have hp1' : ((loopSl an cs sl).map (·.1)).Perm (cs ++ sl.map (·.1)) := by
      simpa [List.map_append, List.map_map, Function.comp_def] using hperm.map (·.1)
    constructor
    · rw [hp1'.nodup_iff, List.nodup_append]
      exact ⟨hcsnd, (arr_ord I hp1 hk).1, fun a ha b hb e' => hnew a ha (e' ▸ hb)⟩
    · intro o ho
      rcases List.mem_append.mp (hp1'.mem_iff.mp ho) with h | h
      · obtain ⟨nc, hnc, h1, _⟩ := hroots o h
        exact block_st hblock hst o (h1 ▸ List.mem_map_of_mem hnc)
      · exact (arr_ord I hp1 hk).2 o h

theorem dinv_del1 {L : OpId} {d : Doc} (I : DInv L 0 d) {p tg t : Ts}
    (hok : EOK d (.del1 p tg t)) (hst : St L 0 t) (hwf' : (applyE d (.del1 p tg t)).WF)
    (hac' : ∃ rk, Ranked (applyE d (.del1 p tg t)) rk) : DInv L 0 (applyE d (.del1 p tg t)) := by
  have hfind := find_applyE I.wf _ hok
  obtain ⟨harr, htg⟩ := hok
  obtain ⟨pn, sl, sz, hp⟩ := isArr_iff.mp harr
  obtain ⟨hp1, hk⟩ := findArr_some_iff.mp hp
  obtain ⟨s, hs1, hs2, hs3⟩ := target_slot htg
  rw [slotsOf_of_findArr hp] at hs1 hs2
  simp only [effE, slotsOf_of_findArr hp, hs1] at hfind
  generalize applyE d (.del1 p tg t) = d' at hfind hwf' hac' ⊢
  have hc : Cont pn.kind sl sz := hk ▸ cont_arr sl sz
  have hshape : ∀ s', ShapeOK L 0 pn.kind (.arr sl s') := fun s' => by rw [hk]; exact arr_ord I hp1 hk
  by_cases h1 : d.isTomb s.2 = true
  · simp only [h1, Bool.not_true, Bool.false_eq_true, if_false] at hfind
    by_cases h2 : ((d.timeOf s.2).cmp t == .lt) = true
    · simp only [h2, if_true] at hfind
      exact dinv_tomb I hp1 hfind rfl hst hs2 hc (by rw [if_pos h1]; exact hc) (hk ▸ hshape sz) hwf' hac'
    · simp only [h2, Bool.false_eq_true, if_false, Eff.run, upd_id, U_nil] at hfind
      exact dinv_docEq (fun c => by rw [hfind]) hwf'.nodup I
  · simp only [h1, Bool.not_false, if_true] at hfind
    exact dinv_tomb I hp1 hfind (mapArr_some hk _) hst hs2 hc (by rw [if_neg h1]; exact cont_arr _ _) (hshape _) hwf' hac'

theorem dinv_upd1 {L : OpId} {d : Doc} (I : DInv L 0 d) {p tg t : Ts} {v : JVal}
    (hok : EOK d (.upd1 p tg t v)) (hst : St L 0 t) (hwf' : (applyE d (.upd1 p tg t v)).WF)
    (hac' : ∃ rk, Ranked (applyE d (.upd1 p tg t v)) rk) : DInv L 0 (applyE d (.upd1 p tg t v)) := by
  have hfind := find_applyE I.wf _ hok
  obtain ⟨harr, ⟨ns, c, t', hc⟩, hf, htg⟩ := hok
  have hroot := createNode_root hc
  subst hroot
  obtain ⟨pn, sl, sz, hp⟩ := isArr_iff.mp harr
  obtain ⟨hp1, hk⟩ := findArr_some_iff.mp hp
  have hn : nodesE (.upd1 p tg c v) = ns := by simp [nodesE, hc]
  rw [hn] at hf
  obtain ⟨s, hs1, hs2, hs3⟩ := target_slot htg
  rw [slotsOf_of_findArr hp] at hs1 hs2
  simp only [effE, slotsOf_of_findArr hp, hs1, hn] at hfind
  generalize applyE d (.upd1 p tg c v) = d' at hfind hwf' hac' ⊢
  obtain ⟨hblock, _, n0, rest, hns0, hn0c, _⟩ := createNode_spec p c v _ hc
  simp only at hblock hns0
  obtain ⟨hnodeok, hlnk⟩ := DP.createNode_spec2 p c v _ hc
  have hn0mem : n0 ∈ ns := hns0 ▸ List.mem_cons_self
  obtain ⟨hond, host⟩ := arr_ord I hp1 hk
  by_cases hw : (!d.isTomb s.2 && (d.timeOf s.2).cmp c == .lt) = true
  · simp only [hw, if_true] at hfind
    obtain ⟨A, B, e1, e2⟩ := DP.setSlotChild_split (c := c) hs2 hond
    rw [hs3] at e2
    have hlive : d.isTomb s.2 = false := by
      simp only [Bool.and_eq_true, Bool.not_eq_true'] at hw
      exact hw.1
    exact dinv_exchange (K' := .arr (setSlotChild tg c sl) sz) (x := s) (a := tg) I hp1 hfind (mapArr_some hk _) hblock hst hf hnodeok hlnk ⟨n0, hn0mem, hn0c⟩
      (e1 ▸ hk ▸ cont_arr sl sz) (by rw [hlive, ← e2]; exact cont_arr _ _)
      (by rw [hk]; exact ⟨by rw [setSlotChild_ids]; exact hond, by rw [setSlotChild_ids]; exact host⟩) hwf' hac'
  · simp only [hw, Bool.false_eq_true, if_false] at hfind
    have hsk : s.2 ∈ kids pn.kind := by rw [hk]; exact List.mem_map_of_mem hs2
    obtain ⟨nd2, hnd2, _⟩ := I.wf.child p pn hp1 s.2 hsk
    exact dinv_lose I hp1 hfind rfl hblock hst hf hnodeok hlnk (find_some_c hnd2 ▸ (I.stamps s.2 nd2 hnd2).1)
      (hn0c ▸ List.mem_map_of_mem hn0mem)
      (fun n hn hmem => root_unlinked I.wf hc hf n.c n (find_addAll_new (block_ids_nodup hblock) hn) hmem)
      (by rw [hk]; exact ⟨hond, host⟩) hwf' hac'

theorem dinv_applyE {L : OpId} {d : Doc} (I : DInv L 0 d) (hkeys : KeysND d) (a : EOp) (hok : EOK d a)
    (hst : St L 0 a.ts) (hv : EKeysND a) : DInv L 0 (applyE d a) ∧ KeysND (applyE d a) := by
  obtain ⟨_, _, r⟩ := rstep_applyE I.wf a hok
  have hf := find_applyE I.wf a hok
  have hwf' := wf_applyE I.wf a hok
  have hac' := let ⟨_, hr⟩ := I.acyc; r.ranked_next hf hr
  refine ⟨?_, r.keysND_next hf hkeys (effE_ns d a ▸ nodesKeysND_nodesE a hv) (rstep_arr_keys hok r)⟩
  cases a with
  | ins p an ts vs => exact dinv_ins I hok hst hwf' hac'
  | del1 p tg t => exact dinv_del1 I hok hst hwf' hac'
  | upd1 p tg t v => exact dinv_upd1 I hok hst hwf' hac'

/-! ## batches, mixed operations, the theorems -/

theorem dinv_applyAllE {L : OpId} : ∀ (l : List EOp) {d : Doc}, DInv L 0 d → KeysND d → GoodE d l →
    (∀ e ∈ l, St L 0 e.ts ∧ EKeysND e) → DInv L 0 (applyAllE d l) ∧ KeysND (applyAllE d l)
  | [], d, I, hk, _, _ => ⟨I, hk⟩
  | a :: l, d, I, hk, hg, hst => by
    have hok : EOK d a := hg.2.1 a (by simp)
    obtain ⟨I', hk'⟩ := dinv_applyE I hk a hok (hst a (by simp)).1 (hst a (by simp)).2
    exact dinv_applyAllE l I' hk' (goodE_step hg) (fun e he => hst e (List.mem_cons_of_mem _ he))

theorem jKeysND_of_mem : ∀ {vs : List JVal}, JKeysNDList vs → ∀ v ∈ vs, JKeysND v
  | _ :: _, h, v, hv => by
    simp only [JKeysNDList] at h
    exact (List.mem_cons.1 hv).elim (fun e => e ▸ h.1) (jKeysND_of_mem h.2 v)

theorem toDOp_ts {o : Op} {x : DOp} (h : toDOp o = some x) : dts x = o.id.ts := by
  unfold toDOp at h
  split at h <;> cases h <;> rfl

theorem dinv_applyD {L : OpId} {d : Doc} (I : DInv L 0 d) (hkeys : KeysND d) (x : DOp) (hok : GoodD d [x])
    (hst : St L 0 (dts x)) (hv : ValuesOK x) : DInv L 0 (applyD d x) ∧ KeysND (applyD d x) := by
  cases x with
  | o x =>
    obtain ⟨_, hop⟩ := goodD_obj hok
    have hk : OpKeysND x := by
      cases x with
      | put p k v ts => exact hv.2
      | del p k ts => trivial
    exact dinv_applyOp I hkeys x hop hst hk
  | a x =>
    obtain ⟨hg, hb⟩ := goodD_arr hok
    have hflat : ∀ e ∈ flat x, St L 0 e.ts ∧ EKeysND e := by
      cases x with
      | ins p a ts vs =>
        intro e he
        simp only [flat, List.mem_singleton] at he
        subst he
        exact ⟨hst, hv.2⟩
      | del p tgs ts =>
        intro e he
        obtain ⟨_, _, _, ha, rfl⟩ := mem_flatDel he
        exact ⟨st_key hst ha.1 ha.2.1, trivial⟩
      | upd p ts tgs vs =>
        intro e he
        obtain ⟨_, v, _, _, hv', ha, rfl⟩ := mem_flatUpd he
        exact ⟨st_key hst ha.1 ha.2.1, jKeysND_of_mem hv.2 v hv'⟩
    have heq : DocEq (applyA d x) (applyAllE d (flat x)) := applyA_flat (rest := []) (by simpa using hg) hb
    obtain ⟨I', hk'⟩ := dinv_applyAllE (flat x) I hkeys hg hflat
    exact ⟨dinv_docEq (docEq_symm heq) (nodup_applyA I.wf.nodup x) I', keysND_docEq (docEq_symm heq) hk'⟩

/-- A delivery keeps the document invariant as soon as it acts as `applyD d x` and `applyD d x` keeps `DInv` under the
    synchronised clock; how the two are obtained (from `GoodD`, or from less) is left to the caller. -/
theorem docInv_of_applyD (r : Replica) (d : Doc) (hs : r.state = .doc d) (h : DP.DocInv r) (o : Op) (x : DOp)
    (hx : toDOp o = some x) (hera : o.id.era = r.opId.era)
    (hex : (r.execRemoteBase o).1.state = .doc (applyD d x))
    (hinv : ∀ {L : OpId}, DInv L 0 d → KeysND d → St L 0 (dts x) → DInv L 0 (applyD d x) ∧ KeysND (applyD d x)) :
    DP.DocInv (r.execRemoteBase o).1 := by
  obtain ⟨I, hkeys⟩ := h.of_state hs
  obtain ⟨I', hk'⟩ := hinv (dinv_sync o.id.lamport I) hkeys (toDOp_ts hx ▸ st_sync_new r.opId o.id hera)
  exact ⟨applyD d x, hex, execRemoteBase_opId r o ▸ I', hk'⟩

/-- C19 / C03 for deliveries: a remote operation that is applicable (GoodD: parent present, targets/anchor present,
    fresh identifiers — what causal delivery from well-formed replicas guarantees), of the replica's era, carrying
    values without null and without duplicate keys, keeps the document invariant -/
theorem docInv_remote (r : Replica) (d : Doc) (hs : r.state = .doc d) (h : DP.DocInv r) (o : Op) (x : DOp)
    (hx : toDOp o = some x) (hok : GoodD d [x]) (hera : o.id.era = r.opId.era) (hv : ValuesOK x) :
    DP.DocInv (r.execRemoteBase o).1 :=
  docInv_of_applyD r d hs h o x hx hera (execRemoteBase_is_applyD r d hs o x hx hok).1
    fun I hkeys hst => dinv_applyD I hkeys x hok hst hv

/-- one step of a replica's life: a public call, or the delivery of an applicable remote operation -/
inductive LifeStep : Replica → Replica → Prop
  | call (r : Replica) (c : Call) (hk : DP.CallKeysND c) : LifeStep r (r.call c).1
  | deliver (r : Replica) (d : Doc) (hs : r.state = .doc d) (o : Op) (x : DOp) (hx : toDOp o = some x) (hok : GoodD d [x])
      (hera : o.id.era = r.opId.era) (hv : ValuesOK x) : LifeStep r (r.execRemoteBase o).1

inductive Life (cuid : String) (create : Bool) : Replica → Prop
  | new : Life cuid create (Replica.new .document cuid create)
  | step {r r'} : Life cuid create r → LifeStep r r' → Life cuid create r'

theorem docInv_life (cuid : String) (create : Bool) (r : Replica) (h : Life cuid create r) : DP.DocInv r := by
  induction h with
  | new => exact DP.docInv_new cuid create
  | step hl hs ih =>
    cases hs with
    | call c hk => exact DP.docInv_call _ c hk ih
    | deliver d hs o x hx hok hera hv => exact docInv_remote _ d hs ih o x hx hok hera hv

theorem life_call_refines (cuid : String) (create : Bool) (r : Replica) (h : Life cuid create r) (d : Doc) (hs : r.state = .doc d)
    (π : List PlainDoc.Seg) (hd : Ts) (hloc : d.locate π Ts.oldest = some hd) (c : Call) (hc : PlainDoc.handleOf c = some hd)
    (hk : DP.CallKeysND c) :
    ∃ d', (r.call c).1.state = .doc d' ∧ d'.view.canon = (PlainDoc.step d.view.canon π c).1 ∧
      PlainDoc.outCanon (r.call c).2 = (PlainDoc.step d.view.canon π c).2 :=
  DP.doc_call_refines r d hs (docInv_life cuid create r h) π hd hloc c hc hk

/-! ## non-vacuity -/

theorem goodE_single_noins {d : Doc} (hwf : d.WF) {e : EOp} (h : EOK d e) (hi : ∀ p, insOnE p e = none) : GoodE d [e] := by
  refine ⟨hwf, ?_, by simp, ?_⟩
  · intro e' he'
    have : e' = e := by simpa using he'
    exact this ▸ h
  · intro p ⟨e', he', hi'⟩
    have : e' = e := by simpa using he'
    rw [this, hi p] at hi'
    cases hi'

theorem wf_of_life {cuid : String} {create : Bool} {r : Replica} {d : Doc} (h : Life cuid create r)
    (hs : r.state = .doc d) : d.WF :=
  ((docInv_life cuid create r h).of_state hs).1.wf

namespace Ex
def docOf (r : Replica) : Doc := match r.state with | .doc d => d | _ => Doc.empty

theorem state_of_life {cuid : String} {create : Bool} {r : Replica} (h : Life cuid create r) :
    r.state = .doc (docOf r) := by
  obtain ⟨d, hs, _⟩ := docInv_life cuid create r h
  unfold docOf
  rw [hs]

def r0 : Replica := Replica.new .document "c" true
def c1 : Call := .dput Ts.oldest "a" (.arr [.num 1, .obj [("x", .num 5)]])
def c2 : Call := .dput Ts.oldest "k" (.num 7)
def r1 : Replica := (r0.call c1).1
def r2 : Replica := (r1.call c2).1
def arrId : Ts := ⟨0, 2, "c", 0⟩
def s1 : Ts := ⟨0, 2, "c", 1⟩
/-- from client "b", CONCURRENT to the two local calls (clock 1 < 3): a put on the key "k", which loses -/
def o1 : Op := ⟨⟨0, 1, "b", 1⟩, .docPut Ts.oldest "k" (.obj [("q", .arr [.num 3])])⟩
def x1 : DOp := .o (.put Ts.oldest "k" (.obj [("q", .arr [.num 3])]) ⟨0, 1, "b", 0⟩)
def r3 : Replica := (r2.execRemoteBase o1).1
/-- from client "b", later: an update of the first slot of the array -/
def o2 : Op := ⟨⟨0, 9, "b", 2⟩, .docUpdate arrId 0 [s1] [.str "w"]⟩
def x2 : DOp := .a (.upd arrId ⟨0, 9, "b", 0⟩ [s1] [.str "w"])
def r4 : Replica := (r3.execRemoteBase o2).1
def c3 : Call := .dinsert arrId 1 [.obj [("y", .num 2)]]
def r5 : Replica := (r4.call c3).1

theorem life2 : Life "c" true r2 :=
  .step (.step .new (.call _ c1 (by simp [c1, DP.CallKeysND, JKeysND, JKeysNDList, JKeysNDKvs])))
    (.call _ c2 (by simp [c2, DP.CallKeysND, JKeysND]))

theorem s2 : r2.state = .doc (docOf r2) := state_of_life life2

theorem concurrent : o1.id.lamport < r2.opId.lamport := by decide +kernel

theorem good1 : GoodD (docOf r2) [x1] :=
  goodD_single_obj (wf_of_life life2 s2) ⟨⟨_, _, _, rfl, rfl⟩, ⟨_, _, _, rfl⟩, DC.Ex.fresh_of_all (by decide +kernel)⟩

theorem life3 : Life "c" true r3 :=
  .step life2 (.deliver r2 (docOf r2) s2 o1 x1 rfl good1 rfl
    ⟨by simp [JVal.hasNull, JVal.hasNullKvs, JVal.hasNullList], by simp [JKeysND, JKeysNDList, JKeysNDKvs]⟩)

theorem s3 : r3.state = .doc (docOf r3) := state_of_life life3

theorem good2 : GoodD (docOf r3) [x2] :=
  goodD_single_arr (wf_of_life life3 s3)
    (goodE_single_noins (wf_of_life life3 s3) (eok_of_B (by decide +kernel)) (fun p => rfl)) (by decide)

theorem life4 : Life "c" true r4 :=
  .step life3 (.deliver r3 (docOf r3) s3 o2 x2 rfl good2 rfl
    ⟨by simp [JVal.hasNull, JVal.hasNullList], by simp [JKeysND, JKeysNDList]⟩)

theorem life5 : Life "c" true r5 :=
  .step life4 (.call _ c3 (by simp [c3, DP.CallKeysND, JKeysND, JKeysNDList, JKeysNDKvs]))

example : DP.DocInv r5 := docInv_life _ _ _ life5

/-- what the replica shows in the end: the concurrent put lost against the local one, the update replaced the
    first element, the local insert went in between -/
example : ((docOf r5).view ==
    .obj [("a", .arr [.str "w", .obj [("y", .num 2)], .obj [("x", .num 5)]]), ("k", .num 7)]) = true := by decide +kernel

/-- the handle of the inner object `{"x": 5}`, located below the array after the deliveries -/
def hd : Ts := ⟨0, 2, "c", 2⟩

theorem s4 : r4.state = .doc (docOf r4) := state_of_life life4

theorem hd_located : (docOf r4).locate [.key "a", .idx 1] Ts.oldest = some hd := by decide +kernel

/-- `life_call_refines` instantiated in a state shaped by deliveries -/
example : ∃ d', (r4.call (.dput hd "z" (.bool true))).1.state = .doc d' ∧
    d'.view.canon = (PlainDoc.step (docOf r4).view.canon [.key "a", .idx 1] (.dput hd "z" (.bool true))).1 ∧
    PlainDoc.outCanon (r4.call (.dput hd "z" (.bool true))).2 =
      (PlainDoc.step (docOf r4).view.canon [.key "a", .idx 1] (.dput hd "z" (.bool true))).2 :=
  life_call_refines "c" true r4 life4 (docOf r4) s4 [.key "a", .idx 1] hd hd_located (.dput hd "z" (.bool true)) rfl
    (by simp [DP.CallKeysND, JKeysND])

end Ex

end Orda.DR
