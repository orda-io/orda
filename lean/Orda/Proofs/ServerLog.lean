/-
C06 / C16 on the server model (Model/Server): the log of every datatype is a gapless total order
1..End (`LogInv`), preserved by every request; a push-pull only appends; refusals leave the store
untouched; every pack is answered.

The `sameDuid` guard of `processPack` makes a request be served only on the datatype its id names.  `LogInv`
is not preserved without it: a create-only pack of an already subscribed client (or any create/subscribe pack
on an invisible document) that carries another duid is then served as `.normal` on the key-found document
while it pushes and pulls under the pack's duid, which orphans operations and can move a datatype's end of
log backwards.

`SL` names the stages of `processPack` (`processPack_eq`, by `rfl`).  `processPack_cases` is the case principle
the theorems about one pack are read off (what a result implies; `processPack_shape` is its corollary as a disjunction,
with `Served` in place of `OkFacts`); `Path` is its forward twin (which lookups lead to which served path), on the same
decision `DB.modelDecision` that Proofs/DispatchBridge ties to the source.
-/
import Orda.Model.Server
import Orda.Proofs.Assoc
namespace Orda

/-- operations stored for a datatype id, in store order -/
def Store.opsOf (st : Store) (duid : String) : List OpDoc := st.operations.filter (fun o => o.duid = duid)

/-- C06: the server log of every datatype is a gapless total order 1..End, ids are unique, no
    operation is orphaned, operations carry their datatype's collection number, and no recorded
    checkpoint exceeds what is stored -/
structure LogInv (st : Store) : Prop where
  duidNodup : (st.datatypes.map (·.duid)).Nodup
  gapless : ∀ d ∈ st.datatypes, (st.opsOf d.duid).map (·.sseq) = List.range' 1 d.sseqEnd
  noOrphan : ∀ o ∈ st.operations, ∃ d ∈ st.datatypes, d.duid = o.duid
  sameCol : ∀ o ∈ st.operations, ∀ d ∈ st.datatypes, d.duid = o.duid → o.colNum = d.colNum
  cpBound : ∀ d ∈ st.datatypes, (∀ e ∈ d.rw, e.2.cp.sseq ≤ d.sseqEnd) ∧ (∀ e ∈ d.ro, e.2.cp.sseq ≤ d.sseqEnd)

def DuidUnique (st : Store) : Prop := (st.datatypes.map (·.duid)).Nodup

/-! ## The stages of `processPack` -/
namespace SL

/-- the response skeleton -/
def resp0 (p : Pack) : Pack :=
  { p with create := false, subscribe := false, unsubscribe := false, delete := false,
           snapshot := false, error := false, readOnly := false, ops := [] }

def refuseR (st : Store) (p : Pack) (code : Nat) : PPResult := ⟨st, errorPack (resp0 p) code, none, 0⟩

def sameDuid (p : Pack) (doc? : Option DatatypeDoc) : Bool :=
  match doc? with | some d => d.duid = p.duid | none => true

/-- the final dispatch decision of `processPack`: `DB.modelDecision` on what `evalCase` finds (`dsp_of_evalCase`, by `rfl`);
    `processPack_eq` unfolds to this text, the decision table and Proofs/DispatchBridge are stated on `DB.modelDecision` -/
def dsp (st : Store) (cl : ClientDoc) (col : CollectionDoc) (p : Pack) : Dispatch :=
  let ec := evalCase st col cl.cuid p
  let d0 := dispatch ec.1 p.create p.subscribe (sameDuid p ec.2)
  let d1 := if d0 ≠ .create && ec.2.isNone then (match d0 with | .refuse x => .refuse x | _ => .refuse 301) else d0
  if d1 = .normal && !(sameDuid p ec.2) then (if p.create then .refuse 302 else .refuse 301) else d1

def docOf (col : CollectionDoc) (p : Pack) (d : Dispatch) (doc? : Option DatatypeDoc) : DatatypeDoc :=
  match d, doc? with
  | .create, _ => { duid := p.duid, key := p.key, colNum := col.num, typ := p.typ }
  | _, some x => x
  | _, none => { duid := p.duid, key := p.key, colNum := col.num, typ := p.typ }

def opDuid (p : Pack) (d : Dispatch) (doc : DatatypeDoc) : String := if d = .subscribe then doc.duid else p.duid

/-- the operations a path pushes (`inOps` of `processPack`, written out in `pushRes`): a subscription pushes nothing -/
def inOps (p : Pack) (d : Dispatch) : List Op := if d = .subscribe then [] else p.ops

theorem inOps_subscribe (p : Pack) : inOps p .subscribe = [] := rfl
theorem inOps_of_ne (p : Pack) {d : Dispatch} (h : d ≠ .subscribe) : inOps p d = p.ops := if_neg h

def resp1 (p : Pack) (d : Dispatch) (doc : DatatypeDoc) : Pack :=
  { resp0 p with duid := (if d = .subscribe then doc.duid else (resp0 p).duid),
                 create := d = .create, subscribe := d = .subscribe }

def cp0 (cl : ClientDoc) (p : Pack) (doc : DatatypeDoc) : CheckPoint :=
  match doc.sub cl.cuid p.readOnly with | some s => s.cp | none => ⟨0, 0⟩

def cp1 (cl : ClientDoc) (p : Pack) (doc : DatatypeDoc) : CheckPoint :=
  if p.readOnly then cp0 cl p doc else ⟨doc.sseqEnd, (cp0 cl p doc).cseq⟩

def pushRes (cl : ClientDoc) (col : CollectionDoc) (p : Pack) (d : Dispatch) (doc : DatatypeDoc) :
    Except Nat (CheckPoint × List OpDoc) :=
  if p.readOnly then Except.ok (cp1 cl p doc, [])
  else pushOps (opDuid p d doc) col.num (cp1 cl p doc) (if d = .subscribe then [] else p.ops) []

def pulled (st : Store) (cl : ClientDoc) (p : Pack) (d : Dispatch) (doc : DatatypeDoc) : List OpDoc :=
  if cl.typ = 2 then []
  else if doc.sseqBegin ≤ p.cp.sseq + 1 && !p.snapshot then st.getOperations (opDuid p d doc) (p.cp.sseq + 1) else []

def cp3 (st : Store) (cl : ClientDoc) (p : Pack) (d : Dispatch) (doc : DatatypeDoc)
    (cp2 : CheckPoint) (newDocs : List OpDoc) : CheckPoint :=
  match (pulled st cl p d doc).getLast? with
  | some last => ⟨last.sseq + newDocs.length, cp2.cseq⟩
  | none => cp2

def doc2 (st : Store) (cl : ClientDoc) (p : Pack) (d : Dispatch) (doc : DatatypeDoc)
    (cp2 : CheckPoint) (newDocs : List OpDoc) : DatatypeDoc :=
  let c3 := cp3 st cl p d doc cp2 newDocs
  let doc' := { doc with sseqEnd := if p.readOnly then doc.sseqEnd else c3.sseq }
  if cl.typ = 2 then doc' else doc'.setSub cl.cuid p.readOnly ⟨c3, cl.typ⟩

def okR (st : Store) (cl : ClientDoc) (col : CollectionDoc) (p : Pack) (d : Dispatch) (doc : DatatypeDoc)
    (cp2 : CheckPoint) (newDocs : List OpDoc) : PPResult :=
  ⟨{ st with operations := st.operations ++ newDocs,
             datatypes := upsertDatatype (doc2 st cl p d doc cp2 newDocs) st.datatypes },
   { resp1 p d doc with cp := cp3 st cl p d doc cp2 newDocs, ops := (pulled st cl p d doc).map (·.op) },
   if newDocs.isEmpty then none
   else some ⟨col.name ++ "/" ++ doc.key, cl.cuid, doc.duid, (cp3 st cl p d doc cp2 newDocs).sseq⟩,
   newDocs.length⟩

def pushErrR (st : Store) (p : Pack) (d : Dispatch) (doc : DatatypeDoc) (code : Nat) : PPResult :=
  ⟨st, { errorPack (resp0 p) code with create := (resp1 p d doc).create, subscribe := (resp1 p d doc).subscribe,
                                        duid := (resp1 p d doc).duid }, none, 0⟩

def finish (st : Store) (cl : ClientDoc) (col : CollectionDoc) (p : Pack) (d : Dispatch) (doc : DatatypeDoc) :
    PPResult :=
  match pushRes cl col p d doc with
  | .error code => pushErrR st p d doc code
  | .ok (cp2, newDocs) => okR st cl col p d doc cp2 newDocs

theorem processPack_eq (st : Store) (cl : ClientDoc) (col : CollectionDoc) (p : Pack) :
    processPack st cl col p =
      if p.readOnly && p.create then refuseR st p 301
      else if p.readOnly && !p.ops.isEmpty then refuseR st p 301
      else match dsp st cl col p with
        | .refuse code => refuseR st p code
        | d => finish st cl col p d (docOf col p d (evalCase st col cl.cuid p).2) := by
  rfl

theorem processPack_eq_finish {st : Store} {cl : ClientDoc} {col : CollectionDoc} {p : Pack} {d : Dispatch}
    (hro : p.readOnly = false) (hd : dsp st cl col p = d) (hnr : ∀ c, d ≠ .refuse c) :
    processPack st cl col p = finish st cl col p d (docOf col p d (evalCase st col cl.cuid p).2) := by
  rw [processPack_eq, hro, hd]
  cases d with
  | refuse c => exact absurd rfl (hnr c)
  | _ => rfl

section okR
variable (st : Store) (cl : ClientDoc) (col : CollectionDoc) (p : Pack) (d : Dispatch) (doc : DatatypeDoc)
  (cp2 : CheckPoint) (nd : List OpDoc)

theorem okR_store : (okR st cl col p d doc cp2 nd).store =
    { st with operations := st.operations ++ nd, datatypes := upsertDatatype (doc2 st cl p d doc cp2 nd) st.datatypes } := rfl
theorem okR_resp : (okR st cl col p d doc cp2 nd).resp =
    { resp1 p d doc with cp := cp3 st cl p d doc cp2 nd, ops := (pulled st cl p d doc).map (·.op) } := rfl
theorem okR_notif : (okR st cl col p d doc cp2 nd).notif =
    if nd.isEmpty then none
    else some ⟨col.name ++ "/" ++ doc.key, cl.cuid, doc.duid, (cp3 st cl p d doc cp2 nd).sseq⟩ := rfl
theorem okR_pushed : (okR st cl col p d doc cp2 nd).pushed = nd.length := rfl

end okR

/-! ### lookups, `evalCase`, the dispatch decision -/

theorem getDatatype_some {st : Store} {duid : String} {x : DatatypeDoc} (h : st.getDatatype duid = some x) :
    x ∈ st.datatypes ∧ x.duid = duid :=
  ⟨List.mem_of_find?_eq_some h, of_decide_eq_true (List.find?_some h :)⟩

theorem getDatatype_none {st : Store} {duid : String} (h : st.getDatatype duid = none) :
    ∀ y ∈ st.datatypes, y.duid ≠ duid :=
  fun y hy => of_decide_eq_false (Bool.eq_false_iff.2 (List.find?_eq_none.1 h y hy))

theorem getDatatypeByKey_some {st : Store} {n : Nat} {key : String} {x : DatatypeDoc}
    (h : st.getDatatypeByKey n key = some x) : x ∈ st.datatypes ∧ x.colNum = n ∧ x.key = key :=
  ⟨List.mem_of_find?_eq_some h, of_decide_eq_true (List.find?_some h :)⟩

theorem getDatatypeByKey_none {st : Store} {n : Nat} {key : String} (h : st.getDatatypeByKey n key = none) :
    ∀ x ∈ st.datatypes, x.colNum = n → x.key ≠ key :=
  fun x hx hn hk => of_decide_eq_false (Bool.eq_false_iff.2 (List.find?_eq_none.1 h x hx)) ⟨hn, hk⟩

theorem evalCase_byKey {st : Store} {col : CollectionDoc} {cuid : String} {p : Pack} {d : DatatypeDoc}
    (hb : (p.create || p.subscribe) = true) (hk : st.getDatatypeByKey col.num p.key = some d) :
    evalCase st col cuid p =
      (if d.typ = p.typ then
        if d.visible then
          (if (d.sub cuid p.readOnly).isSome then (.allMatchedSubscribed, some d) else (.allMatchedNotSubscribed, some d))
        else (.allMatchedNotVisible, some d)
      else (.matchKeyNotType, some d)) := by
  unfold evalCase; simp only [hb, if_true, hk]

theorem evalCase_byId {st : Store} {col : CollectionDoc} {cuid : String} {p : Pack}
    (h : (p.create || p.subscribe) = true → st.getDatatypeByKey col.num p.key = none) :
    evalCase st col cuid p =
      match st.getDatatype p.duid with
      | none => (.matchNothing, none)
      | some d => if d.colNum = col.num ∧ d.key = p.key then (.usedDUID, some d) else (.usedDUID, none) := by
  unfold evalCase
  cases hb : (p.create || p.subscribe) with
  | false => rfl
  | true => simp only [if_true, h hb]; rfl

theorem evalCase_cases (st : Store) (col : CollectionDoc) (cuid : String) (p : Pack) :
    (st.getDatatype p.duid = none ∧ ((p.create || p.subscribe) = true → st.getDatatypeByKey col.num p.key = none) ∧
      evalCase st col cuid p = (.matchNothing, none)) ∨
    (∃ d, st.getDatatype p.duid = some d ∧ d.colNum = col.num ∧ d.key = p.key ∧
      evalCase st col cuid p = (.usedDUID, some d)) ∨
    (evalCase st col cuid p = (.usedDUID, none)) ∨
    (∃ d, (p.create || p.subscribe) = true ∧ st.getDatatypeByKey col.num p.key = some d ∧
      (evalCase st col cuid p).1 ≠ .matchNothing ∧ (evalCase st col cuid p).2 = some d) := by
  by_cases hk : (p.create || p.subscribe) = true → st.getDatatypeByKey col.num p.key = none
  · rw [evalCase_byId hk]
    cases hg : st.getDatatype p.duid with
    | none => exact .inl ⟨rfl, hk, rfl⟩
    | some d =>
      by_cases hc : d.colNum = col.num ∧ d.key = p.key
      · exact .inr (.inl ⟨d, rfl, hc.1, hc.2, if_pos hc⟩)
      · exact .inr (.inr (.inl (if_neg hc)))
  · obtain ⟨hb, hk⟩ := Classical.not_imp.1 hk
    obtain ⟨d, hk⟩ := Option.ne_none_iff_exists'.1 hk
    rw [evalCase_byKey hb hk]
    refine .inr (.inr (.inr ⟨d, hb, hk, ?_⟩))
    split
    · split
      · split <;> exact ⟨nofun, rfl⟩
      · exact ⟨nofun, rfl⟩
    · exact ⟨nofun, rfl⟩

theorem evalCase_some {st : Store} {col : CollectionDoc} {cuid : String} {p : Pack} {x : DatatypeDoc}
    (h : (evalCase st col cuid p).2 = some x) :
    x ∈ st.datatypes ∧ x.colNum = col.num ∧ x.key = p.key ∧
    (((p.create || p.subscribe) = true ∧ st.getDatatypeByKey col.num p.key = some x) ∨
     (st.getDatatype p.duid = some x ∧ x.duid = p.duid)) := by
  rcases evalCase_cases st col cuid p with ⟨_, _, h1⟩ | ⟨d, hg, hc, hk, h1⟩ | h1 | ⟨d, hb, hk, _, h1⟩ <;> rw [h1] at h
  · cases h
  · cases h; exact ⟨(getDatatype_some hg).1, hc, hk, .inr ⟨hg, (getDatatype_some hg).2⟩⟩
  · cases h
  · cases h
    obtain ⟨hm, hcol, hkey⟩ := getDatatypeByKey_some hk
    exact ⟨hm, hcol, hkey, .inl ⟨hb, hk⟩⟩

theorem evalCase_matchNothing {st : Store} {col : CollectionDoc} {cuid : String} {p : Pack}
    (h : (evalCase st col cuid p).1 = .matchNothing) :
    st.getDatatype p.duid = none ∧ ((p.create || p.subscribe) = true → st.getDatatypeByKey col.num p.key = none) := by
  rcases evalCase_cases st col cuid p with ⟨h0, hk, _⟩ | ⟨_, _, _, _, h1⟩ | h1 | ⟨_, _, _, hc, _⟩
  · exact ⟨h0, hk⟩
  · rw [h1] at h; cases h
  · rw [h1] at h; cases h
  · exact absurd h hc

end SL
namespace DB
/-- the model's decision for one request: `dispatch` followed by the two guards of `processPack`, as a function of the five
    things it reads (`SL.dsp` is it on the result of `evalCase`); in `DB`, where Proofs/DispatchBridge compares it with the source -/
def modelDecision (c : PPCase) (create subscribe sameDuid docNil : Bool) : Dispatch :=
  let d0 := dispatch c create subscribe sameDuid
  let d1 := if d0 ≠ .create && docNil then (match d0 with | .refuse x => .refuse x | _ => .refuse 301) else d0
  if d1 = .normal && !sameDuid then (if create then .refuse 302 else .refuse 301) else d1
end DB
namespace SL

theorem dsp_of_evalCase {st : Store} {cl : ClientDoc} {col : CollectionDoc} {p : Pack} {c : PPCase}
    {doc? : Option DatatypeDoc} (h : evalCase st col cl.cuid p = (c, doc?)) :
    dsp st cl col p = DB.modelDecision c p.create p.subscribe (sameDuid p doc?) doc?.isNone := by
  unfold dsp; rw [h]; rfl

/-- what each decision promises about the lookups (the right-hand sides of `dsp_cases`): `.create` only for a create pack that
    matched nothing, `.subscribe` only on a document that was found, `.normal` only on a found document of the pack's id -/
def decisionOk (c : PPCase) (create subscribe same noDoc : Bool) : Bool :=
  match DB.modelDecision c create subscribe same noDoc with
  | .refuse _ => true
  | .create => create && c == .matchNothing
  | .subscribe => !noDoc
  | .normal => !noDoc && same

/-- the decision table, all 6 × 2⁴ rows -/
theorem decisionOk_all (c : PPCase) : ∀ create subscribe same noDoc, decisionOk c create subscribe same noDoc = true := by
  cases c <;> decide +kernel

theorem dsp_cases (st : Store) (cl : ClientDoc) (col : CollectionDoc) (p : Pack) :
    (∃ code, dsp st cl col p = .refuse code) ∨
    (dsp st cl col p = .create ∧ p.create = true ∧ (evalCase st col cl.cuid p).1 = .matchNothing) ∨
    (dsp st cl col p = .subscribe ∧ ∃ x, (evalCase st col cl.cuid p).2 = some x) ∨
    (dsp st cl col p = .normal ∧ ∃ x, (evalCase st col cl.cuid p).2 = some x ∧ x.duid = p.duid) := by
  -- the row of the table for this request (`dsp` unfolds to the scrutinee of `decisionOk`)
  have h : (match dsp st cl col p with
      | .refuse _ => true
      | .create => p.create && (evalCase st col cl.cuid p).1 == .matchNothing
      | .subscribe => !(evalCase st col cl.cuid p).2.isNone
      | .normal => !(evalCase st col cl.cuid p).2.isNone && sameDuid p (evalCase st col cl.cuid p).2) = true :=
    decisionOk_all _ _ _ _ _
  cases hd : dsp st cl col p with
  | refuse code => exact .inl ⟨code, rfl⟩
  | create =>
    rw [hd] at h
    simp only [Bool.and_eq_true, beq_iff_eq] at h
    exact .inr (.inl ⟨rfl, h.1, h.2⟩)
  | subscribe =>
    rw [hd] at h
    cases hx : (evalCase st col cl.cuid p).2 with
    | none => rw [hx] at h; cases h
    | some x => exact .inr (.inr (.inl ⟨rfl, x, rfl⟩))
  | normal =>
    rw [hd] at h
    cases hx : (evalCase st col cl.cuid p).2 with
    | none => rw [hx] at h; cases h
    | some x =>
      rw [hx] at h
      exact .inr (.inr (.inr ⟨rfl, x, rfl, of_decide_eq_true h⟩))

theorem dsp_refuse {st : Store} {cl : ClientDoc} {col : CollectionDoc} {p : Pack} {code : Nat}
    (h : dispatch (evalCase st col cl.cuid p).1 p.create p.subscribe (sameDuid p (evalCase st col cl.cuid p).2)
      = .refuse code) : dsp st cl col p = .refuse code := by
  unfold dsp
  simp only [h]
  cases (evalCase st col cl.cuid p).2.isNone <;> rfl

/-- facts about the document a served (not refused) request works on; `src`: it is new (no stored document has its id, its
    log is empty, nobody is recorded) or it is a stored one -/
structure Served (st : Store) (col : CollectionDoc) (p : Pack) (d : Dispatch) (doc : DatatypeDoc) : Prop where
  duid : opDuid p d doc = doc.duid
  colNum : doc.colNum = col.num
  src : ((∀ y ∈ st.datatypes, y.duid ≠ doc.duid) ∧ doc.sseqEnd = 0 ∧ doc.rw = [] ∧ doc.ro = []) ∨ doc ∈ st.datatypes

structure OkFacts (st : Store) (col : CollectionDoc) (p : Pack) (d : Dispatch) (doc : DatatypeDoc) : Prop where
  served : Served st col p d doc
  key : doc.key = p.key
  /-- a new document takes a key that no document of the collection has (what keeps keys unique) -/
  freshKey : (∀ y ∈ st.datatypes, y.duid ≠ doc.duid) → ∀ y ∈ st.datatypes, y.colNum = col.num → y.key ≠ p.key
  rduid : (resp1 p d doc).duid = doc.duid

theorem okFacts_of_dsp {st : Store} {cl : ClientDoc} {col : CollectionDoc} {p : Pack} {d : Dispatch}
    (hd : dsp st cl col p = d) (hnr : ∀ c, d ≠ .refuse c) :
    OkFacts st col p d (docOf col p d (evalCase st col cl.cuid p).2) := by
  subst hd
  rcases dsp_cases st cl col p with ⟨c, h⟩ | ⟨h, hc, hm⟩ | ⟨h, x, hx⟩ | ⟨h, x, hx, hxd⟩
  · exact absurd h (hnr c)
  · rw [h]
    obtain ⟨hid, hkey⟩ := evalCase_matchNothing hm
    exact ⟨⟨rfl, rfl, .inl ⟨getDatatype_none hid, rfl, rfl, rfl⟩⟩, rfl,
      fun _ => getDatatypeByKey_none (hkey (by rw [hc]; rfl)), rfl⟩
  · rw [h, hx]
    obtain ⟨hm, hcol, hkey, _⟩ := evalCase_some hx
    exact ⟨⟨rfl, hcol, .inr hm⟩, hkey, fun hid => absurd rfl (hid x hm), rfl⟩
  · rw [h, hx]
    obtain ⟨hm, hcol, hkey, _⟩ := evalCase_some hx
    exact ⟨⟨hxd.symm, hcol, .inr hm⟩, hkey, fun hid => absurd rfl (hid x hm), hxd.symm⟩

/-! ### which path a pack takes

`dsp_cases` reads the decision backwards (what a decision implies about the lookups); `Path` reads it forwards: what the
lookup by key and the lookup by id find decides how a pack is handled. -/

/-- The rows that the refinement and the REST endpoint go down.  They are not all served rows: a create or subscribe pack whose
    key finds an INVISIBLE document of the pack's type and id is served `.normal` too (`evalCase` gives `.allMatchedNotVisible`),
    and no row covers it. -/
inductive Path (st : Store) (cl : ClientDoc) (col : CollectionDoc) (p : Pack) : Dispatch → DatatypeDoc → Prop
  /-- the ordinary push-pull: no option bit, the id names a document of the collection under the pack's key -/
  | byId {d : DatatypeDoc} : p.create = false → p.subscribe = false → st.getDatatype p.duid = some d →
      d.colNum = col.num → d.key = p.key → Path st cl col p .normal d
  /-- the first request on a key: a create (or subscribe-or-create) pack, neither key nor id in use -/
  | create : p.create = true → st.getDatatypeByKey col.num p.key = none → st.getDatatype p.duid = none →
      Path st cl col p .create { duid := p.duid, key := p.key, colNum := col.num, typ := p.typ }
  /-- a create or subscribe pack sent AGAIN by a recorded client under the stored id: served as an ordinary push-pull -/
  | again {d : DatatypeDoc} : (p.create || p.subscribe) = true → st.getDatatypeByKey col.num p.key = some d →
      d.typ = p.typ → d.visible = true → (d.sub cl.cuid p.readOnly).isSome = true → d.duid = p.duid →
      Path st cl col p .normal d
  /-- a subscription: the key finds a visible document of the type, and the client is not recorded or carries another id -/
  | subscribe {d : DatatypeDoc} : p.subscribe = true → st.getDatatypeByKey col.num p.key = some d →
      d.typ = p.typ → d.visible = true → ((d.sub cl.cuid p.readOnly).isSome = false ∨ d.duid ≠ p.duid) →
      Path st cl col p .subscribe d

theorem Path.dsp_eq {st : Store} {cl : ClientDoc} {col : CollectionDoc} {p : Pack} {dd : Dispatch} {doc : DatatypeDoc}
    (h : Path st cl col p dd doc) :
    dsp st cl col p = dd ∧ docOf col p dd (evalCase st col cl.cuid p).2 = doc := by
  cases h with
  | byId hc hs hg hcol hkey =>
    have hev : evalCase st col cl.cuid p = (.usedDUID, some doc) := by
      rw [evalCase_byId (fun hb => by rw [hc, hs] at hb; cases hb), hg]; exact if_pos ⟨hcol, hkey⟩
    rw [dsp_of_evalCase hev, hev, hc, hs, show sameDuid p (some doc) = true from decide_eq_true (getDatatype_some hg).2]
    exact ⟨rfl, rfl⟩
  | create hc hk hg =>
    have hev : evalCase st col cl.cuid p = (.matchNothing, none) := by rw [evalCase_byId (fun _ => hk), hg]
    have e : ∀ s, DB.modelDecision .matchNothing true s true true = .create := by decide
    rw [dsp_of_evalCase hev, hc]
    exact ⟨e _, rfl⟩
  | again hb hk ht hv hrec hdu =>
    have hev : evalCase st col cl.cuid p = (.allMatchedSubscribed, some doc) := by
      rw [evalCase_byKey hb hk, if_pos ht, hv, hrec]; rfl
    have e : ∀ c s : Bool, (c || s) = true → DB.modelDecision .allMatchedSubscribed c s true false = .normal := by decide
    rw [dsp_of_evalCase hev, hev, show sameDuid p (some doc) = true from decide_eq_true hdu]
    exact ⟨e _ _ hb, rfl⟩
  | subscribe hs hk ht hv hor =>
    have hev : evalCase st col cl.cuid p =
        (if (doc.sub cl.cuid p.readOnly).isSome then .allMatchedSubscribed else .allMatchedNotSubscribed, some doc) := by
      rw [evalCase_byKey (by rw [hs]; exact Bool.or_true _) hk, if_pos ht, hv, if_pos rfl]; split <;> rfl
    have e : ∀ sub c same : Bool, (sub = false ∨ same = false) →
        DB.modelDecision (if sub then .allMatchedSubscribed else .allMatchedNotSubscribed) c true same false = .subscribe := by
      decide
    rw [dsp_of_evalCase hev, hev, hs]
    exact ⟨e _ _ _ (hor.imp id (fun h => decide_eq_false h)), rfl⟩

theorem Path.eq_finish {st : Store} {cl : ClientDoc} {col : CollectionDoc} {p : Pack} {dd : Dispatch} {doc : DatatypeDoc}
    (h : Path st cl col p dd doc) (hro : p.readOnly = false) :
    processPack st cl col p = finish st cl col p dd doc := by
  have hnr : ∀ c, dd ≠ .refuse c := by cases h <;> exact nofun
  rw [processPack_eq_finish hro h.dsp_eq.1 hnr, h.dsp_eq.2]

theorem Path.okFacts {st : Store} {cl : ClientDoc} {col : CollectionDoc} {p : Pack} {dd : Dispatch} {doc : DatatypeDoc}
    (h : Path st cl col p dd doc) : OkFacts st col p dd doc := by
  have hnr : ∀ c, dd ≠ .refuse c := by cases h <;> exact nofun
  exact h.dsp_eq.2 ▸ okFacts_of_dsp h.dsp_eq.1 hnr

def IsErrResp (p r : Pack) : Prop := r.error = true ∧ r.key = p.key ∧ ∃ code, r.ops = [⟨OpId.nil, .error code⟩]

theorem processPack_cases (st : Store) (cl : ClientDoc) (col : CollectionDoc) (p : Pack) (motive : PPResult → Prop)
    (h1 : ∀ code, motive (refuseR st p code))
    (h2 : ∀ d doc code, motive (pushErrR st p d doc code))
    (h3 : ∀ d doc cp2 nd, OkFacts st col p d doc → pushRes cl col p d doc = .ok (cp2, nd) →
      motive (okR st cl col p d doc cp2 nd)) :
    motive (processPack st cl col p) := by
  rw [processPack_eq]
  have hfin : ∀ d, dsp st cl col p = d → (∀ c, d ≠ .refuse c) →
      motive (finish st cl col p d (docOf col p d (evalCase st col cl.cuid p).2)) := by
    intro d hd hnr
    unfold finish
    cases hp : pushRes cl col p d (docOf col p d (evalCase st col cl.cuid p).2) with
    | error code => exact h2 _ _ _
    | ok r => exact h3 _ _ r.1 r.2 (okFacts_of_dsp hd hnr) hp
  split
  · exact h1 _
  split
  · exact h1 _
  cases hd : dsp st cl col p with
  | refuse c => exact h1 _
  | create => exact hfin _ hd nofun
  | subscribe => exact hfin _ hd nofun
  | normal => exact hfin _ hd nofun

theorem processPack_shape (st : Store) (cl : ClientDoc) (col : CollectionDoc) (p : Pack) :
    (∃ resp, processPack st cl col p = ⟨st, resp, none, 0⟩ ∧ IsErrResp p resp) ∨
    (∃ d doc cp2 newDocs, processPack st cl col p = okR st cl col p d doc cp2 newDocs ∧
      pushRes cl col p d doc = .ok (cp2, newDocs) ∧ Served st col p d doc) :=
  processPack_cases st cl col p
    (fun r => (∃ resp, r = ⟨st, resp, none, 0⟩ ∧ IsErrResp p resp) ∨
      ∃ d doc cp2 nd, r = okR st cl col p d doc cp2 nd ∧ pushRes cl col p d doc = .ok (cp2, nd) ∧ Served st col p d doc)
    (fun code => .inl ⟨_, rfl, rfl, rfl, code, rfl⟩) (fun _ _ code => .inl ⟨_, rfl, rfl, rfl, code, rfl⟩)
    (fun d doc cp2 nd f hp => .inr ⟨d, doc, cp2, nd, rfl, hp, f.served⟩)

/-! ### upsertDatatype -/

theorem upsert_split (d : DatatypeDoc) (l : List DatatypeDoc) :
    (∃ pre x post, l = pre ++ x :: post ∧ x.duid = d.duid ∧ (∀ y ∈ pre, y.duid ≠ d.duid) ∧
      upsertDatatype d l = pre ++ d :: post) ∨
    ((∀ y ∈ l, y.duid ≠ d.duid) ∧ upsertDatatype d l = l ++ [d]) := by
  induction l with
  | nil => exact .inr ⟨nofun, rfl⟩
  | cons a l ih =>
    unfold upsertDatatype
    by_cases ha : a.duid = d.duid
    · rw [if_pos ha]; exact .inl ⟨[], a, l, rfl, ha, nofun, rfl⟩
    · rw [if_neg ha]
      rcases ih with ⟨pre, x, post, e, hx, hp, hu⟩ | ⟨hn, hu⟩
      · exact .inl ⟨a :: pre, x, post, by rw [e]; rfl, hx, List.forall_mem_cons.2 ⟨ha, hp⟩, by rw [hu]; rfl⟩
      · exact .inr ⟨List.forall_mem_cons.2 ⟨ha, hn⟩, by rw [hu]; rfl⟩

theorem mem_upsert {d y : DatatypeDoc} {l : List DatatypeDoc} (h : y ∈ upsertDatatype d l) : y = d ∨ y ∈ l := by
  rcases upsert_split d l with ⟨pre, x, post, e, -, -, hu⟩ | ⟨-, hu⟩ <;> rw [hu] at h
  · subst e; simp only [List.mem_append, List.mem_cons] at h ⊢
    rcases h with h | h | h
    · exact .inr (.inl h)
    · exact .inl h
    · exact .inr (.inr (.inr h))
  · exact (List.mem_append.1 h).symm.imp List.mem_singleton.1 id

theorem self_mem_upsert (d : DatatypeDoc) (l : List DatatypeDoc) : d ∈ upsertDatatype d l := by
  rcases upsert_split d l with ⟨pre, x, post, -, -, -, hu⟩ | ⟨-, hu⟩ <;> rw [hu] <;> simp

theorem upsert_duids {d : DatatypeDoc} {l : List DatatypeDoc} :
    (upsertDatatype d l).map (·.duid) = l.map (·.duid) ∨
    ((∀ y ∈ l, y.duid ≠ d.duid) ∧ (upsertDatatype d l).map (·.duid) = l.map (·.duid) ++ [d.duid]) := by
  rcases upsert_split d l with ⟨pre, x, post, e, hx, -, hu⟩ | ⟨hn, hu⟩ <;> rw [hu]
  · subst e; left; simp [hx]
  · right; exact ⟨hn, by simp⟩

theorem upsert_nodup {d : DatatypeDoc} {l : List DatatypeDoc} (hnd : (l.map (·.duid)).Nodup) :
    ((upsertDatatype d l).map (·.duid)).Nodup := by
  rcases upsert_duids (d := d) (l := l) with e | ⟨hn, e⟩ <;> rw [e]
  · exact hnd
  · rw [List.nodup_append]
    refine ⟨hnd, List.pairwise_singleton _ _, fun a ha b hb => ?_⟩
    cases List.mem_singleton.1 hb
    obtain ⟨y, hy, rfl⟩ := List.mem_map.1 ha
    exact hn y hy

theorem upsert_filter {d : DatatypeDoc} {l : List DatatypeDoc} (q : DatatypeDoc → Bool) (hd : q d = false)
    (hl : ∀ x ∈ l, x.duid = d.duid → q x = false) : (upsertDatatype d l).filter q = l.filter q := by
  rcases upsert_split d l with ⟨pre, x, post, e, hx, -, hu⟩ | ⟨-, hu⟩ <;> rw [hu]
  · subst e
    have hqx : q x = false := hl x (by simp) hx
    simp [List.filter_append, hd, hqx]
  · simp [List.filter_append, hd]

theorem getDatatype_upsert_self (d : DatatypeDoc) (l : List DatatypeDoc) :
    (upsertDatatype d l).find? (fun x => decide (x.duid = d.duid)) = some d := by
  rcases upsert_split d l with ⟨pre, x, post, -, -, hp, hu⟩ | ⟨hn, hu⟩ <;> rw [hu, List.find?_append]
  · rw [List.find?_eq_none.2 (fun y hy => by simpa using hp y hy)]; simp
  · rw [List.find?_eq_none.2 (fun y hy => by simpa using hn y hy)]; simp

theorem upsert_covers {d y : DatatypeDoc} {l : List DatatypeDoc} (h : y ∈ l) :
    ∃ y' ∈ upsertDatatype d l, y'.duid = y.duid := by
  have hm : y.duid ∈ (upsertDatatype d l).map (·.duid) := by
    rcases upsert_duids (d := d) (l := l) with e | ⟨-, e⟩ <;> rw [e]
    · exact List.mem_map.2 ⟨y, h, rfl⟩
    · exact List.mem_append_left _ (List.mem_map.2 ⟨y, h, rfl⟩)
  obtain ⟨y', h1, h2⟩ := List.mem_map.1 hm
  exact ⟨y', h1, h2⟩

theorem mem_upsert_nodup {d y : DatatypeDoc} {l : List DatatypeDoc} (hnd : (l.map (·.duid)).Nodup)
    (h : y ∈ upsertDatatype d l) : y = d ∨ (y ∈ l ∧ y.duid ≠ d.duid) := by
  rcases upsert_split d l with ⟨pre, x, post, e, hx, hp, hu⟩ | ⟨hn, hu⟩ <;> rw [hu] at h
  · subst e
    rw [List.map_append, List.map_cons, List.nodup_append] at hnd
    rcases List.mem_append.1 h with h | h
    · exact .inr ⟨List.mem_append_left _ h, hp y h⟩
    · rcases List.mem_cons.1 h with h | h
      · exact .inl h
      · refine .inr ⟨List.mem_append_right _ (List.mem_cons_of_mem _ h), fun hy => ?_⟩
        exact (List.nodup_cons.1 hnd.2.1).1 (List.mem_map.2 ⟨y, h, hy.trans hx.symm⟩)
  · rcases List.mem_append.1 h with h | h
    · exact .inr ⟨h, hn y h⟩
    · exact .inl (List.mem_singleton.1 h)

theorem find?_upsert (q : DatatypeDoc → Bool) (d : DatatypeDoc) (l : List DatatypeDoc)
    (hqd : q d = false) (hl : ∀ x ∈ l, x.duid = d.duid → q x = false) :
    (upsertDatatype d l).find? q = l.find? q := by
  rw [← List.head?_filter, ← List.head?_filter, upsert_filter q hqd hl]

theorem getDatatype_upsert_of_duid (d : DatatypeDoc) (l : List DatatypeDoc) {u : String} (hu : d.duid = u) :
    (upsertDatatype d l).find? (fun x => decide (x.duid = u)) = some d := by
  subst hu; exact getDatatype_upsert_self _ _

theorem getDatatype_upsert_ne (d : DatatypeDoc) (l : List DatatypeDoc) {u : String} (hu : u ≠ d.duid) :
    (upsertDatatype d l).find? (fun x => decide (x.duid = u)) = l.find? (fun x => decide (x.duid = u)) :=
  find?_upsert _ d l (decide_eq_false (Ne.symm hu)) (fun _ _ hx => decide_eq_false (fun h => hu (h.symm.trans hx)))

/-! ### pushOps

`pushOps` threads a checkpoint and an accumulator through the request.  `pushOps_eq` splits it into what it
decides (`accepted`, a function of the recorded client sequence number alone) and how it labels what it accepted
(`RestP.mkDocs`, the documents numbered on from the end of the log); every other fact about `pushOps` is a fact about
`accepted`. -/

def accepted : Nat → List Op → Except Nat (List Op)
  | _, [] => .ok []
  | c, o :: os =>
    if c + 1 = o.id.seq then (accepted (c + 1) os).map (o :: ·)
    else if o.id.seq ≤ c then accepted c os
    else .error 303

end SL
namespace RestP
/-- the operation documents `pushOps` writes for `ops` after end of log `s` (`SL.pushOps_eq`); in `RestP`, whose statements about
    the endpoint name it; its lemmas are `SL.mkDocs_ops/_length/_sseq/_mem` -/
def mkDocs (duid : String) (colNum : Nat) : Nat → List Op → List OpDoc
  | _, [] => []
  | s, o :: os => ⟨duid, colNum, s + 1, o⟩ :: mkDocs duid colNum (s + 1) os
end RestP
namespace SL

theorem pushOps_eq (duid : String) (colNum : Nat) (ops : List Op) : ∀ (cp : CheckPoint) (acc : List OpDoc),
    pushOps duid colNum cp ops acc =
      (accepted cp.cseq ops).map (fun a =>
        (⟨cp.sseq + a.length, cp.cseq + a.length⟩, acc ++ RestP.mkDocs duid colNum cp.sseq a)) := by
  induction ops with
  | nil => intro cp acc; simp [pushOps, accepted, Except.map, RestP.mkDocs]
  | cons o os ih =>
    intro cp acc
    unfold pushOps accepted
    split
    · next h =>
      rw [ih, ← h]
      cases accepted (cp.cseq + 1) os with
      | error e => rfl
      | ok a =>
        simp only [Except.map, RestP.mkDocs, List.length_cons, List.append_assoc, List.singleton_append]
        rw [Nat.add_assoc, Nat.add_assoc, Nat.add_comm 1]
    · split
      · exact ih cp acc
      · rfl

theorem accepted_sublist : ∀ (ops : List Op) (c : Nat) {a : List Op}, accepted c ops = .ok a → a.Sublist ops
  | [], _, a, h => by cases h; exact List.Sublist.slnil
  | o :: os, c, a, h => by
    unfold accepted at h
    split at h
    · cases h' : accepted (c + 1) os with
      | error e => rw [h'] at h; cases h
      | ok a' => rw [h'] at h; cases h; exact (accepted_sublist os _ h').cons_cons o
    · split at h
      · exact (accepted_sublist os _ h).cons o
      · cases h

theorem accepted_consec : ∀ (ops : List Op) (c0 c : Nat),
    (∀ k (h : k < ops.length), ops[k].id.seq = c0 + k + 1) → c0 ≤ c → accepted c ops = .ok (ops.drop (c - c0))
  | [], _, _, _, _ => by rw [List.drop_nil]; rfl
  | o :: os, c0, c, hseq, hc => by
    have h0 : o.id.seq = c0 + 1 := hseq 0 (Nat.zero_lt_succ _)
    have hrest : ∀ k (hk : k < os.length), os[k].id.seq = (c0 + 1) + k + 1 := fun k hk =>
      (hseq (k + 1) (Nat.succ_lt_succ hk)).trans (congrArg (· + 1) (Nat.add_right_comm c0 k 1))
    unfold accepted
    rw [h0]
    rcases Nat.eq_or_lt_of_le hc with rfl | hlt
    · -- the operation the server waits for
      rw [if_pos rfl, accepted_consec os (c0 + 1) (c0 + 1) hrest (Nat.le_refl _), Nat.sub_self, Nat.sub_self]
      rfl
    · -- a duplicate
      rw [if_neg (Nat.ne_of_gt (Nat.succ_lt_succ hlt)), if_pos (show c0 + 1 ≤ c from hlt),
        accepted_consec os (c0 + 1) c hrest hlt,
        show c - c0 = (c - (c0 + 1)) + 1 by rw [Nat.sub_add_eq, Nat.sub_add_cancel (Nat.sub_pos_of_lt hlt)],
        List.drop_succ_cons]

theorem mkDocs_ops (duid : String) (c : Nat) : ∀ (ops : List Op) (s : Nat), (RestP.mkDocs duid c s ops).map (·.op) = ops
  | [], _ => rfl
  | o :: os, s => by simp [RestP.mkDocs, mkDocs_ops duid c os]

theorem mkDocs_length (duid : String) (c : Nat) : ∀ (ops : List Op) (s : Nat), (RestP.mkDocs duid c s ops).length = ops.length
  | [], _ => rfl
  | o :: os, s => by simp [RestP.mkDocs, mkDocs_length duid c os]

theorem mkDocs_sseq (duid : String) (c : Nat) : ∀ (ops : List Op) (s : Nat),
    (RestP.mkDocs duid c s ops).map (·.sseq) = List.range' (s + 1) ops.length
  | [], _ => rfl
  | o :: os, s => by simp [RestP.mkDocs, mkDocs_sseq duid c os, List.range'_succ]

theorem mkDocs_mem (duid : String) (c : Nat) : ∀ (ops : List Op) (s : Nat), ∀ x ∈ RestP.mkDocs duid c s ops, x.duid = duid ∧ x.colNum = c
  | [], _ => by simp [RestP.mkDocs]
  | o :: os, s => by
    intro x hx
    simp only [RestP.mkDocs, List.mem_cons] at hx
    rcases hx with rfl | hx
    · exact ⟨rfl, rfl⟩
    · exact mkDocs_mem duid c os _ x hx

theorem pushOps_ok {duid : String} {colNum : Nat} {ops : List Op} {cp cp2 : CheckPoint} {acc nd : List OpDoc}
    (h : pushOps duid colNum cp ops acc = .ok (cp2, nd)) :
    ∃ a, accepted cp.cseq ops = .ok a ∧ cp2 = ⟨cp.sseq + a.length, cp.cseq + a.length⟩ ∧
      nd = acc ++ RestP.mkDocs duid colNum cp.sseq a := by
  rw [pushOps_eq] at h
  cases ha : accepted cp.cseq ops with
  | error e => rw [ha] at h; cases h
  | ok a => rw [ha] at h; cases h; exact ⟨a, rfl, rfl, rfl⟩

theorem pushOps_spec (duid : String) (colNum : Nat) (ops : List Op) :
    ∀ (cp : CheckPoint) (acc : List OpDoc) (cp2 : CheckPoint) (nd : List OpDoc),
      pushOps duid colNum cp ops acc = .ok (cp2, nd) →
      ∃ add, nd = acc ++ add ∧ (∀ o ∈ add, o.duid = duid ∧ o.colNum = colNum) ∧
        add.map (·.sseq) = List.range' (cp.sseq + 1) add.length ∧ cp2.sseq = cp.sseq + add.length ∧
        (add.map (·.op)).Sublist ops ∧ cp.cseq ≤ cp2.cseq := by
  intro cp acc cp2 nd h
  obtain ⟨a, ha, rfl, rfl⟩ := pushOps_ok h
  refine ⟨_, rfl, mkDocs_mem _ _ _ _, ?_, ?_, ?_, Nat.le_add_right _ _⟩
  · rw [mkDocs_sseq, mkDocs_length]
  · rw [mkDocs_length]
  · rw [mkDocs_ops]; exact accepted_sublist _ _ ha

/-! ### getOperations -/

theorem mem_ins {o x : OpDoc} {l : List OpDoc} : x ∈ Store.getOperations.ins o l ↔ x = o ∨ x ∈ l := by
  induction l with
  | nil => simp [Store.getOperations.ins]
  | cons y ys ih =>
    unfold Store.getOperations.ins
    split
    · simp
    · simp [ih]; constructor
      · rintro (h | h | h)
        · exact Or.inr (Or.inl h)
        · exact Or.inl h
        · exact Or.inr (Or.inr h)
      · rintro (h | h | h)
        · exact Or.inr (Or.inl h)
        · exact Or.inl h
        · exact Or.inr (Or.inr h)

def sortOps (l : List OpDoc) : List OpDoc := l.foldr (fun o acc => Store.getOperations.ins o acc) []

theorem getOperations_eq (st : Store) (duid : String) (from_ : Nat) :
    st.getOperations duid from_ = sortOps (st.operations.filter (fun o => o.duid = duid ∧ from_ ≤ o.sseq)) := rfl

theorem mem_sortOps {x : OpDoc} {l : List OpDoc} : x ∈ sortOps l ↔ x ∈ l := by
  induction l with
  | nil => simp [sortOps]
  | cons y ys ih =>
    have : sortOps (y :: ys) = Store.getOperations.ins y (sortOps ys) := rfl
    rw [this, mem_ins, ih]; simp

theorem mem_getOperations {st : Store} {duid : String} {from_ : Nat} {x : OpDoc} :
    x ∈ st.getOperations duid from_ ↔ x ∈ st.opsOf duid ∧ from_ ≤ x.sseq := by
  rw [getOperations_eq, mem_sortOps]
  simp [Store.opsOf, List.mem_filter, and_assoc]

theorem getOperations_other {st : Store} {nd : List OpDoc} {dts : List DatatypeDoc} {v u : String}
    (hnd : ∀ o ∈ nd, o.duid = v) (hu : u ≠ v) (f : Nat) :
    ({ st with operations := st.operations ++ nd, datatypes := dts } : Store).getOperations u f = st.getOperations u f := by
  have : nd.filter (fun o => decide (o.duid = u ∧ f ≤ o.sseq)) = [] :=
    List.filter_eq_nil_iff.2 (fun o ho h => hu ((of_decide_eq_true h).1.symm.trans (hnd o ho)))
  rw [getOperations_eq, getOperations_eq]
  show sortOps ((st.operations ++ nd).filter _) = _
  rw [List.filter_append, this, List.append_nil]

theorem sortOps_sorted {l : List OpDoc} (h : l.Pairwise (fun a b => a.sseq ≤ b.sseq)) : sortOps l = l := by
  induction l with
  | nil => rfl
  | cons y ys ih =>
    have e : sortOps (y :: ys) = Store.getOperations.ins y (sortOps ys) := rfl
    rw [e, ih (List.Pairwise.of_cons h)]
    cases ys with
    | nil => rfl
    | cons x xs =>
      have : y.sseq ≤ x.sseq := List.rel_of_pairwise_cons h List.mem_cons_self
      unfold Store.getOperations.ins
      simp [this]

theorem filter_ge_of_range (l : List OpDoc) : ∀ {a n : Nat}, l.map (·.sseq) = List.range' a n → ∀ k : Nat,
    l.filter (fun o => decide (k ≤ o.sseq)) = l.drop (k - a) := by
  induction l with
  | nil => exact fun _ _ => List.drop_nil.symm
  | cons x xs ih =>
    intro a n h k
    cases n with
    | zero => cases h
    | succ n =>
      obtain ⟨hx, hxs⟩ := List.cons.inj h
      have hx : x.sseq = a := hx
      rw [List.filter_cons, ih hxs k, hx]
      by_cases hk : k ≤ a
      · rw [if_pos (decide_eq_true hk), Nat.sub_eq_zero_of_le hk, Nat.sub_eq_zero_of_le (Nat.le_succ_of_le hk)]
        rfl
      · rw [if_neg (fun h => hk (of_decide_eq_true h)),
          show k - a = (k - (a + 1)) + 1 from
            (Nat.succ_pred_eq_of_pos (Nat.sub_pos_of_lt (Nat.lt_of_not_le hk))).symm]
        rfl

theorem sorted_of_range {l : List OpDoc} {a n : Nat} (h : l.map (·.sseq) = List.range' a n) :
    l.Pairwise (fun a b => a.sseq ≤ b.sseq) := by
  have h1 : (List.range' a n).Pairwise (· < ·) := List.pairwise_lt_range'
  rw [← h, List.pairwise_map] at h1
  exact h1.imp (fun h => Nat.le_of_lt h)

theorem getOperations_drop_pred {st : Store} {duid : String} {E : Nat}
    (hlog : (st.opsOf duid).map (·.sseq) = List.range' 1 E) (f : Nat) :
    st.getOperations duid f = (st.opsOf duid).drop (f - 1) := by
  rw [getOperations_eq]
  have e : st.operations.filter (fun o => decide (o.duid = duid ∧ f ≤ o.sseq))
      = (st.opsOf duid).filter (fun o => decide (f ≤ o.sseq)) := by
    unfold Store.opsOf
    rw [List.filter_filter]
    apply List.filter_congr
    intro o _
    simp [Bool.decide_and, Bool.and_comm]
  rw [e, filter_ge_of_range _ hlog f]
  exact sortOps_sorted ((sorted_of_range hlog).sublist (List.drop_sublist _ _))

theorem getOperations_eq_drop {st : Store} {duid : String} {E : Nat}
    (hlog : (st.opsOf duid).map (·.sseq) = List.range' 1 E) (s : Nat) :
    st.getOperations duid (s + 1) = (st.opsOf duid).drop s :=
  getOperations_drop_pred hlog (s + 1)

theorem getOperations_last {st : Store} {duid : String} {from_ E : Nat} {last : OpDoc}
    (hlog : (st.opsOf duid).map (·.sseq) = List.range' 1 E)
    (h : (st.getOperations duid from_).getLast? = some last) : last.sseq = E := by
  rw [getOperations_drop_pred hlog, List.getLast?_drop] at h
  split at h
  · cases h
  · have h' := congrArg (Option.map (·.sseq)) h
    rw [← List.getLast?_map, hlog, List.getLast?_range'] at h'
    split at h'
    · cases h'
    · simp only [Option.map_some, Option.some.injEq] at h'
      omega

/-! ### the committed document -/

section doc2
variable (st : Store) (cl : ClientDoc) (p : Pack) (d : Dispatch) (doc : DatatypeDoc) (cp2 : CheckPoint) (nd : List OpDoc)

theorem doc2_eq : doc2 st cl p d doc cp2 nd =
    { doc with
      sseqEnd := if p.readOnly then doc.sseqEnd else (cp3 st cl p d doc cp2 nd).sseq
      rw := if cl.typ = 2 ∨ p.readOnly = true then doc.rw
            else alSet cl.cuid ⟨cp3 st cl p d doc cp2 nd, cl.typ⟩ doc.rw
      ro := if cl.typ = 2 ∨ p.readOnly = false then doc.ro
            else alSet cl.cuid ⟨cp3 st cl p d doc cp2 nd, cl.typ⟩ doc.ro } := by
  unfold doc2 DatatypeDoc.setSub
  by_cases hv : cl.typ = 2 <;> cases p.readOnly <;> simp [hv]

theorem doc2_duid : (doc2 st cl p d doc cp2 nd).duid = doc.duid := by rw [doc2_eq]
theorem doc2_colNum : (doc2 st cl p d doc cp2 nd).colNum = doc.colNum := by rw [doc2_eq]
theorem doc2_sseqEnd : (doc2 st cl p d doc cp2 nd).sseqEnd =
    if p.readOnly then doc.sseqEnd else (cp3 st cl p d doc cp2 nd).sseq := by rw [doc2_eq]

theorem doc2_facts : (doc2 st cl p d doc cp2 nd).duid = doc.duid ∧ (doc2 st cl p d doc cp2 nd).key = doc.key ∧
    (doc2 st cl p d doc cp2 nd).colNum = doc.colNum ∧
    (doc2 st cl p d doc cp2 nd).sseqEnd = (if p.readOnly then doc.sseqEnd else (cp3 st cl p d doc cp2 nd).sseq) := by
  rw [doc2_eq]; exact ⟨rfl, rfl, rfl, rfl⟩

theorem doc2_fields :
    (doc2 st cl p d doc cp2 nd).key = doc.key ∧ (doc2 st cl p d doc cp2 nd).colNum = doc.colNum ∧
    (doc2 st cl p d doc cp2 nd).sseqBegin = doc.sseqBegin ∧ (doc2 st cl p d doc cp2 nd).typ = doc.typ ∧
    (doc2 st cl p d doc cp2 nd).visible = doc.visible := by
  rw [doc2_eq]; exact ⟨rfl, rfl, rfl, rfl, rfl⟩

theorem doc2_rw_mem {e : String × SubClient} (h : e ∈ (doc2 st cl p d doc cp2 nd).rw) :
    e ∈ doc.rw ∨ (p.readOnly = false ∧ e.2.cp = cp3 st cl p d doc cp2 nd) := by
  rw [doc2_eq] at h
  dsimp only at h
  split at h
  · exact .inl h
  · next hc =>
    rcases Orda.mem_alSet _ _ _ _ h with h | h
    · exact .inr ⟨by simpa using fun hro => hc (.inr hro), by rw [h]⟩
    · exact .inl h

theorem doc2_ro_mem {e : String × SubClient} (h : e ∈ (doc2 st cl p d doc cp2 nd).ro) :
    e ∈ doc.ro ∨ (p.readOnly = true ∧ e.2.cp = cp3 st cl p d doc cp2 nd) := by
  rw [doc2_eq] at h
  dsimp only at h
  split at h
  · exact .inl h
  · next hc =>
    rcases Orda.mem_alSet _ _ _ _ h with h | h
    · exact .inr ⟨by simpa using fun hro => hc (.inr hro), by rw [h]⟩
    · exact .inl h

theorem doc2_sub_false {s' : SubClient} (h : (doc2 st cl p d doc cp2 nd).sub cl.cuid false = some s') :
    doc.sub cl.cuid false = some s' ∨ (p.readOnly = false ∧ s'.cp = cp3 st cl p d doc cp2 nd) := by
  rw [doc2_eq] at h
  simp only [DatatypeDoc.sub, Bool.false_eq_true, if_false] at h
  split at h
  · exact .inl h
  · next hc =>
    rw [alFind_alSet_self] at h
    cases h
    exact .inr ⟨by simpa using fun hro => hc (.inr hro), rfl⟩

end doc2

/-! ### the commit step preserves the invariant -/

theorem logInv_commit {st : Store} (h : LogInv st) (dc : DatatypeDoc) (newDocs : List OpDoc)
    (hnew : ∀ o ∈ newDocs, o.duid = dc.duid ∧ o.colNum = dc.colNum)
    (hlog : ((st.opsOf dc.duid) ++ newDocs).map (·.sseq) = List.range' 1 dc.sseqEnd)
    (hold : ∀ o ∈ st.operations, o.duid = dc.duid → o.colNum = dc.colNum)
    (hcp : (∀ e ∈ dc.rw, e.2.cp.sseq ≤ dc.sseqEnd) ∧ (∀ e ∈ dc.ro, e.2.cp.sseq ≤ dc.sseqEnd)) :
    LogInv { st with operations := st.operations ++ newDocs, datatypes := upsertDatatype dc st.datatypes } := by
  refine ⟨upsert_nodup h.duidNodup, ?_, ?_, ?_, ?_⟩
  · intro y hy
    simp only [Store.opsOf, List.filter_append]
    rcases mem_upsert_nodup h.duidNodup hy with hy | ⟨hyl, hne⟩
    · subst hy
      have : newDocs.filter (fun o => decide (o.duid = y.duid)) = newDocs :=
        List.filter_eq_self.2 (fun o ho => by simp [(hnew o ho).1])
      rw [this]; exact hlog
    · have : newDocs.filter (fun o => decide (o.duid = y.duid)) = [] :=
        List.filter_eq_nil_iff.2 (fun o ho => by
          have := (hnew o ho).1
          simp only [decide_eq_true_eq]
          intro h'; exact hne (h'.symm.trans this))
      rw [this, List.append_nil]; exact h.gapless y hyl
  · intro o ho
    rcases List.mem_append.1 ho with ho | ho
    · obtain ⟨y, hy, hyo⟩ := h.noOrphan o ho
      obtain ⟨y', hy', hyy⟩ := upsert_covers (d := dc) hy
      exact ⟨y', hy', hyy.trans hyo⟩
    · exact ⟨dc, self_mem_upsert _ _, (hnew o ho).1.symm⟩
  · intro o ho y hy hyo
    rcases mem_upsert_nodup h.duidNodup hy with hy | ⟨hyl, hne⟩
    · subst hy
      rcases List.mem_append.1 ho with ho | ho
      · exact hold o ho hyo.symm
      · exact (hnew o ho).2
    · rcases List.mem_append.1 ho with ho | ho
      · exact h.sameCol o ho y hyl hyo
      · exact absurd (hyo.trans (hnew o ho).1) hne
  · intro y hy
    rcases mem_upsert_nodup h.duidNodup hy with hy | ⟨hyl, _⟩
    · subst hy; exact hcp
    · exact h.cpBound y hyl

section served
variable {st : Store} {cl : ClientDoc} {col : CollectionDoc} {p : Pack} {d : Dispatch} {doc : DatatypeDoc}
  {cp2 : CheckPoint} {nd : List OpDoc}

theorem opsOf_nil_of_fresh (h : LogInv st) {duid : String} (hf : ∀ y ∈ st.datatypes, y.duid ≠ duid) :
    st.opsOf duid = [] := by
  unfold Store.opsOf
  refine List.filter_eq_nil_iff.2 (fun o ho => ?_)
  obtain ⟨y, hy, hyo⟩ := h.noOrphan o ho
  simp only [decide_eq_true_eq]
  intro h'; exact hf y hy (hyo.trans h')

theorem served_log (h : LogInv st) (hs : Served st col p d doc) :
    (st.opsOf doc.duid).map (·.sseq) = List.range' 1 doc.sseqEnd := by
  rcases hs.src with ⟨hf, h0, _, _⟩ | hm
  · rw [opsOf_nil_of_fresh h hf, h0]; rfl
  · exact h.gapless doc hm

theorem served_cp (h : LogInv st) (hs : Served st col p d doc) :
    (∀ e ∈ doc.rw, e.2.cp.sseq ≤ doc.sseqEnd) ∧ (∀ e ∈ doc.ro, e.2.cp.sseq ≤ doc.sseqEnd) := by
  rcases hs.src with ⟨_, _, h1, h2⟩ | hm
  · rw [h1, h2]; simp
  · exact h.cpBound doc hm

theorem served_old (h : LogInv st) (hs : Served st col p d doc) :
    ∀ o ∈ st.operations, o.duid = doc.duid → o.colNum = doc.colNum := by
  intro o ho hod
  rcases hs.src with ⟨hf, _⟩ | hm
  · obtain ⟨y, hy, hyo⟩ := h.noOrphan o ho
    exact absurd (hyo.trans hod) (hf y hy)
  · exact h.sameCol o ho doc hm hod.symm

theorem cp0_le (h : LogInv st) (hs : Served st col p d doc) : (cp0 cl p doc).sseq ≤ doc.sseqEnd := by
  unfold cp0
  split
  · next s hsub =>
    unfold DatatypeDoc.sub at hsub
    have hcp := served_cp h hs
    split at hsub
    · exact hcp.2 _ (alFind_some_mem _ _ _ hsub)
    · exact hcp.1 _ (alFind_some_mem _ _ _ hsub)
  · exact Nat.zero_le _

theorem pushRes_ro (h : p.readOnly = true) : pushRes cl col p d doc = .ok (cp0 cl p doc, []) := by
  unfold pushRes cp1; rw [if_pos h, if_pos h]

theorem pushRes_rw (h : p.readOnly = false) : pushRes cl col p d doc =
    pushOps (opDuid p d doc) col.num ⟨doc.sseqEnd, (cp0 cl p doc).cseq⟩ (inOps p d) [] := by
  unfold pushRes cp1; rw [h]; rfl

/-- what a successful `pushRes` returned: the documents `nd`, stored under `duid`, numbered on from the end of the log, carry a
    sublist of `ops`; the checkpoint `cp2` -/
structure Pushed (cl : ClientDoc) (col : CollectionDoc) (p : Pack) (doc : DatatypeDoc) (duid : String) (ops : List Op)
    (cp2 : CheckPoint) (nd : List OpDoc) : Prop where
  mem : ∀ o ∈ nd, o.duid = duid ∧ o.colNum = col.num
  sseqs : nd.map (·.sseq) = List.range' (doc.sseqEnd + 1) nd.length
  readOnly : p.readOnly = true → nd = [] ∧ cp2 = cp0 cl p doc
  readWrite : p.readOnly = false → cp2.sseq = doc.sseqEnd + nd.length
  sub : (nd.map (·.op)).Sublist ops
  cseq : (cp0 cl p doc).cseq ≤ cp2.cseq

theorem pushRes_ok (hp : pushRes cl col p d doc = .ok (cp2, nd)) :
    Pushed cl col p doc (opDuid p d doc) (inOps p d) cp2 nd := by
  cases hro : p.readOnly with
  | true =>
    rw [pushRes_ro hro] at hp
    cases hp
    exact ⟨fun _ h => absurd h List.not_mem_nil, rfl, fun _ => ⟨rfl, rfl⟩, fun h => Bool.noConfusion (hro.symm.trans h),
      List.nil_sublist _, Nat.le_refl _⟩
  | false =>
    rw [pushRes_rw hro] at hp
    obtain ⟨add, h1, h2, h3, h4, h5, h6⟩ := pushOps_spec _ _ _ _ _ _ _ hp
    rw [List.nil_append] at h1
    subst h1
    exact ⟨h2, h3, fun h => Bool.noConfusion (hro.symm.trans h), fun _ => h4, h5, h6⟩

/-- … on a served path: under the document's id, a sublist of the pack's operations -/
theorem pushRes_spec (hs : Served st col p d doc) (hp : pushRes cl col p d doc = .ok (cp2, nd)) :
    Pushed cl col p doc doc.duid p.ops cp2 nd := by
  have h := pushRes_ok hp
  refine ⟨hs.duid ▸ h.mem, h.sseqs, h.readOnly, h.readWrite, h.sub.trans ?_, h.cseq⟩
  unfold inOps; split
  · exact List.nil_sublist _
  · exact List.Sublist.refl _

theorem pushRes_facts (h : pushRes cl col p d doc = .ok (cp2, nd)) :
    (∀ o ∈ nd, o.duid = opDuid p d doc ∧ o.colNum = col.num) ∧ (p.readOnly = true → nd = []) ∧
    (d = .subscribe → nd = []) ∧ (p.ops = [] → nd = []) := by
  have h' := pushRes_ok h
  have hnil : inOps p d = [] → nd = [] := fun e => List.map_eq_nil_iff.1 (List.sublist_nil.1 (e ▸ h'.sub))
  exact ⟨h'.mem, fun hro => (h'.readOnly hro).1, fun hd => hnil (hd ▸ inOps_subscribe p),
    fun ho => hnil (by unfold inOps; rw [ho, ite_self])⟩

theorem pulled_cases (st : Store) (cl : ClientDoc) (p : Pack) (d : Dispatch) (doc : DatatypeDoc) :
    pulled st cl p d doc = [] ∨ pulled st cl p d doc = st.getOperations (opDuid p d doc) (p.cp.sseq + 1) := by
  unfold pulled
  split
  · exact .inl rfl
  · split
    · exact .inr rfl
    · exact .inl rfl

theorem pulled_eq (hv : cl.typ ≠ 2) (hb : doc.sseqBegin ≤ p.cp.sseq + 1) (hsn : p.snapshot = false) :
    pulled st cl p d doc = st.getOperations (opDuid p d doc) (p.cp.sseq + 1) := by
  simp [pulled, hv, hb, hsn]

theorem cp3_cseq (st : Store) (cl : ClientDoc) (p : Pack) (d : Dispatch) (doc : DatatypeDoc) (cp2 : CheckPoint)
    (nd : List OpDoc) : (cp3 st cl p d doc cp2 nd).cseq = cp2.cseq := by
  unfold cp3; split <;> rfl

theorem cp3_spec (h : LogInv st) (hs : Served st col p d doc) :
    (cp3 st cl p d doc cp2 nd).cseq = cp2.cseq ∧
    ((cp3 st cl p d doc cp2 nd).sseq = doc.sseqEnd + nd.length ∨ cp3 st cl p d doc cp2 nd = cp2) := by
  unfold cp3
  split
  · next last hl =>
    refine ⟨rfl, .inl ?_⟩
    rcases pulled_cases st cl p d doc with h0 | h0 <;> rw [h0] at hl
    · cases hl
    · rw [hs.duid] at hl
      rw [getOperations_last (served_log h hs) hl]
  · exact ⟨rfl, .inr rfl⟩

theorem cp3_eq (h : LogInv st) (hs : Served st col p d doc) (hp : pushRes cl col p d doc = .ok (cp2, nd))
    (hro : p.readOnly = false) : cp3 st cl p d doc cp2 nd = cp2 := by
  obtain ⟨ha, hb | hb⟩ := cp3_spec (cl := cl) (cp2 := cp2) (nd := nd) h hs
  · have h4 := (pushRes_ok hp).readWrite hro
    generalize cp3 st cl p d doc cp2 nd = c3 at ha hb
    cases c3; cases cp2
    simp only at ha hb h4
    rw [ha, hb, h4]
  · exact hb

theorem logInv_okR (h : LogInv st) (hs : Served st col p d doc) (hp : pushRes cl col p d doc = .ok (cp2, nd)) :
    LogInv (okR st cl col p d doc cp2 nd).store := by
  have P := pushRes_spec hs hp
  have hcp := served_cp h hs
  -- the recorded checkpoint: the new end of the log for a read-write client, not beyond it for a read-only one
  have hc3 : (cp3 st cl p d doc cp2 nd).sseq ≤ doc.sseqEnd + nd.length ∧
      (p.readOnly = false → (cp3 st cl p d doc cp2 nd).sseq = doc.sseqEnd + nd.length) := by
    cases hro : p.readOnly with
    | false => rw [cp3_eq h hs hp hro, P.readWrite hro]; exact ⟨Nat.le_refl _, fun _ => rfl⟩
    | true =>
      obtain ⟨_, h3 | h3⟩ := cp3_spec (cl := cl) (cp2 := cp2) (nd := nd) h hs
      · exact ⟨Nat.le_of_eq h3, nofun⟩
      · rw [h3, (P.readOnly hro).2]; exact ⟨Nat.le_trans (cp0_le h hs) (Nat.le_add_right _ _), nofun⟩
  have hend : (doc2 st cl p d doc cp2 nd).sseqEnd = doc.sseqEnd + nd.length := by
    rw [doc2_sseqEnd]
    cases hro : p.readOnly with
    | true => rw [(P.readOnly hro).1]; rfl
    | false => exact hc3.2 hro
  show LogInv { st with operations := st.operations ++ nd,
                        datatypes := upsertDatatype (doc2 st cl p d doc cp2 nd) st.datatypes }
  apply logInv_commit h
  · intro o ho; rw [doc2_duid, doc2_colNum, hs.colNum]; exact P.mem o ho
  · rw [doc2_duid, hend, List.map_append, served_log h hs, P.sseqs, Nat.add_comm doc.sseqEnd 1]
    have := @List.range'_append 1 doc.sseqEnd nd.length 1
    rwa [Nat.one_mul] at this
  · rw [doc2_duid, doc2_colNum]; exact served_old h hs
  · rw [hend]
    constructor
    · intro e he
      rcases doc2_rw_mem _ _ _ _ _ _ _ he with he | ⟨hro, he⟩
      · exact Nat.le_trans (hcp.1 e he) (Nat.le_add_right _ _)
      · rw [he]; exact hc3.1
    · intro e he
      rcases doc2_ro_mem _ _ _ _ _ _ _ he with he | ⟨_, he⟩
      · exact Nat.le_trans (hcp.2 e he) (Nat.le_add_right _ _)
      · rw [he]; exact hc3.1

end served

theorem _root_.Orda.LogInv.sseqs {st : Store} (h : LogInv st) (u : String) :
    ∃ E, (st.opsOf u).map (·.sseq) = List.range' 1 E := by
  cases hg : st.getDatatype u with
  | none => exact ⟨0, by rw [opsOf_nil_of_fresh h (getDatatype_none hg)]; rfl⟩
  | some d => exact ⟨d.sseqEnd, (getDatatype_some hg).2 ▸ h.gapless d (getDatatype_some hg).1⟩

theorem _root_.Orda.LogInv.getOperations {st : Store} (h : LogInv st) (u : String) (s : Nat) :
    st.getOperations u (s + 1) = (st.opsOf u).drop s :=
  (h.sseqs u).elim fun _ hE => getOperations_eq_drop hE s

theorem _root_.Orda.LogInv.log_eq {st : Store} (h : LogInv st) (u : String) :
    (st.getOperations u 1).map (·.op) = (st.opsOf u).map (·.op) := by
  rw [h.getOperations u 0, List.drop_zero]

theorem logInv_congr {st st' : Store} (hd : st'.datatypes = st.datatypes) (ho : st'.operations = st.operations)
    (h : LogInv st) : LogInv st' := by
  refine ⟨by rw [hd]; exact h.duidNodup, ?_, by rw [hd, ho]; exact h.noOrphan,
          by rw [hd, ho]; exact h.sameCol, by rw [hd]; exact h.cpBound⟩
  rw [hd]; unfold Store.opsOf; rw [ho]; exact h.gapless

theorem eq_of_nodup_duid {l : List DatatypeDoc} (hnd : (l.map (·.duid)).Nodup) {a b : DatatypeDoc}
    (ha : a ∈ l) (hb : b ∈ l) (hab : a.duid = b.duid) : a = b := by
  induction l with
  | nil => cases ha
  | cons x xs ih =>
    simp only [List.map_cons, List.nodup_cons] at hnd
    rcases List.mem_cons.1 ha with ha1 | ha1 <;> rcases List.mem_cons.1 hb with hb1 | hb1
    · rw [ha1, hb1]
    · exact absurd (List.mem_map.2 ⟨b, hb1, by rw [← hab, ha1]⟩) hnd.1
    · exact absurd (List.mem_map.2 ⟨a, ha1, by rw [hab, hb1]⟩) hnd.1
    · exact ih hnd.2 ha1 hb1

theorem getDatatype_of_mem {st : Store} (inv : LogInv st) {d : DatatypeDoc} (hm : d ∈ st.datatypes) :
    st.getDatatype d.duid = some d := by
  cases hg : st.getDatatype d.duid with
  | none => exact absurd rfl (getDatatype_none hg d hm)
  | some x =>
    obtain ⟨hx, hxd⟩ := getDatatype_some hg
    rw [eq_of_nodup_duid inv.duidNodup hx hm hxd]

def step (cl : ClientDoc) (col : CollectionDoc)
    (acc : Store × List Pack × List Notification × List (String × Nat)) (p : Pack) :
    Store × List Pack × List Notification × List (String × Nat) :=
  let r := processPack acc.1 cl col p
  (r.store, acc.2.1 ++ [r.resp], acc.2.2.1 ++ r.notif.toList,
   acc.2.2.2 ++ (if r.pushed > 0 then [(r.resp.duid, col.num)] else []))

theorem processPushPull_eq (st : Store) (colName cuid : String) (packs : List Pack) :
    st.processPushPull colName cuid packs =
      match st.getCollection colName with
      | none => (st, .rpcErr 5, [], [])
      | some col =>
        match st.getClient cuid with
        | none => (st, .rpcErr 5, [], [])
        | some cl =>
          if cl.colNum ≠ col.num then (st, .rpcErr 16, [], [])
          else
            ((packs.foldl (step cl col) (st, [], [], [])).1, .ok (packs.foldl (step cl col) (st, [], [], [])).2.1,
             (packs.foldl (step cl col) (st, [], [], [])).2.2.1, (packs.foldl (step cl col) (st, [], [], [])).2.2.2) := by
  rfl

theorem processPushPull_cases (st : Store) (colName cuid : String) (packs : List Pack) :
    (∃ code, st.processPushPull colName cuid packs = (st, .rpcErr code, [], [])) ∨
    ∃ col cl, st.getCollection colName = some col ∧ st.getClient cuid = some cl ∧ cl.colNum = col.num ∧
      st.processPushPull colName cuid packs =
        ((packs.foldl (step cl col) (st, [], [], [])).1, .ok (packs.foldl (step cl col) (st, [], [], [])).2.1,
         (packs.foldl (step cl col) (st, [], [], [])).2.2.1, (packs.foldl (step cl col) (st, [], [], [])).2.2.2) := by
  rw [processPushPull_eq]
  cases hc : st.getCollection colName with
  | none => exact .inl ⟨5, rfl⟩
  | some col =>
    cases hcl : st.getClient cuid with
    | none => exact .inl ⟨5, rfl⟩
    | some cl =>
      by_cases hn : cl.colNum = col.num
      · exact .inr ⟨col, cl, rfl, rfl, hn, if_neg (not_not_intro hn)⟩
      · exact .inl ⟨16, if_pos hn⟩

end SL

open SL

theorem logInv_empty : LogInv {} := by
  refine ⟨?_, ?_, ?_, ?_, ?_⟩
  · exact List.nodup_nil
  · intro d hd; cases hd
  · intro o ho; cases ho
  · intro o ho; cases ho
  · intro d hd; cases hd

/-- the invariant survives ANY pack of ANY client -/
theorem logInv_processPack (st : Store) (cl : ClientDoc) (col : CollectionDoc) (p : Pack) (h : LogInv st) :
    LogInv (processPack st cl col p).store := by
  rcases processPack_shape st cl col p with ⟨resp, he, _⟩ | ⟨d, doc, cp2, nd, he, hp, hs⟩
  · rw [he]; exact h
  · rw [he]; exact logInv_okR h hs hp

theorem logInv_foldl_step (cl : ClientDoc) (col : CollectionDoc) (packs : List Pack) :
    ∀ acc : Store × List Pack × List Notification × List (String × Nat),
      LogInv acc.1 → LogInv (packs.foldl (step cl col) acc).1 := by
  induction packs with
  | nil => intro acc h; exact h
  | cons p ps ih =>
    intro acc h
    rw [List.foldl_cons]
    exact ih _ (logInv_processPack acc.1 cl col p h)

theorem logInv_processPushPull (st : Store) (colName cuid : String) (packs : List Pack) (h : LogInv st) :
    LogInv (st.processPushPull colName cuid packs).1 := by
  rcases processPushPull_cases st colName cuid packs with ⟨_, e⟩ | ⟨col, cl, -, -, -, e⟩ <;> rw [e]
  · exact h
  · exact logInv_foldl_step _ _ packs _ h

theorem logInv_makeCollection (st : Store) (name : String) (h : LogInv st) : LogInv (st.makeCollection name).1 := by
  unfold Store.makeCollection
  split
  · exact h
  · exact logInv_congr (st := st) rfl rfl h

theorem logInv_processClient (st : Store) (admin : Bool) (colName : String) (cl : ClientDoc) (h : LogInv st) :
    LogInv (st.processClient admin colName cl).1 := by
  unfold Store.processClient
  split
  · exact h
  · split
    · exact h
    · simp only []
      split
      · split
        · exact h
        · exact logInv_congr (st := st) rfl rfl h
      · exact logInv_congr (st := st) rfl rfl h

theorem logInv_updateSnapshot (st : Store) (duid colName : String) (h : LogInv st) : LogInv (st.updateSnapshot duid colName) := by
  unfold Store.updateSnapshot
  split
  · exact h
  · split
    · exact h
    · split
      · exact h
      · exact logInv_congr (st := st) rfl rfl h

theorem logInv_resetCollection (st : Store) (name : String) (h : LogInv st) : LogInv (st.resetCollection name) := by
  unfold Store.resetCollection
  split
  · exact logInv_makeCollection st name h
  · next c _ =>
    refine ⟨?_, ?_, ?_, ?_, ?_⟩
    · exact h.duidNodup.sublist (List.Sublist.map _ List.filter_sublist)
    · intro d hd
      simp only [List.mem_filter, decide_eq_true_eq] at hd
      have : ({ st with operations := st.operations.filter (fun o => o.colNum ≠ c.num),
                        snapshots := st.snapshots.filter (fun s => s.colNum ≠ c.num),
                        datatypes := st.datatypes.filter (fun d => d.colNum ≠ c.num),
                        clients := st.clients.filter (fun x => x.colNum ≠ c.num),
                        userDocs := st.userDocs.filter (fun u => u.col ≠ name) } : Store).opsOf d.duid
              = st.opsOf d.duid := by
        simp only [Store.opsOf, List.filter_filter]
        apply List.filter_congr
        intro o ho
        by_cases hod : o.duid = d.duid
        · have := h.sameCol o ho d hd.1 hod.symm
          simp [hod, this, hd.2]
        · simp [hod]
      rw [this]; exact h.gapless d hd.1
    · intro o ho
      simp only [List.mem_filter, decide_eq_true_eq] at ho
      obtain ⟨d, hd, hdo⟩ := h.noOrphan o ho.1
      refine ⟨d, ?_, hdo⟩
      simp only [List.mem_filter, decide_eq_true_eq]
      exact ⟨hd, by rw [← h.sameCol o ho.1 d hd hdo]; exact ho.2⟩
    · intro o ho d hd hdo
      simp only [List.mem_filter, decide_eq_true_eq] at ho hd
      exact h.sameCol o ho.1 d hd.1 hdo
    · intro d hd
      simp only [List.mem_filter, decide_eq_true_eq] at hd
      exact h.cpBound d hd.1

/-- the log only grows, by appending: earlier operation documents are never rewritten or dropped by a push-pull -/
theorem processPack_appends (st : Store) (cl : ClientDoc) (col : CollectionDoc) (p : Pack) :
    ∃ newDocs : List OpDoc, (processPack st cl col p).store.operations = st.operations ++ newDocs ∧
      newDocs.length = (processPack st cl col p).pushed := by
  rcases processPack_shape st cl col p with ⟨resp, he, _⟩ | ⟨d, doc, cp2, nd, he, hp, hs⟩
  · rw [he]; exact ⟨[], by simp, rfl⟩
  · rw [he]; exact ⟨nd, rfl, rfl⟩

/-- C06: exactly the accepted operations are stored, once, in the order given, each under the next
    server sequence number: what is appended is a sublist of the request's operations -/
theorem processPack_stores_pushed (st : Store) (cl : ClientDoc) (col : CollectionDoc) (p : Pack) :
    ∃ newDocs : List OpDoc, (processPack st cl col p).store.operations = st.operations ++ newDocs ∧
      (newDocs.map (·.op)).Sublist p.ops := by
  rcases processPack_shape st cl col p with ⟨resp, he, _⟩ | ⟨d, doc, cp2, nd, he, hp, hs⟩
  · rw [he]; exact ⟨[], by simp, by simp⟩
  · rw [he]; exact ⟨nd, rfl, (pushRes_spec hs hp).sub⟩

/-- C16: a refused pack (error response) leaves the store exactly as it was -/
theorem refused_store_unchanged (st : Store) (cl : ClientDoc) (col : CollectionDoc) (p : Pack)
    (h : (processPack st cl col p).resp.error = true) : (processPack st cl col p).store = st := by
  rcases processPack_shape st cl col p with ⟨resp, he, _⟩ | ⟨d, doc, cp2, nd, he, hp, hs⟩
  · rw [he]
  · rw [he] at h; exact absurd h (by simp [okR, resp1, resp0])

/-- C16: an RPC-level refusal leaves the store exactly as it was -/
theorem rpcErr_store_unchanged (st : Store) (colName cuid : String) (packs : List Pack) (code : Nat)
    (h : (st.processPushPull colName cuid packs).2.1 = .rpcErr code) : (st.processPushPull colName cuid packs).1 = st := by
  rcases processPushPull_cases st colName cuid packs with ⟨_, e⟩ | ⟨col, cl, -, -, -, e⟩ <;> rw [e] at h ⊢
  cases h

/-- C16: every pack is answered by a pack for the same key that is either a well-formed error pack
    (exactly one error operation) or a normal pack without the error bit -/
theorem always_answers (st : Store) (cl : ClientDoc) (col : CollectionDoc) (p : Pack) :
    let r := (processPack st cl col p).resp
    r.key = p.key ∧ ((r.error = true ∧ ∃ code, r.ops = [⟨OpId.nil, .error code⟩]) ∨ r.error = false) := by
  intro r
  rcases processPack_shape st cl col p with ⟨resp, he, h1, h2, h3⟩ | ⟨d, doc, cp2, nd, he, hp, hs⟩
  · have : r = resp := by simp only [r, he]
    rw [this]; exact ⟨h2, Or.inl ⟨h1, h3⟩⟩
  · have : r = (okR st cl col p d doc cp2 nd).resp := by simp only [r, he]
    rw [this]; exact ⟨rfl, Or.inr rfl⟩

theorem foldl_step_keys (cl : ClientDoc) (col : CollectionDoc) (packs : List Pack) :
    ∀ acc : Store × List Pack × List Notification × List (String × Nat),
      (packs.foldl (step cl col) acc).2.1.map (·.key) = acc.2.1.map (·.key) ++ packs.map (·.key) := by
  induction packs with
  | nil => intro acc; simp
  | cons p ps ih =>
    intro acc
    rw [List.foldl_cons, ih]
    have := (always_answers acc.1 cl col p).1
    simp [step, this]

/-- C16: one response pack per request pack, in order -/
theorem one_answer_per_pack (st : Store) (colName cuid : String) (packs resps : List Pack)
    (h : (st.processPushPull colName cuid packs).2.1 = .ok resps) :
    resps.map (·.key) = packs.map (·.key) := by
  rcases processPushPull_cases st colName cuid packs with ⟨_, e⟩ | ⟨col, cl, -, -, -, e⟩ <;> rw [e] at h
  · cases h
  · cases h
    rw [foldl_step_keys]; simp

/-- C06: the checkpoint recorded for a read-write client never goes back (its cseq does not decrease),
    and the end of the log of a datatype never goes back -/
theorem cseq_monotone (st : Store) (cl : ClientDoc) (col : CollectionDoc) (p : Pack) (d d' : DatatypeDoc) (s s' : SubClient)
    (h : LogInv st) (hd : d ∈ st.datatypes) (hs : d.sub cl.cuid false = some s)
    (hd' : d' ∈ (processPack st cl col p).store.datatypes) (hid : d'.duid = d.duid)
    (hs' : d'.sub cl.cuid false = some s') : s.cp.cseq ≤ s'.cp.cseq ∧ d.sseqEnd ≤ d'.sseqEnd := by
  have huniq : ∀ y ∈ st.datatypes, y.duid = d.duid → y = d := by
    intro y hy hyd
    exact eq_of_nodup_duid h.duidNodup hy hd hyd
  rcases processPack_shape st cl col p with ⟨resp, he, _⟩ | ⟨dsp, doc, cp2, nd, he, hp, hsv⟩
  · rw [he] at hd'
    have := huniq d' hd' hid
    subst this
    rw [hs] at hs'; cases hs'
    exact ⟨Nat.le_refl _, Nat.le_refl _⟩
  · rw [he] at hd'
    rcases mem_upsert_nodup h.duidNodup hd' with hd2 | ⟨hm, _⟩
    · -- d' is the committed document, so `doc` is `d`
      have hdoc : doc = d := by
        rcases hsv.src with ⟨hf, _⟩ | hm
        · exact absurd (by rw [← hid, hd2, doc2_duid]) (hf d hd)
        · exact huniq doc hm (by rw [← hid, hd2, doc2_duid])
      subst hdoc
      have P := pushRes_spec hsv hp
      obtain ⟨hc3a, hc3⟩ := cp3_spec (cl := cl) (cp2 := cp2) (nd := nd) h hsv
      constructor
      · rw [hd2] at hs'
        rcases doc2_sub_false _ _ _ _ _ _ _ hs' with h1 | ⟨hro, h1⟩
        · rw [hs] at h1; cases h1; exact Nat.le_refl _
        · rw [h1, hc3a]
          have : (cp0 cl p doc).cseq = s.cp.cseq := by simp [cp0, hro, hs]
          rw [← this]; exact P.cseq
      · rw [hd2, doc2_sseqEnd]
        cases hro : p.readOnly with
        | true => simp
        | false =>
          simp only [Bool.false_eq_true, if_false]
          rcases hc3 with h3 | h3
          · rw [h3]; exact Nat.le_add_right _ _
          · rw [h3, P.readWrite hro]; exact Nat.le_add_right _ _
    · have := huniq d' hm hid
      subst this
      rw [hs] at hs'; cases hs'
      exact ⟨Nat.le_refl _, Nat.le_refl _⟩

/-- no pack of anybody removes a datatype document, changes what identifies it (key, collection, type, visibility,
    beginning of the log) or moves its end of log back: on every path the only document written is `doc2`, which has these
    fields of the document worked on, and that is the stored one of its id or a new one -/
theorem processPack_keeps (st : Store) (cl : ClientDoc) (col : CollectionDoc) (p : Pack) (h : LogInv st)
    {u : String} {d : DatatypeDoc} (hg : st.getDatatype u = some d) :
    ∃ d', (processPack st cl col p).store.getDatatype u = some d' ∧ d'.key = d.key ∧ d'.colNum = d.colNum ∧
      d'.sseqBegin = d.sseqBegin ∧ d'.typ = d.typ ∧ d'.visible = d.visible ∧ d.sseqEnd ≤ d'.sseqEnd := by
  refine processPack_cases st cl col p (fun r => ∃ d', r.store.getDatatype u = some d' ∧ d'.key = d.key ∧
    d'.colNum = d.colNum ∧ d'.sseqBegin = d.sseqBegin ∧ d'.typ = d.typ ∧ d'.visible = d.visible ∧ d.sseqEnd ≤ d'.sseqEnd)
    (fun _ => ⟨d, hg, rfl, rfl, rfl, rfl, rfl, Nat.le_refl _⟩) (fun _ _ _ => ⟨d, hg, rfl, rfl, rfl, rfl, rfl, Nat.le_refl _⟩) ?_
  intro dd doc cp2 nd f hp
  obtain ⟨hm, hdu⟩ := getDatatype_some hg
  by_cases hu : u = doc.duid
  · have : doc = d := by
      rcases f.served.src with ⟨hf, _⟩ | hdoc
      · exact absurd (hdu.trans hu) (hf d hm)
      · exact eq_of_nodup_duid h.duidNodup hdoc hm (hu.symm.trans hdu.symm)
    subst this
    obtain ⟨f1, f2, f3, f4, f5⟩ := doc2_fields st cl p dd doc cp2 nd
    refine ⟨_, getDatatype_upsert_of_duid _ _ ((doc2_duid ..).trans hu.symm), f1, f2, f3, f4, f5, ?_⟩
    rw [doc2_sseqEnd]
    cases hro : p.readOnly with
    | true => exact Nat.le_refl _
    | false =>
      rw [if_neg Bool.false_ne_true, cp3_eq h f.served hp hro, (pushRes_spec f.served hp).readWrite hro]
      exact Nat.le_add_right _ _
  · exact ⟨d, (getDatatype_upsert_ne _ _ (by rw [doc2_duid]; exact hu)).trans hg, rfl, rfl, rfl, rfl, rfl, Nat.le_refl _⟩

end Orda
