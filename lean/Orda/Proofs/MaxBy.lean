/-
`Spec.maxBy key l`: the element of `l` with the greatest timestamp `key`, the rule by which maps and document objects
resolve concurrent writes.  It is in `l`, dominates `l`, and does not depend on the order of `l` when timestamps are distinct.
Then the one fact through which both use it: a cell written by last-writer-wins steps, in any order, holds what the write
`maxBy` selects has left (`lwwCell`, `foldl_lwwCell`).
-/
import Orda.Spec.Denote
import Orda.Proofs.HashCmp
namespace Orda

section maxBy
variable {α : Type} (key : α → Ts)

theorem maxBy_eq_none (l : List α) : Spec.maxBy key l = none ↔ l = [] := by
  cases l with
  | nil => exact ⟨fun _ => rfl, fun _ => rfl⟩
  | cons x xs =>
    rw [Spec.maxBy]
    refine ⟨fun h => ?_, fun h => nomatch h⟩
    split at h
    · cases h
    · split at h <;> cases h

theorem maxBy_snoc (xs : List α) (x : α) :
    Spec.maxBy key (xs ++ [x]) =
      match Spec.maxBy key xs with
      | none => some x
      | some y => if (key y).cmp (key x) == .lt then some x else some y := by
  induction xs with
  | nil => rfl
  | cons a xs ih =>
    simp only [List.cons_append, Spec.maxBy, ih]
    cases h : Spec.maxBy key xs with
    | none => rfl
    | some y =>
      simp only [beq_iff_eq]
      by_cases h1 : (key y).cmp (key x) = .lt <;> by_cases h2 : (key a).cmp (key y) = .lt
      · simp only [h1, h2, cmp_lt_trans _ _ _ h2 h1, if_true]
      · simp only [h1, h2, if_true, if_false]
      · simp only [h1, h2, if_true, if_false]
      · have h3 : (key a).cmp (key x) ≠ .lt := fun h3 =>
          (cmp_neg_trans _ (key y) _ h3).elim h2 h1
        simp only [h1, h2, h3, if_false]

theorem maxBy_spec : ∀ (l : List α) (y : α), Spec.maxBy key l = some y →
    y ∈ l ∧ ∀ z ∈ l, (key y).cmp (key z) ≠ .lt := by
  intro l
  induction l with
  | nil => intro y h; cases h
  | cons x xs ih =>
    intro y h
    rw [Spec.maxBy] at h
    cases h0 : Spec.maxBy key xs with
    | none =>
      rw [h0] at h; cases h
      rw [(maxBy_eq_none key xs).mp h0]
      exact ⟨List.mem_singleton_self _, fun z hz => by
        rw [List.mem_singleton.mp hz]; exact cmp_lt_irrefl _⟩
    | some y0 =>
      rw [h0] at h
      obtain ⟨hm, hmax⟩ := ih y0 h0
      simp only [beq_iff_eq] at h
      by_cases c : (key x).cmp (key y0) = .lt
      · rw [if_pos c] at h; cases h
        refine ⟨List.mem_cons_of_mem _ hm, fun z hz => ?_⟩
        rcases List.mem_cons.mp hz with rfl | hz
        · intro h'
          rw [(cmp_gt_iff_lt _ _).mpr h'] at c; cases c
        · exact hmax z hz
      · rw [if_neg c] at h; cases h
        refine ⟨List.mem_cons_self, fun z hz => ?_⟩
        rcases List.mem_cons.mp hz with rfl | hz
        · exact cmp_lt_irrefl _
        · exact fun h' => (cmp_neg_trans _ (key y0) _ h').elim c (hmax z hz)
theorem eq_of_cmp_eq_of_pairwise : ∀ (l : List α),
    l.Pairwise (fun a b => (key a).cmp (key b) ≠ .eq) →
    ∀ a ∈ l, ∀ b ∈ l, (key a).cmp (key b) = .eq → a = b := by
  intro l
  induction l with
  | nil => intro _ a ha; cases ha
  | cons x xs ih =>
    intro hp a ha b hb hab
    rw [List.pairwise_cons] at hp
    rcases List.mem_cons.mp ha with rfl | ha' <;> rcases List.mem_cons.mp hb with rfl | hb'
    · rfl
    · exact absurd hab (hp.1 b hb')
    · exact absurd (cmp_eq_symm _ _ hab) (hp.1 a ha')
    · exact ih hp.2 a ha' b hb' hab

theorem maxBy_perm (l l' : List α) (hp : l.Perm l')
    (hd : l.Pairwise (fun a b => (key a).cmp (key b) ≠ .eq)) :
    Spec.maxBy key l = Spec.maxBy key l' := by
  cases h : Spec.maxBy key l with
  | none =>
    have hl : l = [] := (maxBy_eq_none key l).mp h
    subst hl
    have : l' = [] := List.Perm.eq_nil hp.symm
    subst this
    rfl
  | some y =>
    cases h' : Spec.maxBy key l' with
    | none =>
      have hl : l' = [] := (maxBy_eq_none key l').mp h'
      subst hl
      have : l = [] := List.Perm.eq_nil hp
      subst this
      simp [Spec.maxBy] at h
    | some y' =>
      obtain ⟨hm, hmax⟩ := maxBy_spec key l y h
      obtain ⟨hm', hmax'⟩ := maxBy_spec key l' y' h'
      have hy'l : y' ∈ l := hp.mem_iff.mpr hm'
      have hyl' : y ∈ l' := hp.mem_iff.mp hm
      have n1 := hmax y' hy'l
      have n2 := hmax' y hyl'
      cases hc : (key y).cmp (key y') with
      | lt => exact absurd hc n1
      | gt => exact absurd ((cmp_gt_iff_lt _ _).mp hc) n2
      | eq => rw [eq_of_cmp_eq_of_pairwise key l hd y hm y' hy'l hc]

theorem maxBy_filter_perm (p : α → Bool) {l l' : List α} (hp : l.Perm l')
    (hd : l.Pairwise (fun a b => (key a).cmp (key b) ≠ .eq)) :
    Spec.maxBy key (l.filter p) = Spec.maxBy key (l'.filter p) :=
  maxBy_perm key _ _ (hp.filter _) (List.Pairwise.filter _ hd)

end maxBy

/-! ### a cell written by last-writer-wins steps holds what the newest write left

`ε`: what a cell holds, `time` its stamp; `mk a`: what the write `a` leaves.  Map entries and the keys of document objects
are the two instances. -/

section lww
variable {α ε : Type} (key : α → Ts) (mk : α → ε) (time : ε → Ts)

/-- last writer wins between what the cell held at first (`s`) and the newest write (`w`) -/
def lwwCell (s : Option ε) (w : Option α) : Option ε :=
  match w, s with
  | none, s => s
  | some w, none => some (mk w)
  | some w, some e => if (time e).cmp (key w) = .lt then some (mk w) else some e

/-- a step that lets the newer of cell and write stand, folded over ANY order of writes: the cell holds `lwwCell` of the write
    with the greatest stamp.  A write may fail to bind an empty cell (a remove); then the first write must not be one. -/
theorem foldl_lwwCell {step : Option ε → α → Option ε} (hm : ∀ a, time (mk a) = key a)
    (hs : ∀ e a, step (some e) a = if (time e).cmp (key a) = .lt then some (mk a) else some e) (s : Option ε) :
    ∀ l : List α, (s = none → ∀ a, l.head? = some a → step none a = some (mk a)) →
      l.foldl step s = lwwCell key mk time s (Spec.maxBy key l) := by
  intro l
  -- induction from the right end of `l`: `foldl` runs from the left, `Spec.maxBy` recurses from the right (`maxBy_snoc`)
  rw [← List.reverse_reverse l]
  induction l.reverse with
  | nil => intro _; rfl
  | cons x r ih =>
    intro hb
    have ih' := ih fun hn a ha => hb hn a (by rw [List.reverse_cons, List.head?_append, ha]; rfl)
    rw [List.reverse_cons, List.foldl_append, List.foldl_cons, List.foldl_nil, maxBy_snoc, ih']
    simp only [beq_iff_eq]
    cases hmax : Spec.maxBy key r.reverse with
    | none =>
      cases s with
      | none => exact hb rfl x (by rw [List.reverse_cons, (maxBy_eq_none key _).mp hmax]; rfl)
      | some e => exact hs e x
    | some y =>
      dsimp only
      cases s with
      | none =>
        show step (some (mk y)) x = _
        rw [hs, hm]
        by_cases c : (key y).cmp (key x) = .lt
        · rw [if_pos c, if_pos c]; rfl
        · rw [if_neg c, if_neg c]; rfl
      | some e =>
        show step (if (time e).cmp (key y) = .lt then some (mk y) else some e) x = _
        by_cases c1 : (time e).cmp (key y) = .lt <;> by_cases c : (key y).cmp (key x) = .lt
        · rw [if_pos c1, if_pos c, hs, hm, if_pos c]; exact (if_pos (cmp_lt_trans _ _ _ c1 c)).symm
        · rw [if_pos c1, if_neg c, hs, hm, if_neg c]; exact (if_pos c1).symm
        · rw [if_neg c1, if_pos c, hs]; rfl
        · rw [if_neg c1, if_neg c, hs, if_neg fun h => (cmp_neg_trans _ (key y) _ h).elim c1 c]; exact (if_neg c1).symm

end lww

end Orda
