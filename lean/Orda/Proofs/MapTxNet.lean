/-
Transactions over the server log are all-or-nothing on every replica (C09 end to end, Map datatype and Counter).
Namespace `Orda.MTx`: the four steps of `ListTxNet`'s system (`call`, `tx`, `pushAll`, `pullAll`) over `MNet`'s nodes and log,
parameterised by the datatype `typ`; the theorems assume `Flat typ` (`.map` or `.counter`) and `Reach`, nothing else.

The argument is `GTx`'s (Proofs/TxCore.lean), at the view of `MNet.Node`: an INVARIANT `SI` of the header-free system is reused as
a black box on the header-erased state (`Abs`, `TxInv.abs`); all that is asked of it is `FreeInv`: `GTx.HeaderFree`, the interface of `GTx` (on a
map or a counter no execution and no validation ever panics, so nothing is remembered of the operations in buffers and log; what a
call queues is an operation of the datatype — a remove inside a transaction of a key put earlier in the SAME transaction has what
it `Needs`), and every state it admits is what the datatype makes of the node's operations.  The instance here is `SNet`,
`MNet.Inv` as `NetBook` states it (`headerFree_inv`, no guard; read back into `MNet.Inv` by `mtx_erased_satisfies_mnet_inv`);
Proofs/FlatTxNetCreate.lean has the one with a creating client.
-/
import Orda.Proofs.TxCore
import Orda.Proofs.MapNet
namespace Orda.MTx
open Orda Orda.MNet
open Orda.LTx (isHdr IsUnit flatU nh eraseB eraseL)

/-! ## 0. maps and counters never panic -/

/-- the state of a replica of a flat datatype -/
def FlatState (s : DState) : Prop := (∃ m, s = .map m) ∨ (∃ v, s = .counter v)

theorem flatState_sem {typ : DtType} (hf : Flat typ) (ops : List Op) : FlatState (sem typ ops) := by
  rcases hf with rfl | rfl
  · exact Or.inl ⟨_, rfl⟩
  · exact Or.inr ⟨_, rfl⟩

theorem execLocal_flat_no_panic {s : DState} (hs : FlatState s) (ts : Ts) (b : OpBody) (w : String) :
    execLocal s ts b ≠ .panic w := by
  rcases hs with ⟨m, rfl⟩ | ⟨v, rfl⟩
  · cases b with
    | remove k =>
      have hnp : ∀ w', (m.removeLocal k ts).2 ≠ .panic w' := by
        intro w'
        unfold LwwMap.removeLocal
        split <;> (try split) <;> simp
      simp only [execLocal]
      rcases hr : m.removeLocal k ts with ⟨m', (old | c | w')⟩
      · simp
      · simp
      · exact absurd (congrArg Prod.snd hr) (hnp w')
    | _ => simp [execLocal]
  · cases b <;> simp [execLocal]

theorem execRemote_flat {s : DState} (hs : FlatState s) (ts : Ts) (b : OpBody) :
    ∃ s', execRemote s ts b = .ok s' ∧ FlatState s' := by
  rcases hs with ⟨m, rfl⟩ | ⟨v, rfl⟩
  · cases b with
    | snapshot s => cases s <;> exact ⟨_, rfl, Or.inl ⟨_, rfl⟩⟩
    | _ => exact ⟨_, rfl, Or.inl ⟨_, rfl⟩⟩
  · cases b with
    | snapshot s => cases s <;> exact ⟨_, rfl, Or.inr ⟨_, rfl⟩⟩
    | _ => exact ⟨_, rfl, Or.inr ⟨_, rfl⟩⟩

theorem execRemoteBase_flat (r : Replica) (hs : FlatState r.state) (o : Op) :
    (r.execRemoteBase o).2 = none ∧ FlatState (r.execRemoteBase o).1.state := by
  obtain ⟨s', h1, h2⟩ := execRemote_flat hs o.id.ts o.body
  simp [Replica.execRemoteBase, h1, h2]

theorem prepare_flat_done {s : DState} (hs : FlatState s) {c : Call} {o : Outcome Ret} (h : c.prepare s = .done o) :
    o.isPanic = false := by
  rcases hs with ⟨m, rfl⟩ | ⟨v, rfl⟩
  all_goals
    cases c <;> simp only [Call.prepare] at h
    all_goals (try split at h) <;>
      first
        | (cases h; done)
        | (simp only [Prep.done.injEq] at h; subst h; rfl)

/-- a public call on a map or a counter never panics -/
theorem call_no_panic (r : Replica) (hs : FlatState r.state) (c : Call) : (r.call c).2.isPanic = false :=
  call_no_panic_of (fun _ hp => prepare_flat_done hs hp) (fun b _ w _ => execLocal_flat_no_panic hs _ b w)

theorem opOK_not_hdr {typ : DtType} {o : Op} (h : OpOK typ o) : isHdr o = false := by
  unfold isHdr
  split
  · rename_i tag k hb
    cases typ <;> simp only [OpOK] at h
    · obtain ⟨d, hd⟩ := h
      rw [hb] at hd; cases hd
    · unfold isMapOp at h
      rw [hb] at h
      cases h
  · rfl

/-! ## 1. the system: map / counter replicas with transactions around ONE server log, whole-buffer pushes, whole-log pulls -/

/-- what node `i` hands to `receive` when it pulls: the operations of the others in the rest of the log, in log order -/
def pullOps (log : List LEnt) (i : Nat) (nd : Node) : List Op := (oth i (log.drop nd.pulled)).map (·.2)

inductive Step : Net → Net → Prop
  /-- node `i` issues the public call `c` — ANY `Call` -/
  | call (net : Net) (i : Nat) (nd : Node) (c : Call) (hi : net.nodes[i]? = some nd) :
      Step net ⟨net.nodes.set i { nd with r := (nd.r.call c).1 }, net.log⟩
  /-- node `i` runs the user transaction `tag` whose body issues `calls` (ANY calls; `stopOnErr`: the body returns at
      the first refused call; `failAtEnd`: the user function returns an error) -/
  | tx (net : Net) (i : Nat) (nd : Node) (tag : String) (calls : List Call) (stopOnErr failAtEnd : Bool)
      (hi : net.nodes[i]? = some nd) :
      Step net ⟨net.nodes.set i { nd with r := (nd.r.txCalls tag calls stopOnErr failAtEnd).1 }, net.log⟩
  /-- ALL unpushed operations of node `i`'s buffer are appended to the log, in buffer order (one request) -/
  | pushAll (net : Net) (i : Nat) (nd : Node) (hi : net.nodes[i]? = some nd) :
      Step net ⟨net.nodes.set i { nd with pushed := nd.r.buffer.length },
                net.log ++ (nd.r.buffer.drop nd.pushed).map (fun o => (i, o))⟩
  /-- node `i` consumes the whole rest of the log: the entries of the others go through ONE `Replica.receive` -/
  | pullAll (net : Net) (i : Nat) (nd : Node) (hi : net.nodes[i]? = some nd) :
      Step net ⟨net.nodes.set i { nd with r := (nd.r.receive (pullOps net.log i nd)).1, pulled := net.log.length },
                net.log⟩

/-- reachable from `n` fresh subscribers `Replica.new typ (cuid i) false` with pairwise distinct client identifiers -/
inductive Reach (typ : DtType) (cuid : Nat → String) (n : Nat) : Net → Prop
  | init (hc : CuidsDistinct cuid n) : Reach typ cuid n (Net.init typ cuid n)
  | step {net net' : Net} : Reach typ cuid n net → Step net net' → Reach typ cuid n net'

/-! ### the steps as a function: what the runs of §5 evaluate -/

inductive Act where
  | call (i : Nat) (c : Call)
  | tx (i : Nat) (tag : String) (calls : List Call) (stopOnErr failAtEnd : Bool)
  | pushAll (i : Nat)
  | pullAll (i : Nat)

def act (net : Net) : Act → Option Net
  | .call i c =>
    match net.nodes[i]? with
    | some nd => some ⟨net.nodes.set i { nd with r := (nd.r.call c).1 }, net.log⟩
    | none => none
  | .tx i tag calls s f =>
    match net.nodes[i]? with
    | some nd => some ⟨net.nodes.set i { nd with r := (nd.r.txCalls tag calls s f).1 }, net.log⟩
    | none => none
  | .pushAll i =>
    match net.nodes[i]? with
    | some nd => some ⟨net.nodes.set i { nd with pushed := nd.r.buffer.length },
        net.log ++ (nd.r.buffer.drop nd.pushed).map (fun o => (i, o))⟩
    | none => none
  | .pullAll i =>
    match net.nodes[i]? with
    | some nd => some ⟨net.nodes.set i { nd with r := (nd.r.receive (pullOps net.log i nd)).1,
                                                  pulled := net.log.length }, net.log⟩
    | none => none

def run (net : Net) : List Act → Option Net
  | [] => some net
  | a :: as => match act net a with
    | some net' => run net' as
    | none => none

theorem step_of_act {net net' : Net} {a : Act} (h : act net a = some net') : Step net net' := by
  cases a <;> simp only [act] at h <;> split at h <;> cases h
  · exact .call net _ _ _ ‹_›
  · exact .tx net _ _ _ _ _ _ ‹_›
  · exact .pushAll net _ _ ‹_›
  · exact .pullAll net _ _ ‹_›

theorem reach_run {typ : DtType} {cuid : Nat → String} {n : Nat} : ∀ (as : List Act) {net net' : Net},
    Reach typ cuid n net → run net as = some net' → Reach typ cuid n net' := fun as _ _ hr h =>
  ListAux.run_induction (Q := fun _ => True) (fun _ => rfl) (fun s a _ => by simp only [run]; cases act s a <;> rfl)
    (fun hr _ h => .step hr (step_of_act h)) as hr h fun _ _ => trivial

/-! ## 2. `MapNet`'s invariant as the header-free side -/

/-- node `nd0` of `MapNet` is node `nd` of this system with the headers erased: `GTx.AbsC` on the two nodes (`Abs.ofG`) -/
structure AbsNode (log : List LEnt) (nd nd0 : Node) : Prop where
  st : nd0.r.state = nd.r.state
  id : nd0.r.opId = nd.r.opId
  buf : nd0.r.buffer = eraseB nd.r.buffer
  pushed : nd0.pushed = (eraseB (nd.r.buffer.take nd.pushed)).length
  pulled : nd0.pulled = (eraseL (log.take nd.pulled)).length

/-- `net0` is `net` with the headers erased from log and buffers -/
structure Abs (net net0 : Net) : Prop where
  log : net0.log = eraseL net.log
  len : net0.nodes.length = net.nodes.length
  node : ∀ (i : Nat) (nd : Node), net.nodes[i]? = some nd → ∃ nd0, net0.nodes[i]? = some nd0 ∧ AbsNode net.log nd nd0

theorem Abs.ofG {ns ns0 : List Node} {lg lg0 : List LEnt} (h : GTx.Abs view ns lg ns0 lg0) : Abs ⟨ns, lg⟩ ⟨ns0, lg0⟩ :=
  ⟨h.log, h.len, fun i nd hi =>
    have ⟨nd0, h0, An⟩ := h.node i nd hi
    ⟨nd0, h0, An.st, An.id, An.buf, An.pushed, An.pulled⟩⟩

/-- what is known of an operation that node `i` queues: `GTx.HeaderFree`'s `Good` for maps and counters -/
structure GoodOp (typ : DtType) (cuid : Nat → String) (i : Nat) (o : Op) : Prop where
  ok : OpOK typ o
  cu : o.id.cuid = cuid i

theorem GoodOp.nh {typ : DtType} {cuid : Nat → String} {i : Nat} {o : Op} (g : GoodOp typ cuid i o) : isHdr o = false :=
  opOK_not_hdr g.ok

theorem queued_good {typ : DtType} {cuid : Nat → String} {i : Nat} {r : Replica} {ops : List Op} (hf : Flat typ)
    (hs : r.state = sem typ ops) (hc : Causal typ ops) (c : Call) {o : Op} (hb : (r.call c).1.buffer = r.buffer ++ [o])
    (hcu : o.id.cuid = cuid i) : GoodOp typ cuid i o := by
  rcases call_cases hf r ops hs hc c with h | ⟨o', hbuf, _, _, _, hok, _⟩
  · exact absurd ((congrArg Replica.buffer h).symm.trans hb) (by simp)
  · obtain rfl : o' = o := List.singleton_inj.mp (List.append_cancel_left (hbuf.symm.trans hb))
    exact ⟨hok, hcu⟩

/-- `SI` is an invariant of the header-free system that `GTx` can use — the steps of `MapNet`, a node `i` calling only where
    `G i pulled`; nothing is remembered of the operations in buffers and log —, and every state it admits is what the datatype
    makes of the node's operations.  It serves `MNet.Inv` (here, `G` true) and `FNetC.M.InvC` (Proofs/FlatTxNetCreate.lean: the
    system started by a creating client, `G` its guard) alike. -/
structure FreeInv (typ : DtType) (cuid : Nat → String) (n : Nat) (G : Nat → Nat → Prop) (SI : Net → Prop) : Prop where
  toG : GTx.HeaderFree view cuid n G (fun _ => True) (GoodOp typ cuid) (fun _ => True) (fun ns lg => SI ⟨ns, lg⟩)
  applied : ∀ {net : Net}, SI net → ∃ applied : Nat → List Op, ∀ (i : Nat) (nd : Node), net.nodes[i]? = some nd →
    nd.r.state = sem typ (applied i) ∧ Causal typ (applied i) ∧ DistinctTs (applied i) ∧
      (applied i).Perm (appliedOps net.log i nd)

/-- `MNet.Inv`, as `NetBook` states it -/
abbrev SNet (typ : DtType) (cuid : Nat → String) (n : Nat) (net : Net) : Prop :=
  ∃ ap, NetBook.NetInv view (EntOK typ cuid n) (Dt typ) (fun _ => True) cuid n net.nodes net.log ap

theorem headerFree_inv (typ : DtType) (cuid : Nat → String) (n : Nat) (hf : Flat typ) :
    FreeInv typ cuid n (fun _ _ => True) (SNet typ cuid n) where
  toG := GTx.HeaderFree.of_net (V := view) (closed hf cuid n)
      (guard := fun _ _ => trivial)
      (good := fun g => ⟨g.nh, g.cu, trivial⟩)
      (hdr_safe := fun _ => trivial)
      (bump := fun d h => ⟨h.state.trans d.1, d.2⟩)
      (nopanic := fun d _ => call_no_panic _ (d.1 ▸ flatState_sem hf _) _)
      (queued := fun d _ hb hcu => queued_good hf d.1 d.2 _ hb hcu)
      (deliver := fun I hi _ _ _ => (execRemoteBase_flat _ ((I.node _ _ hi).1.1 ▸ flatState_sem hf _) _).1)
  applied := fun ⟨ap, I⟩ => ⟨fun i => opsOf (ap i), fun i nd hi =>
    have N := (Inv.of_net hf I).node i nd hi
    ⟨N.st, N.causal_ops, distinctTs_of_keys N.keys, (Inv.of_net hf I).ops_perm hi⟩⟩

abbrev TxInv (cuid : Nat → String) (n : Nat) (SI : Net → Prop) (net : Net) : Prop :=
  GTx.TInv view cuid n (fun _ => True) (fun ns lg => SI ⟨ns, lg⟩) net.nodes net.log

/-! ## 3. what the invariant gives -/

section headerFree
variable {typ : DtType} {cuid : Nat → String} {n : Nat} {G : Nat → Nat → Prop} {SI : Net → Prop}

theorem TxInv.abs {net : Net} (T : TxInv cuid n SI net) : ∃ net0, SI net0 ∧ Abs net net0 :=
  have ⟨ns0, lg0, I, Ab⟩ := T.sim
  ⟨⟨ns0, lg0⟩, I, .ofG Ab⟩

/-- node `i` has applied the log entry `e` of another node: `e` is among the entries `i` has consumed -/
def Applied (net : Net) (i : Nat) (e : LEnt) : Prop :=
  ∃ nd, net.nodes[i]? = some nd ∧ e ∈ oth i (net.log.take nd.pulled)

theorem sameOps_perm {net : Net} {i j : Nat} (h : SameOps net i j) (hi : i < net.nodes.length)
    (hj : j < net.nodes.length) :
    (appliedOps net.log i net.nodes[i]).Perm (appliedOps net.log j net.nodes[j]) := by
  obtain ⟨ni, nj, hni, hnj, hperm⟩ := h
  rw [List.getElem?_eq_getElem hi] at hni
  rw [List.getElem?_eq_getElem hj] at hnj
  cases hni
  cases hnj
  exact hperm

-- `TxInv` abbreviates `GTx.TInv`: `T.x` is `MTx.TxInv.x` where there is one (`committed` is `GTx.TInv.committed` with `GoodOp`
-- spelt out), and `GTx.TInv.x` otherwise
namespace TxInv
variable {net : Net} (F : FreeInv typ cuid n G SI) (T : TxInv cuid n SI net)
include T

section node
variable {i : Nat} {nd : Node} (hi : net.nodes[i]? = some nd)
include F hi

/-- `hg`: the guard, read on the header-free side -/
theorem committed (tag : String) (calls : List Call) (s f : Bool)
    (hg : G i (eraseL (net.log.take nd.pulled)).length) (hok : (nd.r.txCalls tag calls s f).2.2 = .ok ()) :
    ∃ ops : List Op,
      (nd.r.txCalls tag calls s f).1.buffer =
        nd.r.buffer ++ (⟨nd.r.opId.next, .transaction tag ((ops.length : Int) + 1)⟩ :: ops) ∧
      IsUnit (⟨nd.r.opId.next, .transaction tag ((ops.length : Int) + 1)⟩ :: ops) ∧
      ∀ o ∈ ops, isHdr o = false ∧ OpOK typ o ∧ o.id.cuid = cuid i ∧ nd.r.opId.lamport + 1 < o.id.lamport := by
  obtain ⟨ops, hb, hu, h⟩ := GTx.TInv.committed F.toG T hi tag calls (fun _ _ => trivial) s f hg hok
  exact ⟨ops, hb, hu, fun o ho => ⟨(h o ho).1.nh, (h o ho).1.ok, (h o ho).1.cu, (h o ho).2⟩⟩

end node

include F in
theorem nodes_applied : ∃ applied : Nat → List Op, ∀ (i : Nat) (nd : Node), net.nodes[i]? = some nd →
    nd.r.state = sem typ (applied i) ∧ Causal typ (applied i) ∧ DistinctTs (applied i) ∧
      (applied i).Perm (eraseB (appliedOps net.log i nd)) := by
  obtain ⟨ns0, lg0, I, Ab⟩ := T.sim
  obtain ⟨applied, ha⟩ := F.applied I
  refine ⟨applied, fun i nd hi => ?_⟩
  obtain ⟨nd0, h0, hst, hops⟩ := Ab.ops hi
  obtain ⟨h1, h2, h3, h4⟩ := ha i nd0 h0
  have e : appliedOps lg0 i nd0 = eraseB (appliedOps net.log i nd) := hops
  exact ⟨hst ▸ h1, h2, h3, e ▸ h4⟩

theorem sameOps_of_quiescent (hq : Quiescent net) {i j : Nat} (hi : i < net.nodes.length)
    (hj : j < net.nodes.length) : SameOps net i j :=
  ⟨_, _, List.getElem?_eq_getElem hi, List.getElem?_eq_getElem hj,
    T.caught_up_perm (List.getElem?_eq_getElem hi) (List.getElem?_eq_getElem hj) (hq _ (List.getElem_mem hi)).1
      (hq _ (List.getElem_mem hi)).2 (hq _ (List.getElem_mem hj)).1 (hq _ (List.getElem_mem hj)).2⟩

end TxInv

/-! ### the LWW map -/

theorem mapKeyOps_eraseB (k : String) (l : List Op) : Spec.mapKeyOps k (eraseB l) = Spec.mapKeyOps k l := by
  unfold Spec.mapKeyOps eraseB
  rw [List.filter_filter]
  apply List.filter_congr
  intro o _
  cases hh : isHdr o
  · simp [nh, hh]
  · unfold isHdr at hh
    split at hh
    · rename_i tag k' hb
      simp [hb]
    · cases hh

namespace TxInv
variable {net : Net} (F : FreeInv .map cuid n G SI) (T : TxInv cuid n SI net)
include F T

theorem map_nodes_applied : ∃ applied : Nat → List Op,
    ∀ (i : Nat) (nd : Node), net.nodes[i]? = some nd →
      nd.r.state = .map (mapApplyAll LwwMap.empty (applied i)) ∧ MapCausal (applied i) ∧ DistinctTs (applied i) ∧
      (applied i).Perm (eraseB (appliedOps net.log i nd)) := by
  obtain ⟨applied, ha⟩ := T.nodes_applied F
  exact ⟨applied, fun i nd hi =>
    have ⟨h1, h2, h3, h4⟩ := ha i nd hi
    ⟨h1, mapCausal_of_causal h2, h3, h4⟩⟩

theorem state_is_map : ∀ nd ∈ net.nodes, ∃ m, nd.r.state = .map m ∧ m.WF := by
  intro nd hnd
  obtain ⟨applied, ha⟩ := T.map_nodes_applied F
  obtain ⟨i, hi⟩ := List.mem_iff_getElem?.mp hnd
  exact ⟨_, (ha i nd hi).1, wf_mapApplyAll _ _ wf_empty⟩

theorem reads_are_spec {i : Nat} {nd : Node} (m : LwwMap) (hi : net.nodes[i]? = some nd) (hm : nd.r.state = .map m) :
    (∀ k, m.get k = Spec.mapGet (appliedOps net.log i nd) k) ∧
    m.size = ((Spec.mapView (appliedOps net.log i nd)).length : Int) := by
  obtain ⟨applied, ha⟩ := T.map_nodes_applied F
  obtain ⟨h1, h2, h3, h4⟩ := ha i nd hi
  rw [hm] at h1
  simp only [DState.map.injEq] at h1
  have hget : ∀ k, m.get k = Spec.mapGet (appliedOps net.log i nd) k := by
    intro k
    rw [h1, map_denote _ h2 h3 k, spec_mapGet_perm _ _ h4 h3 k]
    unfold Spec.mapGet
    rw [mapKeyOps_eraseB]
  exact ⟨hget, size_eq_of_get m _ (h1 ▸ wf_mapApplyAll _ _ wf_empty) hget⟩

theorem same_operations_same_reads (i j : Nat) (hi : i < net.nodes.length) (hj : j < net.nodes.length)
    (mi mj : LwwMap) (hmi : net.nodes[i].r.state = .map mi) (hmj : net.nodes[j].r.state = .map mj)
    (hsame : SameOps net i j) :
    (∀ k, mi.get k = mj.get k) ∧ mi.size = mj.size ∧
    (∀ k, alFind k mi.live = alFind k mj.live) ∧ mi.live.Perm mj.live ∧ sortedView mi = sortedView mj ∧
    jsonView mi = jsonView mj := by
  obtain ⟨applied, ha⟩ := T.nodes_applied F
  obtain ⟨a1, a2, a3, a4⟩ := ha i _ (List.getElem?_eq_getElem hi)
  obtain ⟨b1, b2, _, b4⟩ := ha j _ (List.getElem?_eq_getElem hj)
  exact reads_of_perm (a1.symm.trans hmi) (b1.symm.trans hmj) a2 b2 a3
    ((a4.trans ((sameOps_perm hsame hi hj).filter _)).trans b4.symm)

end TxInv

/-! ### the counter -/

theorem counter_fold_eraseB : ∀ (l : List Op) (v : Int), (eraseB l).foldl counterApply v = l.foldl counterApply v
  | [], _ => rfl
  | o :: os, v => by
    cases hh : isHdr o
    · rw [LTx.eraseB_cons_nh hh, List.foldl_cons, List.foldl_cons]
      exact counter_fold_eraseB os _
    · have : counterApply v o = v := by
        unfold isHdr at hh
        split at hh
        · rename_i tag k hb
          unfold counterApply
          rw [hb]
        · cases hh
      rw [LTx.eraseB_cons_hdr hh, List.foldl_cons, this]
      exact counter_fold_eraseB os v

namespace TxInv
variable {net : Net} (F : FreeInv .counter cuid n G SI) (T : TxInv cuid n SI net)
include F T

theorem ctr_nodes_applied : ∃ applied : Nat → List Op,
    ∀ (i : Nat) (nd : Node), net.nodes[i]? = some nd →
      nd.r.state = .counter ((applied i).foldl counterApply 0) ∧
      (applied i).Perm (eraseB (appliedOps net.log i nd)) := by
  obtain ⟨applied, ha⟩ := T.nodes_applied F
  exact ⟨applied, fun i nd hi =>
    have ⟨hst, _, _, hperm⟩ := ha i nd hi
    ⟨hst, hperm⟩⟩

theorem value_is_spec {i : Nat} {nd : Node} (hi : net.nodes[i]? = some nd) :
    nd.r.state = DState.counter (Spec.counter (appliedOps net.log i nd)) := by
  obtain ⟨applied, ha⟩ := T.ctr_nodes_applied F
  obtain ⟨h1, h2⟩ := ha i nd hi
  rw [h1, counter_converge _ _ h2, counter_fold_eraseB, counter_denote]

theorem ctr_same_operations_same_state (i j : Nat) (hi : i < net.nodes.length) (hj : j < net.nodes.length)
    (hsame : SameOps net i j) : net.nodes[i].r.state = net.nodes[j].r.state := by
  obtain ⟨applied, ha⟩ := T.nodes_applied F
  obtain ⟨a1, _, _, a4⟩ := ha i _ (List.getElem?_eq_getElem hi)
  obtain ⟨b1, _, _, b4⟩ := ha j _ (List.getElem?_eq_getElem hj)
  rw [a1, b1]
  exact counter_of_perm ((a4.trans ((sameOps_perm hsame hi hj).filter _)).trans b4.symm)

end TxInv
end headerFree

/-! ## 4. the theorems: `MapNet`'s invariant on the header-free side, every call allowed -/

theorem tinv_init {typ : DtType} {cuid : Nat → String} {n : Nat} (hf : Flat typ) (hc : CuidsDistinct cuid n) :
    TxInv cuid n (SNet typ cuid n) (Net.init typ cuid n) :=
  .init ⟨_, (inv_init hf hc).toNet⟩ fun i nd hi => by
    obtain ⟨rfl, _⟩ := ListAux.range_map_node hi
    exact ⟨rfl, rfl, rbInv_new _ _ _, GTx.unitsB_nil, .nil, fun _ ho => nomatch ho⟩

theorem tinv_reach {typ : DtType} {cuid : Nat → String} {n : Nat} {net : Net} (hf : Flat typ)
    (h : Reach typ cuid n net) : TxInv cuid n (SNet typ cuid n) net := by
  induction h with
  | init hc => exact tinv_init hf hc
  | step _ hs ih =>
    have HF := (headerFree_inv typ cuid n hf).toG
    cases hs with
    | call i nd c hi => exact ih.call HF hi (hc := trivial) (hg := trivial)
    | tx i nd tag calls s f hi => exact ih.tx HF hi tag calls (hcs := fun _ _ => trivial) s f (hg := trivial)
    | pushAll i nd hi => exact ih.pushAll HF hi
    | pullAll i nd hi => exact ih.pullAll HF hi

section theorems
variable {typ : DtType} {cuid : Nat → String} {n : Nat} {net : Net}
open Orda.LTx (unitStart)

/-- in a reachable state a transaction (ANY body) never panics: it ends with `.ok ()` or with an error -/
theorem mtx_tx_never_panics (hf : Flat typ) (h : Reach typ cuid n net) {i : Nat} {nd : Node}
    (hi : net.nodes[i]? = some nd) (tag : String) (calls : List Call) (stopOnErr failAtEnd : Bool) :
    (nd.r.txCalls tag calls stopOnErr failAtEnd).2.2 = .ok () ∨
      ∃ c, (nd.r.txCalls tag calls stopOnErr failAtEnd).2.2 = .err c :=
  (tinv_reach hf h).tx_never_panics (headerFree_inv typ cuid n hf).toG hi tag calls (fun _ _ => trivial) stopOnErr failAtEnd
    trivial

/-- **a failing transaction changes nothing on its node**: operation identifier, state, buffer, checkpoint are what they
    were (whatever the body did before it failed: valid and refused calls, reads, early return, failing user function) -/
theorem mtx_failed_tx_is_noop (hf : Flat typ) (h : Reach typ cuid n net) {i : Nat} {nd : Node}
    (hi : net.nodes[i]? = some nd) (tag : String) (calls : List Call) (stopOnErr failAtEnd : Bool) (c : Nat)
    (herr : (nd.r.txCalls tag calls stopOnErr failAtEnd).2.2 = .err c) :
    let r' := (nd.r.txCalls tag calls stopOnErr failAtEnd).1
    r'.opId = nd.r.opId ∧ r'.state = nd.r.state ∧ r'.buffer = nd.r.buffer ∧ r'.cp = nd.r.cp :=
  txCalls_fail_restores nd.r ((tinv_reach hf h).node i nd hi).rb tag calls stopOnErr failAtEnd c herr

/-- … stated for the system: after the `tx` step of a failing transaction the log is the same and every node has the same
    state, operation identifier, buffer, checkpoint and counters as before -/
theorem mtx_failed_tx_is_noop_net (hf : Flat typ) (h : Reach typ cuid n net) {i : Nat} {nd : Node}
    (hi : net.nodes[i]? = some nd) (tag : String) (calls : List Call) (stopOnErr failAtEnd : Bool) (c : Nat)
    (herr : (nd.r.txCalls tag calls stopOnErr failAtEnd).2.2 = .err c) {net' : Net}
    (hnet : net' = ⟨net.nodes.set i { nd with r := (nd.r.txCalls tag calls stopOnErr failAtEnd).1 }, net.log⟩) :
    Step net net' ∧ net'.log = net.log ∧ ∀ (j : Nat) (nd' : Node), net'.nodes[j]? = some nd' →
      ∃ ndj, net.nodes[j]? = some ndj ∧ nd'.r.opId = ndj.r.opId ∧ nd'.r.state = ndj.r.state ∧
        nd'.r.buffer = ndj.r.buffer ∧ nd'.r.cp = ndj.r.cp ∧ nd'.pushed = ndj.pushed ∧ nd'.pulled = ndj.pulled := by
  subst hnet
  exact ⟨.tx net i nd tag calls stopOnErr failAtEnd hi, rfl, (tinv_reach hf h).failed_noop hi tag calls stopOnErr failAtEnd c herr⟩

/-- **a committed transaction appends exactly ONE unit** `header :: ops` to the buffer; the header carries the first
    identifier of the transaction and announces the unit's length; `ops` (the operations of the successful calls of the
    body) contains no header: every one is an operation of the datatype (`OpOK typ`: a put or a remove for a map, an
    increase for a counter), carries the node's client identifier and is newer than the header -/
theorem mtx_committed_tx_is_one_unit (hf : Flat typ) (h : Reach typ cuid n net) {i : Nat} {nd : Node}
    (hi : net.nodes[i]? = some nd) (tag : String) (calls : List Call) (stopOnErr failAtEnd : Bool)
    (hok : (nd.r.txCalls tag calls stopOnErr failAtEnd).2.2 = .ok ()) :
    let r' := (nd.r.txCalls tag calls stopOnErr failAtEnd).1
    ∃ ops : List Op,
      r'.buffer = nd.r.buffer ++ (⟨nd.r.opId.next, .transaction tag ((ops.length : Int) + 1)⟩ :: ops) ∧
      IsUnit (⟨nd.r.opId.next, .transaction tag ((ops.length : Int) + 1)⟩ :: ops) ∧
      ∀ o ∈ ops, isHdr o = false ∧ OpOK typ o ∧ o.id.cuid = cuid i ∧ nd.r.opId.lamport + 1 < o.id.lamport :=
  (tinv_reach hf h).committed (headerFree_inv typ cuid n hf) hi tag calls stopOnErr failAtEnd trivial hok

/-- **units are contiguous in the log**, in every reachable state: the log is a concatenation of units -/
theorem mtx_log_is_units (hf : Flat typ) (h : Reach typ cuid n net) : ∃ units : List (Nat × List Op),
    net.log = units.flatMap (fun (a, u) => u.map (a, ·)) ∧ ∀ au ∈ units, IsUnit au.2 :=
  (tinv_reach hf h).log_is_units

/-- **`receive` never refuses and never panics in the system**: what a node hands to `receive` when it pulls is accepted -/
theorem mtx_receive_ok (hf : Flat typ) (h : Reach typ cuid n net) {i : Nat} {nd : Node}
    (hi : net.nodes[i]? = some nd) : (nd.r.receive (pullOps net.log i nd)).2 = .ok () :=
  (tinv_reach hf h).receive_ok (headerFree_inv typ cuid n hf).toG hi

/-- **ALL OR NOTHING, by log position**: there is ONE decomposition of the log into units such that every node, at every
    moment, has consumed (`p < pulled`) either ALL positions of a unit or NONE of them — `pulled` never sits inside a unit
    (`LTx.unitStart units j`: where unit `j` starts in the log) -/
theorem mtx_all_or_nothing_pos (hf : Flat typ) (h : Reach typ cuid n net) : ∃ units : List (Nat × List Op),
    net.log = flatU units ∧ (∀ au ∈ units, IsUnit au.2) ∧
    ∀ (i : Nat) (nd : Node), net.nodes[i]? = some nd → ∀ j, j < units.length →
      (∀ p, unitStart units j ≤ p → p < unitStart units (j + 1) → p < nd.pulled) ∨
      (∀ p, unitStart units j ≤ p → p < unitStart units (j + 1) → ¬ p < nd.pulled) :=
  (tinv_reach hf h).all_or_nothing_pos

theorem mtx_log_nodup (hf : Flat typ) (h : Reach typ cuid n net) : net.log.Nodup :=
  (tinv_reach hf h).log_nodup

/-- **ALL OR NOTHING**: in every reachable state every node has applied, of every unit of the log authored by another
    node, either ALL operations or NONE -/
theorem mtx_all_or_nothing (hf : Flat typ) (h : Reach typ cuid n net) : ∃ units : List (Nat × List Op),
    net.log = units.flatMap (fun (a, u) => u.map (a, ·)) ∧ (∀ au ∈ units, IsUnit au.2) ∧
    ∀ (i : Nat) (nd : Node), net.nodes[i]? = some nd → ∀ au ∈ units, au.1 ≠ i →
      (∀ o ∈ au.2, Applied net i (au.1, o)) ∨ (∀ o ∈ au.2, ¬ Applied net i (au.1, o)) :=
  (tinv_reach hf h).all_or_nothing

/-- erasing the headers from log and buffers (`Abs`) turns every reachable state into a
    state that satisfies the invariant `MNet.Inv` of `MapNet` — every step of this system is a sequence of `MapNet` steps
    (`NetBook.NetInv.call`, `.push`, `.pull`) and clock bumps (`GTx.HeaderFree.of_net`), under which that invariant is closed -/
theorem mtx_erased_satisfies_mnet_inv (hf : Flat typ) (h : Reach typ cuid n net) :
    ∃ net0 ap, Inv typ cuid n net0 ap ∧ Abs net net0 := by
  obtain ⟨net0, ⟨ap, I⟩, Ab⟩ := (tinv_reach hf h).abs
  exact ⟨net0, ap, .of_net hf I, Ab⟩

end theorems

section mapthms
variable {cuid : Nat → String} {n : Nat} {net : Net}

/-- in every reachable state the map of every node IS (plain equality) what the remote application of a sequence of
    operations gives, from the empty map; that sequence is `MapCausal` (every remove comes after a put of its key — also
    for a remove INSIDE a transaction of a key put earlier in the same transaction), its timestamps are pairwise
    `DistinctTs`, and it is a permutation of the operations the node has (own buffer, foreign entries among the first
    `pulled` of the log) without the headers -/
theorem mtx_nodes_applied (h : Reach .map cuid n net) : ∃ applied : Nat → List Op,
    ∀ (i : Nat) (nd : Node), net.nodes[i]? = some nd →
      nd.r.state = .map (mapApplyAll LwwMap.empty (applied i)) ∧ MapCausal (applied i) ∧ DistinctTs (applied i) ∧
      (applied i).Perm (eraseB (appliedOps net.log i nd)) :=
  (tinv_reach flat_map h).map_nodes_applied (headerFree_inv .map cuid n flat_map)

/-- the state of every node of a map system is a well-formed map (the hypotheses `… .r.state = .map m` of the theorems
    below can always be met) -/
theorem mtx_state_is_map (h : Reach .map cuid n net) : ∀ nd ∈ net.nodes, ∃ m, nd.r.state = .map m ∧ m.WF :=
  (tinv_reach flat_map h).state_is_map (headerFree_inv .map cuid n flat_map)

/-- C02 for the map under transactions: what a node answers is a function of the operations it has (`appliedOps`: its
    buffer and the consumed log entries of the others, headers included — they count for nothing) alone: every key holds
    what the timestamp rule `Spec.mapGet` says, `Size` is the number of live keys -/
theorem mtx_reads_are_spec (h : Reach .map cuid n net) {i : Nat} {nd : Node} (m : LwwMap)
    (hi : net.nodes[i]? = some nd) (hm : nd.r.state = .map m) :
    (∀ k, m.get k = Spec.mapGet (appliedOps net.log i nd) k) ∧
    m.size = ((Spec.mapView (appliedOps net.log i nd)).length : Int) :=
  (tinv_reach flat_map h).reads_are_spec (headerFree_inv .map cuid n flat_map) m hi hm

/-- **convergence survives (map)**: two nodes that have the same operations (`MNet.SameOps`: own buffer ++ consumed foreign
    log entries, as multisets — headers included) answer every read alike: `get` of every key, `Size`, and the JSON view
    in the four forms of `MNet.mnet_same_operations_same_reads` (pointwise lookup in `live`, `live` up to a permutation,
    EQUAL `sortedView`, EQUAL `jsonView`) -/
theorem mtx_same_operations_same_reads (h : Reach .map cuid n net) (i j : Nat) (hi : i < net.nodes.length)
    (hj : j < net.nodes.length) (mi mj : LwwMap) (hmi : net.nodes[i].r.state = .map mi)
    (hmj : net.nodes[j].r.state = .map mj) (hsame : SameOps net i j) :
    (∀ k, mi.get k = mj.get k) ∧ mi.size = mj.size ∧
    (∀ k, alFind k mi.live = alFind k mj.live) ∧ mi.live.Perm mj.live ∧ sortedView mi = sortedView mj ∧
    jsonView mi = jsonView mj :=
  (tinv_reach flat_map h).same_operations_same_reads (headerFree_inv .map cuid n flat_map) i j hi hj mi mj hmi hmj hsame

/-- at quiescence (`MNet.Quiescent`: every buffer completely pushed, every node has consumed the whole log) all nodes
    answer every read alike -/
theorem mtx_quiescent_converged (h : Reach .map cuid n net) (hq : Quiescent net) (i j : Nat)
    (hi : i < net.nodes.length) (hj : j < net.nodes.length) (mi mj : LwwMap)
    (hmi : net.nodes[i].r.state = .map mi) (hmj : net.nodes[j].r.state = .map mj) :
    (∀ k, mi.get k = mj.get k) ∧ mi.size = mj.size ∧
    (∀ k, alFind k mi.live = alFind k mj.live) ∧ mi.live.Perm mj.live ∧ sortedView mi = sortedView mj ∧
    jsonView mi = jsonView mj :=
  mtx_same_operations_same_reads h i j hi hj mi mj hmi hmj ((tinv_reach flat_map h).sameOps_of_quiescent hq hi hj)

end mapthms

section counterthms
variable {cuid : Nat → String} {n : Nat} {net : Net}

theorem ctx_nodes_applied (h : Reach .counter cuid n net) : ∃ applied : Nat → List Op,
    ∀ (i : Nat) (nd : Node), net.nodes[i]? = some nd →
      nd.r.state = .counter ((applied i).foldl counterApply 0) ∧
      (applied i).Perm (eraseB (appliedOps net.log i nd)) :=
  (tinv_reach flat_counter h).ctr_nodes_applied (headerFree_inv .counter cuid n flat_counter)

/-- the value of a counter node is a function of the operations it has (`appliedOps`: own buffer and consumed foreign log
    entries, headers included — they count for nothing) alone: the sum of the increments, with 32-bit wrap -/
theorem ctx_value_is_spec (h : Reach .counter cuid n net) {i : Nat} {nd : Node} (hi : net.nodes[i]? = some nd) :
    nd.r.state = DState.counter (Spec.counter (appliedOps net.log i nd)) :=
  (tinv_reach flat_counter h).value_is_spec (headerFree_inv .counter cuid n flat_counter) hi

/-- **convergence survives (counter)**: two nodes that have the same operations hold the SAME state (plain equality) -/
theorem ctx_same_operations_same_state (h : Reach .counter cuid n net) (i j : Nat) (hi : i < net.nodes.length)
    (hj : j < net.nodes.length) (hsame : SameOps net i j) : net.nodes[i].r.state = net.nodes[j].r.state :=
  (tinv_reach flat_counter h).ctr_same_operations_same_state (headerFree_inv .counter cuid n flat_counter) i j hi hj hsame

/-- at quiescence all nodes hold the same counter state -/
theorem ctx_quiescent_converged (h : Reach .counter cuid n net) (hq : Quiescent net) (i j : Nat)
    (hi : i < net.nodes.length) (hj : j < net.nodes.length) : net.nodes[i].r.state = net.nodes[j].r.state :=
  ctx_same_operations_same_state h i j hi hj ((tinv_reach flat_counter h).sameOps_of_quiescent hq hi hj)

end counterthms

/-! ### quiescence is reachable from every state -/

section quiesce
variable {typ : DtType} {cuid : Nat → String} {n : Nat} {net : Net}

theorem can_quiesce {R Rs : Net → Net → Prop} (refl : ∀ a, Rs a a) (tail : ∀ {a b c}, Rs a b → R b c → Rs a c)
    (push : ∀ (net : Net) (i : Nat) (nd : Node), net.nodes[i]? = some nd →
      R net ⟨net.nodes.set i { nd with pushed := nd.r.buffer.length },
        net.log ++ (nd.r.buffer.drop nd.pushed).map (fun o => (i, o))⟩)
    (pull : ∀ (net : Net) (i : Nat) (nd : Node), net.nodes[i]? = some nd →
      R net ⟨net.nodes.set i { nd with r := (nd.r.receive (pullOps net.log i nd)).1, pulled := net.log.length },
        net.log⟩)
    (net : Net) : ∃ net', Rs net net' ∧ Quiescent net' :=
  have ⟨s', hr, hq⟩ := GTx.can_quiesce view (R := fun a b => R ⟨a.1, a.2⟩ ⟨b.1, b.2⟩) (Rs := fun a b => Rs ⟨a.1, a.2⟩ ⟨b.1, b.2⟩)
    (fun _ => refl _) tail (fun ns lg => push ⟨ns, lg⟩) (fun ns lg => pull ⟨ns, lg⟩) (net.nodes, net.log)
  ⟨⟨s'.1, s'.2⟩, hr, hq⟩

/-- zero or more steps -/
inductive Reaches : Net → Net → Prop
  | refl (net : Net) : Reaches net net
  | tail {a b c : Net} : Reaches a b → Step b c → Reaches a c

theorem reach_of_reaches {net' : Net} (hr : Reach typ cuid n net) (h : Reaches net net') : Reach typ cuid n net' := by
  induction h with
  | refl => exact hr
  | tail _ hs ih => exact .step ih hs

/-- **quiescence is reachable**: from EVERY state (reachable or not) zero or more steps lead to a quiescent one — `pushAll` by
    every node, then `pullAll` by every node; neither step has a side condition -/
theorem mtx_can_quiesce (net : Net) : ∃ net', Reaches net net' ∧ Quiescent net' :=
  can_quiesce .refl .tail .pushAll .pullAll net

end quiesce

/-! ## 5. non-vacuity

### map: three nodes, transactions (committed, failing, empty), concurrent plain calls, a run to quiescence

Node 0 puts `x` and `y` (plain calls), pushes; everybody pulls.  Then, CONCURRENTLY:
  * node 1 commits the transaction `"t1"` whose body removes `x` (a key put by ANOTHER node), puts `a`, reads `y`, puts `w`,
    removes `a` (a key put EARLIER IN THE SAME transaction) — a unit of FIVE log entries (header + four operations; the read
    queues nothing);
  * node 2 runs `"t2"` (a put, then a remove of the unknown key `zz`; the body stops at the refused call): rolled back;
  * node 2 runs `"t3"` (a put, a remove; the user function fails at the end): rolled back;
  * node 0 commits the EMPTY transaction `"t4"`: a unit that is a lone header announcing 1;
  * node 2 puts `z` and puts `x` again (same lamport 4 as node 1's remove of `x`, larger client: the put wins) and node 0
    removes `y` (plain calls).
Everybody pushes (2, 1, 0); node 0 pulls (`midNet`: NOT quiescent — node 0 has applied ALL of `"t1"`, nodes 1 and 2 are
behind); then 1 and 2 pull (`finalNet`: quiescent). -/
namespace ExMap
open Orda.MNet.ExMap (cu cu_distinct mapOf)

def acts : List Act := [
  .call 0 (.mput "x" (.num 1)),
  .call 0 (.mput "y" (.num 2)),
  .pushAll 0, .pullAll 0, .pullAll 1, .pullAll 2,
  .tx 1 "t1" [.mremove "x", .mput "a" (.num 3), .mget "y", .mput "w" (.str "s"), .mremove "a"] false false,
  .tx 2 "t2" [.mput "x" (.num 9), .mremove "zz"] true false,
  .tx 2 "t3" [.mput "q" (.num 1), .mremove "y"] false true,
  .tx 0 "t4" [] false false,
  .call 2 (.mput "z" (.num 0)),
  .call 2 (.mput "x" (.num 5)),
  .call 0 (.mremove "y"),
  .pushAll 2, .pushAll 1, .pushAll 0,
  .pullAll 0, .pullAll 1, .pullAll 2]

def finalNet : Net := (run (Net.init .map cu 3) acts).getD ⟨[], []⟩
def midNet : Net := (run (Net.init .map cu 3) (acts.take 17)).getD ⟨[], []⟩

theorem run_final : run (Net.init .map cu 3) acts = some finalNet := ListAux.some_getD (by decide +kernel)
theorem run_mid : run (Net.init .map cu 3) (acts.take 17) = some midNet := ListAux.some_getD (by decide +kernel)

theorem reach_final : Reach .map cu 3 finalNet := reach_run acts (.init cu_distinct) run_final
theorem reach_mid : Reach .map cu 3 midNet := reach_run (acts.take 17) (.init cu_distinct) run_mid

theorem quiescent_final : Quiescent finalNet := by
  unfold Quiescent
  decide +kernel

theorem len_final : finalNet.nodes.length = 3 := by decide +kernel
theorem len_mid : midNet.nodes.length = 3 := by decide +kernel

/-- eleven entries went through the log: the two plain puts, node 2's two plain puts, the unit of `"t1"` (header announcing
    5 and four operations), the lone header of `"t4"`, node 0's plain remove; the two failed transactions left nothing -/
example : finalNet.log.map (·.1) = [0, 0, 2, 2, 1, 1, 1, 1, 1, 0, 0] ∧
    finalNet.log.map (fun e => isHdr e.2) =
      [false, false, false, false, true, false, false, false, false, true, false] := by decide +kernel

/-- the failing transactions returned an error and changed neither state nor buffer (here: `"t2"` on the replica of node 2
    as it stood after everybody had pulled node 0's puts) -/
example : ∃ nd, (((run (Net.init .map cu 3) (acts.take 7)).getD ⟨[], []⟩).nodes[2]? = some nd) ∧
    (nd.r.txCalls "t2" [.mput "x" (.num 9), .mremove "zz"] true false).2.2 = .err Err.transaction ∧
    (nd.r.txCalls "t2" [.mput "x" (.num 9), .mremove "zz"] true false).1.buffer = nd.r.buffer := by
  refine ⟨_, rfl, ?_, ?_⟩ <;> rfl

/-- why `mtx_failed_tx_is_noop` is about identifier, state, buffer and checkpoint and NOT `net' = net`: the rollback
    re-bases the rollback data (here the rollback operations of node 2, which held the two puts it had pulled, are
    emptied) -/
example : ∃ nd, (((run (Net.init .map cu 3) (acts.take 7)).getD ⟨[], []⟩).nodes[2]? = some nd) ∧
    nd.r.rbOps.length = 2 ∧
    (nd.r.txCalls "t2" [.mput "x" (.num 9), .mremove "zz"] true false).1.rbOps.length = 0 := by
  refine ⟨_, rfl, ?_, ?_⟩ <;> rfl

def n0 : Node := finalNet.nodes[0]'(by rw [len_final]; decide)
def n1 : Node := finalNet.nodes[1]'(by rw [len_final]; decide)
def n2 : Node := finalNet.nodes[2]'(by rw [len_final]; decide)
def m0 : LwwMap := mapOf n0.r
def m1 : LwwMap := mapOf n1.r
def m2 : LwwMap := mapOf n2.r
/-- the test is a Boolean so that the kernel alone evaluates the run -/
theorem state_mapOf {r : Replica} (h : (match r.state with | .map _ => true | _ => false) = true) :
    r.state = .map (mapOf r) := by
  unfold mapOf
  split <;> simp_all
theorem st0 : n0.r.state = .map m0 := state_mapOf (by decide +kernel)
theorem st1 : n1.r.state = .map m1 := state_mapOf (by decide +kernel)
theorem st2 : n2.r.state = .map m2 := state_mapOf (by decide +kernel)

example : (∀ k, m0.get k = m1.get k) ∧ m0.size = m1.size ∧ (∀ k, alFind k m0.live = alFind k m1.live) ∧
    m0.live.Perm m1.live ∧ sortedView m0 = sortedView m1 ∧ jsonView m0 = jsonView m1 :=
  mtx_quiescent_converged reach_final quiescent_final 0 1 (by rw [len_final]; decide) (by rw [len_final]; decide) m0 m1 st0 st1
example : (∀ k, m1.get k = m2.get k) ∧ m1.size = m2.size ∧ (∀ k, alFind k m1.live = alFind k m2.live) ∧
    m1.live.Perm m2.live ∧ sortedView m1 = sortedView m2 ∧ jsonView m1 = jsonView m2 :=
  mtx_quiescent_converged reach_final quiescent_final 1 2 (by rw [len_final]; decide) (by rw [len_final]; decide) m1 m2 st1 st2

/-- the common view: `w` (put inside `"t1"`), `x` (node 2's concurrent put beat the remove inside `"t1"`), `z`;
    `a` (put and removed inside `"t1"`) and `y` are gone -/
example : (sortedView m0 == [("w", .str "s"), ("x", .num 5), ("z", .num 0)]) = true ∧
    (sortedView m1 == sortedView m0) = true ∧ (sortedView m2 == sortedView m0) = true ∧
    m0.size = 3 ∧ m1.size = 3 ∧ m2.size = 3 ∧ (m0.get "y" == none) = true ∧ (m1.get "a" == none) = true ∧
    (m2.get "x" == some (.num 5)) = true := by
  decide +kernel

/-- plain equality of the states is false here too: the association lists of nodes 0 and 1 differ in order -/
example : m0.entries.map (·.1) = ["x", "y", "z", "a", "w"] ∧ m1.entries.map (·.1) = ["x", "y", "a", "w", "z"] := by
  decide +kernel

/-- `mtx_all_or_nothing` instantiated in the NON-quiescent state `midNet`, and both alternatives occur there for the unit
    of `"t1"` (log positions 4–8, written by node 1): node 0 has consumed all of it, node 2 none of it -/
example : ∃ units : List (Nat × List Op), midNet.log = units.flatMap (fun (a, u) => u.map (a, ·)) ∧
    (∀ au ∈ units, IsUnit au.2) ∧
    ∀ (i : Nat) (nd : Node), midNet.nodes[i]? = some nd → ∀ au ∈ units, au.1 ≠ i →
      (∀ o ∈ au.2, Applied midNet i (au.1, o)) ∨ (∀ o ∈ au.2, ¬ Applied midNet i (au.1, o)) :=
  mtx_all_or_nothing flat_map reach_mid

example : ¬ Quiescent midNet := by
  unfold Quiescent
  decide +kernel

example : (midNet.nodes.map (·.pulled)) = [11, 2, 2] ∧ midNet.log.length = 11 := by decide +kernel

/-- `receive` accepted what node 2 is about to pull in `midNet` (seven entries, among them the unit of five) -/
example : ∃ nd, midNet.nodes[2]? = some nd ∧ (nd.r.receive (pullOps midNet.log 2 nd)).2 = .ok () :=
  ⟨_, rfl, mtx_receive_ok flat_map reach_mid rfl⟩

end ExMap

/-! ### counter: three nodes, transactions (committed, failing, empty), concurrent plain calls, a run to quiescence

Node 0 increases by 5, pushes; node 1 pulls.  Then, CONCURRENTLY: node 1 commits `"t1"` (increase by 1, by 2147483647 —
int32 overflow —, a refused `msize`, increase by −3: a unit of FOUR log entries); node 2 runs `"t2"` (an increase, then a map
put: refused, the body stops): rolled back; node 2 runs `"t3"` (an increase; the user function fails): rolled back; node 0
commits the empty `"t4"`; node 2 increases by 10, node 0 by −1 (plain calls).  Everybody pushes; node 0 pulls (`midNet`),
then 1 and 2. -/
namespace ExCounter
open Orda.MNet.ExMap (cu cu_distinct)
open Orda.MNet.ExCounter (valOf)

def acts : List Act := [
  .call 0 (.inc 5), .pushAll 0, .pullAll 1,
  .tx 1 "t1" [.inc 1, .inc 2147483647, .msize, .inc (-3)] false false,
  .tx 2 "t2" [.inc 100, .mput "k" (.num 1)] true false,
  .tx 2 "t3" [.inc 7] false true,
  .tx 0 "t4" [] false false,
  .call 2 (.inc 10), .call 0 (.inc (-1)),
  .pushAll 2, .pushAll 1, .pushAll 0,
  .pullAll 0, .pullAll 1, .pullAll 2]

def finalNet : Net := (run (Net.init .counter cu 3) acts).getD ⟨[], []⟩
def midNet : Net := (run (Net.init .counter cu 3) (acts.take 13)).getD ⟨[], []⟩

theorem run_final : run (Net.init .counter cu 3) acts = some finalNet := ListAux.some_getD (by decide +kernel)
theorem run_mid : run (Net.init .counter cu 3) (acts.take 13) = some midNet := ListAux.some_getD (by decide +kernel)

theorem reach_final : Reach .counter cu 3 finalNet := reach_run acts (.init cu_distinct) run_final
theorem reach_mid : Reach .counter cu 3 midNet := reach_run (acts.take 13) (.init cu_distinct) run_mid

theorem quiescent_final : Quiescent finalNet := by
  unfold Quiescent
  decide +kernel

theorem len_final : finalNet.nodes.length = 3 := by decide +kernel

/-- eight entries went through the log: the plain increases, the unit of `"t1"` (header announcing 4 and three
    increases), the lone header of `"t4"`; the two failed transactions left nothing -/
example : finalNet.log.map (·.1) = [0, 2, 1, 1, 1, 1, 0, 0] ∧
    finalNet.log.map (fun e => isHdr e.2) = [false, false, true, false, false, false, true, false] := by decide +kernel

/-- the failing transaction returned an error and changed neither state nor buffer -/
example : ∃ nd, (((run (Net.init .counter cu 3) (acts.take 4)).getD ⟨[], []⟩).nodes[2]? = some nd) ∧
    (nd.r.txCalls "t2" [.inc 100, .mput "k" (.num 1)] true false).2.2 = .err Err.transaction ∧
    (nd.r.txCalls "t2" [.inc 100, .mput "k" (.num 1)] true false).1.buffer = nd.r.buffer ∧
    (nd.r.txCalls "t2" [.inc 100, .mput "k" (.num 1)] true false).1.state = nd.r.state := by
  refine ⟨_, rfl, ?_, ?_, ?_⟩ <;> rfl

example : (finalNet.nodes[0]'(by rw [len_final]; decide)).r.state = (finalNet.nodes[1]'(by rw [len_final]; decide)).r.state :=
  ctx_quiescent_converged reach_final quiescent_final 0 1 (by rw [len_final]; decide) (by rw [len_final]; decide)
example : (finalNet.nodes[1]'(by rw [len_final]; decide)).r.state = (finalNet.nodes[2]'(by rw [len_final]; decide)).r.state :=
  ctx_quiescent_converged reach_final quiescent_final 1 2 (by rw [len_final]; decide) (by rw [len_final]; decide)

/-- the common value: 5 + 1 + 2147483647 − 3 + 10 − 1, wrapped to int32 -/
example : finalNet.nodes.map (fun nd => valOf nd.r) = [-2147483637, -2147483637, -2147483637] := by decide +kernel

/-- `mtx_all_or_nothing` instantiated in the NON-quiescent state `midNet`: node 0 has consumed all of the unit of `"t1"`
    (log positions 2–5), node 2 none of it -/
example : ∃ units : List (Nat × List Op), midNet.log = units.flatMap (fun (a, u) => u.map (a, ·)) ∧
    (∀ au ∈ units, IsUnit au.2) ∧
    ∀ (i : Nat) (nd : Node), midNet.nodes[i]? = some nd → ∀ au ∈ units, au.1 ≠ i →
      (∀ o ∈ au.2, Applied midNet i (au.1, o)) ∨ (∀ o ∈ au.2, ¬ Applied midNet i (au.1, o)) :=
  mtx_all_or_nothing flat_counter reach_mid

example : ¬ Quiescent midNet := by
  unfold Quiescent
  decide +kernel

example : (midNet.nodes.map (·.pulled)) = [8, 1, 0] ∧ midNet.log.length = 8 ∧
    midNet.nodes.map (fun nd => valOf nd.r) = [-2147483637, -2147483646, 10] := by decide +kernel

/-- `receive` accepted what node 2 is about to pull in `midNet` (seven entries, among them the unit of four) -/
example : ∃ nd, midNet.nodes[2]? = some nd ∧ (nd.r.receive (pullOps midNet.log 2 nd)).2 = .ok () :=
  ⟨_, rfl, mtx_receive_ok flat_counter reach_mid rfl⟩

end ExCounter

end Orda.MTx
