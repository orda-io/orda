/-
The success flag of TransactionDatatype loses no update (stated in Props/C20; `source_flag_facts` of Shape/C20 and
Shape/C09 ties `currentFacts` to the source): proofs over the small-step model
`Orda.Model.TxFlag` (invariant by induction over `Reach`), and explicit runs showing that each of the three other
placements of the reset is wrong.
-/
import Orda.Model.TxFlag
namespace Orda.TxFlag

/-- the inductive invariant for the facts of the current source (reset under the lock, nowhere else) -/
structure Inv (fails : Nat → Bool) (n : Nat) (s : St) : Prop where
  lenP : s.pcs.length = n
  lenO : s.outs.length = n
  free : s.mutex = none → s.success = true
  held : ∀ i, s.mutex = some i →
    (s.pcs[i]? = some .holding ∧ s.success = true) ∨
    (s.pcs[i]? = some .failed ∧ s.success = false ∧ fails i = true)
  holder : ∀ i, s.pcs[i]? = some .holding ∨ s.pcs[i]? = some .failed → s.mutex = some i
  done : ∀ i, s.pcs[i]? = some .done → s.outs[i]? = some (if fails i then .rolledBack else .committed)
  pend : ∀ i, s.pcs[i]? ≠ some .done → i < n → s.outs[i]? = some .pending

theorem inv_init (fails : Nat → Bool) (n : Nat) : Inv fails n (init n) := by
  refine ⟨by simp [init], by simp [init], fun _ => rfl, ?_, ?_, ?_, ?_⟩
  · intro i h; cases h
  · intro i h
    simp only [init, List.getElem?_replicate] at h
    split at h <;> simp at h
  · intro i h
    simp only [init, List.getElem?_replicate] at h
    split at h <;> simp at h
  · intro i _ hlt
    simp [init, hlt]

theorem Inv.held_pc {fails n s} (hi : Inv fails n s) {j : Nat} (hm : s.mutex = some j) :
    s.pcs[j]? = some .holding ∨ s.pcs[j]? = some .failed := by
  rcases hi.held j hm with h | h
  · exact Or.inl h.1
  · exact Or.inr h.1

/-- Frame. Goroutine `i` moves from `u` to `v`; the clauses about the other goroutines carry over when the step keeps
their outcomes, takes the mutex from none of them and gives it to none of them, and leaves the flag alone while one
of them holds the mutex.  What remains are the clauses about `i` itself. -/
theorem Inv.update {fails : Nat → Bool} {n : Nat} {s : St} (hi : Inv fails n s) {i : Nat} {u v : Pc}
    (h : s.pcs[i]? = some u) {m : Option Nat} {b : Bool} {o : List Out}
    (hlen : o.length = n) (hfree : m = none → b = true)
    (hmut : ∀ j, j ≠ i → (m = some j ↔ s.mutex = some j)) (hsucc : ∀ j, j ≠ i → m = some j → b = s.success)
    (houts : ∀ j, j ≠ i → o[j]? = s.outs[j]?)
    (hheld : m = some i → (v = .holding ∧ b = true) ∨ (v = .failed ∧ b = false ∧ fails i = true))
    (hholder : v = .holding ∨ v = .failed → m = some i)
    (hout : o[i]? = some (if v = .done then (if fails i then .rolledBack else .committed) else .pending)) :
    Inv fails n ⟨m, b, s.pcs.set i v, o⟩ := by
  have hself : (s.pcs.set i v)[i]? = some v := List.getElem?_set_self (List.getElem?_eq_some_iff.1 h).1
  have hset : ∀ j, j ≠ i → (s.pcs.set i v)[j]? = s.pcs[j]? := fun j hj => List.getElem?_set_ne (Ne.symm hj)
  refine ⟨(List.length_set ..).trans hi.lenP, hlen, hfree, fun j hm => ?_, fun j hj => ?_, fun j hj => ?_,
    fun j hj hlt => ?_⟩
  · by_cases hji : j = i
    · subst hji
      show (s.pcs.set j v)[j]? = _ ∧ _ ∨ (s.pcs.set j v)[j]? = _ ∧ _
      rw [hself]
      exact (hheld hm).imp (fun ⟨a, b⟩ => ⟨congrArg some a, b⟩) (fun ⟨a, b⟩ => ⟨congrArg some a, b⟩)
    · show (s.pcs.set i v)[j]? = _ ∧ b = true ∨ (s.pcs.set i v)[j]? = _ ∧ b = false ∧ _
      rw [hset j hji, hsucc j hji hm]
      exact hi.held j ((hmut j hji).1 hm)
  · replace hj : (s.pcs.set i v)[j]? = some .holding ∨ (s.pcs.set i v)[j]? = some .failed := hj
    by_cases hji : j = i
    · subst hji
      rw [hself] at hj
      exact hholder (hj.imp Option.some.inj Option.some.inj)
    · rw [hset j hji] at hj
      exact (hmut j hji).2 (hi.holder j hj)
  · replace hj : (s.pcs.set i v)[j]? = some .done := hj
    show o[j]? = _
    by_cases hji : j = i
    · subst hji
      rw [hself] at hj
      rw [hout, if_pos (Option.some.inj hj)]
    · rw [hset j hji] at hj
      rw [houts j hji]
      exact hi.done j hj
  · replace hj : (s.pcs.set i v)[j]? ≠ some .done := hj
    show o[j]? = _
    by_cases hji : j = i
    · subst hji
      rw [hself] at hj
      rw [hout, if_neg fun e => hj (congrArg some e)]
    · rw [hset j hji] at hj
      rw [houts j hji]
      exact hi.pend j hj hlt

theorem inv_step {fails : Nat → Bool} {n : Nat} {s s' : St} (hi : Inv fails n s)
    (st : Step currentFacts fails s s') : Inv fails n s' := by
  -- a goroutine that is not finished has no outcome yet
  have hpend : ∀ {i : Nat} {u : Pc}, s.pcs[i]? = some u → u ≠ .done → s.outs[i]? = some .pending :=
    fun {i u} h hu => hi.pend i (fun e => hu (Option.some.inj (h.symm.trans e)))
      (hi.lenP ▸ (List.getElem?_eq_some_iff.1 h).1)
  -- at `currentFacts` the `if`s of the model have computed: `arrive` leaves the flag (`b := s.success`, no reset before
  -- the lock), `finish` writes `true` (the reset under the lock)
  cases st with
  | arrive i h =>
    refine hi.update (v := .waiting) (b := s.success) h hi.lenO hi.free (fun _ _ => Iff.rfl) (fun _ _ _ => rfl)
      (fun _ _ => rfl) (fun hm => ?_) nofun (hpend h nofun)
    rcases hi.held_pc hm with h' | h' <;> cases h.symm.trans h'
  | lock i h hm =>
    refine hi.update (v := .holding) (b := s.success) h hi.lenO nofun (fun j hj => ?_) (fun j hj e => ?_)
      (fun _ _ => rfl) (fun _ => Or.inl ⟨rfl, hi.free hm⟩) (fun _ => rfl) (hpend h nofun)
    · rw [hm]
      exact ⟨fun e => absurd (Option.some.inj e).symm hj, nofun⟩
    · exact absurd (Option.some.inj e).symm hj
  | bodyFails i h hf =>
    have hm : s.mutex = some i := hi.holder i (Or.inl h)
    exact hi.update (v := .failed) (m := s.mutex) h hi.lenO (fun e => nomatch hm.symm.trans e) (fun _ _ => Iff.rfl)
      (fun j hj e => absurd (Option.some.inj (e.symm.trans hm)) hj) (fun _ _ => rfl)
      (fun _ => Or.inr ⟨rfl, rfl, hf⟩) (fun _ => hm) (hpend h nofun)
  | finish i p h hp =>
    have hm : s.mutex = some i := hi.holder i (hp.elim (fun hp => Or.inl (hp.1 ▸ h)) (fun hp => Or.inr (hp ▸ h)))
    -- the flag read by EndTransaction is the goroutine's own outcome
    have hout : (if s.success = true then Out.committed else Out.rolledBack)
        = (if fails i = true then Out.rolledBack else Out.committed) := by
      rcases hi.held i hm with ⟨hp', hs⟩ | ⟨hp', hs, hf⟩
      · cases h.symm.trans hp'
        rcases hp with ⟨_, hf⟩ | hp
        · rw [hs, hf]; rfl
        · cases hp
      · rw [hs, hf]; rfl
    refine hi.update (v := .done) (b := true) (m := none) h ((List.length_set ..).trans hi.lenO) (fun _ => rfl)
      (fun j hj => ?_) nofun (fun j hj => List.getElem?_set_ne (Ne.symm hj)) nofun nofun ?_
    · rw [hm]
      exact ⟨nofun, fun e => absurd (Option.some.inj e).symm hj⟩
    · rw [List.getElem?_set_self (hi.lenO ▸ hi.lenP ▸ (List.getElem?_eq_some_iff.1 h).1), hout]
      rfl

theorem inv_of_reach {fails : Nat → Bool} {n : Nat} {s : St} (h : Reach currentFacts fails n s) :
    Inv fails n s := by
  induction h with
  | init => exact inv_init fails n
  | step _ st ih => exact inv_step ih st

/-- with the flag reset inside unlock() while the mutex is held (and nowhere else), every finished unit of work was
    committed iff its body reported no failure: no update is lost, no failed transaction is committed — for any number
    of goroutines, any assignment of failing bodies and any schedule -/
theorem flag_outcome_is_own (fails : Nat → Bool) (n : Nat) (s : St) (h : Reach currentFacts fails n s) (i : Nat)
    (hd : s.pcs[i]? = some .done) : s.outs[i]? = some (if fails i then .rolledBack else .committed) :=
  (inv_of_reach h).done i hd

/-- nothing is decided for a unit of work that is not finished, and the lists keep their length -/
theorem flag_shape (fails : Nat → Bool) (n : Nat) (s : St) (h : Reach currentFacts fails n s) :
    s.pcs.length = n ∧ s.outs.length = n ∧ ∀ i, s.pcs[i]? ≠ some .done → i < n → s.outs[i]? = some .pending :=
  ⟨(inv_of_reach h).lenP, (inv_of_reach h).lenO, (inv_of_reach h).pend⟩

theorem holder_steps {fails : Nat → Bool} {n : Nat} {s : St} (hi : Inv fails n s) {j : Nat}
    (hm : s.mutex = some j) : ∃ s', Step currentFacts fails s s' := by
  rcases hi.held j hm with ⟨hp, _⟩ | ⟨hp, _, _⟩
  · cases hf : fails j with
    | true => exact ⟨_, Step.bodyFails s j hp hf⟩
    | false => exact ⟨_, Step.finish s j .holding hp (Or.inl ⟨rfl, hf⟩)⟩
  · exact ⟨_, Step.finish s j .failed hp (Or.inr rfl)⟩

/-- no deadlock: while some goroutine is not done, a step is enabled -/
theorem flag_progress (fails : Nat → Bool) (n : Nat) (s : St) (h : Reach currentFacts fails n s)
    (hnd : ∃ (i : Nat) (p : Pc), s.pcs[i]? = some p ∧ p ≠ .done) : ∃ s', Step currentFacts fails s s' := by
  have hi := inv_of_reach h
  obtain ⟨i, p, hp, hne⟩ := hnd
  cases p with
  | idle => exact ⟨_, Step.arrive s i hp⟩
  | waiting =>
    cases hm : s.mutex with
    | none => exact ⟨_, Step.lock s i hp hm⟩
    | some j => exact holder_steps hi hm
  | holding => exact holder_steps hi (hi.holder i (Or.inl hp))
  | failed => exact holder_steps hi (hi.holder i (Or.inr hp))
  | done => exact absurd rfl hne

/-! ### the three wrong placements of the reset: explicit runs with two goroutines, goroutine 0 fails -/

def failsZero : Nat → Bool := fun i => i == 0

/-- the reset before `mutex.Lock()` instead of under the lock; at both places; nowhere -/
def factsBeforeLock : TxFacts := ⟨false, true, true, true⟩
def factsBoth : TxFacts := ⟨true, true, true, true⟩
def factsNoReset : TxFacts := ⟨false, false, true, true⟩

/-- reset before the lock only: 1 arrives (and waits), 0 runs a failing transaction to its end, then 1 gets the mutex
    and finds the flag still off -/
theorem reach_beforeLock : Reach factsBeforeLock failsZero 2
    ⟨none, false, [.done, .done], [.rolledBack, .rolledBack]⟩ := by
  have r0 : Reach factsBeforeLock failsZero 2 (init 2) := Reach.init
  have r1 : Reach factsBeforeLock failsZero 2 ⟨none, true, [.idle, .waiting], [.pending, .pending]⟩ :=
    Reach.step r0 (Step.arrive (init 2) 1 rfl)
  have r2 : Reach factsBeforeLock failsZero 2 ⟨none, true, [.waiting, .waiting], [.pending, .pending]⟩ :=
    Reach.step r1 (Step.arrive _ 0 rfl)
  have r3 : Reach factsBeforeLock failsZero 2 ⟨some 0, true, [.holding, .waiting], [.pending, .pending]⟩ :=
    Reach.step r2 (Step.lock _ 0 rfl rfl)
  have r4 : Reach factsBeforeLock failsZero 2 ⟨some 0, false, [.failed, .waiting], [.pending, .pending]⟩ :=
    Reach.step r3 (Step.bodyFails _ 0 rfl rfl)
  have r5 : Reach factsBeforeLock failsZero 2 ⟨none, false, [.done, .waiting], [.rolledBack, .pending]⟩ :=
    Reach.step r4 (Step.finish _ 0 .failed rfl (Or.inr rfl))
  have r6 : Reach factsBeforeLock failsZero 2 ⟨some 1, false, [.done, .holding], [.rolledBack, .pending]⟩ :=
    Reach.step r5 (Step.lock _ 1 rfl rfl)
  exact Reach.step r6 (Step.finish _ 1 .holding rfl (Or.inl ⟨rfl, rfl⟩))

/-- the reset is NEEDED where it is: a source that resets the flag before taking the mutex and not under it
    (the facts ⟨false, true, _, _⟩) loses the update of a caller that waited behind a failing transaction … -/
theorem reset_before_lock_loses_update :
    ∃ (fails : Nat → Bool) (s : St), Reach ⟨false, true, true, true⟩ fails 2 s ∧
      ∃ i : Nat, fails i = false ∧ s.pcs[i]? = some .done ∧ s.outs[i]? = some .rolledBack :=
  ⟨failsZero, _, reach_beforeLock, 1, rfl, rfl, rfl⟩

/-- reset at both places: 0 fails, then 1 arrives and switches the flag back on, then 0 ends its transaction -/
theorem reach_both : Reach factsBoth failsZero 2
    ⟨none, true, [.done, .waiting], [.committed, .pending]⟩ := by
  have r0 : Reach factsBoth failsZero 2 (init 2) := Reach.init
  have r1 : Reach factsBoth failsZero 2 ⟨none, true, [.waiting, .idle], [.pending, .pending]⟩ :=
    Reach.step r0 (Step.arrive (init 2) 0 rfl)
  have r2 : Reach factsBoth failsZero 2 ⟨some 0, true, [.holding, .idle], [.pending, .pending]⟩ :=
    Reach.step r1 (Step.lock _ 0 rfl rfl)
  have r3 : Reach factsBoth failsZero 2 ⟨some 0, false, [.failed, .idle], [.pending, .pending]⟩ :=
    Reach.step r2 (Step.bodyFails _ 0 rfl rfl)
  have r4 : Reach factsBoth failsZero 2 ⟨some 0, true, [.failed, .waiting], [.pending, .pending]⟩ :=
    Reach.step r3 (Step.arrive _ 1 rfl)
  exact Reach.step r4 (Step.finish _ 0 .failed rfl (Or.inr rfl))

/-- … and a source that resets at both places commits a FAILED transaction (a caller arriving between the failure
    and EndTransaction switches the flag back on) -/
theorem reset_at_both_commits_failed :
    ∃ (fails : Nat → Bool) (s : St), Reach ⟨true, true, true, true⟩ fails 2 s ∧
      ∃ i : Nat, fails i = true ∧ s.pcs[i]? = some .done ∧ s.outs[i]? = some .committed :=
  ⟨failsZero, _, reach_both, 0, rfl, rfl, rfl⟩

/-- no reset at all: 0 fails and finishes, then 1 runs a successful body and is rolled back -/
theorem reach_noReset : Reach factsNoReset failsZero 2
    ⟨none, false, [.done, .done], [.rolledBack, .rolledBack]⟩ := by
  have r0 : Reach factsNoReset failsZero 2 (init 2) := Reach.init
  have r1 : Reach factsNoReset failsZero 2 ⟨none, true, [.waiting, .idle], [.pending, .pending]⟩ :=
    Reach.step r0 (Step.arrive (init 2) 0 rfl)
  have r2 : Reach factsNoReset failsZero 2 ⟨some 0, true, [.holding, .idle], [.pending, .pending]⟩ :=
    Reach.step r1 (Step.lock _ 0 rfl rfl)
  have r3 : Reach factsNoReset failsZero 2 ⟨some 0, false, [.failed, .idle], [.pending, .pending]⟩ :=
    Reach.step r2 (Step.bodyFails _ 0 rfl rfl)
  have r4 : Reach factsNoReset failsZero 2 ⟨none, false, [.done, .idle], [.rolledBack, .pending]⟩ :=
    Reach.step r3 (Step.finish _ 0 .failed rfl (Or.inr rfl))
  have r5 : Reach factsNoReset failsZero 2 ⟨none, false, [.done, .waiting], [.rolledBack, .pending]⟩ :=
    Reach.step r4 (Step.arrive _ 1 rfl)
  have r6 : Reach factsNoReset failsZero 2 ⟨some 1, false, [.done, .holding], [.rolledBack, .pending]⟩ :=
    Reach.step r5 (Step.lock _ 1 rfl rfl)
  exact Reach.step r6 (Step.finish _ 1 .holding rfl (Or.inl ⟨rfl, rfl⟩))

/-- without any reset the flag stays off after the first failure -/
theorem no_reset_loses_update :
    ∃ (fails : Nat → Bool) (s : St), Reach ⟨false, false, true, true⟩ fails 2 s ∧
      ∃ i : Nat, fails i = false ∧ s.pcs[i]? = some .done ∧ s.outs[i]? = some .rolledBack :=
  ⟨failsZero, _, reach_noReset, 1, rfl, rfl, rfl⟩

end Orda.TxFlag
