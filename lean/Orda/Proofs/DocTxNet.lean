/-
Document transactions and PatchByJSON over the server log (C09 + C19 end to end, Document datatype).  Nodes, nets,
`CuidsDistinct`, `CallOK`, `SameOps`, `Quiescent`, `Holds` are those of `DNet`, the notions about units (`isHdr`, `IsUnit`,
`flatU`, `eraseB`, `eraseL`) those of `LTx`.

The idea: erase the transaction headers from log and buffers (`Abs`).  What is left is a state of the header-free system `DocNet`, in
which a committed transaction / multi-operation patch is a clock bump followed by the `call`s of its operations, a
single-operation patch IS a `call`, and `pullAll` is a sequence of `pull`s followed by a clock bump.  That argument does not
depend on the datatype and is made in Proofs/TxCore (`GTx`); a remote document operation is panic-free only where it is
applicable, which is why `GTx` follows `receive` step by step on the header-free side.  `DNet.Inv` itself cannot be the invariant
of the header-free state: the field `life : DR.Life …` of its nodes is not closed under clock bumps (a header consumes a lamport).
The header-free invariant is `SNet`: `NetBook.NetInv` over the datatype part `DNet.Core`, which has, in place of `life`, the two
consequences `DocNet` uses, `DP.DocInv` and `DLR.HistOK` (`NInv` / `SInv` list the same fields flat, for the statement of
`dtx_erased_satisfies_inv`).  The one step `GTx` does not know is PatchByJSON (`patchByJSON_cases`), as `GTx.tx_cases` has it for
a transaction: nothing, one call, or one unit.

A further kind of step is a constructor of `Step` and of `Act`, a case of `act`, `ActOK`, `step_of_act`, and a case of
`TxInv.step`: one of `GTx.TInv.same/call/unit/tx/pushAll/pullAll` where the step does to its node what one of them says, else a
lemma like `TxInv.patch_step` over an analysis of the operation on ONE replica against `GTx.CallSim` (as `patchByJSON_cases`).
`TxNetC.StepC` (Proofs/TxNetCreate.lean) has the same constructors under its guard.
-/
import Orda.Proofs.DocNet
import Orda.Proofs.DocPatch
import Orda.Proofs.TxCore
import Orda.Proofs.Replay
import Orda.Proofs.SeqSnap
namespace Orda.DTx
open Orda Orda.DC Orda.DA Orda.DM Orda.DR Orda.DCausal Orda.DNet
open Orda.LTx (isHdr IsUnit flatU eraseB eraseL)
open Orda.GTx (unitsB_nil call_view)
open Orda.DPatch (Carr GoodV)

/-! ## the system: document replicas with transactions and PatchByJSON around ONE server log -/

/-- what node `i` hands to `receive` when it pulls: the operations of the others in the rest of the log, in log order -/
def pullOps (log : List LEnt) (i : Nat) (nd : Node) : List Op := (oth i (log.drop nd.pulled)).map (·.2)

/-- the targets of PatchByJSON: an object without null and without duplicate keys -/
def TgtOK (tgt : List (String × JVal)) : Prop := (JVal.obj tgt).hasNull = false ∧ JKeysND (.obj tgt)

inductive Step : Net → Net → Prop
  /-- node `i` issues the public call `c` (`DNet.CallOK`: no duplicate keys in the values, not an insert of zero values) -/
  | call (net : Net) (i : Nat) (nd : Node) (c : Call) (hi : net.nodes[i]? = some nd) (hc : CallOK c) :
      Step net ⟨net.nodes.set i { nd with r := (nd.r.call c).1 }, net.log⟩
  /-- node `i` runs the user transaction `tag` whose body issues `calls` (`stopOnErr`: the body returns at the first
      refused call; `failAtEnd`: the user function returns an error) -/
  | tx (net : Net) (i : Nat) (nd : Node) (tag : String) (calls : List Call) (stopOnErr failAtEnd : Bool)
      (hi : net.nodes[i]? = some nd) (hc : ∀ c ∈ calls, CallOK c) :
      Step net ⟨net.nodes.set i { nd with r := (nd.r.txCalls tag calls stopOnErr failAtEnd).1 }, net.log⟩
  /-- node `i` runs `PatchByJSON` with the target object `tgt` -/
  | patch (net : Net) (i : Nat) (nd : Node) (tgt : List (String × JVal)) (hi : net.nodes[i]? = some nd)
      (ht : TgtOK tgt) :
      Step net ⟨net.nodes.set i { nd with r := (nd.r.patchByJSON (.obj tgt)).1 }, net.log⟩
  /-- ALL unpushed operations of node `i`'s buffer are appended to the log, in buffer order (one request) -/
  | pushAll (net : Net) (i : Nat) (nd : Node) (hi : net.nodes[i]? = some nd) :
      Step net ⟨net.nodes.set i { nd with pushed := nd.r.buffer.length },
                net.log ++ (nd.r.buffer.drop nd.pushed).map (fun o => (i, o))⟩
  /-- node `i` consumes the whole rest of the log: the entries of the others go through ONE `Replica.receive` -/
  | pullAll (net : Net) (i : Nat) (nd : Node) (hi : net.nodes[i]? = some nd) :
      Step net ⟨net.nodes.set i { nd with r := (nd.r.receive (pullOps net.log i nd)).1, pulled := net.log.length },
                net.log⟩

/-- reachable from `n` fresh subscribers `Replica.new .document (cuid i) false` with pairwise distinct client identifiers -/
inductive Reach (cuid : Nat → String) (n : Nat) : Net → Prop
  | init (hc : CuidsDistinct cuid n) : Reach cuid n (Net.init cuid n)
  | step {net net' : Net} : Reach cuid n net → Step net net' → Reach cuid n net'

/-! ## the executable form -/

inductive Act where
  | call (i : Nat) (c : Call)
  | tx (i : Nat) (tag : String) (calls : List Call) (stopOnErr failAtEnd : Bool)
  | patch (i : Nat) (tgt : List (String × JVal))
  | pushAll (i : Nat)
  | pullAll (i : Nat)

def act (net : Net) : Act → Option Net
  | .call i c =>
    match net.nodes[i]? with
    | some nd => some ⟨net.nodes.set i { nd with r := (nd.r.call c).1 }, net.log⟩
    | none => none
  | .tx i tag calls s f =>
    match net.nodes[i]? with
    | some nd => some ⟨net.nodes.set i { nd with r := (nd.r.txCalls tag calls s f).1 }, net.log⟩
    | none => none
  | .patch i tgt =>
    match net.nodes[i]? with
    | some nd => some ⟨net.nodes.set i { nd with r := (nd.r.patchByJSON (.obj tgt)).1 }, net.log⟩
    | none => none
  | .pushAll i =>
    match net.nodes[i]? with
    | some nd => some ⟨net.nodes.set i { nd with pushed := nd.r.buffer.length },
        net.log ++ (nd.r.buffer.drop nd.pushed).map (fun o => (i, o))⟩
    | none => none
  | .pullAll i =>
    match net.nodes[i]? with
    | some nd => some ⟨net.nodes.set i { nd with r := (nd.r.receive (pullOps net.log i nd)).1,
                                                  pulled := net.log.length }, net.log⟩
    | none => none

def run (net : Net) : List Act → Option Net
  | [] => some net
  | a :: as => match act net a with
    | some net' => run net' as
    | none => none

def ActOK : Act → Prop
  | .call _ c => CallOK c
  | .tx _ _ calls _ _ => ∀ c ∈ calls, CallOK c
  | .patch _ tgt => TgtOK tgt
  | _ => True

instance (tgt : List (String × JVal)) : Decidable (TgtOK tgt) := by unfold TgtOK; infer_instance
instance (a : Act) : Decidable (ActOK a) := by cases a <;> unfold ActOK <;> infer_instance

theorem act_of_node {net net' : Net} {i : Nat} {f : Node → Net}
    (h : (match net.nodes[i]? with | some nd => some (f nd) | none => none) = some net') :
    ∃ nd, net.nodes[i]? = some nd ∧ net' = f nd := by
  cases hn : net.nodes[i]? with
  | none => rw [hn] at h; cases h
  | some nd => rw [hn] at h; exact ⟨nd, rfl, (Option.some.inj h).symm⟩

theorem step_of_act {net net' : Net} {a : Act} (h : act net a = some net') (hk : ActOK a) : Step net net' := by
  cases a with
  | call i c => obtain ⟨nd, hn, rfl⟩ := act_of_node h; exact .call net i nd c hn hk
  | tx i tag calls s f => obtain ⟨nd, hn, rfl⟩ := act_of_node h; exact .tx net i nd tag calls s f hn hk
  | patch i tgt => obtain ⟨nd, hn, rfl⟩ := act_of_node h; exact .patch net i nd tgt hn hk
  | pushAll i => obtain ⟨nd, hn, rfl⟩ := act_of_node h; exact .pushAll net i nd hn
  | pullAll i => obtain ⟨nd, hn, rfl⟩ := act_of_node h; exact .pullAll net i nd hn

theorem reach_run {cuid : Nat → String} {n : Nat} : ∀ (as : List Act) {net net' : Net}, Reach cuid n net →
    run net as = some net' → (∀ a ∈ as, ActOK a) → Reach cuid n net' := fun as _ _ hr h hk =>
  ListAux.run_induction (fun _ => rfl) (fun s a _ => by simp only [run]; cases act s a <;> rfl)
    (fun hr hk h => .step hr (step_of_act h hk)) as hr h hk

/-! ## the invariant of the header-free side: `DocNet`'s without `DR.Life`, closed under clock bumps -/

/-- the invariant of the header-free side, for some ghost sequences `ap`: `DNet.Inv` with `DNet.Core` for `DNet.Dt`, that is,
    without `life`.  (ListTxNet and MapTxNet call theirs `SInv`; `SInv` here is the same in a flat record, for one statement.) -/
abbrev SNet (cuid : Nat → String) (n : Nat) (net : Net) : Prop :=
  ∃ ap, NetBook.NetInv view (EntOK cuid n) (fun _ r _ A => Core r A) (fun _ => True) cuid n net.nodes net.log ap

theorem dinv_clock {L L' : OpId} {d : Doc} (he : L'.era = L.era) (hl : L.lamport ≤ L'.lamport)
    (I : DP.DInv L 0 d) : DP.DInv L' 0 d :=
  I.restamp fun t ht => ⟨ht.1.trans he.symm, Or.inl (by rcases ht.2 with h | h <;> omega)⟩

theorem docInv_bump {r r' : Replica} (h : Bump r r') (hi : DP.DocInv r) : DP.DocInv r' := by
  obtain ⟨d, hs, I, hk⟩ := hi
  exact ⟨d, h.state.trans hs, dinv_clock h.era h.lamport I, hk⟩

/-- the datatype part only reads state and clock of the replica, and the clock only from below -/
theorem core_bump {r r' : Replica} {A : List LEnt} (d : Core r A) (h : Bump r r') : Core r' A :=
  ⟨docInv_bump h d.dinv, d.hist, h.state.trans d.st, d.valid, h.era.trans d.clock_era⟩

/-- `DP.DocInv` reads state and operation identifier only: it passes between a node and its header-free image (`AbsNode.st`, `.id`) -/
theorem docInv_congr {r r' : Replica} (hs : r'.state = r.state) (hid : r'.opId = r.opId) (hi : DP.DocInv r) :
    DP.DocInv r' := by
  obtain ⟨d, hs0, I, hk⟩ := hi
  exact ⟨d, hs.trans hs0, hid ▸ I, hk⟩

/-! ## what the real side needs of the header-free side: the interface `GTx.HeaderFree` at documents -/

theorem toDOp_hdr {o : Op} (h : isHdr o = true) : toDOp o = none := by
  unfold isHdr at h
  unfold toDOp
  split at h
  · rename_i tag k hb; rw [hb]
  · cases h

theorem isHdr_of_toDOp {o : Op} {x : DOp} (h : toDOp o = some x) : isHdr o = false := by
  cases hh : isHdr o
  · rfl
  · rw [toDOp_hdr hh] at h; cases h

theorem call_no_panic {r : Replica} (h : DP.DocInv r) (c : Call) : (r.call c).2.isPanic = false := by
  cases hres : (r.call c).2 with
  | panic w => exact absurd hres (DP.doc_call_no_panic r c h w)
  | ok v => rfl
  | err e => rfl

/-- what is kept of an operation node `i` queues (`GTx.HeaderFree`'s `Good`) -/
structure GoodOp (cuid : Nat → String) (i : Nat) (o : Op) : Prop where
  nh : isHdr o = false
  cu : o.id.cuid = cuid i

theorem queued_good {cuid : Nat → String} {i : Nat} {r : Replica} (hinv : DP.DocInv r) {d : Doc} (hd : r.state = .doc d)
    (hh : DLR.HistOK d) {c : Call} (hc : CallOK c) {o : Op}
    (hb : (r.call c).1.buffer = r.buffer ++ [o]) (hcu : o.id.cuid = cuid i) : GoodOp cuid i o := by
  rcases call_cases_inv hinv hd hh hc with h | ⟨o', x, hbuf, _, _, _, hx, _⟩
  · exact absurd ((congrArg Replica.buffer h).symm.trans hb) (by simp)
  · obtain rfl : o' = o := List.singleton_inj.mp (List.append_cancel_left (hbuf.symm.trans hb))
    exact ⟨isHdr_of_toDOp hx, hcu⟩

/-- `SI` is an invariant of the header-free system — the steps of `DocNet`, a node `i` calling only where `G i pulled` — that
    is also closed under clock bumps: `toG` is the interface `GTx.HeaderFree` with every `CallOK` call allowed and nothing
    remembered of the operations in buffers and log (whether a delivery panics is read off `SI`, field `pull`).  `TxInv` and
    what it gives use nothing else of the header-free side, so they serve `SNet` (here, `G` true) and `DNetC.InvC`
    (Proofs/TxNetCreate.lean: the system started by a creating client, `G` its guard) alike. -/
structure FreeInv (cuid : Nat → String) (n : Nat) (G : Nat → Nat → Prop) (SI : Net → Prop) : Prop where
  toG : GTx.HeaderFree view cuid n G CallOK (GoodOp cuid) (fun _ => True) (fun ns lg => SI ⟨ns, lg⟩)
  dinv : ∀ {net : Net} {i : Nat} {nd : Node}, SI net → net.nodes[i]? = some nd → DP.DocInv nd.r
  applied : ∀ {net : Net}, SI net → ∃ applied, AppliedBy net applied

theorem FreeInv.of_core {P : LEnt → Prop} {D : Nat → Replica → Nat → List LEnt → Prop} {H : LEnt → Prop}
    {G' : Nat → Nat → Call → Prop} {cuid : Nat → String} {n : Nat} {G : Nat → Nat → Prop}
    (C : NetBook.Closed P D H G' cuid n) (core : ∀ {i r pl A}, D i r pl A → Core r A)
    (hG : ∀ {i pl c}, G i pl → CallOK c → G' i pl c) (hlam : ∀ e, P e → 1 ≤ e.2.id.lamport)
    (bump : ∀ {i r r' pl A}, D i r pl A → Bump r r' → D i r' pl A)
    (nopanic : ∀ {nodes : List Node} {log : List LEnt} {ap : Nat → List LEnt} {j a : Nat} {nd : Node} {o : Op},
      NetBook.NetInv view P D H cuid n nodes log ap → nodes[j]? = some nd → log[nd.pulled]? = some (a, o) → a ≠ j →
      (nd.r.execRemoteBase o).2 = none) :
    FreeInv cuid n G (fun net => ∃ ap, NetBook.NetInv view P D H cuid n net.nodes net.log ap) where
  toG := GTx.HeaderFree.of_net (V := view) C
    (guard := hG)
    (good := fun g => ⟨g.nh, g.cu, trivial⟩)
    (hdr_safe := fun _ => trivial)
    (bump := bump)
    (nopanic := fun d _ => call_no_panic (core d).dinv _)
    (queued := fun d hc hb hcu => queued_good (core d).dinv (core d).st (core d).hist hc hb hcu)
    (deliver := fun I hi hl ha _ => nopanic I hi hl ha)
  dinv := fun ⟨_, I⟩ hi => (core (I.node _ _ hi).1).dinv
  applied := fun ⟨_, I⟩ => ⟨_, appliedBy_of_net I core hlam⟩

theorem headerFree_snet (cuid : Nat → String) (n : Nat) : FreeInv cuid n (fun _ _ => True) (SNet cuid n) :=
  FreeInv.of_core (closedCore cuid n) (core := id) (hG := fun _ hc => hc) (hlam := entOK_lam) (bump := core_bump)
    (nopanic := fun I hi hl ha =>
      have ⟨x, hx, _, hg, _⟩ := deliver_net I id hi hl ha
      (execRemoteBase_is_applyD _ _ (I.node _ _ hi).1.st _ x hx hg).2)

/-! ## erasing the headers: the abstraction to a header-free state -/

/-- node `nd0` (header-free) is node `nd` of this system with the headers erased -/
structure AbsNode (log : List LEnt) (nd nd0 : Node) : Prop where
  st : nd0.r.state = nd.r.state
  id : nd0.r.opId = nd.r.opId
  buf : nd0.r.buffer = eraseB nd.r.buffer
  pushed : nd0.pushed = (eraseB (nd.r.buffer.take nd.pushed)).length
  pulled : nd0.pulled = (eraseL (log.take nd.pulled)).length

/-- `net0` is `net` with the headers erased from log and buffers -/
structure Abs (net net0 : Net) : Prop where
  log : net0.log = eraseL net.log
  len : net0.nodes.length = net.nodes.length
  node : ∀ (i : Nat) (nd : Node), net.nodes[i]? = some nd → ∃ nd0, net0.nodes[i]? = some nd0 ∧ AbsNode net.log nd nd0

theorem Abs.ofG {ns ns0 : List Node} {lg lg0 : List LEnt} (h : GTx.Abs view ns lg ns0 lg0) : Abs ⟨ns, lg⟩ ⟨ns0, lg0⟩ :=
  ⟨h.log, h.len, fun i nd hi =>
    have ⟨nd0, h0, An⟩ := h.node i nd hi
    ⟨nd0, h0, An.st, An.id, An.buf, An.pushed, An.pulled⟩⟩

/-! ## PatchByJSON on one replica, seen from the header-free side

As `GTx.body_sim` / `GTx.tx_cases` for a transaction: `NI` is the header-free invariant read at the node as a property of the
replica alone (`GTx.CallSim`); here it also gives the single-replica invariant (`hdi`). -/

section patch
variable {NI : Replica → Prop} {Good : Op → Prop} (ok : GTx.CallSim NI Good CallOK) (hdi : ∀ ar, NI ar → DP.DocInv ar)
include ok hdi

/-- the body of a multi-operation patch is the body of a transaction over the calls `patchCall` builds
    (`DPatch.body_tx`): what `body_ok` and `GTx.body_sim` say of that holds of it -/
theorem patch_body_sim (ops : List PatchOp) (r : Replica) (acc : List Op) (d : Doc) (tf : JVal) (ar : Replica)
    (hs : r.state = .doc d) (happ : applyPatch ops d.view.canon = some tf) (hgood : ∀ op ∈ ops, Carr GoodV op)
    (has : ar.state = r.state) (hid : ar.opId = r.opId) (I : NI ar) :
    ∃ r1 new d1 ar1, Replica.patch.body r acc ops = (r1, acc ++ new, none) ∧ new.length = ops.length ∧
      r1.state = .doc d1 ∧ d1.view.canon = tf ∧ r1.frame r = r1 ∧ Replays r.opId r.state new r1.opId r1.state ∧
      GTx.Issued NI Good ar new r1 ar1 := by
  obtain ⟨Id, hk⟩ := (docInv_congr has.symm hid.symm (hdi _ I)).of_state hs
  obtain ⟨cs, outs', r1, new, d1, hcs, ht, hb, hl, h3, h4, _⟩ := DPatch.body_tx true ops r acc [] d tf hs Id hk happ hgood
  obtain ⟨hf, new', e, hrep, _⟩ := body_ok _ _ _ _ _ ht
  obtain ⟨_, ar1, new'', e', t⟩ := GTx.body_sim ok true cs hcs r acc [] ar has hid I ht
  cases List.append_cancel_left e
  cases List.append_cancel_left e'
  exact ⟨r1, new, d1, ar1, hb, hl, h3, h4, hf, hrep, t⟩

theorem patch_cases {ar : Replica} (N0 : NI ar) (r : Replica) (hs : ar.state = r.state) (hid : ar.opId = r.opId)
    (hrb : r.RbInv) {d : Doc} (hd : r.state = .doc d) {ops : List PatchOp} {tf : JVal}
    (happ : applyPatch ops d.view.canon = some tf) (hgood : ∀ op ∈ ops, Carr GoodV op) :
    let r' := (r.patch ops).1
    (ops = [] ∧ r' = r) ∨
    (∃ op c, ops = [op] ∧ CallOK c ∧ r' = (r.call c).1) ∨
    (2 ≤ ops.length ∧ r'.RbInv ∧ ∃ opsW ar1, opsW.length = ops.length ∧
       GTx.Committed NI Good ar r r' (toString ops.length ++ " patches") opsW ar1) := by
  have hinv : DP.DocInv r := docInv_congr hs.symm hid.symm (hdi _ N0)
  obtain ⟨Id, hk⟩ := hinv.of_state hd
  match ops, happ, hgood with
  | [], happ, _ =>
    intro r'
    have e : r.patch [] = (r, .ok ()) := DPatch.patch_nil hd
    refine Or.inl ⟨rfl, ?_⟩
    show (r.patch []).1 = r
    rw [e]
  | [op], happ, hgood =>
    intro r'
    simp only [applyPatch] at happ
    cases h1 : applyAt op op.path d.view.canon with
    | none => simp [h1] at happ
    | some t1 =>
      obtain ⟨c, b, post, d', bd, ret', b', hpc, hcok, _, hprep, hexec, hview, I', hk'⟩ :=
        DPatch.op_step Id hk h1 (hgood op (by simp))
      rw [← hd] at hprep hexec
      have hcall := Orda.call_of_ok hprep hexec
      have e : r.patch [op] = ((r.call c).1, .ok ()) := by
        simp only [Replica.patch, hd, hpc, hcall]
      refine Or.inr (Or.inl ⟨op, c, rfl, hcok, ?_⟩)
      show (r.patch [op]).1 = _
      rw [e]
  | o1 :: o2 :: rest, happ, hgood =>
    intro r'
    obtain ⟨r1, new, d1, ar1, q1, q2, q3, q4, q5, q6, t⟩ :=
      patch_body_sim ok hdi (o1 :: o2 :: rest) { r with opId := r.opId.next } [] d tf
        { ar with opId := ar.opId.next } hd happ hgood hs (by show ar.opId.next = r.opId.next; rw [hid]) (ok.bump N0)
    simp only [List.nil_append] at q1
    have e : r.patch (o1 :: o2 :: rest) =
        ({ r1 with
            rbOps := r1.rbOps ++ (⟨r.opId.next, .transaction (toString (o1 :: o2 :: rest).length ++ " patches")
              (new.length + 1)⟩ :: new),
            buffer := r1.buffer ++ (⟨r.opId.next, .transaction (toString (o1 :: o2 :: rest).length ++ " patches")
              (new.length + 1)⟩ :: new).map Op.wire }, .ok ()) :=
      DPatch.patch_of_body hd (by simp) q1
    obtain ⟨_, f2, _, f4, f5, f6⟩ := frame_fields q5
    have er : r' = _ := congrArg Prod.fst e
    refine Or.inr (Or.inr ⟨by simp, ?_, new.map Op.wire, ar1, by simp [q2], ?_⟩)
    · rw [er, RbInv_iff]
      show Replays r1.rbOpId r1.rbSnap (r1.rbOps ++ _) r1.opId r1.state
      rw [f4, f5, f6]
      rw [RbInv_iff] at hrb
      exact replays_append hrb (replays_append (l1 := [_]) (replays_meta _ _ _ rfl) q6)
    · rw [er]
      exact t.commit hid f2 _ _

/-- the script `jsonDiff` of the replica's view rewrites the view into the target, so `patch_cases` applies; `ops` and `r'` name
    the two components of `patchByJSON`, for the caller to rewrite with -/
theorem patchByJSON_cases {ar : Replica} (N0 : NI ar) (r : Replica) (hs : ar.state = r.state) (hid : ar.opId = r.opId)
    (hrb : r.RbInv) {tgt : List (String × JVal)} (hn : (JVal.obj tgt).hasNull = false) :
    ∃ ops r', (r.patchByJSON (.obj tgt)).1 = r' ∧ (r.patchByJSON (.obj tgt)).2.1 = ops ∧
      ((ops = [] ∧ r' = r) ∨
       (∃ op c, ops = [op] ∧ CallOK c ∧ r' = (r.call c).1) ∨
       (2 ≤ ops.length ∧ r'.RbInv ∧ ∃ opsW ar1, opsW.length = ops.length ∧
          GTx.Committed NI Good ar r r' (toString ops.length ++ " patches") opsW ar1)) := by
  have hinv : DP.DocInv r := docInv_congr hs.symm hid.symm (hdi _ N0)
  obtain ⟨d, hsd, _⟩ := id hinv  -- `id`: `hinv` stays
  obtain ⟨Id, hkeys⟩ := hinv.of_state hsd
  obtain ⟨happ, hgood⟩ := DPatch.script_ok Id hkeys tgt hn
  have e := DPatch.patchByJSON_eq hsd (.obj tgt)
  exact ⟨_, _, congrArg (·.1) e, congrArg (·.2.1) e, patch_cases ok hdi N0 r hs hid hrb hsd happ hgood⟩

end patch

/-! ## the invariant of the system -/

section headerFree
variable {cuid : Nat → String} {n : Nat} {G : Nat → Nat → Prop} {SI : Net → Prop}

theorem FreeInv.dinvAt (F : FreeInv cuid n G SI) {ns0 : List Node} {lg0 : List LEnt} {i pu pl : Nat}
    (hlt : i < ns0.length) {ar : Replica} (I : GTx.At view (fun ns lg => SI ⟨ns, lg⟩) ns0 lg0 i ar pu pl) : DP.DocInv ar :=
  F.dinv (net := ⟨ns0.set i ⟨ar, pu, pl⟩, lg0⟩) (i := i) (nd := ⟨ar, pu, pl⟩) I (by simp [hlt])

/-- the invariant of the system: `GTx.TInv` at `DNet.view` over the header-free invariant `SI`, with `Safe` trivial (nothing is
    remembered of an operation beyond its client identifier) -/
abbrev TxInv (cuid : Nat → String) (n : Nat) (SI : Net → Prop) (net : Net) : Prop :=
  GTx.TInv view cuid n (fun _ => True) (fun ns lg => SI ⟨ns, lg⟩) net.nodes net.log

theorem TxInv.abs {net : Net} (T : TxInv cuid n SI net) : ∃ net0, SI net0 ∧ Abs net net0 :=
  have ⟨ns0, lg0, I, Ab⟩ := T.sim
  ⟨⟨ns0, lg0⟩, I, .ofG Ab⟩

theorem net_eta (net : Net) : (⟨net.nodes, net.log⟩ : Net) = net := rfl

/-! ## what the invariant gives -/

/-- where unit `j` of a decomposition starts in the log (`LTx.unitStart`, under this namespace for `dtx_all_or_nothing_pos`) -/
def unitStart (units : List (Nat × List Op)) (j : Nat) : Nat := (flatU (units.take j)).length

/-- node `i` has applied the log entry `e` of another node: `e` is among the entries `i` has consumed -/
def Applied (net : Net) (i : Nat) (e : LEnt) : Prop :=
  ∃ nd, net.nodes[i]? = some nd ∧ e ∈ oth i (net.log.take nd.pulled)

namespace TxInv
variable {net : Net} (F : FreeInv cuid n G SI) (T : TxInv cuid n SI net)
include F T

theorem docInv {i : Nat} {nd : Node} (hi : net.nodes[i]? = some nd) : DP.DocInv nd.r := by
  obtain ⟨_, _, nd0, _, h0, _, An, I, _⟩ := T.at_node F.toG hi
  exact docInv_congr An.st.symm An.id.symm (F.dinv ((GTx.at_self h0).mp I) h0)

theorem committed_tx_is_one_unit {i : Nat} {nd : Node} (hi : net.nodes[i]? = some nd) (tag : String) (calls : List Call)
    (hcs : ∀ c ∈ calls, CallOK c) (s f : Bool) (hok : (nd.r.txCalls tag calls s f).2.2 = .ok ())
    (hg : G i (eraseL (net.log.take nd.pulled)).length) :
    ∃ ops : List Op,
      (nd.r.txCalls tag calls s f).1.buffer =
        nd.r.buffer ++ (⟨nd.r.opId.next, .transaction tag ((ops.length : Int) + 1)⟩ :: ops) ∧
      IsUnit (⟨nd.r.opId.next, .transaction tag ((ops.length : Int) + 1)⟩ :: ops) ∧
      ∀ o ∈ ops, isHdr o = false ∧ o.id.cuid = cuid i ∧ nd.r.opId.lamport + 1 < o.id.lamport := by
  have ⟨ops, hb, hu, hgood⟩ := T.committed F.toG hi tag calls hcs s f hg hok
  exact ⟨ops, hb, hu, fun o ho => ⟨(hgood o ho).1.nh, (hgood o ho).1.cu, (hgood o ho).2⟩⟩

/-- the step `patch` keeps the invariant, and what it queues: the three cases of `patchByJSON_cases` are `GTx.TInv.same`, `.call`
    and `.unit`.  `hg`: the guard, read on the header-free side -/
theorem patch_step {i : Nat} {nd : Node} (hi : net.nodes[i]? = some nd) (tgt : List (String × JVal))
    (hn : (JVal.obj tgt).hasNull = false) (hg : G i (eraseL (net.log.take nd.pulled)).length) :
    TxInv cuid n SI ⟨net.nodes.set i { nd with r := (nd.r.patchByJSON (.obj tgt)).1 }, net.log⟩ ∧
    ∃ u : List Op, (nd.r.patchByJSON (.obj tgt)).1.buffer = nd.r.buffer ++ u ∧ (u = [] ∨ IsUnit u) ∧
      (∀ o ∈ u, o.id.cuid = cuid i ∧ nd.r.opId.lamport < o.id.lamport) ∧
      ((nd.r.patchByJSON (.obj tgt)).2.1.length = 0 → u = []) ∧
      (2 ≤ (nd.r.patchByJSON (.obj tgt)).2.1.length → u.length = (nd.r.patchByJSON (.obj tgt)).2.1.length + 1) := by
  obtain ⟨ns0, lg0, nd0, Ab, h0, hlt, An, I, C0⟩ := T.at_node F.toG hi
  obtain ⟨ops, r', e, e', hc⟩ := patchByJSON_cases (F.toG.callSim hlt (An.pulled ▸ hg)) (fun _ => F.dinvAt hlt) I nd.r An.st
    An.id (T.node i nd hi).rb hn
  rw [e, e']
  rcases hc with ⟨rfl, rfl⟩ | ⟨op, c, rfl, hcok, rfl⟩ | ⟨hlen, hrb', opsW, ar1, hl, U⟩
  · exact ⟨T.same F.toG hi (T.node i nd hi).rb rfl rfl rfl, [], (List.append_nil _).symm, Or.inl rfl, (fun _ h => nomatch h),
      fun _ => rfl, fun h => absurd h (Nat.not_succ_le_zero 1)⟩
  · obtain ⟨_, _, new, v3, v4⟩ := call_view nd.r nd0.r c An.st An.id
    obtain ⟨_, hnew⟩ := F.toG.new ((GTx.at_self h0).mp I) h0 hcok v3
    refine ⟨T.call F.toG hi hcok hg, new, v4, ?_, ?_, fun h => absurd h (Nat.succ_ne_zero 0),
      fun h => absurd h (Nat.not_succ_le_self 1)⟩
    · rcases hnew with rfl | ⟨o', rfl, g, _⟩
      · exact Or.inl rfl
      · exact Or.inr (Or.inl ⟨o', rfl, g.nh⟩)
    · intro o ho
      rcases hnew with rfl | ⟨o', rfl, g, g1, g2⟩
      · cases ho
      · rw [List.mem_singleton.mp ho, ← An.id]
        exact ⟨g.cu, by omega⟩
  · refine ⟨T.unit F.toG hi Ab hlt An C0 hrb' U, _, U.buf, Or.inr (Or.inr ⟨_, _, opsW, rfl, fun o ho => (U.good o ho).1.nh⟩),
      ?_, by omega, fun _ => congrArg (· + 1) hl⟩
    intro o ho
    rcases List.mem_cons.mp ho with rfl | ho
    · exact ⟨by rw [← An.id]; exact C0.clock_cuid, Nat.lt_succ_self _⟩
    · exact ⟨(U.good o ho).1.cu, by have := (U.good o ho).2; omega⟩

/-- every node has `DP.DocInv`, and its document IS the application, from the empty document, of a valid sequence of remote
    operations that is a permutation of what the operations the node has (own buffer, foreign entries among the first
    `pulled` of the log; headers denote nothing) denote: read on the header-free side -/
theorem nodes_applied : ∃ applied : Nat → List DOp, AppliedBy net applied := by
  obtain ⟨ns0, lg0, I, Ab⟩ := T.sim
  obtain ⟨applied, ha⟩ := F.applied I
  refine ⟨applied, fun i nd hi => ?_⟩
  obtain ⟨nd0, h0, hst, hops⟩ := Ab.ops hi
  obtain ⟨_, a1, a2, a3, a4, a5⟩ := ha i nd0 h0
  have e : appliedOps lg0 i nd0 = eraseB (appliedOps net.log i nd) := hops
  exact ⟨T.docInv F hi, hst ▸ a1, a2, a3, a4, by rw [← LTx.filterMap_eraseB toDOp_hdr, ← e]; exact a5⟩

theorem same_operations_same_document (i j : Nat) (hi : i < net.nodes.length) (hj : j < net.nodes.length) (di dj : Doc)
    (hdi : net.nodes[i].r.state = .doc di) (hdj : net.nodes[j].r.state = .doc dj) (hsame : SameOps net i j) :
    ASim di dj ∧ di.view.canon = dj.view.canon :=
  have ⟨_, ha⟩ := T.nodes_applied F
  ha.same_doc i j hi hj di dj hdi hdj hsame

omit F in
theorem sameOps_of_quiescent (hq : Quiescent net) {i j : Nat} (hi : i < net.nodes.length)
    (hj : j < net.nodes.length) : SameOps net i j :=
  ⟨_, _, List.getElem?_eq_getElem hi, List.getElem?_eq_getElem hj,
    GTx.TInv.caught_up_perm T (List.getElem?_eq_getElem hi) (List.getElem?_eq_getElem hj) (hq.caught_up hi).1
      (hq.caught_up hi).2 (hq.caught_up hj).1 (hq.caught_up hj).2⟩

theorem quiescent_converged (hq : Quiescent net) (i j : Nat) (hi : i < net.nodes.length)
    (hj : j < net.nodes.length) (di dj : Doc) (hdi : net.nodes[i].r.state = .doc di)
    (hdj : net.nodes[j].r.state = .doc dj) : ASim di dj ∧ di.view.canon = dj.view.canon :=
  T.same_operations_same_document F i j hi hj di dj hdi hdj (T.sameOps_of_quiescent hq hi hj)

theorem quiescent_views_equal (hq : Quiescent net) {j k : Nat} {dj dk : Doc}
    (hj : Holds net j dj) (hk : Holds net k dk) : ASim dj dk ∧ dj.view.canon = dk.view.canon := by
  obtain ⟨nj, hnj, hsj⟩ := hj
  obtain ⟨nk, hnk, hsk⟩ := hk
  obtain ⟨hjl, ej⟩ := List.getElem?_eq_some_iff.mp hnj
  obtain ⟨hkl, ek⟩ := List.getElem?_eq_some_iff.mp hnk
  exact T.quiescent_converged F hq j k hjl hkl dj dk (by rw [ej]; exact hsj) (by rw [ek]; exact hsk)

end TxInv
end headerFree

/-! ## synchronisation; quiescence is reachable from every state -/

/-- a synchronisation step: nobody issues an operation -/
inductive SyncStep : Net → Net → Prop
  | pushAll (net : Net) (i : Nat) (nd : Node) (hi : net.nodes[i]? = some nd) :
      SyncStep net ⟨net.nodes.set i { nd with pushed := nd.r.buffer.length },
                net.log ++ (nd.r.buffer.drop nd.pushed).map (fun o => (i, o))⟩
  | pullAll (net : Net) (i : Nat) (nd : Node) (hi : net.nodes[i]? = some nd) :
      SyncStep net ⟨net.nodes.set i { nd with r := (nd.r.receive (pullOps net.log i nd)).1, pulled := net.log.length },
                net.log⟩

/-- zero or more synchronisation steps -/
inductive Syncs : Net → Net → Prop
  | refl (net : Net) : Syncs net net
  | tail {a b c : Net} : Syncs a b → SyncStep b c → Syncs a c

theorem Syncs.trans {a b c : Net} (h1 : Syncs a b) (h2 : Syncs b c) : Syncs a c := by
  induction h2 with
  | refl => exact h1
  | tail _ hs ih => exact .tail ih hs

/-- zero or more steps -/
inductive Reaches : Net → Net → Prop
  | refl (net : Net) : Reaches net net
  | tail {a b c : Net} : Reaches a b → Step b c → Reaches a c

theorem reach_of_reaches {cuid : Nat → String} {n : Nat} {net net' : Net} (hr : Reach cuid n net) (h : Reaches net net') :
    Reach cuid n net' := by
  induction h with
  | refl => exact hr
  | tail _ hs ih => exact .step ih hs

theorem SyncStep.step {a b : Net} (h : SyncStep a b) : Step a b := by
  cases h with
  | pushAll i nd hi => exact .pushAll a i nd hi
  | pullAll i nd hi => exact .pullAll a i nd hi

theorem Syncs.reaches {a b : Net} (h : Syncs a b) : Reaches a b := by
  induction h with
  | refl => exact .refl _
  | tail _ hs ih => exact .tail ih hs.step

theorem can_quiesce (net : Net) : ∃ net', Syncs net net' ∧ Quiescent net' :=
  have ⟨s', hr, hq⟩ := GTx.can_quiesce view (R := fun a b => SyncStep ⟨a.1, a.2⟩ ⟨b.1, b.2⟩)
    (Rs := fun a b => Syncs ⟨a.1, a.2⟩ ⟨b.1, b.2⟩) (fun _ => .refl _) .tail
    (fun ns lg i nd hi => .pushAll ⟨ns, lg⟩ i nd hi) (fun ns lg i nd hi => .pullAll ⟨ns, lg⟩ i nd hi) (net.nodes, net.log)
  ⟨⟨s'.1, s'.2⟩, hr, hq⟩

/-- no operation of another node is concurrent to what node `i` issues now: node `i` has consumed every log entry of the
    others (`oth i`: the entries not written by `i`) and the other nodes hold nothing back -/
def NoConc (net : Net) (i : Nat) : Prop :=
  (∃ nd, net.nodes[i]? = some nd ∧ oth i (net.log.drop nd.pulled) = []) ∧
  ∀ (k : Nat) (ndk : Node), k ≠ i → net.nodes[k]? = some ndk → ndk.pushed = ndk.r.buffer.length

/-- `NoConc net i`, and node `i` holds the state `s`: kept by every synchronisation step (`settled_step`), so `s` is what node `i`
    still holds at quiescence -/
def Settled (i : Nat) (s : DState) (net : Net) : Prop :=
  (∃ nd, net.nodes[i]? = some nd ∧ nd.r.state = s ∧ oth i (net.log.drop nd.pulled) = []) ∧
  ∀ (k : Nat) (ndk : Node), k ≠ i → net.nodes[k]? = some ndk → ndk.pushed = ndk.r.buffer.length

theorem settled_step {i : Nat} {s : DState} {a b : Net} (h : Settled i s a) (hs : SyncStep a b) : Settled i s b := by
  obtain ⟨⟨nd, hnd, hst, hoth⟩, hrest⟩ := h
  have rest' : ∀ {k : Nat} {x : Node}, (k ≠ i → x.pushed = x.r.buffer.length) → ∀ (k' : Nat) (ndk' : Node), k' ≠ i →
      (a.nodes.set k x)[k']? = some ndk' → ndk'.pushed = ndk'.r.buffer.length := fun hx k' ndk' hne hk' =>
    ListAux.forall_set (Q := fun j y => j ≠ i → y.pushed = y.r.buffer.length) hx (fun j y _ hj hji => hrest j y hji hj)
      k' ndk' hk' hne
  cases hs with
  | pushAll k ndk hk =>
    refine ⟨?_, rest' fun _ => rfl⟩
    by_cases hki : k = i
    · subst hki
      obtain rfl : nd = ndk := Option.some.inj (hnd.symm.trans hk)
      refine ⟨_, ListAux.getElem?_set_self' hnd, hst, ?_⟩
      show oth k ((a.log ++ _).drop nd.pulled) = []
      rw [List.drop_append, oth_append, hoth, List.nil_append]
      exact List.filter_eq_nil_iff.mpr fun e he => by
        obtain ⟨o, _, rfl⟩ := List.mem_map.mp (List.mem_of_mem_drop he)
        simp
    · refine ⟨nd, by show (a.nodes.set k _)[i]? = some nd; rw [List.getElem?_set_ne hki]; exact hnd, hst, ?_⟩
      show oth i ((a.log ++ _).drop nd.pulled) = []
      rw [List.drop_eq_nil_of_le (Nat.le_of_eq (hrest k ndk hki hk).symm)]
      simpa using hoth
  | pullAll k ndk hk =>
    refine ⟨?_, rest' fun hki => ?_⟩
    · by_cases hki : k = i
      · subst hki
        obtain rfl : nd = ndk := Option.some.inj (hnd.symm.trans hk)
        have e : pullOps a.log k nd = [] := by unfold pullOps; rw [hoth]; rfl
        refine ⟨_, ListAux.getElem?_set_self' hnd, ?_, ?_⟩
        · show (nd.r.receive (pullOps a.log k nd)).1.state = s
          rw [e, SN.receive_nil]; exact hst
        · show oth k (a.log.drop a.log.length) = []
          rw [List.drop_length]; rfl
      · exact ⟨nd, by show (a.nodes.set k _)[i]? = some nd; rw [List.getElem?_set_ne hki]; exact hnd, hst, hoth⟩
    · show ndk.pushed = (ndk.r.receive _).1.buffer.length
      rw [(receive_fields _ _).1]
      exact hrest k ndk hki hk

theorem settled_syncs {i : Nat} {s : DState} {a b : Net} (h : Settled i s a) (hs : Syncs a b) : Settled i s b := by
  induction hs with
  | refl => exact h
  | tail _ hstep ih => exact settled_step ih hstep

/-- `dtx_patch_propagates` for any header-free invariant; the invariant of the quiescent state `net2` is a hypothesis (`T2`), since
    the caller's notion of reachability gives it (here `Reach`, in Proofs/TxNetCreate.lean `ReachC`) -/
theorem TxInv.patch_propagates {cuid : Nat → String} {n : Nat} {G : Nat → Nat → Prop} {SI : Net → Prop}
    (F : FreeInv cuid n G SI) {net : Net} (T : TxInv cuid n SI net) {i : Nat} {nd : Node} (hi : net.nodes[i]? = some nd)
    (tgt : List (String × JVal)) (hn : (JVal.obj tgt).hasNull = false) (hk : JKeysND (.obj tgt)) {net1 net2 : Net}
    (h1 : net1 = ⟨net.nodes.set i { nd with r := (nd.r.patchByJSON (.obj tgt)).1 }, net.log⟩)
    (hs : Syncs net1 net2) (hq : Quiescent net2) (T2 : TxInv cuid n SI net2) :
    (∀ (j k : Nat) (dj dk : Doc), Holds net2 j dj → Holds net2 k dk → ASim dj dk ∧ dj.view.canon = dk.view.canon) ∧
    (NoConc net i → ∀ (j : Nat) (dj : Doc), Holds net2 j dj →
      dj.view.canon = (JVal.obj tgt).canon ∧ ∀ di', Holds net1 i di' → dj.view.canon = di'.view.canon) := by
  refine ⟨fun j k dj dk hj hk' => T2.quiescent_views_equal F hq hj hk', ?_⟩
  intro hnc j dj hj
  obtain ⟨⟨nd', hnd', hpl⟩, hothers⟩ := hnc
  rw [hi] at hnd'
  simp only [Option.some.injEq] at hnd'
  subst hnd'
  obtain ⟨d, hd, _⟩ := T.docInv F hi
  obtain ⟨d', g1, g2, g3, _⟩ := DPatch.patchByJSON_reaches_target nd.r d hd (T.docInv F hi) tgt hn hk
  have hset : Settled i (.doc d') net1 := by
    rw [h1]
    refine ⟨⟨_, ListAux.getElem?_set_self' hi, g1, hpl⟩, ?_⟩
    · intro k ndk hne hk'
      rcases ListAux.getElem?_set_some hk' with ⟨rfl, _⟩ | ⟨_, hk''⟩
      · exact absurd rfl hne
      · exact hothers k ndk hne hk''
  obtain ⟨⟨nd2, hnd2, hst2, _⟩, _⟩ := settled_syncs hset hs
  have e := (T2.quiescent_views_equal F hq hj ⟨nd2, hnd2, hst2⟩).2
  refine ⟨e.trans g3, ?_⟩
  intro di' hdi'
  have hi1 : Holds net1 i d' := by rw [h1]; exact ⟨_, ListAux.getElem?_set_self' hi, g1⟩
  rw [holds_unique hdi' hi1]
  exact e

/-! ## the invariant holds in every reachable state -/

theorem TxInv.step {cuid : Nat → String} {n : Nat} {net net' : Net} (T : TxInv cuid n (SNet cuid n) net)
    (h : Step net net') : TxInv cuid n (SNet cuid n) net' := by
  have F := headerFree_snet cuid n
  cases h with
  | call i nd c hi hc => exact T.call F.toG hi hc trivial
  | tx i nd tag calls s f hi hcs => exact T.tx F.toG hi tag calls hcs s f trivial
  | patch i nd tgt hi ht => exact (T.patch_step F hi tgt ht.1 trivial).1
  | pushAll i nd hi => exact T.pushAll F.toG hi
  | pullAll i nd hi => exact T.pullAll F.toG hi

theorem tinv_init {cuid : Nat → String} {n : Nat} (hc : CuidsDistinct cuid n) :
    TxInv cuid n (SNet cuid n) (Net.init cuid n) :=
  .init ⟨fun _ => [], .init hc fun _ _ => ⟨⟨DP.docInv_new _ _, DLR.histOK_empty, rfl, trivial, rfl⟩, .init rfl⟩⟩ fun i nd hi => by
    obtain ⟨rfl, _⟩ := ListAux.range_map_node hi
    exact ⟨rfl, rfl, rbInv_new _ _ _, unitsB_nil, .nil, fun _ ho => nomatch ho⟩

theorem tinv_reach {cuid : Nat → String} {n : Nat} {net : Net} (h : Reach cuid n net) :
    TxInv cuid n (SNet cuid n) net := by
  induction h with
  | init hc => exact tinv_init hc
  | step _ hs ih => exact ih.step hs

/-! ## the header-free state in the fields of `DNet.NodeInv`/`DNet.Inv`: the records of `dtx_erased_satisfies_inv` -/

/-- `NInv`/`SInv`: the record in which `dtx_erased_satisfies_inv` states the invariant of the erased system; the proofs read it as
    `NetBook.NetInv` with the datatype part `DNet.Core` (`SNet`). -/
structure NInv (cuid : Nat → String) (n : Nat) (log : List LEnt) (i : Nat) (nd : Node) (A : List LEnt) : Prop where
  dinv : DP.DocInv nd.r
  hist : ∀ d, nd.r.state = .doc d → DLR.HistOK d
  st : nd.r.state = .doc (applyAllD Doc.empty (den A))
  valid : Valid Doc.empty (den A)
  pushed_le : nd.pushed ≤ nd.r.buffer.length
  pulled_le : nd.pulled ≤ log.length
  own_eq : own i A = nd.r.buffer.map (fun o => (i, o))
  oth_eq : oth i A = oth i (log.take nd.pulled)
  log_own : own i log = (nd.r.buffer.take nd.pushed).map (fun o => (i, o))
  clock_cuid : nd.r.opId.cuid = cuid i
  clock_era : nd.r.opId.era = 0
  lam_le : ∀ e ∈ A, e.2.id.lamport ≤ nd.r.opId.lamport
  ent_ok : ∀ e ∈ A, EntOK cuid n e
  buf_sorted : nd.r.buffer.Pairwise (fun o o' => o.id.lamport < o'.id.lamport)
  keys : A.Pairwise (fun e e' => lkey e ≠ lkey e')
  /-- CAUSALITY: what node `i` had applied when it issued `o` is in the log before `o` -/
  causal : ∀ P o S, A = P ++ (i, o) :: S → ∀ k, log[k]? = some (i, o) → ∀ e ∈ P, e ∈ log.take k

structure SInv (cuid : Nat → String) (n : Nat) (net : Net) (ap : Nat → List LEnt) : Prop where
  distinct : CuidsDistinct cuid n
  len : net.nodes.length = n
  node : ∀ i nd, net.nodes[i]? = some nd → NInv cuid n net.log i nd (ap i)
  log_auth : ∀ e ∈ net.log, e.1 < n
  log_keys : net.log.Pairwise (fun e e' => lkey e ≠ lkey e')


namespace NInv
variable {cuid : Nat → String} {n : Nat} {log : List LEnt} {i : Nat} {nd : Node} {A : List LEnt}

theorem book (N : NInv cuid n log i nd A) :
    NetBook.Book (EntOK cuid n) (cuid i) log i nd.r.buffer nd.r.opId nd.pushed nd.pulled A :=
  ⟨N.pushed_le, N.pulled_le, N.own_eq, N.oth_eq, N.log_own, N.clock_cuid, N.lam_le, N.ent_ok, N.buf_sorted, N.keys,
    N.causal⟩

theorem dt (N : NInv cuid n log i nd A) : Core nd.r A := ⟨N.dinv, N.hist _ N.st, N.st, N.valid, N.clock_era⟩

theorem of_dt (d : Core nd.r A)
    (B : NetBook.Book (EntOK cuid n) (cuid i) log i nd.r.buffer nd.r.opId nd.pushed nd.pulled A) :
    NInv cuid n log i nd A :=
  { d, B with hist := fun _ hd => DState.doc.inj (d.st.symm.trans hd) ▸ d.hist }

end NInv

namespace SInv
variable {cuid : Nat → String} {n : Nat} {net : Net} {ap : Nat → List LEnt}

theorem toNet (I : SInv cuid n net ap) : NetBook.NetInv view (EntOK cuid n)
    (fun _ r _ A => Core r A) (fun _ => True) cuid n net.nodes net.log ap :=
  ⟨I.distinct, I.len, fun i nd hi => ⟨(I.node i nd hi).dt, (I.node i nd hi).book⟩, I.log_auth, I.log_keys,
    fun _ _ => trivial⟩

theorem of_net {nodes : List Node} {log : List LEnt} (I : NetBook.NetInv view (EntOK cuid n)
    (fun _ r _ A => Core r A) (fun _ => True) cuid n nodes log ap) : SInv cuid n ⟨nodes, log⟩ ap :=
  ⟨I.distinct, I.len, fun i nd hi => .of_dt (I.node i nd hi).1 (I.node i nd hi).2, I.log_auth, I.log_keys⟩

/-- every delivery is applicable -/
theorem deliver (I : SInv cuid n net ap) {j : Nat} {nd : Node} {a : Nat} {o : Op} (hj : net.nodes[j]? = some nd)
    (hl : net.log[nd.pulled]? = some (a, o)) (ha : a ≠ j) :
    ∃ x, toDOp o = some x ∧ ValuesOK x ∧ GoodD (applyAllD Doc.empty (den (ap j))) [x] ∧
      (∀ e ∈ ap j, lkey e ≠ lkey (a, o)) ∧ EntOK cuid n (a, o) :=
  deliver_net I.toNet id hj hl ha

end SInv

/-! ## the theorems -/

section theorems
variable {cuid : Nat → String} {n : Nat} {net : Net}

/-- in a reachable state a transaction (ANY body) never panics: it ends with `.ok ()` or with an error -/
theorem dtx_tx_never_panics (h : Reach cuid n net) {i : Nat} {nd : Node} (hi : net.nodes[i]? = some nd)
    (tag : String) (calls : List Call) (hcs : ∀ c ∈ calls, CallOK c) (stopOnErr failAtEnd : Bool) :
    (nd.r.txCalls tag calls stopOnErr failAtEnd).2.2 = .ok () ∨
      ∃ c, (nd.r.txCalls tag calls stopOnErr failAtEnd).2.2 = .err c :=
  (tinv_reach h).tx_never_panics (headerFree_snet cuid n).toG hi tag calls hcs stopOnErr failAtEnd trivial

/-- a failing transaction changes nothing on its node: operation identifier, state, buffer, checkpoint are what they
    were (whatever the body did before it failed: valid and refused calls, reads, early return, failing user function) -/
theorem dtx_failed_tx_is_noop (h : Reach cuid n net) {i : Nat} {nd : Node} (hi : net.nodes[i]? = some nd)
    (tag : String) (calls : List Call) (stopOnErr failAtEnd : Bool) (c : Nat)
    (herr : (nd.r.txCalls tag calls stopOnErr failAtEnd).2.2 = .err c) :
    let r' := (nd.r.txCalls tag calls stopOnErr failAtEnd).1
    r'.opId = nd.r.opId ∧ r'.state = nd.r.state ∧ r'.buffer = nd.r.buffer ∧ r'.cp = nd.r.cp :=
  txCalls_fail_restores nd.r ((tinv_reach h).node i nd hi).rb tag calls stopOnErr failAtEnd c herr

/-- … stated for the system: after the `tx` step of a failing transaction the log is the same and every node has the same
    state, operation identifier, buffer, checkpoint and counters as before -/
theorem dtx_failed_tx_is_noop_net (h : Reach cuid n net) {i : Nat} {nd : Node} (hi : net.nodes[i]? = some nd)
    (tag : String) (calls : List Call) (hcs : ∀ c ∈ calls, CallOK c) (stopOnErr failAtEnd : Bool) (c : Nat)
    (herr : (nd.r.txCalls tag calls stopOnErr failAtEnd).2.2 = .err c) {net' : Net}
    (hnet : net' = ⟨net.nodes.set i { nd with r := (nd.r.txCalls tag calls stopOnErr failAtEnd).1 }, net.log⟩) :
    Step net net' ∧ net'.log = net.log ∧ ∀ (j : Nat) (nd' : Node), net'.nodes[j]? = some nd' →
      ∃ ndj, net.nodes[j]? = some ndj ∧ nd'.r.opId = ndj.r.opId ∧ nd'.r.state = ndj.r.state ∧
        nd'.r.buffer = ndj.r.buffer ∧ nd'.r.cp = ndj.r.cp ∧ nd'.pushed = ndj.pushed ∧ nd'.pulled = ndj.pulled := by
  subst hnet
  exact ⟨.tx net i nd tag calls stopOnErr failAtEnd hi hcs, rfl,
    (tinv_reach h).failed_noop hi tag calls stopOnErr failAtEnd c herr⟩

/-- a committed transaction appends exactly ONE unit `header :: ops` to the buffer; the header carries the first
    identifier of the transaction and announces the unit's length; `ops` (the operations of the successful calls of the
    body) contains no header, and every operation carries the node's client identifier and is newer than the header -/
theorem dtx_committed_tx_is_one_unit (h : Reach cuid n net) {i : Nat} {nd : Node} (hi : net.nodes[i]? = some nd)
    (tag : String) (calls : List Call) (hcs : ∀ c ∈ calls, CallOK c) (stopOnErr failAtEnd : Bool)
    (hok : (nd.r.txCalls tag calls stopOnErr failAtEnd).2.2 = .ok ()) :
    let r' := (nd.r.txCalls tag calls stopOnErr failAtEnd).1
    ∃ ops : List Op,
      r'.buffer = nd.r.buffer ++ (⟨nd.r.opId.next, .transaction tag ((ops.length : Int) + 1)⟩ :: ops) ∧
      IsUnit (⟨nd.r.opId.next, .transaction tag ((ops.length : Int) + 1)⟩ :: ops) ∧
      ∀ o ∈ ops, isHdr o = false ∧ o.id.cuid = cuid i ∧ nd.r.opId.lamport + 1 < o.id.lamport :=
  (tinv_reach h).committed_tx_is_one_unit (headerFree_snet cuid n) hi tag calls hcs stopOnErr failAtEnd hok
    trivial

/-- units are contiguous in the log, in every reachable state: the log is a concatenation of units -/
theorem dtx_log_is_units (h : Reach cuid n net) : ∃ units : List (Nat × List Op),
    net.log = units.flatMap (fun (a, u) => u.map (a, ·)) ∧ ∀ au ∈ units, IsUnit au.2 :=
  (tinv_reach h).log_is_units

/-- `receive` never refuses and never panics in the system: what a node hands to `receive` when it pulls is accepted -/
theorem dtx_receive_ok (h : Reach cuid n net) {i : Nat} {nd : Node} (hi : net.nodes[i]? = some nd) :
    (nd.r.receive (pullOps net.log i nd)).2 = .ok () :=
  (tinv_reach h).receive_ok (headerFree_snet cuid n).toG hi

/-- ALL OR NOTHING, by log position: there is ONE decomposition of the log into units such that every node, at every
    moment, has consumed (`p < pulled`) either ALL positions of a unit or NONE of them — `pulled` never sits inside a unit.
    (`TxInv.nodes_applied` ties `pulled` to the state: the state of a node is the application of its own operations and
    of the foreign entries among the first `pulled` ones.) -/
theorem dtx_all_or_nothing_pos (h : Reach cuid n net) : ∃ units : List (Nat × List Op),
    net.log = flatU units ∧ (∀ au ∈ units, IsUnit au.2) ∧
    ∀ (i : Nat) (nd : Node), net.nodes[i]? = some nd → ∀ j, j < units.length →
      (∀ p, unitStart units j ≤ p → p < unitStart units (j + 1) → p < nd.pulled) ∨
      (∀ p, unitStart units j ≤ p → p < unitStart units (j + 1) → ¬ p < nd.pulled) :=
  (tinv_reach h).all_or_nothing_pos

/-- ALL OR NOTHING: in every reachable state every node has applied, of every unit of the log authored by another
    node, either ALL operations or NONE -/
theorem dtx_all_or_nothing (h : Reach cuid n net) : ∃ units : List (Nat × List Op),
    net.log = units.flatMap (fun (a, u) => u.map (a, ·)) ∧ (∀ au ∈ units, IsUnit au.2) ∧
    ∀ (i : Nat) (nd : Node), net.nodes[i]? = some nd → ∀ au ∈ units, au.1 ≠ i →
      (∀ o ∈ au.2, Applied net i (au.1, o)) ∨ (∀ o ∈ au.2, ¬ Applied net i (au.1, o)) :=
  (tinv_reach h).all_or_nothing

/-- erasing the headers from log and buffers (`Abs`) turns every reachable state into a
    state that satisfies `SInv` — `DocNet`'s invariant with `DR.Life` replaced by its two consequences that are used
    (`DP.DocInv`, `DLR.HistOK`), which makes it closed under clock bumps (`core_bump`); every step of this system is a
    sequence of `DocNet` steps (which keep it: `DNet.closedCore`) and clock bumps on that side -/
theorem dtx_erased_satisfies_inv {cuid : Nat → String} {n : Nat} {net : Net} (h : Reach cuid n net) :
    ∃ net0 ap, SInv cuid n net0 ap ∧ Abs net net0 :=
  have ⟨net0, ⟨ap, I⟩, Ab⟩ := (tinv_reach h).abs
  ⟨net0, ap, .of_net I, Ab⟩

theorem dtx_docInv (h : Reach cuid n net) {i : Nat} {nd : Node} (hi : net.nodes[i]? = some nd) :
    DP.DocInv nd.r := (tinv_reach h).docInv (headerFree_snet cuid n) hi

/-- convergence survives transactions and patches: two nodes that have the same operations (`DNet.SameOps`: own buffer
    ++ consumed foreign log entries, as multisets — headers included) hold `ASim`-equal documents and show the same
    canonical JSON value -/
theorem dtx_same_operations_same_document (h : Reach cuid n net) (i j : Nat) (hi : i < net.nodes.length)
    (hj : j < net.nodes.length) (di dj : Doc) (hdi : net.nodes[i].r.state = .doc di)
    (hdj : net.nodes[j].r.state = .doc dj) (hsame : SameOps net i j) :
    ASim di dj ∧ di.view.canon = dj.view.canon :=
  (tinv_reach h).same_operations_same_document (headerFree_snet cuid n) i j hi hj di dj hdi hdj hsame

/-- at quiescence (`DNet.Quiescent`: every buffer completely pushed, every node has consumed the whole log) all nodes
    hold `ASim`-equal documents and show the same canonical JSON value -/
theorem dtx_quiescent_converged (h : Reach cuid n net) (hq : Quiescent net) (i j : Nat) (hi : i < net.nodes.length)
    (hj : j < net.nodes.length) (di dj : Doc) (hdi : net.nodes[i].r.state = .doc di)
    (hdj : net.nodes[j].r.state = .doc dj) : ASim di dj ∧ di.view.canon = dj.view.canon :=
  (tinv_reach h).quiescent_converged (headerFree_snet cuid n) hq i j hi hj di dj hdi hdj

/-- quiescence is reachable: from EVERY state (reachable or not) zero or more steps lead to a quiescent one — `pushAll` by
    every node, then `pullAll` by every node; neither step has a side condition -/
theorem dtx_can_quiesce (net : Net) : ∃ net', Reaches net net' ∧ Quiescent net' :=
  have ⟨net', hs, hq⟩ := can_quiesce net
  ⟨net', hs.reaches, hq⟩

/-! ## PatchByJSON over the server log (C19 end to end) -/

/-- in every reachable state, PatchByJSON on any node succeeds and leaves that node's canonical JSON value equal to the
    target (any target object without null and without duplicate keys) -/
theorem dtx_patch_reaches_target (h : Reach cuid n net) {i : Nat} {nd : Node} (hi : net.nodes[i]? = some nd) {d : Doc}
    (hd : nd.r.state = .doc d) (tgt : List (String × JVal)) (hn : (JVal.obj tgt).hasNull = false)
    (hk : JKeysND (.obj tgt)) :
    ∃ d', (nd.r.patchByJSON (.obj tgt)).1.state = .doc d' ∧ (nd.r.patchByJSON (.obj tgt)).2.2 = .ok () ∧
      d'.view.canon = (JVal.obj tgt).canon := by
  obtain ⟨d', h1, h2, h3, _⟩ := DPatch.patchByJSON_reaches_target nd.r d hd (dtx_docInv h hi) tgt hn hk
  exact ⟨d', h1, h2, h3⟩

set_option linter.unusedVariables false in
/-- … and what it queues is ONE unit: nothing, one plain operation, or a header announcing `k + 1` followed by `k`
    operations (one per operation of the edit script), none of them a header -/
theorem dtx_patch_is_one_unit (h : Reach cuid n net) {i : Nat} {nd : Node} (hi : net.nodes[i]? = some nd)
    (tgt : List (String × JVal)) (hn : (JVal.obj tgt).hasNull = false) (hk : JKeysND (.obj tgt)) :
    ∃ u : List Op, (nd.r.patchByJSON (.obj tgt)).1.buffer = nd.r.buffer ++ u ∧ (u = [] ∨ IsUnit u) ∧
      (∀ o ∈ u, o.id.cuid = cuid i ∧ nd.r.opId.lamport < o.id.lamport) ∧
      ((nd.r.patchByJSON (.obj tgt)).2.1.length = 0 → u = []) ∧
      (2 ≤ (nd.r.patchByJSON (.obj tgt)).2.1.length → u.length = (nd.r.patchByJSON (.obj tgt)).2.1.length + 1) :=
  ((tinv_reach h).patch_step (headerFree_snet cuid n) hi tgt hn trivial).2

/-- the operations a patch emits bring every other replica to the same value.  Node `i` runs PatchByJSON (`net1`: the
    state right after that step); then nobody issues further operations (`Syncs`: only `pushAll` / `pullAll` steps follow).
    In EVERY quiescent state `net2` reached:
    (1) all nodes show the same canonical JSON value (the one node `i` shows then);
    (2) if no operation of another node was concurrent to the patch (`NoConc net i`: when the patch was issued node `i` had
        consumed every log entry of the others and the other nodes had empty pending buffers), that value IS the view node
        `i` had right after the patch, which IS the target.
    Without `NoConc` (2) is false: the concurrent operations of the others are merged in (see `Ex`). -/
theorem dtx_patch_propagates (h : Reach cuid n net) {i : Nat} {nd : Node} (hi : net.nodes[i]? = some nd)
    (tgt : List (String × JVal)) (hn : (JVal.obj tgt).hasNull = false) (hk : JKeysND (.obj tgt)) {net1 net2 : Net}
    (h1 : net1 = ⟨net.nodes.set i { nd with r := (nd.r.patchByJSON (.obj tgt)).1 }, net.log⟩)
    (hs : Syncs net1 net2) (hq : Quiescent net2) :
    Step net net1 ∧ Reach cuid n net2 ∧
    (∀ (j k : Nat) (dj dk : Doc), Holds net2 j dj → Holds net2 k dk → ASim dj dk ∧ dj.view.canon = dk.view.canon) ∧
    (NoConc net i → ∀ (j : Nat) (dj : Doc), Holds net2 j dj →
      dj.view.canon = (JVal.obj tgt).canon ∧ ∀ di', Holds net1 i di' → dj.view.canon = di'.view.canon) := by
  have hstep : Step net net1 := by rw [h1]; exact .patch net i nd tgt hi ⟨hn, hk⟩
  have hr2 : Reach cuid n net2 := reach_of_reaches (.step h hstep) hs.reaches
  exact ⟨hstep, hr2, (tinv_reach h).patch_propagates (headerFree_snet cuid n) hi tgt hn hk h1 hs hq (tinv_reach hr2)⟩

end theorems

/-! ## non-vacuity: three nodes, a nested document, a multi-operation patch concurrent with a call, a failing and a
committed transaction, a run to quiescence; a second run without concurrency

Node 0 puts an array under `arr`, a nested object under `o` and a number under `k`, pushes; nodes 1 and 2 pull (`preNet`).
Then, CONCURRENTLY:
  * node 0 runs PatchByJSON with target `{"k": "w", "o": {"p": {"x": 6}}, "arr": [1, 3]}`: a script of THREE operations
    (append to the array, replace an object key, replace a key two objects down), queued as ONE unit of four entries;
  * node 1 inserts `"m"` at the head of the array (plain call);
  * node 2 runs the transaction `"t"` (a put, then a remove of a key that does not exist; the body stops there): rolled back;
  * node 2 commits the transaction `"t2"` (a put, a read, a remove of `k` — which wins against the patch's put on `k`: same
    lamport, larger client).
Everybody pushes (1, 0, 2); node 0 pulls (`midNet`: not quiescent); then 1 and 2 pull (`finalNet`: quiescent).
Run B (`sync2` after the patch step on `preNet`): only synchronisation follows the patch: every node ends with exactly the
target.  (Paths with array indices are avoided in the evaluated runs only because `String.toInt?` does not reduce by
`decide`; the theorems cover them.) -/
namespace Ex

def cu : Nat → String
  | 0 => "a" | 1 => "b" | _ => "c"
/-- the array node 0 creates -/
def arrId : Ts := ⟨0, 1, "a", 0⟩
def tgt : List (String × JVal) :=
  [("k", .str "w"), ("o", .obj [("p", .obj [("x", .num 6)])]), ("arr", .arr [.num 1, .num 3])]

def pre : List Act := [
  .call 0 (.dput Ts.oldest "arr" (.arr [.num 1])),
  .call 0 (.dput Ts.oldest "o" (.obj [("p", .obj [("x", .num 5)])])),
  .call 0 (.dput Ts.oldest "k" (.num 7)),
  .pushAll 0, .pullAll 1, .pullAll 2]

def acts : List Act := pre ++ [
  .patch 0 tgt,
  .call 1 (.dinsert arrId 0 [.str "m"]),
  .tx 2 "t" [.dput Ts.oldest "z" (.num 1), .dremove Ts.oldest "nokey"] true false,
  .tx 2 "t2" [.dput Ts.oldest "y" (.num 2), .dgetObj Ts.oldest "y", .dremove Ts.oldest "k"] false false,
  .pushAll 1, .pushAll 0, .pushAll 2,
  .pullAll 0, .pullAll 1, .pullAll 2]

/-- run B: only synchronisation after the patch -/
def sync2 : List Act := [.pushAll 0, .pullAll 1, .pullAll 2, .pullAll 0]

def docOf (r : Replica) : Doc := match r.state with | .doc d => d | _ => Doc.empty
def preNet : Net := (run (Net.init cu 3) pre).getD ⟨[], []⟩
def midNet : Net := (run (Net.init cu 3) (acts.take 14)).getD ⟨[], []⟩
def finalNet : Net := (run (Net.init cu 3) acts).getD ⟨[], []⟩

theorem err_of_test {o : Outcome Unit} {c : Nat}
    (h : (match o with | .err c' => decide (c' = c) | _ => false) = true) : o = .err c := by
  cases o with
  | err c' => simp only [decide_eq_true_eq] at h; rw [h]
  | ok _ => cases h
  | panic _ => cases h

theorem run_pre : run (Net.init cu 3) pre = some preNet := ListAux.some_getD (by decide +kernel)
theorem run_mid : run (Net.init cu 3) (acts.take 14) = some midNet := ListAux.some_getD (by decide +kernel)
theorem run_final : run (Net.init cu 3) acts = some finalNet := ListAux.some_getD (by decide +kernel)

theorem cu_distinct : CuidsDistinct cu 3 := NetBook.distinct3 (by decide) (by decide) (by decide)

theorem tgt_ok : TgtOK tgt := by decide
theorem pre_ok : ∀ a ∈ pre, ActOK a := by decide
theorem acts_ok : ∀ a ∈ acts, ActOK a := by decide

theorem reach_pre : Reach cu 3 preNet := reach_run pre (.init cu_distinct) run_pre pre_ok
theorem reach_mid : Reach cu 3 midNet :=
  reach_run (acts.take 14) (.init cu_distinct) run_mid (fun a ha => acts_ok a (List.mem_of_mem_take ha))
theorem reach_final : Reach cu 3 finalNet := reach_run acts (.init cu_distinct) run_final acts_ok

/-- every node of a reachable state holds some document -/
theorem holds_of_reach {net : Net} (h : Reach cu 3 net) {j : Nat} (hj : j < net.nodes.length) : ∃ d, Holds net j d := by
  obtain ⟨d, hd, _⟩ := dtx_docInv h (List.getElem?_eq_getElem hj)
  exact ⟨d, _, List.getElem?_eq_getElem hj, hd⟩

theorem len_final : finalNet.nodes.length = 3 := by decide +kernel

/-- eleven entries went through the log: node 0's three puts, node 1's insert, the unit of the patch (header announcing 4
    and three operations), the unit of `"t2"` (header announcing 3 and two operations: the read queues nothing); the failed
    transaction `"t"` left nothing.  The state is quiescent. -/
theorem final_shape : finalNet.log.map (fun e => (e.1, isHdr e.2)) =
      [(0, false), (0, false), (0, false), (1, false), (0, true), (0, false), (0, false), (0, false),
       (2, true), (2, false), (2, false)] ∧
    finalNet.nodes.map (fun nd => (nd.pushed, nd.r.buffer.length, nd.pulled)) = [(7, 7, 11), (1, 1, 11), (3, 3, 11)] := by
  decide +kernel

theorem quiescent_final : Quiescent finalNet := by
  intro nd hnd
  have h2 := final_shape.2
  have hl : finalNet.log.length = 11 := by
    have := congrArg List.length final_shape.1
    simpa using this
  have : (nd.pushed, nd.r.buffer.length, nd.pulled) ∈
      finalNet.nodes.map (fun nd => (nd.pushed, nd.r.buffer.length, nd.pulled)) := List.mem_map.mpr ⟨nd, hnd, rfl⟩
  rw [h2] at this
  simp only [List.mem_cons, Prod.mk.injEq, List.mem_nil_iff, or_false] at this
  rw [hl]
  omega

/-- `dtx_quiescent_converged` instantiated: any two nodes show the same canonical value -/
example : ∀ (j k : Nat) (dj dk : Doc), Holds finalNet j dj → Holds finalNet k dk →
    ASim dj dk ∧ dj.view.canon = dk.view.canon :=
  fun _ _ _ _ hj hk => (tinv_reach reach_final).quiescent_views_equal (headerFree_snet _ _) quiescent_final hj hk

/-- … and the common view (kernel evaluation of the run): the patch, node 1's concurrent insert and the committed
    transaction are all there; it is NOT the target of the patch -/
theorem final_views : finalNet.nodes.map (fun nd => (docOf nd.r).view.canon ==
      .obj [("arr", .arr [.str "m", .num 1, .num 3]), ("o", .obj [("p", .obj [("x", .num 6)])]), ("y", .num 2)]) =
      [true, true, true] ∧
    finalNet.nodes.map (fun nd => (docOf nd.r).view.canon == (JVal.obj tgt).canon) = [false, false, false] := by
  decide +kernel

def nd0 : Node := (preNet.nodes[0]?).getD (⟨default, 0, 0⟩ : Node)
theorem nd0_eq : preNet.nodes[0]? = some nd0 := ListAux.some_getD (by decide +kernel)

/-- path and kind of a script operation; the script of the patch at node 0 in `preNet`: an add, two replaces -/
def opSig : PatchOp → List String × Nat
  | .add p _ => (p, 0)
  | .remove p => (p, 1)
  | .replace p _ => (p, 2)

theorem script_nd0 : (nd0.r.patchByJSON (.obj tgt)).2.1.map opSig =
    [(["arr", "-"], 0), (["k"], 2), (["o", "p", "x"], 2)] := by
  decide +kernel

example : (nd0.r.patchByJSON (.obj tgt)).2.1.map opSig =
    [(["arr", "-"], 0), (["k"], 2), (["o", "p", "x"], 2)] := script_nd0

/-- `dtx_patch_reaches_target` instantiated there -/
example : ∃ d', (nd0.r.patchByJSON (.obj tgt)).1.state = .doc d' ∧ (nd0.r.patchByJSON (.obj tgt)).2.2 = .ok () ∧
    d'.view.canon = .obj [("arr", .arr [.num 1, .num 3]), ("k", .str "w"), ("o", .obj [("p", .obj [("x", .num 6)])])] := by
  obtain ⟨d, hd, _⟩ := dtx_docInv reach_pre nd0_eq
  obtain ⟨d', h1, h2, h3⟩ := dtx_patch_reaches_target reach_pre nd0_eq hd tgt tgt_ok.1 tgt_ok.2
  exact ⟨d', h1, h2, h3.trans (by rfl)⟩

/-- `dtx_patch_is_one_unit` instantiated: ONE unit of four entries -/
example : ∃ u : List Op, (nd0.r.patchByJSON (.obj tgt)).1.buffer = nd0.r.buffer ++ u ∧ IsUnit u ∧ u.length = 4 := by
  obtain ⟨u, h1, h2, _, _, h5⟩ := dtx_patch_is_one_unit reach_pre nd0_eq tgt tgt_ok.1 tgt_ok.2
  have hl : (nd0.r.patchByJSON (.obj tgt)).2.1.length = 3 := by simpa using congrArg List.length script_nd0
  have h4 : u.length = 4 := by rw [h5 (by omega), hl]
  rcases h2 with rfl | h2
  · simp at h4
  · exact ⟨u, h1, h2, h4⟩

/-- the failing transaction `"t"` on node 2 (state after the first eight actions): it returns an error; by
    `dtx_failed_tx_is_noop` identifier, state, buffer and checkpoint are as before -/
def net8 : Net := (run (Net.init cu 3) (acts.take 8)).getD ⟨[], []⟩
theorem run_8 : run (Net.init cu 3) (acts.take 8) = some net8 := ListAux.some_getD (by decide +kernel)
theorem reach_8 : Reach cu 3 net8 :=
  reach_run (acts.take 8) (.init cu_distinct) run_8 (fun a ha => acts_ok a (List.mem_of_mem_take ha))
def nd2 : Node := (net8.nodes[2]?).getD (⟨default, 0, 0⟩ : Node)
theorem nd2_eq : net8.nodes[2]? = some nd2 := ListAux.some_getD (by decide +kernel)
theorem t_fails : (nd2.r.txCalls "t" [.dput Ts.oldest "z" (.num 1), .dremove Ts.oldest "nokey"] true false).2.2 =
    .err Err.transaction := err_of_test (by decide +kernel)
example : let r' := (nd2.r.txCalls "t" [.dput Ts.oldest "z" (.num 1), .dremove Ts.oldest "nokey"] true false).1
    r'.opId = nd2.r.opId ∧ r'.state = nd2.r.state ∧ r'.buffer = nd2.r.buffer ∧ r'.cp = nd2.r.cp :=
  dtx_failed_tx_is_noop reach_8 nd2_eq "t" _ true false _ t_fails

/-- `dtx_all_or_nothing` instantiated in the NON-quiescent state `midNet`: node 0 has consumed everything, nodes 1 and 2
    nothing of the two units -/
example : ∃ units : List (Nat × List Op), midNet.log = units.flatMap (fun (a, u) => u.map (a, ·)) ∧
    (∀ au ∈ units, IsUnit au.2) ∧
    ∀ (i : Nat) (nd : Node), midNet.nodes[i]? = some nd → ∀ au ∈ units, au.1 ≠ i →
      (∀ o ∈ au.2, Applied midNet i (au.1, o)) ∨ (∀ o ∈ au.2, ¬ Applied midNet i (au.1, o)) :=
  dtx_all_or_nothing reach_mid

theorem mid_shape : (midNet.nodes.map (·.pulled)) = [11, 3, 3] ∧ midNet.log.length = 11 := by decide +kernel

example : ¬ Quiescent midNet := by
  intro hq
  have hlt : 1 < midNet.nodes.length := by
    have := congrArg List.length mid_shape.1
    simp at this
    omega
  have h1 := (hq _ (List.getElem_mem hlt)).2
  have h2 : (midNet.nodes.map (·.pulled))[1]? = some 3 := by rw [mid_shape.1]; rfl
  rw [List.getElem?_map, List.getElem?_eq_getElem hlt] at h2
  simp only [Option.map_some, Option.some.injEq] at h2
  rw [mid_shape.2] at h1
  omega

/-- `receive` accepts what node 2 is about to pull in `midNet` (the unit of four among it): `dtx_receive_ok` -/
example : ∀ nd, midNet.nodes[2]? = some nd → (nd.r.receive (pullOps midNet.log 2 nd)).2 = .ok () :=
  fun _ h => dtx_receive_ok reach_mid h

/-! ## run B: no concurrency — every node ends with exactly the target -/

theorem syncs_run : ∀ (as : List Act) {net net' : Net}, run net as = some net' →
    (∀ a ∈ as, (∃ i, a = .pushAll i) ∨ ∃ i, a = .pullAll i) → Syncs net net'
  | [], net, net', h, _ => by
    simp only [run, Option.some.injEq] at h
    exact h ▸ .refl _
  | a :: as, net, net', h, hk => by
    simp only [run] at h
    cases ha : act net a with
    | none => rw [ha] at h; cases h
    | some net1 =>
      rw [ha] at h
      have hs : SyncStep net net1 := by
        rcases hk a (by simp) with ⟨i, rfl⟩ | ⟨i, rfl⟩
        · obtain ⟨nd, hn, rfl⟩ := act_of_node ha; exact .pushAll net i nd hn
        · obtain ⟨nd, hn, rfl⟩ := act_of_node ha; exact .pullAll net i nd hn
      exact (Syncs.tail (.refl _) hs).trans (syncs_run as h (fun a' h' => hk a' (List.mem_cons_of_mem _ h')))

/-- the state right after the patch step -/
def net1 : Net := ⟨preNet.nodes.set 0 { nd0 with r := (nd0.r.patchByJSON (.obj tgt)).1 }, preNet.log⟩
def net2 : Net := (run net1 sync2).getD ⟨[], []⟩
theorem run_sync2 : run net1 sync2 = some net2 := ListAux.some_getD (by decide +kernel)

theorem syncs12 : Syncs net1 net2 := by
  refine syncs_run sync2 run_sync2 ?_
  intro a ha
  simp only [sync2, List.mem_cons, List.mem_nil_iff, or_false] at ha
  rcases ha with rfl | rfl | rfl | rfl
  · exact Or.inl ⟨0, rfl⟩
  · exact Or.inr ⟨1, rfl⟩
  · exact Or.inr ⟨2, rfl⟩
  · exact Or.inr ⟨0, rfl⟩

theorem shape2 : net2.nodes.map (fun nd => (nd.pushed, nd.r.buffer.length, nd.pulled)) =
    [(7, 7, 7), (0, 0, 7), (0, 0, 7)] ∧ net2.log.length = 7 := by decide +kernel

theorem quiescent2 : Quiescent net2 := by
  intro nd hnd
  have : (nd.pushed, nd.r.buffer.length, nd.pulled) ∈
      net2.nodes.map (fun nd => (nd.pushed, nd.r.buffer.length, nd.pulled)) := List.mem_map.mpr ⟨nd, hnd, rfl⟩
  rw [shape2.1] at this
  simp only [List.mem_cons, Prod.mk.injEq, List.mem_nil_iff, or_false] at this
  rw [shape2.2]
  omega

theorem pre_shape : preNet.nodes.map (fun nd => (nd.pushed, nd.r.buffer.length)) = [(3, 3), (0, 0), (0, 0)] ∧
    oth 0 (preNet.log.drop nd0.pulled) = [] := by decide +kernel

theorem noConc_pre : NoConc preNet 0 := by
  refine ⟨⟨nd0, nd0_eq, pre_shape.2⟩, ?_⟩
  intro k ndk _ hk
  have hm : (ndk.pushed, ndk.r.buffer.length) ∈ preNet.nodes.map (fun nd => (nd.pushed, nd.r.buffer.length)) :=
    List.mem_map.mpr ⟨ndk, List.mem_of_getElem? hk, rfl⟩
  rw [pre_shape.1] at hm
  simp only [List.mem_cons, Prod.mk.injEq, List.mem_nil_iff, or_false] at hm
  omega

/-- `dtx_patch_propagates` instantiated: in the quiescent state reached by synchronisation only, EVERY node shows the target -/
example : ∀ (j : Nat) (dj : Doc), Holds net2 j dj →
    dj.view.canon = .obj [("arr", .arr [.num 1, .num 3]), ("k", .str "w"), ("o", .obj [("p", .obj [("x", .num 6)])])] := by
  intro j dj hj
  have := ((dtx_patch_propagates reach_pre nd0_eq tgt tgt_ok.1 tgt_ok.2 (net1 := net1) rfl syncs12 quiescent2).2.2.2
    noConc_pre j dj hj).1
  exact this.trans (by rfl)

/-- … and by evaluation -/
example : net2.nodes.map (fun nd => (docOf nd.r).view.canon == (JVal.obj tgt).canon) = [true, true, true] := by
  decide +kernel

end Ex

end Orda.DTx
