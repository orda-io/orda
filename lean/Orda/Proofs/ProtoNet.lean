/-
Real replicas driven by the ADVERSARIAL push-pull protocol (C07/C05 at datatype level), namespace `Orda.PNet`.

The combined system is generic in `typ : DtType`: a client `RClient` is the replica model `Replica`, the protocol's
checkpoint `cp` and the GHOST field `applied` (the foreign operations it has executed; no step reads it); `RSys` is `PSys` of
`Proofs/Protocol.lean` with real replicas, `RStep` mirrors `PStep` (a delivery executes `newForeignOps` one by one with
`execRemoteBase`).  It has two views: `proj S : PSys`, and `netOf cuids S : GNet`, the ideal-log system (pushed = what the
server has recorded, pulled = the checkpoint); `GNet` is one generic copy of `LNet`/`MNet`/`DNet`.  Both views of a reachable
state are reachable (`proj_reach`, `net_view`), so every theorem of Protocol.lean and of the Net files applies.

One step of the combined system is finitely many steps of the ideal-log system (`net_step`): `serve` is `max rc n - rc`
pushes, `deliver` is `max s s' - s` pulls (nothing for a stale or duplicated response), `send` and `refuse` stutter.  A call
must not skip a sequence number (`CallShape`); a panic of a local execution would, and is excluded per datatype from the
Net invariants (`CallFacts`), which is why `proj_reach` and `net_view` are proved together (`Good`).

The clients are subscribed from the start, as in Protocol.lean; the entry phase of Proofs/ProtocolJoin is not lifted to real
replicas.  A further step of `RStep` owes a case to `proj_step` (the `PStep` it is, or a stutter), `rok_step`, `net_step` (the
`GStep`s it is), `RSys.act` / `rstep_of_act`, and in Proofs/FullNet to `noTx_step` and, if the wired layer takes it,
`full_step_simulates`.
-/
import Orda.Proofs.Protocol
import Orda.Proofs.ReplicaApi
import Orda.Proofs.ListTxNet
import Orda.Proofs.MapNet
import Orda.Proofs.DocNet
namespace Orda.PNet
open Orda Orda.PR Orda.ListAux

/-! ## The combined system -/

/-- a client: the real replica, the protocol's checkpoint, and (GHOST) the foreign operations it has executed -/
structure RClient where
  r : Replica
  cp : CheckPoint
  applied : List Op

def RClient.cuid (cl : RClient) : String := cl.r.opId.cuid

structure RSys where
  clients : List RClient
  log : List Op
  cps : List (String × CheckPoint)
  reqs : List PReq
  resps : List PResp

/-- `PSys.recOf`, on the combined system -/
def RSys.recOf (S : RSys) (u : String) : CheckPoint := (alFind u S.cps).getD ⟨0, 0⟩

/-- execute remote operations one by one, in order -/
def execAll (r : Replica) (ops : List Op) : Replica := ops.foldl (fun r o => (r.execRemoteBase o).1) r

/-- what a client does with a response: execute `newForeignOps`, merge the checkpoint with `max`
    (`PClient.receive` plus the execution) -/
def RClient.receive (cl : RClient) (p : PResp) : RClient :=
  { r := execAll cl.r (newForeignOps cl.cuid cl.cp p.cp p.ops),
    cp := ⟨max cl.cp.sseq p.cp.sseq, max cl.cp.cseq p.cp.cseq⟩,
    applied := cl.applied ++ newForeignOps cl.cuid cl.cp p.cp p.ops }

/-- the calls a client may issue: ANY public call; for documents the restriction of `DocNet` -/
def callOK : DtType → Call → Prop
  | .document, c => DNet.CallOK c
  | _, _ => True

inductive RStep (typ : DtType) : RSys → RSys → Prop
  | call (S : RSys) (i : Nat) (cl : RClient) (c : Call) :
      S.clients[i]? = some cl → callOK typ c →
      RStep typ S { S with clients := S.clients.set i { cl with r := (cl.r.call c).1 } }
  | send (S : RSys) (i : Nat) (cl : RClient) :
      S.clients[i]? = some cl →
      RStep typ S { S with reqs := S.reqs ++ [⟨i, cl.cp.sseq, cl.r.buffer.drop cl.cp.cseq⟩] }
  | serve (S : RSys) (r : PReq) (cl : RClient) (cp2 : CheckPoint) (docs : List OpDoc) :
      r ∈ S.reqs → S.clients[r.i]? = some cl →
      pushOps pDuid pCol ⟨S.log.length, (S.recOf cl.cuid).cseq⟩ r.ops [] = .ok (cp2, docs) →
      RStep typ S { S with log := S.log ++ docs.map (·.op),
                           cps := alSet cl.cuid cp2 S.cps,
                           resps := S.resps ++ [⟨r.i, S.log.drop r.s, cp2⟩] }
  | refuse (S : RSys) (r : PReq) (cl : RClient) (code : Nat) :
      r ∈ S.reqs → S.clients[r.i]? = some cl →
      pushOps pDuid pCol ⟨S.log.length, (S.recOf cl.cuid).cseq⟩ r.ops [] = .error code →
      RStep typ S S
  | deliver (S : RSys) (p : PResp) (cl : RClient) :
      p ∈ S.resps → S.clients[p.i]? = some cl →
      RStep typ S { S with clients := S.clients.set p.i (cl.receive p) }

theorem RStep.of_absServe (typ : DtType) (S : RSys) (r : PReq) (cl : RClient) (hr : r ∈ S.reqs)
    (hi : S.clients[r.i]? = some cl) :
    RStep typ S { S with log := (absServe S.log S.cps cl.cuid r.s r.ops).1,
                         cps := (absServe S.log S.cps cl.cuid r.s r.ops).2.1,
                         resps := S.resps ++
                           ((absServe S.log S.cps cl.cuid r.s r.ops).2.2.map (fun a => (⟨r.i, a.1, a.2⟩ : PResp))).toList } := by
  unfold absServe
  cases hp : pushOps pDuid pCol ⟨S.log.length, ((alFind cl.cuid S.cps).getD ⟨0, 0⟩).cseq⟩ r.ops [] with
  | ok res => exact RStep.serve S r cl res.1 res.2 hr hi hp
  | error code =>
    show RStep typ S { S with resps := S.resps ++ [] }
    rw [List.append_nil]
    exact RStep.refuse S r cl code hr hi hp

def RSys.init (typ : DtType) (cuids : List String) : RSys :=
  { clients := cuids.map (fun u => ⟨Replica.new typ u false, ⟨0, 0⟩, []⟩), log := [], cps := [], reqs := [], resps := [] }

inductive RReach (typ : DtType) (cuids : List String) : RSys → Prop
  | init : cuids.Nodup → RReach typ cuids (RSys.init typ cuids)
  | step {S S' : RSys} : RReach typ cuids S → RStep typ S S' → RReach typ cuids S'

/-- the protocol view -/
def RClient.view (cl : RClient) : PClient := ⟨cl.r.opId.cuid, cl.r.buffer, cl.cp, cl.applied⟩
def proj (S : RSys) : PSys := ⟨S.clients.map RClient.view, S.log, S.cps, S.reqs, S.resps⟩

/-! ## ONE generic copy of the ideal-log systems `LNet` / `MNet` / `DNet` -/

structure GNode where
  r : Replica
  pushed : Nat
  pulled : Nat

structure GNet where
  nodes : List GNode
  log : List (Nat × Op)

def GNet.init (typ : DtType) (cuid : Nat → String) (n : Nat) : GNet :=
  ⟨(List.range n).map fun i => ⟨Replica.new typ (cuid i) false, 0, 0⟩, []⟩

inductive GStep (typ : DtType) : GNet → GNet → Prop
  | call (g : GNet) (i : Nat) (nd : GNode) (c : Call) (hi : g.nodes[i]? = some nd) (hc : callOK typ c) :
      GStep typ g ⟨g.nodes.set i { nd with r := (nd.r.call c).1 }, g.log⟩
  | push (g : GNet) (i : Nat) (nd : GNode) (o : Op) (hi : g.nodes[i]? = some nd)
      (ho : nd.r.buffer[nd.pushed]? = some o) :
      GStep typ g ⟨g.nodes.set i { nd with pushed := nd.pushed + 1 }, g.log ++ [(i, o)]⟩
  | pull (g : GNet) (i : Nat) (nd : GNode) (a : Nat) (o : Op) (hi : g.nodes[i]? = some nd)
      (hl : g.log[nd.pulled]? = some (a, o)) :
      GStep typ g ⟨g.nodes.set i { nd with r := if a = i then nd.r else (nd.r.execRemoteBase o).1,
                                           pulled := nd.pulled + 1 }, g.log⟩

def CuidsDistinct (cuid : Nat → String) (n : Nat) : Prop := ∀ i j, i < n → j < n → cuid i = cuid j → i = j

inductive GReach (typ : DtType) (cuid : Nat → String) (n : Nat) : GNet → Prop
  | init (hc : CuidsDistinct cuid n) : GReach typ cuid n (GNet.init typ cuid n)
  | step {g g' : GNet} : GReach typ cuid n g → GStep typ g g' → GReach typ cuid n g'

inductive GReaches (typ : DtType) : GNet → GNet → Prop
  | refl (g : GNet) : GReaches typ g g
  | step {a b c : GNet} : GReaches typ a b → GStep typ b c → GReaches typ a c

theorem GReaches.trans {typ : DtType} {a b c : GNet} (h1 : GReaches typ a b) (h2 : GReaches typ b c) :
    GReaches typ a c := by
  induction h2 with
  | refl => exact h1
  | step _ hs ih => exact .step ih hs

theorem greach_of_reaches {typ : DtType} {cuid : Nat → String} {n : Nat} {a b : GNet} (hr : GReach typ cuid n a)
    (h : GReaches typ a b) : GReach typ cuid n b := by
  induction h with
  | refl => exact hr
  | step _ hs ih => exact .step ih hs

/-! ## Onto the three systems

`LNet.Net`, `MNet.Net` and `DNet.Net` are three structures with a step relation each, so the map, what it does to a lookup and
to a `set`, and the transfer of steps and of reachability are written per system. -/

def toL (g : GNet) : LNet.Net := ⟨g.nodes.map fun nd => ⟨nd.r, nd.pushed, nd.pulled⟩, g.log⟩
def toM (g : GNet) : MNet.Net := ⟨g.nodes.map fun nd => ⟨nd.r, nd.pushed, nd.pulled⟩, g.log⟩
def toD (g : GNet) : DNet.Net := ⟨g.nodes.map fun nd => ⟨nd.r, nd.pushed, nd.pulled⟩, g.log⟩

theorem toL_get {g : GNet} {i : Nat} {nd : GNode} (hi : g.nodes[i]? = some nd) :
    (toL g).nodes[i]? = some ⟨nd.r, nd.pushed, nd.pulled⟩ := by
  simp only [toL, List.getElem?_map, hi, Option.map_some]

theorem toL_set (g : GNet) (i : Nat) (nd : GNode) (log : List (Nat × Op)) :
    toL ⟨g.nodes.set i nd, log⟩ = ⟨(toL g).nodes.set i ⟨nd.r, nd.pushed, nd.pulled⟩, log⟩ := by
  simp only [toL, List.map_set]

theorem step_toL {g g' : GNet} (h : GStep .list g g') : LNet.Step (toL g) (toL g') := by
  cases h with
  | call i nd c hi hc => rw [toL_set]; exact .call (toL g) i ⟨nd.r, nd.pushed, nd.pulled⟩ c (toL_get hi)
  | push i nd o hi ho => rw [toL_set]; exact .push (toL g) i ⟨nd.r, nd.pushed, nd.pulled⟩ o (toL_get hi) ho
  | pull i nd a o hi hl => rw [toL_set]; exact .pull (toL g) i ⟨nd.r, nd.pushed, nd.pulled⟩ a o (toL_get hi) hl

theorem reach_toL {cuid : Nat → String} {n : Nat} {g : GNet} (h : GReach .list cuid n g) :
    LNet.Reach cuid n (toL g) := by
  induction h with
  | init hc =>
    have : toL (GNet.init .list cuid n) = LNet.Net.init cuid n := by
      simp [toL, GNet.init, LNet.Net.init, Function.comp_def]
    rw [this]; exact .init hc
  | step _ hs ih => exact .step ih (step_toL hs)

theorem toM_get {g : GNet} {i : Nat} {nd : GNode} (hi : g.nodes[i]? = some nd) :
    (toM g).nodes[i]? = some ⟨nd.r, nd.pushed, nd.pulled⟩ := by
  simp only [toM, List.getElem?_map, hi, Option.map_some]

theorem toM_set (g : GNet) (i : Nat) (nd : GNode) (log : List (Nat × Op)) :
    toM ⟨g.nodes.set i nd, log⟩ = ⟨(toM g).nodes.set i ⟨nd.r, nd.pushed, nd.pulled⟩, log⟩ := by
  simp only [toM, List.map_set]

theorem step_toM {typ : DtType} {g g' : GNet} (h : GStep typ g g') : MNet.Step (toM g) (toM g') := by
  cases h with
  | call i nd c hi hc => rw [toM_set]; exact .call (toM g) i ⟨nd.r, nd.pushed, nd.pulled⟩ c (toM_get hi)
  | push i nd o hi ho => rw [toM_set]; exact .push (toM g) i ⟨nd.r, nd.pushed, nd.pulled⟩ o (toM_get hi) ho
  | pull i nd a o hi hl => rw [toM_set]; exact .pull (toM g) i ⟨nd.r, nd.pushed, nd.pulled⟩ a o (toM_get hi) hl

theorem reach_toM {typ : DtType} {cuid : Nat → String} {n : Nat} {g : GNet}
    (h : GReach typ cuid n g) : MNet.Reach typ cuid n (toM g) := by
  induction h with
  | init hc =>
    have : toM (GNet.init typ cuid n) = MNet.Net.init typ cuid n := by
      simp [toM, GNet.init, MNet.Net.init, Function.comp_def]
    rw [this]; exact .init hc
  | step _ hs ih => exact .step ih (step_toM hs)

theorem toD_get {g : GNet} {i : Nat} {nd : GNode} (hi : g.nodes[i]? = some nd) :
    (toD g).nodes[i]? = some ⟨nd.r, nd.pushed, nd.pulled⟩ := by
  simp only [toD, List.getElem?_map, hi, Option.map_some]

theorem toD_set (g : GNet) (i : Nat) (nd : GNode) (log : List (Nat × Op)) :
    toD ⟨g.nodes.set i nd, log⟩ = ⟨(toD g).nodes.set i ⟨nd.r, nd.pushed, nd.pulled⟩, log⟩ := by
  simp only [toD, List.map_set]

theorem step_toD {g g' : GNet} (h : GStep .document g g') : DNet.Step (toD g) (toD g') := by
  cases h with
  | call i nd c hi hc => rw [toD_set]; exact .call (toD g) i ⟨nd.r, nd.pushed, nd.pulled⟩ c (toD_get hi) hc
  | push i nd o hi ho => rw [toD_set]; exact .push (toD g) i ⟨nd.r, nd.pushed, nd.pulled⟩ o (toD_get hi) ho
  | pull i nd a o hi hl => rw [toD_set]; exact .pull (toD g) i ⟨nd.r, nd.pushed, nd.pulled⟩ a o (toD_get hi) hl

theorem reach_toD {cuid : Nat → String} {n : Nat} {g : GNet} (h : GReach .document cuid n g) :
    DNet.Reach cuid n (toD g) := by
  induction h with
  | init hc =>
    have : toD (GNet.init .document cuid n) = DNet.Net.init cuid n := by
      simp [toD, GNet.init, DNet.Net.init, Function.comp_def]
    rw [this]; exact .init hc
  | step _ hs ih => exact .step ih (step_toD hs)


/-! ## List facts -/

theorem add_sub_eq_max (a b : Nat) : a + (b - a) = max a b := by
  rw [Nat.add_comm, Nat.sub_add_eq_max, Nat.max_comm]

theorem idxOf_of_getElem? {l : List String} (hnd : l.Nodup) {i : Nat} {u : String} (h : l[i]? = some u) :
    l.idxOf u = i := by
  obtain ⟨hlt, rfl⟩ := List.getElem?_eq_some_iff.mp h
  exact hnd.idxOf_getElem i hlt

theorem idxOf_ne_iff {l : List String} (hnd : l.Nodup) {i : Nat} {u : String} (h : l[i]? = some u) (x : String) :
    l.idxOf x ≠ i ↔ x ≠ u := by
  constructor
  · intro h1 e; subst e; exact h1 (idxOf_of_getElem? hnd h)
  · intro h1 e
    obtain ⟨hlt, hu⟩ := List.getElem?_eq_some_iff.mp h
    have h2 : l.idxOf x < l.length := by omega
    have h3 : l[l.idxOf x] = x := List.getElem_idxOf h2
    apply h1
    rw [← h3, ← hu]
    congr 1

/-! ## Many pushes, many pulls -/

theorem push_many (typ : DtType) : ∀ (k : Nat) (g : GNet) (i : Nat) (nd : GNode), g.nodes[i]? = some nd →
    nd.pushed + k ≤ nd.r.buffer.length →
    GReaches typ g ⟨g.nodes.set i { nd with pushed := nd.pushed + k },
      g.log ++ ((nd.r.buffer.drop nd.pushed).take k).map (fun o => (i, o))⟩
  | 0, g, i, nd, hi, _ => by
    have e : ({ nd with pushed := nd.pushed + 0 } : GNode) = nd := by cases nd; rfl
    rw [e, set_self hi]
    simp only [List.take_zero, List.map_nil, List.append_nil]
    exact .refl g
  | k + 1, g, i, nd, hi, hle => by
    have hlt : nd.pushed < nd.r.buffer.length := Nat.lt_of_lt_of_le (Nat.lt_add_of_pos_right k.succ_pos) hle
    have s1 := GStep.push (typ := typ) g i nd _ hi (List.getElem?_eq_getElem hlt)
    have ih := push_many typ k ⟨g.nodes.set i _, g.log ++ [(i, nd.r.buffer[nd.pushed])]⟩ i
      ⟨nd.r, nd.pushed + 1, nd.pulled⟩ (List.getElem?_set_self (List.getElem?_eq_some_iff.mp hi).1)
      (by rw [Nat.add_right_comm]; exact hle)
    rw [List.set_set, Nat.add_right_comm, Nat.add_assoc, List.append_assoc] at ih
    rw [List.drop_eq_getElem_cons hlt, List.take_succ_cons, List.map_cons]
    exact (GReaches.step (.refl g) s1).trans ih

/-- the operations node `i` executes when it consumes the entries `seg` -/
def pullOps (i : Nat) (seg : List (Nat × Op)) : List Op := (NetBook.oth i seg).map (·.2)

theorem pullOps_cons_self (i : Nat) (o : Op) (seg : List (Nat × Op)) : pullOps i ((i, o) :: seg) = pullOps i seg := by
  simp only [pullOps, NetBook.oth, List.filter_cons, beq_self_eq_true, Bool.not_true, Bool.false_eq_true, if_false]

theorem pullOps_cons_ne {i a : Nat} (h : a ≠ i) (o : Op) (seg : List (Nat × Op)) :
    pullOps i ((a, o) :: seg) = o :: pullOps i seg := by
  simp only [pullOps, NetBook.oth, List.filter_cons, beq_false_of_ne h, Bool.not_false, if_true, List.map_cons]

theorem execAll_append (r : Replica) (a b : List Op) : execAll r (a ++ b) = execAll (execAll r a) b :=
  List.foldl_append ..

theorem execAll_pullOps_cons (r : Replica) (i : Nat) (e : Nat × Op) (seg : List (Nat × Op)) :
    execAll r (pullOps i (e :: seg)) = execAll (if e.1 = i then r else (r.execRemoteBase e.2).1) (pullOps i seg) := by
  obtain ⟨a, o⟩ := e
  by_cases ha : a = i
  · subst ha; rw [pullOps_cons_self, if_pos rfl]
  · rw [pullOps_cons_ne ha, if_neg ha]; rfl

theorem pull_many (typ : DtType) : ∀ (k : Nat) (g : GNet) (i : Nat) (nd : GNode), g.nodes[i]? = some nd →
    nd.pulled + k ≤ g.log.length →
    GReaches typ g ⟨g.nodes.set i { nd with r := execAll nd.r (pullOps i ((g.log.drop nd.pulled).take k)),
                                            pulled := nd.pulled + k }, g.log⟩
  | 0, g, i, nd, hi, _ => by
    have e : ({ nd with r := execAll nd.r (pullOps i ((g.log.drop nd.pulled).take 0)), pulled := nd.pulled + 0 } : GNode)
        = nd := by cases nd; rfl
    rw [e, set_self hi]
    exact .refl g
  | k + 1, g, i, nd, hi, hle => by
    have hlt : nd.pulled < g.log.length := Nat.lt_of_lt_of_le (Nat.lt_add_of_pos_right k.succ_pos) hle
    have s1 := GStep.pull (typ := typ) g i nd _ _ hi (List.getElem?_eq_getElem hlt)
    have ih := pull_many typ k ⟨g.nodes.set i _, g.log⟩ i
      ⟨if g.log[nd.pulled].1 = i then nd.r else (nd.r.execRemoteBase g.log[nd.pulled].2).1, nd.pushed, nd.pulled + 1⟩
      (List.getElem?_set_self (List.getElem?_eq_some_iff.mp hi).1) (by rw [Nat.add_right_comm]; exact hle)
    rw [List.set_set, Nat.add_right_comm, Nat.add_assoc] at ih
    show GReaches typ g ⟨g.nodes.set i ⟨execAll nd.r (pullOps i ((g.log.drop nd.pulled).take (k + 1))), nd.pushed,
      nd.pulled + (k + 1)⟩, g.log⟩
    rw [List.drop_eq_getElem_cons hlt, List.take_succ_cons, execAll_pullOps_cons]
    exact (GReaches.step (.refl g) s1).trans ih


/-! ## One step of the combined system = finitely many steps of the ideal-log system -/

def cuidF (cuids : List String) (i : Nat) : String := cuids.getD i ""

/-- the datatype view: node `i` has pushed what the server has recorded for it and pulled up to its checkpoint -/
def netOf (cuids : List String) (S : RSys) : GNet :=
  ⟨S.clients.map (fun cl => ⟨cl.r, (S.recOf cl.cuid).cseq, cl.cp.sseq⟩),
   S.log.map (fun o => (cuids.idxOf o.id.cuid, o))⟩

theorem netOf_get {cuids : List String} {S : RSys} {i : Nat} {cl : RClient} (hi : S.clients[i]? = some cl) :
    (netOf cuids S).nodes[i]? = some ⟨cl.r, (S.recOf cl.cuid).cseq, cl.cp.sseq⟩ := by
  simp only [netOf, List.getElem?_map, hi, Option.map_some]

theorem netOf_set (cuids : List String) (S : RSys) (i : Nat) (cl : RClient) :
    netOf cuids { S with clients := S.clients.set i cl } =
      ⟨(netOf cuids S).nodes.set i ⟨cl.r, (S.recOf cl.cuid).cseq, cl.cp.sseq⟩, (netOf cuids S).log⟩ := by
  simp only [netOf, List.map_set, RSys.recOf]

/-- the bookkeeping that ties the two views together: the clients are those of `cuids`, in that order, and every replica has
    issued exactly as many operations as its buffer holds -/
structure ROK (cuids : List String) (S : RSys) : Prop where
  nodup : cuids.Nodup
  ids : S.clients.map RClient.cuid = cuids
  seq : ∀ cl ∈ S.clients, cl.r.opId.seq = cl.r.buffer.length

/-- what a public call does to buffer and clock: nothing, or ONE operation with the next identifier is queued -/
def CallShape (r r' : Replica) : Prop :=
  (r'.buffer = r.buffer ∧ r'.opId = r.opId) ∨
    ∃ o, r'.buffer = r.buffer ++ [o] ∧ o.id = r.opId.next ∧ r'.opId = r.opId.next

/-- … of every allowed call of every client of `S`: what `proj_step`, `rok_step`, `net_step` ask of the state they start from -/
def CallsShaped (typ : DtType) (S : RSys) : Prop :=
  ∀ (i : Nat) (cl : RClient) (c : Call), S.clients[i]? = some cl → callOK typ c → CallShape cl.r (cl.r.call c).1

/-- … of every allowed call in every reachable state of the ideal-log system: what each datatype provides -/
def CallFacts (typ : DtType) : Prop :=
  ∀ (cuid : Nat → String) (n : Nat) (g : GNet), GReach typ cuid n g → ∀ (i : Nat) (nd : GNode), g.nodes[i]? = some nd →
    ∀ c : Call, callOK typ c → CallShape nd.r (nd.r.call c).1

theorem execAll_keeps {α : Type} (f : Replica → α) (h : ∀ r o, f (r.execRemoteBase o).1 = f r) :
    ∀ (ops : List Op) (r : Replica), f (execAll r ops) = f r
  | [], _ => rfl
  | o :: os, r => (execAll_keeps f h os _).trans (h r o)

theorem execAll_buffer (ops : List Op) (r : Replica) : (execAll r ops).buffer = r.buffer :=
  execAll_keeps (·.buffer) execRemoteBase_buffer ops r

theorem execAll_cuid (ops : List Op) (r : Replica) : (execAll r ops).opId.cuid = r.opId.cuid :=
  execAll_keeps (·.opId.cuid) (fun r o => by rw [execRemoteBase_opId, NetBook.sync_cuid]) ops r

theorem execAll_seq (ops : List Op) (r : Replica) : (execAll r ops).opId.seq = r.opId.seq :=
  execAll_keeps (·.opId.seq) (fun r o => by rw [execRemoteBase_opId]; exact (syncLamport_fields _ _).2.1) ops r

theorem CallShape.cuid {r r' : Replica} (h : CallShape r r') : r'.opId.cuid = r.opId.cuid := by
  rcases h with ⟨_, h⟩ | ⟨o, _, _, h⟩ <;> rw [h]
  rfl

namespace ROK
variable {cuids : List String} {S : RSys}

theorem at_ (h : ROK cuids S) {i : Nat} {cl : RClient} (hi : S.clients[i]? = some cl) : cuids[i]? = some cl.cuid := by
  rw [← h.ids]; simp [hi]

theorem idx (h : ROK cuids S) {i : Nat} {cl : RClient} (hi : S.clients[i]? = some cl) : cuids.idxOf cl.cuid = i :=
  idxOf_of_getElem? h.nodup (h.at_ hi)

theorem cuid_ne (h : ROK cuids S) {i j : Nat} {a b : RClient} (hi : S.clients[i]? = some a) (hj : S.clients[j]? = some b)
    (hne : j ≠ i) : b.cuid ≠ a.cuid := by
  intro e
  have h1 := h.idx hi
  have h2 := h.idx hj
  rw [e] at h2
  omega

/-- a client changes, keeping its client identifier and `seq = buffer.length` -/
theorem update (h : ROK cuids S) {i : Nat} {cl cl' : RClient} (hi : S.clients[i]? = some cl) (hu : cl'.cuid = cl.cuid)
    (hs : cl'.r.opId.seq = cl'.r.buffer.length) : ROK cuids { S with clients := S.clients.set i cl' } := by
  refine ⟨h.nodup, ?_, ?_⟩
  · show (S.clients.set i cl').map RClient.cuid = cuids
    rw [map_set_same _ hi hu]; exact h.ids
  · intro b hb
    rcases List.mem_or_eq_of_mem_set hb with hb | rfl
    · exact h.seq b hb
    · exact hs

end ROK

theorem view_receive (cl : RClient) (p : PResp) : (cl.receive p).view = cl.view.receive p := by
  simp only [RClient.receive, RClient.view, PClient.receive, execAll_cuid, execAll_buffer, RClient.cuid]

theorem proj_get {S : RSys} {i : Nat} {cl : RClient} (hi : S.clients[i]? = some cl) :
    (proj S).clients[i]? = some cl.view := by simp [proj, hi]

theorem proj_set (S : RSys) (i : Nat) (cl : RClient) :
    proj { S with clients := S.clients.set i cl } = { proj S with clients := (proj S).clients.set i cl.view } := by
  simp only [proj, List.map_set]

theorem proj_step {typ : DtType} {cuids : List String} {S S' : RSys} (hok : ROK cuids S)
    (hcs : CallsShaped typ S)
    (st : RStep typ S S') : proj S' = proj S ∨ PStep (proj S) (proj S') := by
  cases st with
  | call i cl c hi hc =>
    rw [proj_set]
    rcases hcs i cl c hi hc with ⟨hb, hid⟩ | ⟨o, hb, hoid, hid⟩
    · left
      have hv : ({ cl with r := (cl.r.call c).1 } : RClient).view = cl.view := by
        simp [RClient.view, hb, hid]
      rw [hv, set_self (proj_get hi)]
    · right
      have hv : ({ cl with r := (cl.r.call c).1 } : RClient).view = { cl.view with buf := cl.view.buf ++ [o] } := by
        simp [RClient.view, hb, hid, OpId.next]
      rw [hv]
      exact PStep.localOp (proj S) i cl.view o (proj_get hi) (by rw [hoid]; rfl)
        (by rw [hoid]; show cl.r.opId.seq + 1 = _; rw [hok.seq cl (List.mem_of_getElem? hi)]; rfl)
  | send i cl hi => exact Or.inr (PStep.send (proj S) i cl.view (proj_get hi))
  | serve r cl cp2 docs hr hi hp => exact Or.inr (PStep.serve (proj S) r cl.view cp2 docs hr (proj_get hi) hp)
  | refuse r cl code hr hi hp => exact Or.inl rfl
  | deliver p cl hp hi =>
    rw [proj_set, view_receive]
    exact Or.inr (PStep.deliver (proj S) p cl.view hp (proj_get hi))

theorem rok_step {typ : DtType} {cuids : List String} {S S' : RSys} (hok : ROK cuids S)
    (hcs : CallsShaped typ S)
    (st : RStep typ S S') : ROK cuids S' := by
  cases st with
  | call i cl c hi hc =>
    have hsh := hcs i cl c hi hc
    apply hok.update (cl' := { cl with r := (cl.r.call c).1 }) hi hsh.cuid
    have hs := hok.seq cl (List.mem_of_getElem? hi)
    rcases hsh with ⟨hb, hid⟩ | ⟨o, hb, hoid, hid⟩
    · show (cl.r.call c).1.opId.seq = (cl.r.call c).1.buffer.length
      rw [hb, hid]; exact hs
    · show (cl.r.call c).1.opId.seq = (cl.r.call c).1.buffer.length
      rw [hb, hid]; simp [OpId.next, hs]
  | send i cl hi => exact ⟨hok.nodup, hok.ids, hok.seq⟩
  | serve r cl cp2 docs hr hi hp => exact ⟨hok.nodup, hok.ids, hok.seq⟩
  | refuse r cl code hr hi hp => exact hok
  | deliver p cl hp hi =>
    apply hok.update (cl' := cl.receive p) hi
    · exact execAll_cuid _ _
    · show (execAll cl.r _).opId.seq = (execAll cl.r _).buffer.length
      rw [execAll_seq, execAll_buffer]; exact hok.seq cl (List.mem_of_getElem? hi)


theorem pullOps_map {cuids : List String} (hnd : cuids.Nodup) {i : Nat} {u : String} (hu : cuids[i]? = some u)
    (l : List Op) : pullOps i (l.map (fun o => (cuids.idxOf o.id.cuid, o))) = frn u l := by
  unfold pullOps NetBook.oth frn
  rw [List.filter_map, List.map_map]
  have : ((fun e : Nat × Op => e.2) ∘ fun o : Op => (cuids.idxOf o.id.cuid, o)) = id := rfl
  rw [this, List.map_id]
  apply List.filter_congr
  intro o _
  rw [Bool.eq_iff_iff]
  simpa using idxOf_ne_iff hnd hu o.id.cuid

theorem netOf_serve {cuids : List String} {S : RSys} (hok : ROK cuids S) {i : Nat} {cl : RClient}
    (hi : S.clients[i]? = some cl) {acc : List Op} (hacc : ∀ o ∈ acc, o.id.cuid = cl.cuid) (cp2 : CheckPoint)
    (rq : List PReq) (rs : List PResp) :
    netOf cuids ⟨S.clients, S.log ++ acc, alSet cl.cuid cp2 S.cps, rq, rs⟩ =
      ⟨(netOf cuids S).nodes.set i ⟨cl.r, cp2.cseq, cl.cp.sseq⟩, (netOf cuids S).log ++ acc.map (fun o => (i, o))⟩ := by
  unfold netOf
  congr 1
  · rw [ListAux.map_eq_set S.clients (fun b => (⟨b.r, (S.recOf b.cuid).cseq, b.cp.sseq⟩ : GNode)) _ i cl hi]
    · simp only [RSys.recOf, alFind_alSet_self, Option.getD_some]
    · intro j b hj hne
      simp only [RSys.recOf, alFind_alSet_ne _ _ (hok.cuid_ne hi hj hne)]
  · rw [List.map_append]
    congr 1
    apply List.map_congr_left
    intro o ho
    rw [hacc o ho, hok.idx hi]

theorem deliver_seg {cuids : List String} {S : RSys} (hok : ROK cuids S) (hP : PInv (proj S)) {p : PResp} {cl : RClient}
    (hp : p ∈ S.resps) (hi : S.clients[p.i]? = some cl) :
    cl.cp.sseq ≤ S.log.length ∧ p.cp.sseq ≤ S.log.length ∧
      pullOps p.i (((netOf cuids S).log.drop cl.cp.sseq).take (p.cp.sseq - cl.cp.sseq)) =
        newForeignOps cl.cuid cl.cp p.cp p.ops := by
  have hc := hP.cli p.i cl.view (proj_get hi)
  obtain ⟨e0, sr, h1, h2, h3, h4, h5, h6⟩ := hP.resp p hp cl.view (proj_get hi)
  refine ⟨hc.sLe, h4, ?_⟩
  have hnfo : newForeignOps cl.cuid cl.cp p.cp p.ops = frn cl.cuid ((S.log.take p.cp.sseq).drop cl.cp.sseq) := by
    rw [h1]
    exact pull_count cl.cuid S.log cl.cp.sseq cl.cp.cseq p.cp.sseq p.cp.cseq e0 sr hc.sLe h4 h3 h2 hc.j2 h6.symm h5
  rw [hnfo, List.drop_take]
  show pullOps p.i (((S.log.map _).drop _).take _) = _
  rw [← List.map_drop, ← List.map_take, pullOps_map hok.nodup (hok.at_ hi)]

theorem net_step {typ : DtType} {cuids : List String} {S S' : RSys} (hok : ROK cuids S) (hP : PInv (proj S))
    (hcs : CallsShaped typ S)
    (st : RStep typ S S') : GReaches typ (netOf cuids S) (netOf cuids S') := by
  cases st with
  | call i cl c hi hc =>
    have hcu : (cl.r.call c).1.opId.cuid = cl.r.opId.cuid := (hcs i cl c hi hc).cuid
    rw [netOf_set]
    show GReaches typ _ ⟨_, _⟩
    simp only [RClient.cuid, hcu]
    exact .step (.refl _) (.call (netOf cuids S) i ⟨cl.r, (S.recOf cl.cuid).cseq, cl.cp.sseq⟩ c (netOf_get hi) hc)
  | send i cl hi => exact .refl _
  | refuse r cl code hr hi hp => exact .refl _
  | serve r cl cp2 docs hr hi hp =>
    have hiP := proj_get hi
    have hc := hP.cli r.i cl.view hiP
    obtain ⟨n, hn, hacc, hcseq, _, _⟩ := serve_facts hc (hP.req r hr cl.view hiP) hp
    have hrcle : (S.recOf cl.cuid).cseq ≤ cl.r.buffer.length := hc.rcLe
    have hpm := push_many typ (n - (S.recOf cl.cuid).cseq) (netOf cuids S) r.i ⟨cl.r, (S.recOf cl.cuid).cseq, cl.cp.sseq⟩ (netOf_get hi) (by
      show (S.recOf cl.cuid).cseq + (n - (S.recOf cl.cuid).cseq) ≤ cl.r.buffer.length
      rw [add_sub_eq_max]; exact Nat.max_le.mpr ⟨hrcle, hn⟩)
    have hacc' : docs.map (·.op) = (cl.r.buffer.drop (S.recOf cl.cuid).cseq).take (n - (S.recOf cl.cuid).cseq) := by
      rw [hacc, List.drop_take]; rfl
    have hcseq' : cp2.cseq = (S.recOf cl.cuid).cseq + (n - (S.recOf cl.cuid).cseq) := by
      rw [hcseq]; exact (add_sub_eq_max _ _).symm
    show GReaches typ (netOf cuids S) (netOf cuids ⟨S.clients, S.log ++ docs.map (·.op), alSet cl.cuid cp2 S.cps, S.reqs,
          S.resps ++ [⟨r.i, S.log.drop r.s, cp2⟩]⟩)
    rw [netOf_serve hok hi (fun o ho => mem_buf_cuid hc (List.mem_of_mem_drop (List.mem_of_mem_take (hacc' ▸ ho)))),
      hacc', hcseq']
    exact hpm
  | deliver p cl hp hi =>
    obtain ⟨hsle, hple, hseg⟩ := deliver_seg hok hP hp hi
    have hpm : GReaches typ (netOf cuids S) ⟨(netOf cuids S).nodes.set p.i ⟨execAll cl.r (pullOps p.i
        (((netOf cuids S).log.drop cl.cp.sseq).take (p.cp.sseq - cl.cp.sseq))), (S.recOf cl.cuid).cseq,
        cl.cp.sseq + (p.cp.sseq - cl.cp.sseq)⟩, (netOf cuids S).log⟩ :=
      pull_many typ (p.cp.sseq - cl.cp.sseq) (netOf cuids S) p.i ⟨cl.r, (S.recOf cl.cuid).cseq, cl.cp.sseq⟩ (netOf_get hi) (by
        show cl.cp.sseq + (p.cp.sseq - cl.cp.sseq) ≤ (S.log.map _).length
        rw [List.length_map, add_sub_eq_max]; exact Nat.max_le.mpr ⟨hsle, hple⟩)
    have hm : max cl.cp.sseq p.cp.sseq = cl.cp.sseq + (p.cp.sseq - cl.cp.sseq) := (add_sub_eq_max _ _).symm
    rw [hseg] at hpm
    rw [netOf_set]
    simp only [RClient.cuid, RClient.receive, execAll_cuid, hm]
    exact hpm


/-! ## The joint invariant: both views are reachable -/

structure Good (typ : DtType) (cuids : List String) (S : RSys) : Prop where
  preach : PReach cuids (proj S)
  ok : ROK cuids S
  greach : GReach typ (cuidF cuids) cuids.length (netOf cuids S)

theorem cuidF_distinct {cuids : List String} (hnd : cuids.Nodup) : CuidsDistinct (cuidF cuids) cuids.length := by
  intro i j hi hj h
  simp only [cuidF, List.getD_eq_getElem?_getD, List.getElem?_eq_getElem hi, List.getElem?_eq_getElem hj,
    Option.getD_some] at h
  exact (List.Nodup.getElem_inj_iff hnd).mp h

theorem new_cuid (typ : DtType) (u : String) : (Replica.new typ u false).opId.cuid = u := rfl
theorem new_buffer (typ : DtType) (u : String) : (Replica.new typ u false).buffer = [] := rfl
theorem new_seq (typ : DtType) (u : String) : (Replica.new typ u false).opId.seq = 0 := rfl

theorem good_init (typ : DtType) {cuids : List String} (hnd : cuids.Nodup) : Good typ cuids (RSys.init typ cuids) := by
  refine ⟨?_, ⟨hnd, ?_, ?_⟩, ?_⟩
  · have : proj (RSys.init typ cuids) = PSys.init cuids := by
      simp [proj, RSys.init, PSys.init, RClient.view, new_cuid, new_buffer, Function.comp_def]
    rw [this]; exact .init hnd
  · simp [RSys.init, RClient.cuid, new_cuid, Function.comp_def]
  · intro cl hcl
    simp only [RSys.init, List.mem_map] at hcl
    obtain ⟨u, _, rfl⟩ := hcl
    rfl
  · have : netOf cuids (RSys.init typ cuids) = GNet.init typ (cuidF cuids) cuids.length := by
      unfold netOf GNet.init RSys.init
      congr 1
      apply List.ext_getElem
      · simp
      · intro i h1 h2
        simp at h1
        simp [RSys.recOf, alFind, cuidF, h1]
    rw [this]; exact .init (cuidF_distinct hnd)

theorem good_step {typ : DtType} (hcf : CallFacts typ) {cuids : List String} {S S' : RSys} (h : Good typ cuids S)
    (st : RStep typ S S') : Good typ cuids S' := by
  have hcs : CallsShaped typ S := fun i cl c hi hc => hcf _ _ _ h.greach i _ (netOf_get hi) c hc
  refine ⟨?_, rok_step h.ok hcs st, greach_of_reaches h.greach (net_step h.ok (proto_inv h.preach) hcs st)⟩
  rcases proj_step h.ok hcs st with e | s
  · rw [e]; exact h.preach
  · exact .step h.preach s

theorem good_reach {typ : DtType} (hcf : CallFacts typ) {cuids : List String} {S : RSys} (h : RReach typ cuids S) :
    Good typ cuids S := by
  induction h with
  | init hnd => exact good_init typ hnd
  | step _ st ih => exact good_step hcf ih st


/-! ## A call never skips a sequence number (per datatype) -/

/-- a refused local execution rolls the identifier back; a panic would not, hence the hypothesis -/
theorem callShape_of_no_panic (r : Replica) (c : Call) (h : (r.call c).2.isPanic = false) :
    CallShape r (r.call c).1 := by
  have hc := call_case r c
  generalize r.call c = x at h hc
  cases hc with
  | done | err => exact Or.inl ⟨rfl, rfl⟩
  | ok => exact Or.inr ⟨_, rfl, rfl, rfl⟩
  | panic => cases h

theorem callFacts_list : CallFacts .list := by
  intro cuid n g hg i nd hi c _
  obtain ⟨ap, I⟩ := LNet.inv_reach (reach_toL hg)
  have N := I.node i _ (toL_get hi)
  exact callShape_of_no_panic nd.r c (LTx.call_no_panic nd.r _ N.st (RF.size_eq_liveCount _ N.lc) c)

theorem callShape_of_eq {r r' : Replica} (h : r' = r) : CallShape r r' := by subst h; exact Or.inl ⟨rfl, rfl⟩

theorem callFacts_flat {typ : DtType} (hf : MNet.Flat typ) : CallFacts typ := by
  intro cuid n g hg i nd hi c _
  obtain ⟨ap, I⟩ := MNet.inv_reach hf (reach_toM hg)
  have N := I.node i _ (toM_get hi)
  rcases MNet.call_cases hf nd.r _ N.st N.causal_ops c with h | ⟨o, h1, h2, h3, _⟩
  · exact callShape_of_eq h
  · exact Or.inr ⟨o, h1, h2, h3⟩

theorem callFacts_doc : CallFacts .document := by
  intro cuid n g hg i nd hi c hc
  obtain ⟨ap, I⟩ := DNet.inv_reach (reach_toD hg)
  have N := I.node i _ (toD_get hi)
  rcases DNet.call_cases_inv N.dt.dinv N.st N.dt.hist hc with h | ⟨o, x, h1, h2, h3, _⟩
  · exact callShape_of_eq h
  · exact Or.inr ⟨o, h1, h2, h3⟩

theorem callFacts_all : ∀ typ : DtType, CallFacts typ
  | .list => callFacts_list
  | .map => callFacts_flat MNet.flat_map
  | .counter => callFacts_flat MNet.flat_counter
  | .document => callFacts_doc

/-! ## The two views of a reachable combined state -/

/-- the protocol view of every reachable combined state is a reachable protocol state (so J1–J3 and all of
    `Protocol.lean` apply) -/
theorem proj_reach {typ : DtType} {cuids : List String} {S : RSys} (h : RReach typ cuids S) : PReach cuids (proj S) :=
  (good_reach (callFacts_all typ) h).preach

/-- … and its datatype view is a REACHABLE state of the ideal-log system -/
theorem net_view {typ : DtType} {cuids : List String} {S : RSys} (h : RReach typ cuids S) :
    GReach typ (cuidF cuids) cuids.length (netOf cuids S) :=
  (good_reach (callFacts_all typ) h).greach

theorem rok_reach {typ : DtType} {cuids : List String} {S : RSys} (h : RReach typ cuids S) : ROK cuids S :=
  (good_reach (callFacts_all typ) h).ok

theorem clients_len {typ : DtType} {cuids : List String} {S : RSys} (h : RReach typ cuids S) :
    S.clients.length = cuids.length := by
  have := (rok_reach h).ids
  rw [← this]; simp


/-! ## Reading the Net theorems through `net_view`: notions on the combined state (ghost-free) -/

/-- the operations client `cl` has: its own buffer and the operations of the others among the first `cp.sseq` log entries -/
def RSys.opsOf (S : RSys) (cl : RClient) : List Op :=
  cl.r.buffer ++ (S.log.take cl.cp.sseq).filter (fun o => o.id.cuid ≠ cl.cuid)

/-- clients `i` and `j` have the same operations (as multisets) -/
def SameOpsR (S : RSys) (i j : Nat) : Prop :=
  ∃ a b, S.clients[i]? = some a ∧ S.clients[j]? = some b ∧ (S.opsOf a).Perm (S.opsOf b)

/-- client `cl` is caught up: it has seen the whole log, and everything it issued is in the log -/
def CaughtUp (S : RSys) (cl : RClient) : Prop :=
  cl.cp.sseq = S.log.length ∧ (S.recOf cl.cuid).cseq = cl.r.buffer.length

def QuiescentR (S : RSys) : Prop := ∀ cl ∈ S.clients, CaughtUp S cl

/-- with the ghost field: what a client has is its buffer and what it has executed (J3) -/
theorem opsOf_eq_applied {typ : DtType} {cuids : List String} {S : RSys} (h : RReach typ cuids S) {cl : RClient}
    (hcl : cl ∈ S.clients) : S.opsOf cl = cl.r.buffer ++ cl.applied := by
  obtain ⟨i, hi⟩ := List.mem_iff_getElem?.mp hcl
  have c := (proto_inv (proj_reach h)).cli i cl.view (proj_get hi)
  have := c.j3
  unfold RSys.opsOf
  rw [show cl.applied = cl.view.applied from rfl, this]
  rfl

/-- the hypothesis of `quiescent_converged` of Protocol.lean (everything acknowledged) implies `CaughtUp` -/
theorem caughtUp_of_acked {typ : DtType} {cuids : List String} {S : RSys} (h : RReach typ cuids S) {cl : RClient}
    (hcl : cl ∈ S.clients) (h1 : cl.cp.sseq = S.log.length) (h2 : cl.cp.cseq = cl.r.buffer.length) : CaughtUp S cl := by
  obtain ⟨i, hi⟩ := List.mem_iff_getElem?.mp hcl
  have c := (proto_inv (proj_reach h)).cli i cl.view (proj_get hi)
  have a := c.cLe
  have b := c.rcLe
  refine ⟨h1, ?_⟩
  show ((proj S).recOf cl.view.cuid).cseq = cl.view.buf.length
  have : cl.view.cp.cseq = cl.view.buf.length := h2
  omega

theorem opsOf_view {cuids : List String} {S : RSys} (hok : ROK cuids S) {i : Nat} {cl : RClient}
    (hi : S.clients[i]? = some cl) :
    cl.r.buffer ++ pullOps i (((netOf cuids S).log).take cl.cp.sseq) = S.opsOf cl := by
  unfold RSys.opsOf
  congr 1
  show pullOps i ((S.log.map _).take _) = _
  rw [← List.map_take, pullOps_map hok.nodup (hok.at_ hi)]
  rfl

theorem opsOf_perm_log {typ : DtType} {cuids : List String} {S : RSys} (h : RReach typ cuids S) {i : Nat} {cl : RClient}
    (hi : S.clients[i]? = some cl) (c : CaughtUp S cl) : (S.opsOf cl).Perm S.log := by
  have h1 : own cl.cuid S.log = cl.r.buffer.take (S.recOf cl.cuid).cseq :=
    ((proto_inv (proj_reach h)).cli i cl.view (proj_get hi)).j1
  rw [c.2, List.take_length] at h1
  unfold RSys.opsOf
  rw [c.1, List.take_length, ← h1]
  exact own_frn_perm _ _

theorem sameOpsR_of_caught_up {typ : DtType} {cuids : List String} {S : RSys} (h : RReach typ cuids S) {i j : Nat}
    (hi : i < S.clients.length) (hj : j < S.clients.length) (ci : CaughtUp S S.clients[i])
    (cj : CaughtUp S S.clients[j]) : SameOpsR S i j :=
  ⟨_, _, List.getElem?_eq_getElem hi, List.getElem?_eq_getElem hj,
    (opsOf_perm_log h (List.getElem?_eq_getElem hi) ci).trans (opsOf_perm_log h (List.getElem?_eq_getElem hj) cj).symm⟩

/-- `SameOpsR` read in the datatype view: this is `SameOps` of each of the three Net files -/
theorem sameOps_view {cuids : List String} {S : RSys} (hok : ROK cuids S) {i j : Nat} (hs : SameOpsR S i j) :
    ∃ a b, S.clients[i]? = some a ∧ S.clients[j]? = some b ∧
      (a.r.buffer ++ pullOps i ((netOf cuids S).log.take a.cp.sseq)).Perm
        (b.r.buffer ++ pullOps j ((netOf cuids S).log.take b.cp.sseq)) := by
  obtain ⟨a, b, ha, hb, hp⟩ := hs
  exact ⟨a, b, ha, hb, by rw [opsOf_view hok ha, opsOf_view hok hb]; exact hp⟩

theorem netOf_log (cuids : List String) (S : RSys) : (netOf cuids S).log.map (·.2) = S.log := by
  simp only [netOf, List.map_map, Function.comp_def, List.map_id']

/-! ## The List datatype -/

def lnetOf (cuids : List String) (S : RSys) : LNet.Net := toL (netOf cuids S)

theorem lnetOf_get {cuids : List String} {S : RSys} {i : Nat} {cl : RClient} (hi : S.clients[i]? = some cl) :
    (lnetOf cuids S).nodes[i]? = some ⟨cl.r, (S.recOf cl.cuid).cseq, cl.cp.sseq⟩ := toL_get (netOf_get hi)

theorem lnet_reach {cuids : List String} {S : RSys} (h : RReach .list cuids S) :
    LNet.Reach (cuidF cuids) cuids.length (lnetOf cuids S) := reach_toL (net_view h)

/-- `net_view` for lists: the `LNet` state with the same replicas, the protocol's log (tagged with the authors), node `i`
    has pushed `(recOf cuid_i).cseq` operations and pulled `cp.sseq` entries; it is REACHABLE in `LNet`, hence satisfies
    `LNet.Inv`.  (This, `net_view_flat` and `net_view_doc` say it in one statement each; the `faults_*` theorems take the
    pieces — `lnetOf/mnetOf/dnetOf`, their `_get`, `lnet_reach/mnet_reach/dnet_reach` — directly.) -/
theorem net_view_list {cuids : List String} {S : RSys} (h : RReach .list cuids S) :
    ∃ net : LNet.Net, LNet.Reach (cuidF cuids) cuids.length net ∧ (∃ ap, LNet.Inv (cuidF cuids) cuids.length net ap) ∧
      (∀ i : Nat, (S.clients[i]?).map (fun cl => cl.r.state) = (net.nodes[i]?).map (fun nd => nd.r.state)) ∧
      net.log.map (·.2) = S.log ∧
      (∀ (i : Nat) (cl : RClient), S.clients[i]? = some cl →
        net.nodes[i]? = some (⟨cl.r, (S.recOf cl.cuid).cseq, cl.cp.sseq⟩ : LNet.Node)) := by
  have hr := lnet_reach h
  refine ⟨lnetOf cuids S, hr, LNet.inv_reach hr, fun i => ?_, netOf_log cuids S, fun i cl hi => lnetOf_get hi⟩
  simp only [lnetOf, toL, netOf, List.getElem?_map, Option.map_map, Function.comp_def]

theorem sameOps_list {cuids : List String} {S : RSys} (hok : ROK cuids S) {i j : Nat} (hs : SameOpsR S i j) :
    LNet.SameOps (lnetOf cuids S) i j := by
  obtain ⟨a, b, ha, hb, hp⟩ := sameOps_view hok hs
  exact ⟨_, _, lnetOf_get ha, lnetOf_get hb, hp⟩

/-- lists under faults: whatever the network did — requests served twice, responses lost, delivered late,
    twice, out of order — two clients that have the same operations hold the SAME list state -/
theorem faults_list_same_operations_same_state {cuids : List String} : ∀ S, RReach .list cuids S →
    ∀ i j (hi : i < S.clients.length) (hj : j < S.clients.length),
    SameOpsR S i j → S.clients[i].r.state = S.clients[j].r.state := by
  intro S h i j hi hj hs
  obtain ⟨hi', ei⟩ := List.getElem?_eq_some_iff.mp (lnetOf_get (cuids := cuids) (List.getElem?_eq_getElem hi))
  obtain ⟨hj', ej⟩ := List.getElem?_eq_some_iff.mp (lnetOf_get (cuids := cuids) (List.getElem?_eq_getElem hj))
  have := LNet.lnet_same_operations_same_state (lnetOf cuids S) (lnet_reach h) i j hi' hj' (sameOps_list (rok_reach h) hs)
  rwa [ei, ej] at this

/-- two clients that are caught up hold the same list state, whatever the others still hold back -/
theorem faults_list_caught_up {cuids : List String} : ∀ S, RReach .list cuids S →
    ∀ i j (hi : i < S.clients.length) (hj : j < S.clients.length),
    CaughtUp S S.clients[i] → CaughtUp S S.clients[j] → S.clients[i].r.state = S.clients[j].r.state :=
  fun S h i j hi hj ci cj => faults_list_same_operations_same_state S h i j hi hj (sameOpsR_of_caught_up h hi hj ci cj)

/-- when every client is caught up with the log and everything it issued is in the log, all clients agree -/
theorem faults_list_quiescent_converged {cuids : List String} : ∀ S, RReach .list cuids S → QuiescentR S →
    ∀ i j (hi : i < S.clients.length) (hj : j < S.clients.length),
    S.clients[i].r.state = S.clients[j].r.state := by
  intro S h hq i j hi hj
  exact faults_list_caught_up S h i j hi hj (hq _ (List.getElem_mem hi)) (hq _ (List.getElem_mem hj))


/-! ## The Map and the Counter datatypes -/

def mnetOf (cuids : List String) (S : RSys) : MNet.Net := toM (netOf cuids S)

theorem mnetOf_get {cuids : List String} {S : RSys} {i : Nat} {cl : RClient} (hi : S.clients[i]? = some cl) :
    (mnetOf cuids S).nodes[i]? = some ⟨cl.r, (S.recOf cl.cuid).cseq, cl.cp.sseq⟩ := toM_get (netOf_get hi)

theorem mnet_reach {typ : DtType} {cuids : List String} {S : RSys} (h : RReach typ cuids S) :
    MNet.Reach typ (cuidF cuids) cuids.length (mnetOf cuids S) := reach_toM (net_view h)

/-- the `MNet` state with the same replicas, the protocol's log (tagged with the authors), in which node `i` has pushed
    `(recOf cuid_i).cseq` operations and pulled `cp.sseq` entries; REACHABLE in `MNet`, hence it satisfies `MNet.Inv` -/
def FlatView (typ : DtType) (cuids : List String) (S : RSys) : Prop :=
  ∃ net : MNet.Net, MNet.Reach typ (cuidF cuids) cuids.length net ∧
    (∃ ap, MNet.Inv typ (cuidF cuids) cuids.length net ap) ∧
    (∀ i : Nat, (S.clients[i]?).map (fun cl => cl.r.state) = (net.nodes[i]?).map (fun nd => nd.r.state)) ∧
    net.log.map (·.2) = S.log ∧
    (∀ (i : Nat) (cl : RClient), S.clients[i]? = some cl →
      net.nodes[i]? = some (⟨cl.r, (S.recOf cl.cuid).cseq, cl.cp.sseq⟩ : MNet.Node))

theorem net_view_flat {typ : DtType} (hf : MNet.Flat typ) {cuids : List String} {S : RSys} (h : RReach typ cuids S) :
    FlatView typ cuids S := by
  have hr := mnet_reach h
  refine ⟨mnetOf cuids S, hr, MNet.inv_reach hf hr, fun i => ?_, netOf_log cuids S, fun i cl hi => mnetOf_get hi⟩
  simp only [mnetOf, toM, netOf, List.getElem?_map, Option.map_map, Function.comp_def]

theorem net_view_map {cuids : List String} {S : RSys} (h : RReach .map cuids S) : FlatView .map cuids S :=
  net_view_flat MNet.flat_map h
theorem net_view_counter {cuids : List String} {S : RSys} (h : RReach .counter cuids S) : FlatView .counter cuids S :=
  net_view_flat MNet.flat_counter h

theorem sameOps_flat {cuids : List String} {S : RSys} (hok : ROK cuids S) {i j : Nat} (hs : SameOpsR S i j) :
    MNet.SameOps (mnetOf cuids S) i j := by
  obtain ⟨a, b, ha, hb, hp⟩ := sameOps_view hok hs
  exact ⟨_, _, mnetOf_get ha, mnetOf_get hb, hp⟩

/-- what "equal reads" means for two LWW maps: `get` of every key, `Size`, the JSON view pointwise, up to a permutation,
    key-sorted, and canonical -/
def SameReads (mi mj : LwwMap) : Prop :=
  (∀ k, mi.get k = mj.get k) ∧ mi.size = mj.size ∧
    (∀ k, alFind k mi.live = alFind k mj.live) ∧ mi.live.Perm mj.live ∧ MNet.sortedView mi = MNet.sortedView mj ∧
    MNet.jsonView mi = MNet.jsonView mj

/-- maps under faults: two clients that have the same operations answer every read alike -/
theorem faults_map_same_operations_same_reads {cuids : List String} : ∀ S, RReach .map cuids S →
    ∀ i j (hi : i < S.clients.length) (hj : j < S.clients.length) mi mj,
    S.clients[i].r.state = .map mi → S.clients[j].r.state = .map mj → SameOpsR S i j → SameReads mi mj := by
  intro S h i j hi hj mi mj hmi hmj hs
  obtain ⟨hi', ei⟩ := List.getElem?_eq_some_iff.mp (mnetOf_get (cuids := cuids) (List.getElem?_eq_getElem hi))
  obtain ⟨hj', ej⟩ := List.getElem?_eq_some_iff.mp (mnetOf_get (cuids := cuids) (List.getElem?_eq_getElem hj))
  exact MNet.mnet_same_operations_same_reads (mnetOf cuids S) (mnet_reach h) i j hi' hj' mi mj
    (by rw [ei]; exact hmi) (by rw [ej]; exact hmj) (sameOps_flat (rok_reach h) hs)

theorem faults_map_caught_up {cuids : List String} : ∀ S, RReach .map cuids S →
    ∀ i j (hi : i < S.clients.length) (hj : j < S.clients.length) mi mj,
    S.clients[i].r.state = .map mi → S.clients[j].r.state = .map mj →
    CaughtUp S S.clients[i] → CaughtUp S S.clients[j] → SameReads mi mj :=
  fun S h i j hi hj mi mj hmi hmj ci cj =>
    faults_map_same_operations_same_reads S h i j hi hj mi mj hmi hmj (sameOpsR_of_caught_up h hi hj ci cj)

/-- … and when every client is caught up, all clients answer every read alike -/
theorem faults_map_quiescent_converged {cuids : List String} : ∀ S, RReach .map cuids S → QuiescentR S →
    ∀ i j (hi : i < S.clients.length) (hj : j < S.clients.length) mi mj,
    S.clients[i].r.state = .map mi → S.clients[j].r.state = .map mj → SameReads mi mj := by
  intro S h hq i j hi hj mi mj hmi hmj
  exact faults_map_caught_up S h i j hi hj mi mj hmi hmj (hq _ (List.getElem_mem hi)) (hq _ (List.getElem_mem hj))

/-- the state of a map client is a well-formed map (so the hypotheses `… = .map mi` above can always be met) -/
theorem faults_map_state_is_map {cuids : List String} : ∀ S, RReach .map cuids S →
    ∀ cl ∈ S.clients, ∃ m, cl.r.state = .map m ∧ m.WF := by
  intro S h cl hcl
  obtain ⟨i, hi⟩ := List.mem_iff_getElem?.mp hcl
  exact MNet.mnet_state_is_map (mnetOf cuids S) (mnet_reach h) _ (List.mem_of_getElem? (mnetOf_get hi))

/-- counters under faults: same operations ⇒ the SAME state (plain equality) -/
theorem faults_counter_same_operations_same_state {cuids : List String} : ∀ S, RReach .counter cuids S →
    ∀ i j (hi : i < S.clients.length) (hj : j < S.clients.length),
    SameOpsR S i j → S.clients[i].r.state = S.clients[j].r.state := by
  intro S h i j hi hj hs
  obtain ⟨hi', ei⟩ := List.getElem?_eq_some_iff.mp (mnetOf_get (cuids := cuids) (List.getElem?_eq_getElem hi))
  obtain ⟨hj', ej⟩ := List.getElem?_eq_some_iff.mp (mnetOf_get (cuids := cuids) (List.getElem?_eq_getElem hj))
  have := MNet.cnet_same_operations_same_state (mnetOf cuids S) (mnet_reach h) i j hi' hj'
    (sameOps_flat (rok_reach h) hs)
  rwa [ei, ej] at this

theorem faults_counter_caught_up {cuids : List String} : ∀ S, RReach .counter cuids S →
    ∀ i j (hi : i < S.clients.length) (hj : j < S.clients.length),
    CaughtUp S S.clients[i] → CaughtUp S S.clients[j] → S.clients[i].r.state = S.clients[j].r.state :=
  fun S h i j hi hj ci cj =>
    faults_counter_same_operations_same_state S h i j hi hj (sameOpsR_of_caught_up h hi hj ci cj)

theorem faults_counter_quiescent_converged {cuids : List String} : ∀ S, RReach .counter cuids S → QuiescentR S →
    ∀ i j (hi : i < S.clients.length) (hj : j < S.clients.length),
    S.clients[i].r.state = S.clients[j].r.state := by
  intro S h hq i j hi hj
  exact faults_counter_caught_up S h i j hi hj (hq _ (List.getElem_mem hi)) (hq _ (List.getElem_mem hj))

/-- the value of a counter client is a function of the operations it has alone: the sum of the increments (32-bit wrap) -/
theorem faults_counter_value_is_spec {cuids : List String} : ∀ S, RReach .counter cuids S →
    ∀ cl ∈ S.clients, cl.r.state = DState.counter (Spec.counter (S.opsOf cl)) := by
  intro S h cl hcl
  obtain ⟨i, hi⟩ := List.mem_iff_getElem?.mp hcl
  rw [MNet.cnet_value_is_spec (mnetOf cuids S) (mnet_reach h) i _ (mnetOf_get hi),
    ← opsOf_view (rok_reach h) hi]
  rfl


/-! ## The Document datatype -/

def dnetOf (cuids : List String) (S : RSys) : DNet.Net := toD (netOf cuids S)

theorem dnetOf_get {cuids : List String} {S : RSys} {i : Nat} {cl : RClient} (hi : S.clients[i]? = some cl) :
    (dnetOf cuids S).nodes[i]? = some ⟨cl.r, (S.recOf cl.cuid).cseq, cl.cp.sseq⟩ := toD_get (netOf_get hi)

theorem dnet_reach {cuids : List String} {S : RSys} (h : RReach .document cuids S) :
    DNet.Reach (cuidF cuids) cuids.length (dnetOf cuids S) := reach_toD (net_view h)

/-- `net_view` for documents -/
theorem net_view_doc {cuids : List String} {S : RSys} (h : RReach .document cuids S) :
    ∃ net : DNet.Net, DNet.Reach (cuidF cuids) cuids.length net ∧ (∃ ap, DNet.Inv (cuidF cuids) cuids.length net ap) ∧
      (∀ i : Nat, (S.clients[i]?).map (fun cl => cl.r.state) = (net.nodes[i]?).map (fun nd => nd.r.state)) ∧
      net.log.map (·.2) = S.log ∧
      (∀ (i : Nat) (cl : RClient), S.clients[i]? = some cl →
        net.nodes[i]? = some (⟨cl.r, (S.recOf cl.cuid).cseq, cl.cp.sseq⟩ : DNet.Node)) := by
  have hr := dnet_reach h
  refine ⟨dnetOf cuids S, hr, DNet.inv_reach hr, fun i => ?_, netOf_log cuids S, fun i cl hi => dnetOf_get hi⟩
  simp only [dnetOf, toD, netOf, List.getElem?_map, Option.map_map, Function.comp_def]

theorem sameOps_doc {cuids : List String} {S : RSys} (hok : ROK cuids S) {i j : Nat} (hs : SameOpsR S i j) :
    DNet.SameOps (dnetOf cuids S) i j := by
  obtain ⟨a, b, ha, hb, hp⟩ := sameOps_view hok hs
  exact ⟨_, _, dnetOf_get ha, dnetOf_get hb, hp⟩

/-- documents under faults: two clients that have the same operations hold ASim-equal documents and show
    the same canonical JSON value -/
theorem faults_doc_same_operations_same_document {cuids : List String} : ∀ S, RReach .document cuids S →
    ∀ i j (hi : i < S.clients.length) (hj : j < S.clients.length) di dj,
    S.clients[i].r.state = .doc di → S.clients[j].r.state = .doc dj → SameOpsR S i j →
    DA.ASim di dj ∧ di.view.canon = dj.view.canon := by
  intro S h i j hi hj di dj hdi hdj hs
  obtain ⟨hi', ei⟩ := List.getElem?_eq_some_iff.mp (dnetOf_get (cuids := cuids) (List.getElem?_eq_getElem hi))
  obtain ⟨hj', ej⟩ := List.getElem?_eq_some_iff.mp (dnetOf_get (cuids := cuids) (List.getElem?_eq_getElem hj))
  exact DNet.net_same_operations_same_document (dnetOf cuids S) (dnet_reach h) i j hi' hj' di dj
    (by rw [ei]; exact hdi) (by rw [ej]; exact hdj) (sameOps_doc (rok_reach h) hs)

theorem faults_doc_caught_up {cuids : List String} : ∀ S, RReach .document cuids S →
    ∀ i j (hi : i < S.clients.length) (hj : j < S.clients.length) di dj,
    S.clients[i].r.state = .doc di → S.clients[j].r.state = .doc dj →
    CaughtUp S S.clients[i] → CaughtUp S S.clients[j] → DA.ASim di dj ∧ di.view.canon = dj.view.canon :=
  fun S h i j hi hj di dj hdi hdj ci cj =>
    faults_doc_same_operations_same_document S h i j hi hj di dj hdi hdj (sameOpsR_of_caught_up h hi hj ci cj)

/-- … and when every client is caught up, all clients agree -/
theorem faults_doc_quiescent_converged {cuids : List String} : ∀ S, RReach .document cuids S → QuiescentR S →
    ∀ i j (hi : i < S.clients.length) (hj : j < S.clients.length) di dj,
    S.clients[i].r.state = .doc di → S.clients[j].r.state = .doc dj →
    DA.ASim di dj ∧ di.view.canon = dj.view.canon := by
  intro S h hq i j hi hj di dj hdi hdj
  exact faults_doc_caught_up S h i j hi hj di dj hdi hdj (hq _ (List.getElem_mem hi)) (hq _ (List.getElem_mem hj))


/-! ## Deliveries: every single execution of a delivery is a delivery of the ideal-log system -/

/-- every remote execution of the sequence returns without a panic -/
def ExecOK : Replica → List Op → Prop
  | _, [] => True
  | r, o :: os => (r.execRemoteBase o).2 = none ∧ ExecOK (r.execRemoteBase o).1 os

theorem execOK_of_each : ∀ (ops : List Op) (r : Replica),
    (∀ pre o post, ops = pre ++ o :: post → ((execAll r pre).execRemoteBase o).2 = none) → ExecOK r ops
  | [], _, _ => trivial
  | o :: os, r, h => by
    refine ⟨h [] o os rfl, execOK_of_each os _ ?_⟩
    intro pre o' post e
    exact h (o :: pre) o' post (by rw [e]; rfl)

theorem pullOps_split (i : Nat) : ∀ (seg : List (Nat × Op)) (pre : List Op) (o : Op) (post : List Op),
    pullOps i seg = pre ++ o :: post →
    ∃ s1 a s2, seg = s1 ++ (a, o) :: s2 ∧ a ≠ i ∧ pullOps i s1 = pre
  | [], pre, o, post, h => by simp [pullOps, NetBook.oth] at h
  | (a, o') :: seg, pre, o, post, h => by
    by_cases ha : a = i
    · rw [ha, pullOps_cons_self] at h
      obtain ⟨s1, b, s2, e1, e2, e3⟩ := pullOps_split i seg pre o post h
      exact ⟨(a, o') :: s1, b, s2, by rw [e1]; rfl, e2, by rw [ha, pullOps_cons_self]; exact e3⟩
    · rw [pullOps_cons_ne ha] at h
      cases pre with
      | nil =>
        simp only [List.nil_append, List.cons.injEq] at h
        exact ⟨[], a, seg, by rw [h.1]; rfl, ha, rfl⟩
      | cons p pre =>
        simp only [List.cons_append, List.cons.injEq] at h
        obtain ⟨s1, b, s2, e1, e2, e3⟩ := pullOps_split i seg pre o post h.2
        exact ⟨(a, o') :: s1, b, s2, by rw [e1]; rfl, e2, by rw [pullOps_cons_ne ha, e3, h.1]⟩

/-- **the trace of a delivery**: whatever response is delivered to whatever client (a duplicate, a stale one, one that
    overlaps what the client has seen), every single operation the client executes is the NEXT log entry of that client, written by
    another client, in a reachable state of the ideal-log system in which the client's replica is the replica that has
    executed the operations before it -/
theorem deliver_trace {typ : DtType} {cuids : List String} {S : RSys} (h : RReach typ cuids S) {p : PResp} {cl : RClient}
    (hp : p ∈ S.resps) (hi : S.clients[p.i]? = some cl) {pre : List Op} {o : Op} {post : List Op}
    (hsplit : newForeignOps cl.cuid cl.cp p.cp p.ops = pre ++ o :: post) :
    ∃ (g : GNet) (pushed pulled a : Nat), GReach typ (cuidF cuids) cuids.length g ∧
      g.nodes[p.i]? = some ⟨execAll cl.r pre, pushed, pulled⟩ ∧ g.log[pulled]? = some (a, o) ∧ a ≠ p.i := by
  obtain ⟨hsle, hple, hseg⟩ := deliver_seg (rok_reach h) (proto_inv (proj_reach h)) hp hi
  rw [← hseg] at hsplit
  obtain ⟨s1, a, s2, e1, e2, e3⟩ := pullOps_split p.i _ pre o post hsplit
  obtain ⟨hs1, hget, hlt⟩ := take_eq_append_cons e1
  rw [List.getElem?_drop] at hget
  have hpm : GReaches typ (netOf cuids S)
      ⟨(netOf cuids S).nodes.set p.i ⟨execAll cl.r (pullOps p.i (((netOf cuids S).log.drop cl.cp.sseq).take s1.length)),
        (S.recOf cl.cuid).cseq, cl.cp.sseq + s1.length⟩, (netOf cuids S).log⟩ :=
    pull_many typ s1.length (netOf cuids S) p.i ⟨cl.r, (S.recOf cl.cuid).cseq, cl.cp.sseq⟩ (netOf_get hi) (by
      show cl.cp.sseq + s1.length ≤ (S.log.map _).length
      rw [List.length_map]; omega)
  refine ⟨_, (S.recOf cl.cuid).cseq, cl.cp.sseq + s1.length, a, greach_of_reaches (net_view h) hpm, ?_, hget, e2⟩
  rw [hs1, e3]
  exact List.getElem?_set_self (List.getElem?_eq_some_iff.mp (netOf_get (cuids := cuids) hi)).1


/-! ## Lists: what travels is safe to execute remotely (not in `LNet.Inv`: an update carries as many values as targets) -/

theorem glist_safe {cuid : Nat → String} {n : Nat} {g : GNet} (h : GReach .list cuid n g) :
    (∀ nd ∈ g.nodes, ∀ o ∈ nd.r.buffer, LTx.RemoteSafe o.body) ∧ (∀ e ∈ g.log, LTx.RemoteSafe e.2.body) := by
  induction h with
  | init hc =>
    constructor
    · intro nd hnd o ho
      simp only [GNet.init, List.mem_map] at hnd
      obtain ⟨k, _, rfl⟩ := hnd
      cases ho
    · intro e he; cases he
  | @step g g' hg st ih =>
    obtain ⟨ihn, ihl⟩ := ih
    cases st with
    | call i nd c hi hc =>
      refine ⟨forall_mem_set ihn i fun o ho => ?_, ihl⟩
      obtain ⟨ap, I⟩ := LNet.inv_reach (reach_toL hg)
      have hnd := ihn nd (List.mem_of_getElem? hi)
      rcases LNet.call_cases nd.r _ (I.node i _ (toL_get hi)).st c with hb | ⟨o', l', hbuf, _, _, _, hloc⟩
      · exact hnd o (hb.buffer ▸ ho)
      · rcases List.mem_append.mp (hbuf ▸ ho) with hm | hm
        · exact hnd o hm
        · exact List.mem_singleton.mp hm ▸ (LTx.localOp_safe hloc).1
    | push i nd o hi ho =>
      have hnd := ihn nd (List.mem_of_getElem? hi)
      refine ⟨forall_mem_set ihn i hnd, fun e he => ?_⟩
      rcases List.mem_append.mp he with hm | hm
      · exact ihl e hm
      · exact List.mem_singleton.mp hm ▸ hnd o (List.mem_of_getElem? ho)
    | pull i nd a o hi hl =>
      refine ⟨forall_mem_set ihn i fun o' ho' => ihn nd (List.mem_of_getElem? hi) o' ?_, ihl⟩
      by_cases ha : a = i
      · simpa [ha] using ho'
      · have : o' ∈ (nd.r.execRemoteBase o).1.buffer := by simpa [ha] using ho'
        rwa [execRemoteBase_buffer] at this

/-! ## The delivery theorems, per datatype -/

/-- lists: every single execution of any delivery returns without a panic and IS the remote application of the list
    operation the wire operation denotes -/
theorem faults_list_deliveries_exact {cuids : List String} {S : RSys} (h : RReach .list cuids S) {p : PResp}
    {cl : RClient} (hp : p ∈ S.resps) (hi : S.clients[p.i]? = some cl) {pre : List Op} {o : Op} {post : List Op}
    (hsplit : newForeignOps cl.cuid cl.cp p.cp p.ops = pre ++ o :: post) :
    ∃ l, (execAll cl.r pre).state = .list l ∧ ((execAll cl.r pre).execRemoteBase o).2 = none ∧
      ((execAll cl.r pre).execRemoteBase o).1.state = .list (l.applyAllL (LNet.toL o).toList) := by
  obtain ⟨g, ps, pl, a, hg, hnd, hl, ha⟩ := deliver_trace h hp hi hsplit
  obtain ⟨ap, I⟩ := LNet.inv_reach (reach_toL hg)
  have N := I.node p.i _ (toL_get hnd)
  obtain ⟨_, _, hent⟩ := I.deliver (toL_get hnd) hl ha
  have hsafe := (glist_safe hg).2 _ (List.mem_of_getElem? hl)
  exact ⟨_, N.st, (LTx.execRemoteBase_safe _ _ N.st o hsafe).1, LNet.exec_toL _ _ o N.st hent.2.2.2.2⟩

/-- maps: every single execution of any delivery is a put or a remove; a remove finds its key in the map; no error, no
    panic; the new state IS the remote application -/
theorem faults_map_deliveries_exact {cuids : List String} {S : RSys} (h : RReach .map cuids S) {p : PResp}
    {cl : RClient} (hp : p ∈ S.resps) (hi : S.clients[p.i]? = some cl) {pre : List Op} {o : Op} {post : List Op}
    (hsplit : newForeignOps cl.cuid cl.cp p.cp p.ops = pre ++ o :: post) :
    ∃ m, (execAll cl.r pre).state = .map m ∧ isMapOp o = true ∧ (∀ k, o.body = .remove k → ∃ e, m.find k = some e) ∧
      ((execAll cl.r pre).execRemoteBase o).2 = none ∧
      ((execAll cl.r pre).execRemoteBase o).1.state = .map (mapApply m o) := by
  obtain ⟨g, ps, pl, a, hg, hnd, hl, ha⟩ := deliver_trace h hp hi hsplit
  have hR := reach_toM hg
  obtain ⟨m, hm, _⟩ := MNet.mnet_state_is_map _ hR _ (List.mem_of_getElem? (toM_get hnd))
  exact ⟨m, hm, MNet.mnet_deliveries_exact _ hR p.i _ a o m (toM_get hnd) hl ha hm⟩

/-- counters: every single execution of any delivery is an increase; no error, no panic -/
theorem faults_counter_deliveries_exact {cuids : List String} {S : RSys} (h : RReach .counter cuids S) {p : PResp}
    {cl : RClient} (hp : p ∈ S.resps) (hi : S.clients[p.i]? = some cl) {pre : List Op} {o : Op} {post : List Op}
    (hsplit : newForeignOps cl.cuid cl.cp p.cp p.ops = pre ++ o :: post) :
    ∃ v d, (execAll cl.r pre).state = .counter v ∧ o.body = .increase d ∧
      ((execAll cl.r pre).execRemoteBase o).2 = none ∧
      ((execAll cl.r pre).execRemoteBase o).1.state = .counter (counterIncrease v d) := by
  obtain ⟨g, ps, pl, a, hg, hnd, hl, ha⟩ := deliver_trace h hp hi hsplit
  have hR := reach_toM hg
  have hv := MNet.cnet_value_is_spec _ hR p.i _ (toM_get hnd)
  obtain ⟨d, hd⟩ := MNet.cnet_deliveries_exact _ hR p.i _ a o _ (toM_get hnd) hl ha hv
  exact ⟨_, d, hv, hd⟩

/-- documents: every single execution of any delivery is applicable (`GoodD`), never errs nor panics, IS `applyD`, and
    the replica keeps `DP.DocInv` (from `DNet.net_deliveries_exact`) -/
theorem faults_doc_deliveries_exact {cuids : List String} {S : RSys} (h : RReach .document cuids S) {p : PResp}
    {cl : RClient} (hp : p ∈ S.resps) (hi : S.clients[p.i]? = some cl) {pre : List Op} {o : Op} {post : List Op}
    (hsplit : newForeignOps cl.cuid cl.cp p.cp p.ops = pre ++ o :: post) :
    ∃ d x, (execAll cl.r pre).state = .doc d ∧ DR.toDOp o = some x ∧ DM.GoodD d [x] ∧ DR.ValuesOK x ∧
      ((execAll cl.r pre).execRemoteBase o).2 = none ∧
      ((execAll cl.r pre).execRemoteBase o).1.state = .doc (DM.applyD d x) ∧
      DP.DocInv ((execAll cl.r pre).execRemoteBase o).1 := by
  obtain ⟨g, ps, pl, a, hg, hnd, hl, ha⟩ := deliver_trace h hp hi hsplit
  have hR := reach_toD hg
  obtain ⟨ap, I⟩ := DNet.inv_reach hR
  have hst := (I.node p.i _ (toD_get hnd)).st
  obtain ⟨x, hx⟩ := DNet.net_deliveries_exact _ hR p.i _ a o _ (toD_get hnd) hl ha hst
  exact ⟨_, x, hst, hx⟩

/-- ALL datatypes: a delivery never makes a replica panic, whatever was duplicated, delayed or reordered: every remote
    execution of `deliver p` returns normally (what each of them does: the four theorems above) -/
theorem faults_deliveries_exact {typ : DtType} {cuids : List String} {S : RSys} (h : RReach typ cuids S) {p : PResp}
    {cl : RClient} (hp : p ∈ S.resps) (hi : S.clients[p.i]? = some cl) :
    ExecOK cl.r (newForeignOps cl.cuid cl.cp p.cp p.ops) := by
  apply execOK_of_each
  intro pre o post hsplit
  cases typ with
  | list => obtain ⟨_, _, h2, _⟩ := faults_list_deliveries_exact h hp hi hsplit; exact h2
  | map => obtain ⟨_, _, _, _, h2, _⟩ := faults_map_deliveries_exact h hp hi hsplit; exact h2
  | counter => obtain ⟨_, _, _, _, h2, _⟩ := faults_counter_deliveries_exact h hp hi hsplit; exact h2
  | document => obtain ⟨_, _, _, _, _, _, h2, _⟩ := faults_doc_deliveries_exact h hp hi hsplit; exact h2


/-! ## The executable form (for concrete runs) -/

inductive RAct where
  | call (i : Nat) (c : Call)
  | send (i : Nat)
  /-- the server handles the `k`-th request ever sent (again, if it was handled before) -/
  | serve (k : Nat)
  /-- the `k`-th response ever produced reaches its client (again, if it was delivered before) -/
  | deliver (k : Nat)

def RSys.act (S : RSys) : RAct → Option RSys
  | .call i c =>
    match S.clients[i]? with
    | some cl => some { S with clients := S.clients.set i { cl with r := (cl.r.call c).1 } }
    | none => none
  | .send i =>
    match S.clients[i]? with
    | some cl => some { S with reqs := S.reqs ++ [⟨i, cl.cp.sseq, cl.r.buffer.drop cl.cp.cseq⟩] }
    | none => none
  | .serve k =>
    match S.reqs[k]? with
    | some r =>
      match S.clients[r.i]? with
      | some cl =>
        match pushOps pDuid pCol ⟨S.log.length, (S.recOf cl.cuid).cseq⟩ r.ops [] with
        | .ok (cp2, docs) =>
          some ⟨S.clients, S.log ++ docs.map (·.op), alSet cl.cuid cp2 S.cps, S.reqs,
            S.resps ++ [⟨r.i, S.log.drop r.s, cp2⟩]⟩
        | .error _ => some S
      | none => none
    | none => none
  | .deliver k =>
    match S.resps[k]? with
    | some p =>
      match S.clients[p.i]? with
      | some cl => some { S with clients := S.clients.set p.i (cl.receive p) }
      | none => none
    | none => none

def RSys.run (S : RSys) : List RAct → Option RSys
  | [] => some S
  | a :: as => match S.act a with
    | some S' => S'.run as
    | none => none

def RActOK (typ : DtType) : RAct → Prop
  | .call _ c => callOK typ c
  | _ => True

theorem rstep_of_act {typ : DtType} {S S' : RSys} {a : RAct} (h : S.act a = some S') (hk : RActOK typ a) :
    RStep typ S S' := by
  cases a with
  | call i c =>
    simp only [RSys.act] at h
    split at h
    · next cl hn => cases h; exact .call S i cl c hn hk
    · cases h
  | send i =>
    simp only [RSys.act] at h
    split at h
    · next cl hn => cases h; exact .send S i cl hn
    · cases h
  | serve k =>
    simp only [RSys.act] at h
    split at h
    · next r hr =>
      split at h
      · next cl hn =>
        split at h
        · next cp2 docs hp => cases h; exact .serve S r cl cp2 docs (List.mem_of_getElem? hr) hn hp
        · next code hp => cases h; exact .refuse S r cl code (List.mem_of_getElem? hr) hn hp
      · cases h
    · cases h
  | deliver k =>
    simp only [RSys.act] at h
    split at h
    · next p hr =>
      split at h
      · next cl hn => cases h; exact .deliver S p cl (List.mem_of_getElem? hr) hn
      · cases h
    · cases h

theorem rreach_run {typ : DtType} {cuids : List String} : ∀ (as : List RAct) {S S' : RSys}, RReach typ cuids S →
    S.run as = some S' → (∀ a ∈ as, RActOK typ a) → RReach typ cuids S' :=
  run_induction (fun _ => rfl) (fun s a _ => by simp only [RSys.run]; cases s.act a <;> rfl)
    fun hr hk ha => .step hr (rstep_of_act ha hk)

/-! ## Non-vacuity (List): three clients; a lost, a duplicated, a late and a stale response

`a` inserts `[1, 2]` (`a1`), pushes; the response (request 0 → response 0) is LOST.  `b`, which has seen nothing, inserts
`"b"` at the head (`b1`) and pushes (request 1 → response 1).  `a` inserts `3` at the end (`a2`) and RETRIES from its old
checkpoint with `[a1, a2]` (request 2): the server skips `a1`, stores `a2` (log `a1, b1, a2`) and answers with the old log
`[a1, b1]`, checkpoint (3, 2) (response 2); `a` executes exactly `b1`.  Response 2 is delivered a SECOND time, then the lost
response 0 arrives LATE: nothing changes.  `b` receives response 1 (executes `a1`).  The very first request is served
AGAIN (response 3: nothing stored) and that response is delivered: nothing changes.  `b` pulls again (request 3 →
response 4, executes `a2`), then the STALE response 1 is delivered to `b` once more: nothing.  `c`, which never wrote,
pulls (request 4 → response 5), executes the three operations, and receives the same response TWICE. -/
namespace Ex

def cuids : List String := ["a", "b", "c"]

def acts : List RAct := [
  .call 0 (.linsert 0 [.num 1, .num 2]), .send 0, .serve 0,            -- response 0: lost
  .call 1 (.linsert 0 [.str "b"]), .send 1, .serve 1,                  -- b pushes in between
  .call 0 (.linsert 2 [.num 3]), .send 0, .serve 2,                    -- the retry: [a1, a2] from checkpoint (0, 0)
  .deliver 2, .deliver 2,                                              -- delivered twice
  .deliver 0,                                                          -- the lost response, late
  .deliver 1,
  .serve 0, .deliver 3,                                                -- the first request once more, and its answer
  .send 1, .serve 3, .deliver 4,
  .deliver 1,                                                          -- stale for b by now
  .send 2, .serve 4, .deliver 5, .deliver 5]

def finalS : RSys := ((RSys.init .list cuids).run acts).getD ⟨[], [], [], [], []⟩

theorem final_eval :
    ((RSys.init .list cuids).run acts).isSome = true ∧
    (∀ cl ∈ finalS.clients, cl.cp.sseq = finalS.log.length ∧ (finalS.recOf cl.cuid).cseq = cl.r.buffer.length) ∧
    (finalS.log.map (fun o => (o.id.cuid, o.id.seq)) = [("a", 1), ("b", 1), ("a", 2)] ∧
      finalS.reqs.length = 5 ∧ finalS.resps.length = 6) ∧
    finalS.clients.map (fun cl => cl.applied.map (fun o => (o.id.cuid, o.id.seq))) =
      [[("b", 1)], [("a", 1), ("a", 2)], [("a", 1), ("b", 1), ("a", 2)]] := by
  decide +kernel

theorem run_final : (RSys.init .list cuids).run acts = some finalS := some_getD final_eval.1

theorem acts_ok : ∀ a ∈ acts, RActOK .list a := by
  intro a _
  cases a <;> trivial

theorem reach_final : RReach .list cuids finalS := rreach_run acts (.init (by decide)) run_final acts_ok

theorem len_final : finalS.clients.length = 3 := clients_len reach_final

theorem quiescent_final : QuiescentR finalS := final_eval.2.1

/-- the log holds each accepted operation once (`a1` was pushed twice, by the first request and by the retry; the first
    request was served twice); six responses were produced for five requests -/
example : finalS.log.map (fun o => (o.id.cuid, o.id.seq)) = [("a", 1), ("b", 1), ("a", 2)] ∧
    finalS.reqs.length = 5 ∧ finalS.resps.length = 6 := final_eval.2.2.1

/-- what every client has executed (ghost field): the others' operations, each exactly once, in log order -/
example : finalS.clients.map (fun cl => cl.applied.map (fun o => (o.id.cuid, o.id.seq))) =
    [[("b", 1)], [("a", 1), ("a", 2)], [("a", 1), ("b", 1), ("a", 2)]] := final_eval.2.2.2

/-- `faults_list_quiescent_converged` instantiated -/
example : (finalS.clients[0]'(by rw [len_final]; decide)).r.state = (finalS.clients[1]'(by rw [len_final]; decide)).r.state :=
  faults_list_quiescent_converged finalS reach_final quiescent_final 0 1 _ _
example : (finalS.clients[1]'(by rw [len_final]; decide)).r.state = (finalS.clients[2]'(by rw [len_final]; decide)).r.state :=
  faults_list_quiescent_converged finalS reach_final quiescent_final 1 2 _ _

def tA0 : Ts := ⟨0, 1, "a", 0⟩
def tA1 : Ts := ⟨0, 1, "a", 1⟩
def tA2 : Ts := ⟨0, 2, "a", 0⟩
def tB : Ts := ⟨0, 1, "b", 0⟩

/-- … and the common state: `["b", 1, 2, 3]` -/
def common : DState := .list
  ⟨[⟨tB, some (.str "b"), tB⟩, ⟨tA0, some (.num 1), tA0⟩, ⟨tA1, some (.num 2), tA1⟩, ⟨tA2, some (.num 3), tA2⟩], 4⟩

theorem final_states : finalS.clients.map (·.r.state) = [common, common, common] := by rfl

theorem state_of_states {cls : List RClient} {ss : List DState} (h : cls.map (·.r.state) = ss) {i : Nat}
    (hi : i < cls.length) {s : DState} (e : ss[i]? = some s) : cls[i].r.state = s := by
  subst h
  rw [List.getElem?_map, List.getElem?_eq_getElem hi] at e
  exact Option.some.inj e

example : (finalS.clients[0]'(by rw [len_final]; decide)).r.state = common := state_of_states final_states _ rfl
example : (finalS.clients[1]'(by rw [len_final]; decide)).r.state = common := state_of_states final_states _ rfl
example : (finalS.clients[2]'(by rw [len_final]; decide)).r.state = common := state_of_states final_states _ rfl

/-- `proj_reach` / `proto_inv_client` instantiated: J3 in the final state -/
example : ∀ cl ∈ (proj finalS).clients,
    cl.applied = ((proj finalS).log.take cl.cp.sseq).filter (fun o => o.id.cuid ≠ cl.cuid) :=
  fun cl hcl => (proto_inv_client (proj_reach reach_final) cl hcl).2.2.2.2.2

/-- `net_view` instantiated: the datatype view of the final state is a reachable state of `LNet` -/
example : LNet.Reach (cuidF cuids) 3 (lnetOf cuids finalS) := reach_toL (net_view reach_final)

/-- a state in the middle of the run, right after the retry was answered and `a` has received that answer: `a` and `b`
    have different operations; then the duplicate and the late lost response change NOTHING at `a` -/
def S10 : RSys := ((RSys.init .list cuids).run (acts.take 10)).getD ⟨[], [], [], [], []⟩
def S12 : RSys := ((RSys.init .list cuids).run (acts.take 12)).getD ⟨[], [], [], [], []⟩
theorem s12_eval : ((RSys.init .list cuids).run (acts.take 12)).isSome = true ∧
    ¬ ∀ cl ∈ S12.clients, cl.cp.sseq = S12.log.length ∧ (S12.recOf cl.cuid).cseq = cl.r.buffer.length := by
  decide +kernel
theorem run_s12 : (RSys.init .list cuids).run (acts.take 12) = some S12 := some_getD s12_eval.1
theorem reach_s12 : RReach .list cuids S12 :=
  rreach_run (acts.take 12) (.init (by decide)) run_s12 (fun a ha => acts_ok a (List.mem_of_mem_take ha))

example : S10.clients.map (fun cl => (cl.cp, cl.r.state)) = S12.clients.map (fun cl => (cl.cp, cl.r.state)) := by rfl
example : ¬ QuiescentR S12 := s12_eval.2

/-- in that (non-quiescent) state the stale response 1 … is still deliverable to `b`, the lost response 0 and the
    duplicate of response 2 to `a`: `faults_deliveries_exact` says that every one of these deliveries runs without a panic -/
example : ∀ p ∈ S12.resps, ∀ cl, S12.clients[p.i]? = some cl →
    ExecOK cl.r (newForeignOps cl.cuid cl.cp p.cp p.ops) :=
  fun _ hp _ hi => faults_deliveries_exact reach_s12 hp hi

end Ex

end Orda.PNet
