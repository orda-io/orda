/-
The USER-FACING document after the REST patch endpoint (C19 / C11): the driver runs, after `Store.patchDocument`, the snapshot
jobs it returned (`runJobs` mirrors the fold over `jobs` in the "patch" case of `Sim.svcStep`, Driver.lean).

How `userDocs` is keyed and what "replace" means (Model/Server.lean, `Store.updateSnapshot duid colName`): the user collection
is the list `st.userDocs` of `⟨col, key, ver, value⟩`; an entry is addressed by the pair (collection NAME `col`, `key`).  The
job looks the datatype record up by id, rebuilds `Store.latest` = `(r, ver)`, and
  * if a snapshot record with this id and version `ver` exists already: writes NOTHING (`updateSnapshot_skips`);
  * otherwise appends the snapshot `⟨colNum, duid, ver, r.opId, key, r.state⟩` and REPLACES the user document: ALL entries
    with (col = colName ∧ key = doc.key) are filtered out and ONE entry `⟨colName, key, ver, r.state⟩` is appended.
The collection name is found from the job's collection NUMBER.  "No snapshot at the new version yet" is derived from the
bound `hsnapb`, which follows from `Store.SnapInv` (`snap_bound_of_snapInv`).
-/
import Orda.Proofs.RestPatchCreate
import Orda.Proofs.SnapReplay
namespace Orda.RestP
open Orda

/-- the driver's "patch" step after the endpoint: run the returned snapshot jobs, in order, each under the
    name of the collection its number is found under (mirrors the fold in `Sim.svcStep`, case "patch") -/
def runJobs (st1 : Store) (jobs : List (String × Nat)) : Store :=
  jobs.foldl (fun acc (duid, colNum) =>
    match acc.collections.find? (fun c => c.num = colNum) with
    | some cd => acc.updateSnapshot duid cd.name
    | none => acc) st1

/-- what the user sees afterwards: exactly ONE user document for (collection name, key), at version `n`, whose state is a
    document with the target as canonical view; a snapshot record of that datatype at version `n` with the same state; and
    `n` is the end of the log of the datatype record found under the key -/
def Published (st2 : Store) (col : CollectionDoc) (key duid : String) (n : Nat) (target : JVal) : Prop :=
  ∃ (s : DState) (dd : Doc), s = .doc dd ∧ dd.view.canon = target.canon ∧
    st2.userDocs.filter (fun u => u.col = col.name ∧ u.key = key) = [⟨col.name, key, n, s⟩] ∧
    (∃ sn ∈ st2.snapshots, sn.duid = duid ∧ sn.sseq = n ∧ sn.key = key ∧ sn.snap = s) ∧
    (∃ d', st2.getDatatypeByKey col.num key = some d' ∧ d'.duid = duid ∧ d'.sseqEnd = n)

/-! ## one job -/

/-- a job that finds a snapshot of the version it reaches writes nothing (duplicate `_id`): the user document stays as it is -/
theorem updateSnapshot_skips {st : Store} {duid colName : String} {doc : DatatypeDoc} {r : Replica} {n : Nat}
    (hg : st.getDatatype duid = some doc) (hl : st.latest doc = some (r, n))
    (hex : st.snapshots.any (fun s => s.duid = duid ∧ s.sseq = n) = true) : st.updateSnapshot duid colName = st := by
  unfold Store.updateSnapshot
  simp only [hg, hl, hex, if_true]

theorem publish_job {st1 : Store} {col : CollectionDoc} {duid : String} {doc : DatatypeDoc} {r : Replica} {n : Nat}
    (hnum : st1.collections.find? (fun c => c.num = col.num) = some col)
    (hg : st1.getDatatype duid = some doc) (hl : st1.latest doc = some (r, n))
    (hno : ∀ s ∈ st1.snapshots, s.duid = duid → s.sseq ≠ n) :
    runJobs st1 [(duid, col.num)] =
      { st1 with snapshots := st1.snapshots ++ [⟨doc.colNum, duid, n, r.opId, doc.key, r.state⟩],
                 userDocs := (st1.userDocs.filter (fun u => !(u.col = col.name ∧ u.key = doc.key))) ++
                             [⟨col.name, doc.key, n, r.state⟩] } := by
  have hany : st1.snapshots.any (fun s => s.duid = duid ∧ s.sseq = n) = false := by
    rw [Bool.eq_false_iff]
    intro h
    rw [List.any_eq_true] at h
    obtain ⟨s, hs, hp⟩ := h
    simp only [decide_eq_true_eq] at hp
    exact hno s hs hp.1 hp.2
  unfold runJobs
  simp only [List.foldl_cons, List.foldl_nil, hnum]
  unfold Store.updateSnapshot
  simp only [hg, hl, hany, Bool.false_eq_true, if_false]

theorem filter_replace (c k : String) (l : List UserDoc) (u : UserDoc) (hu : u.col = c ∧ u.key = k) :
    ((l.filter (fun u => !(u.col = c ∧ u.key = k))) ++ [u]).filter (fun u => u.col = c ∧ u.key = k) = [u] := by
  rw [List.filter_append, List.filter_filter]
  have h1 : l.filter (fun a => (decide (a.col = c ∧ a.key = k)) && !(decide (a.col = c ∧ a.key = k))) = [] := by
    apply List.filter_eq_nil_iff.2
    intro a _
    simp
  rw [h1]
  simp [hu]

theorem published_of_job {st1 : Store} {col : CollectionDoc} {key duid : String} {doc : DatatypeDoc} {r : Replica} {n : Nat}
    {target : JVal} {dd : Doc}
    (hnum : st1.collections.find? (fun c => c.num = col.num) = some col)
    (hk : st1.getDatatypeByKey col.num key = some doc) (hdu : doc.duid = duid) (hend : doc.sseqEnd = n)
    (hlog : LogInv st1) (hl : st1.latest doc = some (r, n))
    (hno : ∀ s ∈ st1.snapshots, s.duid = duid → s.sseq ≠ n)
    (hs : r.state = .doc dd) (hv : dd.view.canon = target.canon) :
    Published (runJobs st1 [(duid, col.num)]) col key duid n target := by
  have hkey : doc.key = key := (SL.getDatatypeByKey_some hk).2.2
  rw [publish_job hnum (hdu ▸ SL.getDatatype_of_mem hlog (SL.getDatatypeByKey_some hk).1 :) hl hno, hkey]
  refine ⟨r.state, dd, hs, hv, ?_, ?_, ?_⟩
  · exact filter_replace col.name key _ _ ⟨rfl, rfl⟩
  · exact ⟨⟨doc.colNum, duid, n, r.opId, key, r.state⟩, by simp, rfl, rfl, rfl, rfl⟩
  · exact ⟨doc, hk, hdu, hend⟩

/-! ## what the endpoint leaves untouched -/

section frame
open SL SN

theorem processPack_frame (st : Store) (cl : ClientDoc) (col : CollectionDoc) (p : Pack) (hlog : LogInv st) :
    (processPack st cl col p).store.snapshots = st.snapshots ∧ (processPack st cl col p).store.userDocs = st.userDocs ∧
    (processPack st cl col p).store.collections = st.collections ∧ LogInv (processPack st cl col p).store := by
  obtain ⟨h1, h2, _⟩ := processPack_store st cl col p hlog
  refine ⟨h1, h2, ?_, logInv_processPack st cl col p hlog⟩
  rcases processPack_shape st cl col p with ⟨resp, he, _⟩ | ⟨d, doc, cp2, nd, he, _, _⟩
  · rw [he]
  · rw [he]; rfl

theorem patchDocument_frame (st : Store) (colName key : String) (target : JVal) (tmpDuid tmpCuid : String) (hlog : LogInv st) :
    (st.patchDocument colName key target tmpDuid tmpCuid).1.snapshots = st.snapshots ∧
    (st.patchDocument colName key target tmpDuid tmpCuid).1.userDocs = st.userDocs ∧
    (st.patchDocument colName key target tmpDuid tmpCuid).1.collections = st.collections ∧
    LogInv (st.patchDocument colName key target tmpDuid tmpCuid).1 := by
  rcases patchDocument_cases st colName key target tmpDuid tmpCuid with ⟨a, e⟩ | ⟨col, w, r2, e⟩
  · rw [e]
    exact ⟨rfl, rfl, rfl, hlog⟩
  · have h1 : (pushResult st col w r2).1 =
        (processPack st ⟨patchApiCuid, "ordaPatchAPI", col.num, 2, 0⟩ col ({ w with rep := r2 }).createPack).store := rfl
    rw [e, h1]
    exact processPack_frame st _ col _ hlog

/-- a snapshot's version never exceeds the end of the log: from `Store.SnapInv` -/
theorem snap_bound_of_snapInv {st : Store} {d : DatatypeDoc} (hs : st.SnapInv) (hd : d ∈ st.datatypes) :
    ∀ s ∈ st.snapshots, s.duid = d.duid → s.sseq ≤ d.sseqEnd :=
  fun s hsm e => (hs s hsm d hd e.symm).1

end frame

/-! ## after the job -/

set_option linter.unusedVariables false in
/-- EXISTING document, target different from the current value: after the returned snapshot job has run, the user
    collection holds exactly ONE document for (col.name, key); its version is the new end of the log; its state is a document
    whose canonical view is the target; a snapshot record of that version with the same state exists.
    Beyond `patchDocument_stores_target`: `hnum` (the collection is found under its NUMBER), `hsnapb` (no stored snapshot of
    the document is beyond the end of its log — from `Store.SnapInv`, `snap_bound_of_snapInv`; it gives "no snapshot at the new
    version yet"), `hchg` (the target differs from the current value; otherwise see `patch_same_starts_no_job`); `hk` is not
    used (`patchDocument_pushes` does not ask it). -/
theorem patch_then_snapshot_job_publishes_target
    (st : Store) (colName key tmpDuid tmpCuid : String) (col : CollectionDoc) (d : DatatypeDoc) (r0 : Replica) (ver : Nat)
    (hc : st.getCollection colName = some col) (hd : st.getDatatypeByKey col.num key = some d) (ht : d.typ = .document)
    (hl : st.latest d = some (r0, ver))
    (hinv : DP.DocInv { r0 with opId := { r0.opId with cuid := tmpCuid }, cp := ⟨ver, 0⟩ })
    (hlog : LogInv st) (hend : ver = d.sseqEnd) (hpos : 0 < ver)
    (hadmin : d.sub patchApiCuid false = none)
    (hhist : ∀ d0, r0.state = .doc d0 → DLR.HistOK d0)
    (hnum : st.collections.find? (fun c => c.num = col.num) = some col)
    (hsnapb : ∀ s ∈ st.snapshots, s.duid = d.duid → s.sseq ≤ d.sseqEnd)
    (tgt : List (String × JVal)) (hn : (JVal.obj tgt).hasNull = false) (hk : DC.JKeysND (.obj tgt))
    (hchg : ∀ d0, r0.state = .doc d0 → d0.view.canon ≠ (JVal.obj tgt).canon) :
    ∃ n, d.sseqEnd < n ∧
      Published (runJobs (st.patchDocument colName key (.obj tgt) tmpDuid tmpCuid).1
                         (st.patchDocument colName key (.obj tgt) tmpDuid tmpCuid).2.2.2) col key d.duid n (.obj tgt) := by
  obtain ⟨d0, hs0, I, hkeys⟩ := id hinv  -- `id`: `hinv` stays
  obtain ⟨ops, v, q1, d1, hne, heq, _, hlat, hq1, hv⟩ := patchDocument_pushes st colName key tmpDuid tmpCuid col d r0 ver
    hc hd ht hl hinv hlog hend hpos hadmin hs0 (hhist d0 hs0) tgt hn
    (fun h => hchg d0 hs0 (view_of_script_nil I hkeys tgt hn h))
  have hlen : 0 < ops.length := List.length_pos_iff.2 hne
  have hlog' : LogInv (pushed st col d ops) := by
    have h := (patchDocument_frame st colName key (.obj tgt) tmpDuid tmpCuid hlog).2.2.2
    rwa [heq] at h
  rw [heq]
  refine ⟨d.sseqEnd + ops.length, Nat.lt_add_of_pos_right hlen, ?_⟩
  show Published (runJobs (pushed st col d ops) [(d.duid, col.num)]) col key d.duid _ _
  exact published_of_job (doc := { d with sseqEnd := d.sseqEnd + ops.length }) (r := q1) (dd := d1) (hnum := hnum)
    (hk := findByKey_upsert col.num key hd rfl rfl rfl) (hdu := rfl) (hend := rfl) (hlog := hlog') (hl := hlat)
    (hno := fun s hs e => by have := hsnapb s hs e; omega) (hs := hq1) (hv := hv)

/-- CREATED document (the key did not exist, the target is a non-empty object): after the returned snapshot job has run,
    the user collection holds exactly ONE document for (col.name, key), at the end of the new log, with the target as value,
    and the snapshot record exists.  Beyond `patchDocument_creates_and_stores_target`: `hnum`. -/
theorem patch_create_then_snapshot_job_publishes_target
    (st : Store) (colName key tmpDuid tmpCuid : String) (col : CollectionDoc)
    (hc : st.getCollection colName = some col) (hd : st.getDatatypeByKey col.num key = none)
    (hlog : LogInv st) (hfresh : st.getDatatype tmpDuid = none) (hsnap : ∀ s ∈ st.snapshots, s.duid ≠ tmpDuid)
    (hnum : st.collections.find? (fun c => c.num = col.num) = some col)
    (tgt : List (String × JVal)) (hn : (JVal.obj tgt).hasNull = false) (hk : DC.JKeysND (.obj tgt)) (hne : tgt ≠ []) :
    ∃ n, 2 ≤ n ∧
      Published (runJobs (st.patchDocument colName key (.obj tgt) tmpDuid tmpCuid).1
                         (st.patchDocument colName key (.obj tgt) tmpDuid tmpCuid).2.2.2) col key tmpDuid n (.obj tgt) := by
  obtain ⟨f1, _, f3, f4⟩ := patchDocument_frame st colName key (.obj tgt) tmpDuid tmpCuid hlog
  obtain ⟨st', v, n, nd, r', heq, _, hn2, _, _, _, _, hget, hlat, dd, hst, hview⟩ :=
    patchDocument_creates_and_stores_target st colName key tmpDuid tmpCuid col hc hd hlog hfresh hsnap tgt hn hk hne
  rw [heq] at f1 f3 f4 ⊢
  simp only at f1 f3 f4
  refine ⟨n, hn2, ?_⟩
  show Published (runJobs st' [(tmpDuid, col.num)]) col key tmpDuid n _
  exact published_of_job (doc := { duid := tmpDuid, key := key, colNum := col.num, typ := .document, sseqEnd := n })
    (r := r') (dd := dd) (hnum := f3 ▸ hnum) (hk := hget) (hdu := rfl) (hend := rfl) (hlog := f4) (hl := hlat)
    (hno := fun s hs e => absurd e (hsnap s (f1 ▸ hs))) (hs := hst) (hv := hview)

/-- the no-op patch (the target IS the current value) returns no job: nothing runs, the store — in particular the user
    document — is left exactly as it is -/
theorem patch_same_starts_no_job
    (st : Store) (colName key tmpDuid tmpCuid : String) (col : CollectionDoc) (d : DatatypeDoc) (r0 : Replica) (ver : Nat)
    (dd : Doc)
    (hc : st.getCollection colName = some col) (hd : st.getDatatypeByKey col.num key = some d) (ht : d.typ = .document)
    (hl : st.latest d = some (r0, ver)) (hs : r0.state = .doc dd)
    (hinv : DP.DocInv { r0 with opId := { r0.opId with cuid := tmpCuid }, cp := ⟨ver, 0⟩ }) :
    (st.patchDocument colName key dd.view tmpDuid tmpCuid).2.2.2 = [] ∧
    runJobs (st.patchDocument colName key dd.view tmpDuid tmpCuid).1
            (st.patchDocument colName key dd.view tmpDuid tmpCuid).2.2.2 = st := by
  rw [patchDocument_same_eq st colName key tmpDuid tmpCuid col d r0 ver dd hc hd ht hl hs hinv]
  exact ⟨rfl, rfl⟩

/-! ## non-vacuity: the stores of `Ex` (existing document "k") and `ExC` (new key "n") -/

namespace ExP
open Ex ExC

theorem hnumP : st3.collections.find? (fun c => c.num = col.num) = some col := by decide +kernel

theorem hsnapbP : ∀ s ∈ st3.snapshots, s.duid = d.duid → s.sseq ≤ d.sseqEnd := by
  have h : st3.snapshots = [] := List.isEmpty_iff.1 st3_factsC.2.2
  intro s hs
  rw [h] at hs
  cases hs

/-- the current value of "k" is not the target -/
theorem hview0 : (docOf? r0.state).map (fun x => decide (x.view.canon = (JVal.obj tgt).canon)) = some false := by
  decide +kernel

theorem hchgP : ∀ d0, r0.state = .doc d0 → d0.view.canon ≠ (JVal.obj tgt).canon := by
  intro d0 h
  have h0 := hview0
  rw [h] at h0
  simpa [docOf?] using h0

/-- `patch_then_snapshot_job_publishes_target` instantiated on the existing document "k" of `Ex.st3`: all hypotheses discharged -/
example : ∃ n, d.sseqEnd < n ∧
    Published (runJobs (st3.patchDocument "col" "k" (.obj tgt) "dX" "tmp").1
                       (st3.patchDocument "col" "k" (.obj tgt) "dX" "tmp").2.2.2) col "k" d.duid n (.obj tgt) :=
  patch_then_snapshot_job_publishes_target st3 "col" "k" "dX" "tmp" col d r0 3 hc hd ht hl hinv hlog hend (by decide) hadmin
    hhist hnumP hsnapbP tgt tgt_nonull tgt_keys hchgP

/-- `patch_create_then_snapshot_job_publishes_target` instantiated on the new key "n" -/
example : ∃ n, 2 ≤ n ∧
    Published (runJobs (st3.patchDocument "col" "n" (.obj tgtC) "dX" "tmp").1
                       (st3.patchDocument "col" "n" (.obj tgtC) "dX" "tmp").2.2.2) col "n" "dX" n (.obj tgtC) :=
  patch_create_then_snapshot_job_publishes_target st3 "col" "n" "dX" "tmp" col hc hdC hlog hfreshC hsnapC hnumP
    tgtC tgtC_nonull tgtC_keys (by simp [tgtC])

/-- kernel-evaluated: the user collection after the job — ONE document ("col", "n") at version 4 with the target as value -/
example : (runJobs (st3.patchDocument "col" "n" (.obj tgtC) "dX" "tmp").1
                  (st3.patchDocument "col" "n" (.obj tgtC) "dX" "tmp").2.2.2).userDocs.map
      (fun u => (u.col, u.key, u.ver, (docOf? u.value).map (fun x => x.view.canon))) =
    [("col", "n", 4, some (.obj [("b", .bool true), ("m", .arr [.arr [.num 1, .num 2], .obj [("y", .str "z")], .num 7])]))] := by
  decide +kernel

/-- … and the snapshot record at that version -/
example : (runJobs (st3.patchDocument "col" "n" (.obj tgtC) "dX" "tmp").1
                  (st3.patchDocument "col" "n" (.obj tgtC) "dX" "tmp").2.2.2).snapshots.map
      (fun s => (s.colNum, s.duid, s.sseq, s.key, (docOf? s.snap).map (fun x => x.view.canon))) =
    [(1, "dX", 4, "n", some (.obj [("b", .bool true), ("m", .arr [.arr [.num 1, .num 2], .obj [("y", .str "z")], .num 7])]))] := by
  decide +kernel

/-- the job run a SECOND time finds its snapshot and writes nothing (`updateSnapshot_skips`): still one snapshot, one user
    document -/
example : ((runJobs (st3.patchDocument "col" "n" (.obj tgtC) "dX" "tmp").1
                  ((st3.patchDocument "col" "n" (.obj tgtC) "dX" "tmp").2.2.2 ++
                   (st3.patchDocument "col" "n" (.obj tgtC) "dX" "tmp").2.2.2)).snapshots.map (fun s => (s.duid, s.sseq)),
           (runJobs (st3.patchDocument "col" "n" (.obj tgtC) "dX" "tmp").1
                  ((st3.patchDocument "col" "n" (.obj tgtC) "dX" "tmp").2.2.2 ++
                   (st3.patchDocument "col" "n" (.obj tgtC) "dX" "tmp").2.2.2)).userDocs.map (fun u => (u.col, u.key, u.ver))) =
    ([("dX", 4)], [("col", "n", 4)]) := by
  decide +kernel

/-- `patch_same_starts_no_job` instantiated: patching "k" to its current value starts no job, the store is as before -/
example : ∃ dd, r0.state = .doc dd ∧ (st3.patchDocument "col" "k" dd.view "dX" "tmp").2.2.2 = [] ∧
    runJobs (st3.patchDocument "col" "k" dd.view "dX" "tmp").1 (st3.patchDocument "col" "k" dd.view "dX" "tmp").2.2.2 = st3 := by
  obtain ⟨dd, hs⟩ := docInv_tmp_state (r0 := r0) (tmpCuid := "tmp") (ver := 3) hinv
  exact ⟨dd, hs, patch_same_starts_no_job st3 "col" "k" "dX" "tmp" col d r0 3 dd hc hd ht hl hs hinv⟩

end ExP

end Orda.RestP
