/-
Remote object operations of the JSON document (`putInObject` / `deleteInObject`), for values of any depth, over the
table layer of Proofs/DocTable.lean.  Two operations with distinguishable timestamps do NOT commute up to `DocEq`
(`DC.Ex`: key order, deletion time of a superseded container, identity of a buried occupant).  They commute up to `Sim`,
equality of the abstraction `abs` (shapes, live elements, per-key last-writer-wins state, sizes, tombstone flags), because
`abs` turns each operation into "add the new nodes, one LWW step on a key" (`sim_op`, `aop_comm`).  On the lookup
function an applicable operation is an effect `Eff` (`find_applyOp_eff`) of the closed form `RStep`, from which
well-formedness, the depth bound, distinct keys and the frame facts follow for the object and the array operations
(Proofs/DocArr.lean) alike; two such steps with disjoint footprints commute (`rstep_comm`), so operations on different
parents commute up to `DocEq`.  From commutation up to `Sim`, the closed form keeping every operation applicable on the
way: convergence under permutation (`Exch.perm_fold_equiv`), what a key holds after any order (`key_denote`), and equal key-sorted views (`JVal.canon`; the fuel of `view` suffices by the depth bound
`Bounded`).  The view lemmas are proved for `DA.ASim`, the coarser relation the array operations need, which forgets the
child recorded in an array skeleton; `Sim` is the special case.
-/
import Orda.Model.Patch
import Orda.Model.Replica
import Orda.Proofs.DocTable
import Orda.Proofs.MaxBy
import Orda.Proofs.JsonCanon
import Orda.Proofs.Exchange
namespace Orda
namespace DC

/-! ### the observable content of a document

`abs d` forgets what differs between replicas that applied the same operations in different orders and
that no later operation or view can see: the order of keys inside an object, which tombstone occupies a
deleted key, the deletion timestamp of a container nobody references any more, and tombstoned elements. -/

/-- the state of a child reference: tombstone flag, LWW time, the live occupant -/
structure KeySt where
  tomb : Bool
  time : Ts
  occ : Option Ts
deriving DecidableEq, Repr

def refSt (d : Doc) (c : Ts) : KeySt := ⟨d.isTomb c, d.timeOf c, if d.isTomb c then none else some c⟩

inductive Shape where
  | elem (v : JVal)
  | obj
  | arr (sl : List (Ts × Ts × KeySt))

def Shape.isElem : Option (Option Ts × Shape) → Bool
  | some (_, .elem _) => true
  | _ => false
def Shape.isCont : Option (Option Ts × Shape) → Bool
  | some (_, .elem _) => false
  | some _ => true
  | none => false

@[ext] structure Abs where
  /-- parent and skeleton of every container and of every LIVE element -/
  shape : Ts → Option (Option Ts × Shape)
  /-- tombstone flag of a container -/
  dead : Ts → Bool
  /-- per object and key: the state of the occupant -/
  key : Ts → String → Option KeySt
  size : Ts → Int

def shapeOf (d : Doc) (c : Ts) : Option (Option Ts × Shape) :=
  match d.find c with
  | none => none
  | some n => match n.kind with
    | .elem v => if n.d.isSome then none else some (n.parent, .elem v)
    | .obj _ _ => some (n.parent, .obj)
    | .arr sl _ => some (n.parent, .arr (sl.map fun x => (x.1, x.2, refSt d x.2)))

def deadOf (d : Doc) (c : Ts) : Bool :=
  match d.find c with
  | none => false
  | some n => match n.kind with
    | .elem _ => false
    | _ => n.d.isSome

def keyOf' (d : Doc) (c : Ts) (k : String) : Option KeySt :=
  match d.find c with
  | none => none
  | some n => match n.kind with
    | .obj m _ => (alFind k m).map (refSt d)
    | _ => none

def sizeOf' (d : Doc) (c : Ts) : Int :=
  match d.find c with
  | none => 0
  | some n => match n.kind with
    | .elem _ => 0
    | .obj _ s => s
    | .arr _ s => s

def abs (d : Doc) : Abs := ⟨shapeOf d, deadOf d, keyOf' d, sizeOf' d⟩

/-- observational equivalence of documents -/
def Sim (a b : Doc) : Prop := abs a = abs b

theorem sim_refl (a : Doc) : Sim a a := rfl
theorem sim_symm {a b : Doc} (h : Sim a b) : Sim b a := Eq.symm h
theorem sim_trans {a b c : Doc} (h1 : Sim a b) (h2 : Sim b c) : Sim a c := Eq.trans h1 h2
theorem sim_equivalence : Equivalence Sim := ⟨sim_refl, sim_symm, sim_trans⟩

theorem refSt_of_find {a b : Doc} {c : Ts} (h : a.find c = b.find c) : refSt a c = refSt b c := by
  unfold refSt; rw [isTomb_of_find h, timeOf_of_find h]

theorem refSt_of_d {a b : Doc} {c : Ts} {n n' : DNode} (h1 : a.find c = some n) (h2 : b.find c = some n')
    (hd : n'.d = n.d) (hc : n'.c = n.c) : refSt b c = refSt a c := by
  simp only [refSt, Doc.isTomb, Doc.timeOf, h1, h2, hd, hc]

/-- references in equal states are both dead, or both live and the same node (the `occ` of a live state) -/
theorem refSt_live {a b : Doc} {c c' : Ts} (h : refSt a c = refSt b c') (hl : a.isTomb c = false) :
    b.isTomb c' = false ∧ c = c' := by
  have ht : b.isTomb c' = false := (congrArg KeySt.tomb h).symm.trans hl
  have ho := congrArg KeySt.occ h
  simp only [refSt, hl, ht, Bool.false_eq_true, if_false, Option.some.injEq] at ho
  exact ⟨ht, ho⟩

theorem abs_local {a b : Doc} {c : Ts} (h : a.find c = b.find c)
    (hk : ∀ n, a.find c = some n → ∀ ch ∈ kids n.kind, refSt a ch = refSt b ch) :
    shapeOf a c = shapeOf b c ∧ deadOf a c = deadOf b c ∧ (∀ k, keyOf' a c k = keyOf' b c k) ∧
      sizeOf' a c = sizeOf' b c := by
  unfold shapeOf deadOf keyOf' sizeOf'
  rw [← h]
  cases hf : a.find c with
  | none => simp
  | some n =>
    have hk' := hk n hf
    obtain ⟨nc, nd, np, nk⟩ := n
    cases nk with
    | elem v => simp
    | obj m s =>
      simp only [true_and, and_true]
      intro k
      cases hal : alFind k m with
      | none => rfl
      | some ch =>
        simp only [Option.map_some, Option.some.injEq]
        apply hk'
        exact alFind_mem_vals hal
    | arr sl s =>
      simp only [and_true, Option.some.injEq, Prod.mk.injEq, true_and, Shape.arr.injEq, implies_true]
      apply List.map_congr_left
      intro x hx
      have : refSt a x.2 = refSt b x.2 := by
        apply hk'
        exact List.mem_map.mpr ⟨x, hx, rfl⟩
      rw [this]

theorem sim_of_docEq {a b : Doc} (h : DocEq a b) : Sim a b := by
  unfold Sim abs
  have := fun c => abs_local (a := a) (b := b) (c := c) (h c) (fun _ _ ch _ => refSt_of_find (h ch))
  congr 1
  · funext c; exact (this c).1
  · funext c; exact (this c).2.1
  · funext c k; exact (this c).2.2.1 k
  · funext c; exact (this c).2.2.2

/-! ### abstract operations -/

def emptyAbs : Abs := ⟨fun _ => none, fun _ => false, fun _ _ => none, fun _ => 0⟩

/-- add new nodes -/
def union (A N : Abs) : Abs :=
  ⟨fun c => (A.shape c).or (N.shape c), fun c => A.dead c || N.dead c,
   fun c k => (A.key c k).or (N.key c k), fun c => A.size c + N.size c⟩

def Supp (N : Abs) (S : Ts → Prop) : Prop :=
  ∀ c, ¬ S c → N.shape c = none ∧ N.dead c = false ∧ (∀ k, N.key c k = none) ∧ N.size c = 0

/-- funeral / tombstoning of `x`: a live element disappears, a container becomes a tombstone -/
def kill (A : Abs) : Option Ts → Abs
  | none => A
  | some x =>
    { A with
      shape := fun y => if y = x ∧ Shape.isElem (A.shape x) then none else A.shape y
      dead := fun y => if y = x then A.dead x || Shape.isCont (A.shape x) else A.dead y }

def setKey (A : Abs) (p : Ts) (k : String) (st : Option KeySt) (dsize : Int) : Abs :=
  { A with
    key := fun c k' => if c = p ∧ k' = k then st else A.key c k'
    size := fun c => if c = p then A.size c + dsize else A.size c }

/-- effect of one operation on a key: new state, change of the object's size, node to bury -/
structure Step where
  st : Option KeySt
  dsize : Int
  bury : Option Ts

def putStep (ts : Ts) : Option KeySt → Step
  | none => ⟨some ⟨false, ts, some ts⟩, 1, none⟩
  | some s =>
    if s.time.cmp ts = .lt then ⟨some ⟨false, ts, some ts⟩, if s.tomb then 1 else 0, s.occ⟩
    else ⟨some s, 0, some ts⟩

def delStep (ts : Ts) : Option KeySt → Step
  | none => ⟨none, 0, none⟩
  | some s =>
    if s.time.cmp ts = .lt then ⟨some ⟨true, ts, none⟩, if s.tomb then 0 else -1, s.occ⟩
    else ⟨some s, 0, none⟩

def applyStep (A : Abs) (p : Ts) (k : String) (f : Option KeySt → Step) : Abs :=
  kill (setKey A p k (f (A.key p k)).st (f (A.key p k)).dsize) (f (A.key p k)).bury

/-- abstract operation: add the nodes `N`, then one LWW step on key `k` of `p` -/
def aop (A N : Abs) (p : Ts) (k : String) (f : Option KeySt → Step) : Abs :=
  applyStep (union A N) p k f

theorem Abs.ext' {A B : Abs} (h1 : ∀ c, A.shape c = B.shape c) (h2 : ∀ c, A.dead c = B.dead c)
    (h3 : ∀ c k, A.key c k = B.key c k) (h4 : ∀ c, A.size c = B.size c) : A = B :=
  Abs.ext (funext h1) (funext h2) (funext fun c => funext (h3 c)) (funext h4)

theorem union_empty (A : Abs) : union A emptyAbs = A := by
  ext <;> simp [union, emptyAbs]

theorem setKey_same (A : Abs) (p : Ts) (k : String) : setKey A p k (A.key p k) 0 = A := by
  ext c
  · rfl
  · rfl
  · rename_i k' ; simp only [setKey]; split
    · rename_i h; rw [h.1, h.2]
    · rfl
  · simp only [setKey]; split <;> simp


theorem setKey_setKey (A : Abs) (p : Ts) (k : String) (s1 s2 : Option KeySt) (d1 d2 : Int) :
    setKey (setKey A p k s1 d1) p k s2 d2 = setKey A p k s2 (d1 + d2) := by
  unfold setKey
  apply Abs.ext'
  · intro c; rfl
  · intro c; rfl
  · intro c k'
    simp only
    by_cases h1 : c = p ∧ k' = k <;> simp [h1]
  · intro c
    simp only
    by_cases h1 : c = p <;> simp [h1]; omega


/-! ### the concrete steps in terms of the abstraction -/

theorem abs_none {d : Doc} {c : Ts} (h : d.find c = none) :
    shapeOf d c = none ∧ deadOf d c = false ∧ (∀ k, keyOf' d c k = none) ∧ sizeOf' d c = 0 := by
  unfold shapeOf deadOf keyOf' sizeOf'
  simp [h]

theorem find_mk {ns : List DNode} (hnd : (ids ns).Nodup) (c : Ts) : (Doc.mk ns).find c = nfind ns c := by
  cases h : nfind ns c with
  | none =>
    rw [find_none_iff]; exact nfind_none_iff.mp h
  | some n =>
    obtain ⟨hn, hc⟩ := nfind_some h
    cases h' : (Doc.mk ns).find c with
    | none =>
      exact absurd (List.mem_map.mpr ⟨n, hn, hc⟩) (find_none_iff.mp h')
    | some n' =>
      have h1 := find_some_c h'
      have h2 : n' ∈ ns := find_some_mem h'
      have : n' = n := List.inj_on_of_nodup_map hnd h2 hn (by rw [h1, hc])
      rw [this]

theorem supp_abs_mk (ns : List DNode) : Supp (abs ⟨ns⟩) (fun c => c ∈ ids ns) := by
  intro c hc
  exact abs_none (find_none_iff.mpr hc)

theorem abs_addAll {d : Doc} {ts ts' : Ts} {ns : List DNode} (h : d.WF) (hb : Block ts ns ts') (hf : Fresh d ns) :
    abs (d.addAll ns) = union (abs d) (abs ⟨ns⟩) := by
  have hnd := block_ids_nodup hb
  -- at a new identifier the node and its children are those of the block
  have new : ∀ c, c ∈ ids ns → _ := fun c hc =>
    abs_local (a := d.addAll ns) (b := ⟨ns⟩) (c := c) (by rw [find_mk hnd, find_addAll, hf c hc, Option.or_none])
      fun n hn ch hch => by
        rcases find_addAll_cases hn with ⟨hmem, _⟩ | ⟨hnot, _⟩
        · obtain ⟨nc, hnc, h1, _, _⟩ := hb.links n hmem ch hch
          exact refSt_of_find (by rw [find_mk hnd, ← h1, find_addAll_new hnd hnc, nfind_of_mem hnd hnc])
        · exact absurd hc hnot
  -- at any other one they are those of `d`
  have old : ∀ c, c ∉ ids ns → _ := fun c hc =>
    have e : (d.addAll ns).find c = d.find c := by rw [find_addAll, nfind_none_iff.mpr hc]; rfl
    abs_local e fun n hn ch hch => by
      obtain ⟨nc, h1, _⟩ := h.child c n (e ▸ hn) ch hch
      exact refSt_of_find (by rw [find_addAll_old hf h1, h1])
  refine Abs.ext' (fun c => ?_) (fun c => ?_) (fun c k => ?_) (fun c => ?_) <;> by_cases hc : c ∈ ids ns
  · simp only [abs, union, (new c hc).1, (abs_none (hf c hc)).1, Option.none_or]
  · simp only [abs, union, (old c hc).1, (abs_none (find_none_iff.mpr hc)).1, Option.or_none]
  · simp only [abs, union, (new c hc).2.1, (abs_none (hf c hc)).2.1, Bool.false_or]
  · simp only [abs, union, (old c hc).2.1, (abs_none (find_none_iff.mpr hc)).2.1, Bool.or_false]
  · simp only [abs, union, (new c hc).2.2.1, (abs_none (hf c hc)).2.2.1, Option.none_or]
  · simp only [abs, union, (old c hc).2.2.1, (abs_none (find_none_iff.mpr hc)).2.2.1, Option.or_none]
  · simp only [abs, union, (new c hc).2.2.2, (abs_none (hf c hc)).2.2.2, Int.zero_add]
  · simp only [abs, union, (old c hc).2.2.2, (abs_none (find_none_iff.mpr hc)).2.2.2, Int.add_zero]

theorem refSt_set_hdr {d : Doc} {p : Ts} {pn pn' : DNode} (hp : d.find p = some pn) (hc : pn'.c = pn.c)
    (hd : pn'.d = pn.d) (ch : Ts) : refSt (d.set pn') ch = refSt d ch := by
  have hpc := find_some_c hp
  unfold refSt Doc.isTomb Doc.timeOf
  rw [find_set]
  by_cases e : pn'.c = ch
  · have : d.find ch = some pn := by rw [← e, hc, hpc]; exact hp
    have e2 : pn.c = ch := by rw [← hc]; exact e
    simp only [e, if_true, this, hd, e2]
  · simp only [e, if_false]

theorem abs_setKind {d : Doc} {p : Ts} {pn : DNode} {m m' : List (String × Ts)} {s s' : Int}
    (hp : d.find p = some pn) (hk : pn.kind = .obj m s) :
    abs (d.set { pn with kind := .obj m' s' }) =
      { abs d with
        key := fun c k' => if c = p then (alFind k' m').map (refSt d) else (abs d).key c k'
        size := fun c => if c = p then s' else (abs d).size c } := by
  have hr : ∀ ch, refSt (d.set { pn with kind := .obj m' s' }) ch = refSt d ch :=
    refSt_set_hdr hp rfl rfl
  have hfp : (d.set { pn with kind := .obj m' s' }).find p = some { pn with kind := .obj m' s' } := by
    rw [find_set, if_pos (find_some_c hp)]
  -- away from `p` nothing changes
  have off : ∀ c, c ≠ p → _ := fun c hc =>
    abs_local (a := d.set { pn with kind := .obj m' s' }) (b := d) (c := c)
      (by rw [find_set, if_neg fun e : pn.c = c => hc (e.symm.trans (find_some_c hp))]) fun _ _ ch _ => hr ch
  refine Abs.ext' (fun c => ?_) (fun c => ?_) (fun c k => ?_) (fun c => ?_) <;> by_cases hc : c = p
  · subst hc; simp only [abs, shapeOf, hfp, hp, hk]
  · exact (off c hc).1
  · subst hc; simp only [abs, deadOf, hfp, hp, hk]
  · exact (off c hc).2.1
  · subst hc
    simp only [abs, keyOf', hfp, if_true]
    cases alFind k m' <;> simp [hr]
  · simp only [hc, if_false]; exact (off c hc).2.2.1 k
  · subst hc; simp only [abs, sizeOf', hfp, if_true]
  · simp only [hc, if_false]; exact (off c hc).2.2.2

theorem abs_link {d : Doc} {p : Ts} {pn : DNode} {m m' : List (String × Ts)} {s s' : Int} {k : String} {e : Ts}
    (hp : d.find p = some pn) (hk : pn.kind = .obj m s)
    (hm : ∀ k', alFind k' m' = if k = k' then some e else alFind k' m) :
    abs (d.set { pn with kind := .obj m' s' }) = setKey (abs d) p k (some (refSt d e)) (s' - s) := by
  rw [abs_setKind hp hk]
  refine Abs.ext' (fun _ => rfl) (fun _ => rfl) (fun c k' => ?_) (fun c => ?_)
  · simp only [setKey, hm]
    by_cases hc : c = p
    · subst hc
      by_cases hk' : k = k'
      · subst hk'; simp
      · have : ¬ k' = k := fun e => hk' e.symm
        simp [hk', this, abs, keyOf', hp, hk]
    · simp [hc]
  · simp only [setKey]
    by_cases hc : c = p
    · subst hc; simp only [if_true, abs, sizeOf', hp, hk]; omega
    · simp [hc]

theorem keyOf'_eq_occupant (d : Doc) (p : Ts) (k : String) : keyOf' d p k = (occupant d p k).map (refSt d) := by
  unfold keyOf' occupant Doc.findObj
  cases d.find p with
  | none => rfl
  | some n =>
    obtain ⟨nc, nd, np, nk⟩ := n
    cases nk <;> rfl

theorem occupant_some {d : Doc} {q : Ts} {k : String} {ch : Ts} (h : occupant d q k = some ch) :
    ∃ n m s, d.find q = some n ∧ n.kind = .obj m s ∧ alFind k m = some ch := by
  unfold occupant at h
  split at h
  · rename_i n m s hfo; exact ⟨n, m, s, (findObj_some_iff.mp hfo).1, (findObj_some_iff.mp hfo).2, h⟩
  · cases h

theorem occupant_of_find {a b : Doc} {q : Ts} (h : a.find q = b.find q) (k : String) :
    occupant a q k = occupant b q k := by
  unfold occupant Doc.findObj; rw [h]

/-- an array skeleton with the states of its children read through `st` -/
def reSt (st : Ts → KeySt) : Option (Option Ts × Shape) → Option (Option Ts × Shape)
  | some (par, .arr E) => some (par, .arr (E.map fun e => (e.1, e.2.1, st e.2.1)))
  | s => s

theorem shapeOf_reSt {a b : Doc} {c : Ts} (h : a.find c = b.find c) :
    shapeOf a c = reSt (refSt a) (shapeOf b c) := by
  unfold shapeOf
  rw [← h]
  cases a.find c with
  | none => rfl
  | some n =>
    obtain ⟨nc, nd, np, nk⟩ := n
    cases nk with
    | elem v => cases nd <;> rfl
    | obj m s => rfl
    | arr sl s => simp only [reSt, List.map_map, Function.comp_def]

theorem reSt_shapeOf {d : Doc} {st : Ts → KeySt} {c : Ts}
    (hs : ∀ n sl s, d.find c = some n → n.kind = .arr sl s → ∀ y ∈ sl, st y.2 = refSt d y.2) :
    reSt st (shapeOf d c) = shapeOf d c := by
  unfold shapeOf
  cases hf : d.find c with
  | none => rfl
  | some n =>
    obtain ⟨nc, nd, np, nk⟩ := n
    cases nk with
    | elem v => cases nd <;> rfl
    | obj m s => rfl
    | arr sl s =>
      simp only [reSt, List.map_map, Function.comp_def, Option.some.injEq, Prod.mk.injEq, Shape.arr.injEq, true_and]
      exact List.map_congr_left fun y hy => by rw [hs _ sl s hf rfl y hy]

/-- burying `x` as the abstraction sees it — the node becomes a tombstone, or leaves the table if it is an
    element: `kill` on shapes and tombstone flags, nothing on sizes; keys and array skeletons show the new
    state of their children -/
theorem abs_bury_gen {d d' : Doc} {x t : Ts} (hfo : ∀ c, c ≠ x → d'.find c = d.find c)
    (hfx : d'.find x = (d.find x).map (fun n => { n with d := some t }) ∨
      (d'.find x = none ∧ ∃ n v, d.find x = some n ∧ n.kind = .elem v)) :
    abs d' = { kill (abs d) (some x) with
      shape := fun c => reSt (refSt d') ((kill (abs d) (some x)).shape c)
      key := fun q k => (occupant d q k).map (refSt d') } := by
  have hxx : shapeOf d' x = reSt (refSt d') (if Shape.isElem (shapeOf d x) then none else shapeOf d x) ∧
      deadOf d' x = (deadOf d x || Shape.isCont (shapeOf d x)) ∧ sizeOf' d' x = sizeOf' d x ∧
      ∀ k, occupant d' x k = occupant d x k := by
    rcases hfx with h1 | ⟨h1, n, v, hn, hk⟩
    · cases hn : d.find x with
      | none => simp [shapeOf, deadOf, sizeOf', occupant, Doc.findObj, h1, hn, Shape.isElem, Shape.isCont, reSt]
      | some n =>
        obtain ⟨nc, nd, np, nk⟩ := n
        cases nk with
        | elem v =>
          cases nd <;>
            simp [shapeOf, deadOf, sizeOf', occupant, Doc.findObj, h1, hn, Shape.isElem, Shape.isCont, reSt]
        | obj m s => simp [shapeOf, deadOf, sizeOf', occupant, Doc.findObj, h1, hn, Shape.isElem, Shape.isCont, reSt]
        | arr sl s =>
          simp [shapeOf, deadOf, sizeOf', occupant, Doc.findObj, h1, hn, Shape.isElem, Shape.isCont, reSt]
    · obtain ⟨nc, nd, np, nk⟩ := n
      cases hk
      cases nd <;> simp [shapeOf, deadOf, sizeOf', occupant, Doc.findObj, h1, hn, Shape.isElem, Shape.isCont, reSt]
  apply Abs.ext'
  · intro c
    by_cases hc : c = x
    · subst hc; simp only [abs, kill, true_and]; exact hxx.1
    · simp only [abs, kill, hc, false_and, if_false]
      exact shapeOf_reSt (hfo c hc)
  · intro c
    by_cases hc : c = x
    · subst hc; simp only [abs, kill, if_true]; exact hxx.2.1
    · simp only [abs, kill, hc, if_false, deadOf, hfo c hc]
  · intro c k
    show keyOf' d' c k = _
    rw [keyOf'_eq_occupant]
    by_cases hc : c = x
    · rw [hc, hxx.2.2.2]
    · rw [occupant_of_find (hfo c hc)]
  · intro c
    by_cases hc : c = x
    · subst hc; exact hxx.2.2.1
    · simp only [abs, kill, sizeOf', hfo c hc]

theorem abs_bury {d d' : Doc} {x t : Ts} (hfo : ∀ c, c ≠ x → d'.find c = d.find c)
    (hfx : d'.find x = (d.find x).map (fun n => { n with d := some t }) ∨
      (d'.find x = none ∧ ∃ n v, d.find x = some n ∧ n.kind = .elem v))
    (harr : ∀ q n sl sz, d.find q = some n → n.kind = .arr sl sz → ∀ y ∈ sl, y.2 ≠ x) :
    abs d' = { kill (abs d) (some x) with key := fun q k => (occupant d q k).map (refSt d') } := by
  rw [abs_bury_gen hfo hfx]
  refine Abs.ext' (fun c => ?_) (fun _ => rfl) (fun _ _ => rfl) (fun _ => rfl)
  show reSt (refSt d') (if c = x ∧ Shape.isElem (shapeOf d x) = true then none else shapeOf d c) =
    if c = x ∧ Shape.isElem (shapeOf d x) = true then none else shapeOf d c
  split
  · rfl
  · exact reSt_shapeOf fun n sl s hn hk y hy => refSt_of_find (hfo _ (harr c n sl s hn hk y hy))

theorem abs_funeral {d : Doc} (x t : Ts) (hx : ∀ q n, d.find q = some n → x ∉ kids n.kind) :
    abs (d.funeral x t) = kill (abs d) (some x) := by
  rw [abs_bury (d := d) (t := t) (fun c hc => by rw [find_funeral, if_neg hc]) ?_
    fun q n sl sz hq hk y hy e => hx q n hq (hk ▸ List.mem_map.mpr ⟨y, hy, e⟩)]
  · -- nobody references `x`: the keys see no change
    refine Abs.ext' (fun _ => rfl) (fun _ => rfl) (fun q k => ?_) (fun _ => rfl)
    show (occupant d q k).map (refSt (d.funeral x t)) = keyOf' d q k
    rw [keyOf'_eq_occupant]
    cases ho : occupant d q k with
    | none => rfl
    | some ch =>
      obtain ⟨n, m, s, hn, hk, hal⟩ := occupant_some ho
      have : ch ≠ x := fun e => hx q n hn (e ▸ hk ▸ alFind_mem_vals hal)
      exact congrArg some (refSt_of_find (by rw [find_funeral, if_neg this]))
  · rw [find_funeral, if_pos rfl]
    cases hn : d.find x with
    | none => exact Or.inl rfl
    | some n =>
      cases hk : n.kind with
      | elem v => exact Or.inr ⟨by simp only [fun1, hk], n, v, rfl, hk⟩
      | obj m s => exact Or.inl (by simp only [fun1, hk, Option.map_some])
      | arr sl s => exact Or.inl (by simp only [fun1, hk, Option.map_some])

theorem abs_makeTomb {d : Doc} {p x : Ts} {pn : DNode} {m : List (String × Ts)} {s : Int} {k : String} (t : Ts)
    (hp : d.find p = some pn) (hk : pn.kind = .obj m s) (hf : alFind k m = some x)
    (hex : ∃ nx, d.find x = some nx)
    (huniq : ∀ q n, d.find q = some n → x ∈ kids n.kind → q = p)
    (hkuniq : ∀ k', alFind k' m = some x → k' = k) :
    abs (d.makeTomb x t) = kill (setKey (abs d) p k (some ⟨true, t, none⟩) 0) (some x) := by
  rw [abs_bury (d := d) (t := t) (fun c hc => by rw [find_makeTomb, if_neg hc])
    (Or.inl (by rw [find_makeTomb, if_pos rfl])) fun q n sl sz hq hkind y hy e => by
      have := huniq q n hq (hkind ▸ List.mem_map.mpr ⟨y, hy, e⟩)
      subst this; rw [hp] at hq; cases hq; rw [hk] at hkind; cases hkind]
  refine Abs.ext' (fun _ => rfl) (fun _ => rfl) (fun q k' => ?_) (fun q => by simp [kill, setKey])
  show (occupant d q k').map (refSt (d.makeTomb x t)) =
    if q = p ∧ k' = k then some ⟨true, t, none⟩ else keyOf' d q k'
  rw [keyOf'_eq_occupant]
  by_cases e : q = p ∧ k' = k
  · obtain ⟨nx, hnx⟩ := hex
    have hpk : occupant d p k = some x := by simp only [occupant, findObj_some_iff.mpr ⟨hp, hk⟩, hf]
    rw [if_pos e, e.1, e.2, hpk]
    simp [refSt, Doc.isTomb, Doc.timeOf, find_makeTomb, hnx]
  · rw [if_neg e]
    cases ho : occupant d q k' with
    | none => rfl
    | some ch =>
      obtain ⟨n, m', s', hn, hk', hal⟩ := occupant_some ho
      have : ch ≠ x := fun e' => by
        subst e'
        have hq := huniq q n hn (hk' ▸ alFind_mem_vals hal)
        subst hq
        rw [hp] at hn; cases hn; rw [hk] at hk'; cases hk'
        exact e ⟨rfl, hkuniq k' hal⟩
      exact congrArg some (refSt_of_find (by rw [find_makeTomb, if_neg this]))

theorem kill_noop {A : Abs} {x : Ts} (h1 : Shape.isElem (A.shape x) = false)
    (h2 : A.dead x = true ∨ Shape.isCont (A.shape x) = false) : kill A (some x) = A := by
  unfold kill
  ext c
  · simp [h1]
  · simp only
    by_cases hc : c = x
    · subst hc
      rcases h2 with h2 | h2 <;> simp [h2]
    · simp [hc]
  · rfl
  · rfl

theorem tomb_shape {d : Doc} {x : Ts} (h : d.isTomb x = true) :
    Shape.isElem (shapeOf d x) = false ∧ (deadOf d x = true ∨ Shape.isCont (shapeOf d x) = false) := by
  unfold Doc.isTomb at h
  cases hf : d.find x with
  | none => rw [hf] at h; cases h
  | some n =>
    rw [hf] at h
    obtain ⟨nc, nd, np, nk⟩ := n
    simp only at h
    cases nd with
    | none => cases h
    | some dd => cases nk <;> simp [shapeOf, deadOf, hf, Shape.isElem, Shape.isCont]

theorem shape_isSome_of_live {d : Doc} {c : Ts} {n : DNode} (h : d.find c = some n) (hl : d.isTomb c = false) :
    (shapeOf d c).isSome := by
  unfold Doc.isTomb at hl
  rw [h] at hl
  simp only at hl
  unfold shapeOf
  rw [h]
  obtain ⟨nc, nd, np, nk⟩ := n
  cases nk <;> simp_all

section putsim
variable {d : Doc} {p : Ts} {v : JVal} {ts : Ts} {pn : DNode} {m : List (String × Ts)} {size : Int}
  {ns : List DNode} {ts' : Ts}

theorem PutPre.refSt_root (h : PutPre d p v ts pn m size ns ts') : refSt (d.addAll ns) ts = ⟨false, ts, some ts⟩ := by
  obtain ⟨n0, hn0, _, hmem⟩ := h.root_find
  have hl := h.block.live n0 hmem
  have hc := find_some_c hn0
  unfold refSt Doc.isTomb Doc.timeOf
  simp [hn0, hl, hc]

theorem PutPre.abs_relink (h : PutPre d p v ts pn m size ns ts') (k : String) (s' : Int) :
    abs ((d.addAll ns).set { pn with kind := .obj (alSet k ts m) s' }) =
      setKey (abs (d.addAll ns)) p k (some ⟨false, ts, some ts⟩) (s' - size) := by
  rw [abs_link h.hp1 h.hk (fun k' => alFind_alSet k k' ts m), h.refSt_root]

theorem PutPre.key1 (h : PutPre d p v ts pn m size ns ts') (k : String) :
    (abs (d.addAll ns)).key p k = (alFind k m).map (refSt d) := by
  simp only [abs, keyOf', h.hp1, h.hk]
  cases hk : alFind k m with
  | none => rfl
  | some oldC =>
    simp only [Option.map_some, Option.some.injEq]
    exact refSt_of_find (h.old_addAll hk)

theorem sim_put (h : PutPre d p v ts pn m size ns ts') {k : String} {d' : Doc} {r : Option Ts}
    (hr : d.putInObject p k v ts = .ok (d', r)) :
    abs d' = aop (abs d) (abs ⟨ns⟩) p k (putStep ts) := by
  unfold aop applyStep
  rw [← abs_addAll h.wf h.block h.fresh, h.key1 k]
  cases hk : alFind k m with
  | none =>
    rw [put_new h hk] at hr
    cases hr
    rw [h.abs_relink]
    simp only [Option.map_none, putStep, kill]
    congr 1; omega
  | some oldC =>
    simp only [Option.map_some]
    by_cases hlt : (d.timeOf oldC).cmp ts = .lt
    · rw [put_win h hk hlt] at hr
      cases hr
      have hrt : (refSt d oldC).time.cmp ts = .lt := hlt
      simp only [putStep, hrt, if_true]
      rw [abs_funeral _ _ (h.old_unlinked hk _), h.abs_relink]
      by_cases htomb : d.isTomb oldC = true
      · -- the old occupant is a tombstone already: burying it changes nothing
        obtain ⟨t1, t2⟩ := tomb_shape ((isTomb_of_find (h.old_addAll hk)).trans htomb)
        rw [kill_noop (A := setKey (abs (d.addAll ns)) p k _ _) (x := oldC) t1 t2]
        simp only [refSt, htomb, if_true, kill]
        congr 1; omega
      · have htomb2 : d.isTomb oldC = false := by simpa using htomb
        simp only [refSt, htomb2, Bool.false_eq_true, if_false]
        congr 2; omega
    · rw [put_lose h hk hlt] at hr
      cases hr
      have hrt : ¬ (refSt d oldC).time.cmp ts = .lt := hlt
      simp only [putStep, hrt, if_false]
      rw [abs_funeral _ _ h.root_unlinked]
      congr 1
      have := setKey_same (abs (d.addAll ns)) p k
      rw [h.key1 k, hk] at this
      exact this.symm

end putsim


section delsim
variable {d : Doc} {p : Ts} {k : String} {pn : DNode} {m : List (String × Ts)} {size : Int} {c : Ts}

theorem DelPre.key (h : DelPre d p k pn m size c) : (abs d).key p k = some (refSt d c) := by
  simp [abs, keyOf', h.hp, h.hk, h.hf]

theorem sim_del (h : DelPre d p k pn m size c) {ts : Ts} {d' : Doc} {r : Option Ts}
    (hr : d.deleteInObject p k ts false = .ok (d', r)) :
    abs d' = aop (abs d) emptyAbs p k (delStep ts) := by
  unfold aop applyStep
  rw [union_empty, h.key]
  rw [del_eq h.hp h.hk h.hf] at hr
  have hkids : kids pn.kind = m.map (·.2) := by rw [h.hk]; rfl
  by_cases hlt : (d.timeOf c).cmp ts = .lt
  · rw [if_pos hlt] at hr
    cases hr
    have hrt : (refSt d c).time.cmp ts = .lt := hlt
    simp only [delStep, hrt, if_true]
    generalize hs' : (if d.isTomb c = true then size else size - 1) = s'
    -- the intermediate document: only the size of `p` changed
    have hwf2 : (d.set { pn with kind := .obj m s' }).WF :=
      wf_setKind h.wf h.hp _ (fun x hx => h.wf.child p pn h.hp x (hkids ▸ hx))
        (show (m.map (·.2)).Nodup from hkids ▸ h.wf.inj p pn h.hp)
    have hp2 : (d.set { pn with kind := .obj m s' }).find p = some { pn with kind := .obj m s' } := by
      rw [find_set, if_pos (find_some_c h.hp)]
    rw [abs_makeTomb (k := k) ts hp2 rfl h.hf
        (let ⟨nc, h1, _⟩ := hwf2.child p _ hp2 c (alFind_mem_vals h.hf); ⟨nc, h1⟩)
        (fun q n hq hmem => (wf_unique_parent hwf2 hp2 hq (alFind_mem_vals h.hf) hmem).symm)
        (fun k' hk' => alFind_inj_of_vals_nodup (hkids ▸ h.wf.inj p pn h.hp) hk' h.hf),
      abs_link h.hp h.hk (e := c) (fun k' => by split <;> [(rename_i e; rw [← e, h.hf]); rfl]), setKey_setKey]
    subst hs'
    by_cases htomb : d.isTomb c = true
    · -- the occupant is a tombstone already: tombstoning it again changes nothing
      obtain ⟨t1, t2⟩ := tomb_shape htomb
      rw [kill_noop (A := setKey (abs d) p k _ _) (x := c) t1 t2]
      simp only [refSt, htomb, if_true, kill]
      congr 1; omega
    · have htomb2 : d.isTomb c = false := by simpa using htomb
      simp only [refSt, htomb2, Bool.false_eq_true, if_false]
      congr 2; omega
  · rw [if_neg hlt] at hr
    cases hr
    have hrt : ¬ (refSt d c).time.cmp ts = .lt := hlt
    simp only [delStep, hrt, if_false, kill]
    have := setKey_same (abs d) p k
    rw [h.key] at this
    exact this.symm

end delsim


/-! ### commutation of the abstract operations -/

theorem kill_setKey (A : Abs) (p : Ts) (k : String) (st : Option KeySt) (ds : Int) (x : Option Ts) :
    kill (setKey A p k st ds) x = setKey (kill A x) p k st ds := by
  cases x <;> rfl

theorem kill_comm (A : Abs) (x y : Option Ts) : kill (kill A x) y = kill (kill A y) x := by
  cases x with
  | none => rfl
  | some x =>
    cases y with
    | none => rfl
    | some y =>
      unfold kill
      apply Abs.ext'
      · intro c
        simp only
        by_cases hxy : x = y
        · subst hxy; rfl
        · have hyx : ¬ y = x := fun e => hxy e.symm
          by_cases hcx : c = x
          · subst hcx; simp [hxy]
          · by_cases hcy : c = y
            · subst hcy; simp [hyx]
            · simp [hcx, hcy, hxy, hyx]
      · intro c
        simp only
        by_cases hxy : x = y
        · subst hxy; rfl
        · have hyx : ¬ y = x := fun e => hxy e.symm
          by_cases hcx : c = x
          · subst hcx; simp [hxy]
          · by_cases hcy : c = y
            · subst hcy; simp [hyx]
            · simp [hcx, hcy]
      · intro c k; rfl
      · intro c; rfl

theorem setKey_comm (A : Abs) {p1 p2 : Ts} {k1 k2 : String} (h : ¬ (p1 = p2 ∧ k1 = k2))
    (s1 s2 : Option KeySt) (d1 d2 : Int) :
    setKey (setKey A p1 k1 s1 d1) p2 k2 s2 d2 = setKey (setKey A p2 k2 s2 d2) p1 k1 s1 d1 := by
  unfold setKey
  apply Abs.ext'
  · intro c; rfl
  · intro c; rfl
  · intro c k
    simp only
    by_cases h1 : c = p1 ∧ k = k1
    · obtain ⟨rfl, rfl⟩ := h1
      simp [h]
    · by_cases h2 : c = p2 ∧ k = k2
      · obtain ⟨rfl, rfl⟩ := h2
        simp [h1]
      · simp [h1, h2]
  · intro c
    simp only
    split_ifs <;> omega

theorem applyStep_def (B : Abs) (p : Ts) (k : String) (f : Option KeySt → Step) :
    applyStep B p k f = kill (setKey B p k (f (B.key p k)).st (f (B.key p k)).dsize) (f (B.key p k)).bury := rfl

theorem kill_key (A : Abs) (x : Option Ts) : (kill A x).key = A.key := by
  cases x <;> rfl

/-- two steps on the same key give the same state, the same total size change, and bury the same nodes: each step its
    own node in either order (two `kill`s exchanged), or the first step the old occupant and the second the older
    operation's node, whichever operation comes first -/
def StepComm (f1 f2 : Option KeySt → Step) (s : Option KeySt) : Prop :=
  (f2 (f1 s).st).st = (f1 (f2 s).st).st ∧
  (f1 s).dsize + (f2 (f1 s).st).dsize = (f2 s).dsize + (f1 (f2 s).st).dsize ∧
  (((f1 s).bury = (f1 (f2 s).st).bury ∧ (f2 (f1 s).st).bury = (f2 s).bury) ∨
   ((f1 s).bury = (f2 s).bury ∧ (f2 (f1 s).st).bury = (f1 (f2 s).st).bury))

theorem applyStep_comm_diff (B : Abs) {p1 p2 : Ts} {k1 k2 : String} (h : ¬ (p1 = p2 ∧ k1 = k2))
    (f1 f2 : Option KeySt → Step) :
    applyStep (applyStep B p1 k1 f1) p2 k2 f2 = applyStep (applyStep B p2 k2 f2) p1 k1 f1 := by
  have h' : ¬ (p2 = p1 ∧ k2 = k1) := fun e => h ⟨e.1.symm, e.2.symm⟩
  have e1 : (applyStep B p1 k1 f1).key p2 k2 = B.key p2 k2 := by
    rw [applyStep_def, kill_key]
    simp [setKey, h']
  have e2 : (applyStep B p2 k2 f2).key p1 k1 = B.key p1 k1 := by
    rw [applyStep_def, kill_key]
    simp [setKey, h]
  rw [applyStep_def (applyStep B p1 k1 f1), e1, applyStep_def (applyStep B p2 k2 f2), e2]
  rw [applyStep_def B, applyStep_def B]
  simp only [kill_setKey]
  rw [setKey_comm _ h, kill_comm]

theorem applyStep_comm_same (B : Abs) (p : Ts) (k : String) (f1 f2 : Option KeySt → Step)
    (h : StepComm f1 f2 (B.key p k)) :
    applyStep (applyStep B p k f1) p k f2 = applyStep (applyStep B p k f2) p k f1 := by
  have e1 : ∀ f, (applyStep B p k f).key p k = (f (B.key p k)).st := by
    intro f
    rw [applyStep_def, kill_key]
    simp [setKey]
  rw [applyStep_def (applyStep B p k f1), e1, applyStep_def (applyStep B p k f2), e1]
  rw [applyStep_def B, applyStep_def B]
  simp only [kill_setKey, setKey_setKey]
  obtain ⟨h1, h2, h3⟩ := h
  rw [h1, h2]
  rcases h3 with ⟨a, b⟩ | ⟨a, b⟩
  · rw [a, b, kill_comm]
  · rw [a, b]

theorem union_comm (A : Abs) {N1 N2 : Abs} {S1 S2 : Ts → Prop} (h1 : Supp N1 S1) (h2 : Supp N2 S2)
    (hd : ∀ c, S1 c → S2 c → False) : union (union A N1) N2 = union (union A N2) N1 := by
  have key : ∀ c, (N1.shape c = none ∧ N1.dead c = false ∧ (∀ k, N1.key c k = none) ∧ N1.size c = 0) ∨
      (N2.shape c = none ∧ N2.dead c = false ∧ (∀ k, N2.key c k = none) ∧ N2.size c = 0) := by
    intro c
    by_cases hc : S1 c
    · exact Or.inr (h2 c (fun e => hd c hc e))
    · exact Or.inl (h1 c hc)
  unfold union
  apply Abs.ext'
  · intro c
    simp only
    rcases key c with ⟨e, _⟩ | ⟨e, _⟩ <;> simp [e]
  · intro c
    simp only
    rcases key c with ⟨_, e, _⟩ | ⟨_, e, _⟩ <;> simp [e]
  · intro c k
    simp only
    rcases key c with ⟨_, _, e, _⟩ | ⟨_, _, e, _⟩ <;> simp [e]
  · intro c
    simp only
    omega

theorem union_setKey {B N : Abs} {p : Ts} {k : String} (hk : N.key p k = none) (st : Option KeySt) (ds : Int) :
    union (setKey B p k st ds) N = setKey (union B N) p k st ds := by
  apply Abs.ext'
  · intro c; rfl
  · intro c; rfl
  · intro c k'
    simp only [union, setKey]
    split
    · rename_i h; rw [h.1, h.2, hk, Option.or_none]
    · rfl
  · intro c
    simp only [union, setKey]
    by_cases h1 : c = p <;> simp [h1]; omega

theorem union_kill {B N : Abs} {x : Option Ts} (hs : ∀ y, x = some y → N.shape y = none ∧ N.dead y = false) :
    union (kill B x) N = kill (union B N) x := by
  cases x with
  | none => rfl
  | some x =>
    obtain ⟨h1, h2⟩ := hs x rfl
    apply Abs.ext'
    · intro c
      simp only [union, kill]
      by_cases hc : c = x
      · subst hc; simp only [true_and, h1, Option.or_none]
      · simp [hc]
    · intro c
      simp only [union, kill]
      by_cases hc : c = x
      · subst hc; simp [h1, h2]
      · simp [hc]
    · intro c k; rfl
    · intro c; rfl

theorem union_applyStep {B N : Abs} {S : Ts → Prop} (hN : Supp N S) {p : Ts} {k : String}
    {f : Option KeySt → Step} (hp : ¬ S p) (hb : ∀ x, (f (B.key p k)).bury = some x → ¬ S x) :
    union (applyStep B p k f) N = applyStep (union B N) p k f := by
  have ek : (union B N).key p k = B.key p k := by
    simp only [union, (hN p hp).2.2.1, Option.or_none]
  unfold applyStep
  rw [ek, union_kill fun y hy => ⟨(hN y (hb y hy)).1, (hN y (hb y hy)).2.1⟩, union_setKey ((hN p hp).2.2.1 k)]

theorem aop_comm (A : Abs) {N1 N2 : Abs} {S1 S2 : Ts → Prop} {p1 p2 : Ts} {k1 k2 : String}
    {f1 f2 : Option KeySt → Step}
    (hN1 : Supp N1 S1) (hN2 : Supp N2 S2) (hd : ∀ c, S1 c → S2 c → False)
    (hp1 : ¬ S2 p1) (hp2 : ¬ S1 p2)
    (hb1 : ∀ x, (f1 ((union A N1).key p1 k1)).bury = some x → ¬ S2 x)
    (hb2 : ∀ x, (f2 ((union A N2).key p2 k2)).bury = some x → ¬ S1 x)
    (hc : ¬ (p1 = p2 ∧ k1 = k2) ∨ (p1 = p2 ∧ k1 = k2 ∧ StepComm f1 f2 ((union (union A N1) N2).key p1 k1))) :
    aop (aop A N1 p1 k1 f1) N2 p2 k2 f2 = aop (aop A N2 p2 k2 f2) N1 p1 k1 f1 := by
  unfold aop
  rw [union_applyStep hN2 hp1 hb1, union_applyStep hN1 hp2 hb2, union_comm A hN2 hN1 (fun c a b => hd c b a)]
  rcases hc with hc | ⟨rfl, rfl, hc⟩
  · exact applyStep_comm_diff _ hc f1 f2
  · exact applyStep_comm_same _ _ _ f1 f2 hc


/-! ### remote object operations as data

What an operation owes, by route.
Before either — its case of `applyOp` and `runOp` (the model call), of `OpOK` (when it is applicable; with `opOK_isObj`,
`fresh_of_ok`, `runOp_ok`, `opOK_of_ok`, `opOK_docEq`) and of `OpKeysND` (what `viewOK_op` asks of its value).
On the lookup function — well-formedness, depth, keys, frame facts, commutation up to `DocEq` with operations on other
parents and with every array operation: its case of `effOf` (with `effOf_p`, `effOf_ns`), of `find_applyOp_eff` (the
model's function has that effect), of `rstep_applyOp` (the effect is an `RStep`), of `nodup_op` (the table keeps distinct
identifiers — the one fact the lookup function does not show; read off `put_cases`/`del_cases`) and of `effOf_congr`
(what its decision reads).  `wf_op`, `bounded_op`, `viewOK_op`, `ops_commute_diff_parents`, `DM.oe_comm_docEq` then hold
without another look at the operation.
On the abstraction — commutation on the SAME parent up to `Sim`, `key_denote`: `nodesOf`, `stepOf`, `stOf`, and its case
of `sim_op` (`abs` after it is `absOp` of `abs` before), of `bury_cases`, `stepOf_some_eq` and `stepComm_lt`.
`opOK_after_op` (an applicable operation stays applicable after another one) takes from both routes: `isObj_next` and
`fresh_next` for a put, `sim_op` with `aop_key_some` for the key a delete needs.
Two limits.  The abstraction knows ONE key per operation (`ObjOp.key`; `absOp` is one `applyStep`; `keyOps`): an operation
on two keys would be two steps, each under `applyStep_comm_diff/_same`.  An `Eff` rewrites ONE container and one further
entry: an operation that relinks two containers, or changes a child's `parent`, is not one `RStep`. -/

inductive ObjOp where
  | put (p : Ts) (k : String) (v : JVal) (ts : Ts)
  | del (p : Ts) (k : String) (ts : Ts)

def ObjOp.ts : ObjOp → Ts
  | .put _ _ _ ts => ts
  | .del _ _ ts => ts
def ObjOp.parent : ObjOp → Ts
  | .put p _ _ _ => p
  | .del p _ _ => p
def ObjOp.key : ObjOp → String
  | .put _ k _ _ => k
  | .del _ k _ => k
def isDel : ObjOp → Bool
  | .del _ _ _ => true
  | _ => false

/-- the model call behind an operation -/
def runOp (d : Doc) : ObjOp → Outcome (Doc × Option Ts)
  | .put p k v ts => d.putInObject p k v ts
  | .del p k ts => d.deleteInObject p k ts false

/-- remote application; an error leaves the document alone (as `execRemote` does) -/
def applyOp (d : Doc) : ObjOp → Doc
  | .put p k v ts => match d.putInObject p k v ts with
    | .ok (d', _) => d'
    | _ => d
  | .del p k ts => match d.deleteInObject p k ts false with
    | .ok (d', _) => d'
    | _ => d

/-- the nodes an operation creates -/
def nodesOf : ObjOp → List DNode
  | .put p _ v ts => match createNode p ts v with
    | .ok (ns, _, _) => ns
    | _ => []
  | .del _ _ _ => []

theorem nodesOf_cases (o : ObjOp) : nodesOf o = [] ∨
    ∃ p k v c t', o = .put p k v o.ts ∧ createNode p o.ts v = .ok (nodesOf o, c, t') := by
  cases o with
  | del p k ts => exact .inl rfl
  | put p k v ts =>
    cases hc : createNode p ts v with
    | ok y => exact .inr ⟨p, k, v, y.2.1, y.2.2, rfl, by simp only [nodesOf, ObjOp.ts, hc]⟩
    | err c => exact .inl (by simp only [nodesOf, hc])
    | panic w => exact .inl (by simp only [nodesOf, hc])

def stepOf : ObjOp → Option KeySt → Step
  | .put _ _ _ ts => putStep ts
  | .del _ _ ts => delStep ts

/-- the state an operation leaves on its key when it wins -/
def stOf : ObjOp → KeySt
  | .put _ _ _ ts => ⟨false, ts, some ts⟩
  | .del _ _ ts => ⟨true, ts, none⟩

def absOp (o : ObjOp) (A : Abs) : Abs := aop A (abs ⟨nodesOf o⟩) o.parent o.key (stepOf o)

def IsObj (d : Doc) (p : Ts) : Prop := ∃ n m s, d.find p = some n ∧ n.kind = .obj m s
def HasKey (d : Doc) (p : Ts) (k : String) : Prop := ∃ n m s c, d.find p = some n ∧ n.kind = .obj m s ∧ alFind k m = some c

/-- what makes a remote operation applicable: an object parent; for a put a creatable value whose new
    identifiers are not in the table; for a delete the key is present (it was put before: causality) -/
def OpOK (d : Doc) : ObjOp → Prop
  | .put p k v ts => IsObj d p ∧ (∃ ns c t', createNode p ts v = .ok (ns, c, t')) ∧ Fresh d (nodesOf (.put p k v ts))
  | .del p k _ => HasKey d p k

theorem abs_mk_nil : abs ⟨[]⟩ = emptyAbs := by
  apply Abs.ext' <;> intros <;> rfl

theorem isObj_iff {d : Doc} {p : Ts} : IsObj d p ↔ ∃ par, shapeOf d p = some (par, .obj) := by
  unfold IsObj shapeOf
  constructor
  · rintro ⟨n, m, s, h1, h2⟩
    exact ⟨n.parent, by simp [h1, h2]⟩
  · rintro ⟨par, h⟩
    cases hf : d.find p with
    | none => simp [hf] at h
    | some n =>
      obtain ⟨nc, nd, np, nk⟩ := n
      cases nk with
      | elem v => simp only [hf] at h; split at h <;> simp at h
      | obj m s => exact ⟨_, m, s, rfl, rfl⟩
      | arr sl s => simp [hf] at h

theorem hasKey_iff {d : Doc} {p : Ts} {k : String} : HasKey d p k ↔ (keyOf' d p k).isSome := by
  rw [keyOf'_eq_occupant, Option.isSome_map]
  constructor
  · rintro ⟨n, m, s, c, h1, h2, h3⟩
    simp only [occupant, findObj_some_iff.mpr ⟨h1, h2⟩, h3, Option.isSome_some]
  · intro h
    obtain ⟨c, hc⟩ := Option.isSome_iff_exists.mp h
    obtain ⟨n, m, s, h1, h2, h3⟩ := occupant_some hc
    exact ⟨n, m, s, c, h1, h2, h3⟩

theorem key_isSome_of_del {d : Doc} {o : ObjOp} (h : OpOK d o) (hd : isDel o = true) :
    (keyOf' d o.parent o.key).isSome := by
  cases o with
  | put => cases hd
  | del p k ts => exact hasKey_iff.mp h

theorem putPre_of_ok {d : Doc} (hwf : d.WF) {p : Ts} {k : String} {v : JVal} {ts : Ts}
    (h : OpOK d (.put p k v ts)) :
    ∃ pn m size ts', PutPre d p v ts pn m size (nodesOf (.put p k v ts)) ts' := by
  obtain ⟨⟨pn, m, s, h1, h2⟩, ⟨ns, c, t', hc⟩, hf⟩ := h
  have hroot := createNode_root hc
  subst hroot
  have hn : nodesOf (.put p k v c) = ns := by simp [nodesOf, hc]
  rw [hn] at hf ⊢
  exact ⟨pn, m, s, t', ⟨hwf, h1, h2, hc, hf⟩⟩

theorem PutPre.ok {d : Doc} {p : Ts} {v : JVal} {ts : Ts} {pn : DNode} {m : List (String × Ts)} {size : Int}
    {ns : List DNode} {ts' : Ts} (h : PutPre d p v ts pn m size ns ts') (k : String) : OpOK d (.put p k v ts) :=
  ⟨⟨pn, m, size, h.hp, h.hk⟩, ⟨ns, ts, ts', h.hc⟩, by simp only [nodesOf, h.hc]; exact h.fresh⟩

theorem opOK_isObj {d : Doc} {o : ObjOp} (h : OpOK d o) : IsObj d o.parent := by
  cases o with
  | put p k v ts => exact h.1
  | del p k ts =>
    obtain ⟨n, m, s, c, h1, h2, _⟩ := h
    exact ⟨n, m, s, h1, h2⟩

theorem delPre_of_ok {d : Doc} (hwf : d.WF) {p : Ts} {k : String} {ts : Ts} (h : OpOK d (.del p k ts)) :
    ∃ pn m size c, DelPre d p k pn m size c := by
  obtain ⟨pn, m, s, c, h1, h2, h3⟩ := h
  exact ⟨pn, m, s, c, ⟨hwf, h1, h2, h3⟩⟩

theorem applyOp_put {d d' : Doc} {p : Ts} {k : String} {v : JVal} {ts : Ts} {r : Option Ts}
    (hr : d.putInObject p k v ts = .ok (d', r)) : applyOp d (.put p k v ts) = d' := by
  simp only [applyOp, hr]

theorem applyOp_del {d d' : Doc} {p : Ts} {k : String} {ts : Ts} {r : Option Ts}
    (hr : d.deleteInObject p k ts false = .ok (d', r)) : applyOp d (.del p k ts) = d' := by
  simp only [applyOp, hr]

theorem runOp_ok {d : Doc} (hwf : d.WF) : ∀ (o : ObjOp), OpOK d o → ∃ r, runOp d o = .ok (applyOp d o, r)
  | .put p k v ts, h => by
    obtain ⟨pn, m, size, ts', hpre⟩ := putPre_of_ok hwf h
    obtain ⟨d', r, hr⟩ := put_ok hpre k
    exact ⟨r, by rw [applyOp_put hr]; exact hr⟩
  | .del p k ts, h => by
    obtain ⟨pn, m, size, c, hpre⟩ := delPre_of_ok hwf h
    obtain ⟨d', r, hr⟩ := del_ok hpre ts
    exact ⟨r, by rw [applyOp_del hr]; exact hr⟩

theorem op_returns_ok {d : Doc} (hwf : d.WF) : ∀ (o : ObjOp), OpOK d o →
    match o with
    | .put p k v ts => ∃ d' r, d.putInObject p k v ts = .ok (d', r) ∧ applyOp d o = d'
    | .del p k ts => ∃ d' r, d.deleteInObject p k ts false = .ok (d', r) ∧ applyOp d o = d'
  | .put _ _ _ _, h => let ⟨r, hr⟩ := runOp_ok hwf _ h; ⟨_, r, hr, rfl⟩
  | .del _ _ _, h => let ⟨r, hr⟩ := runOp_ok hwf _ h; ⟨_, r, hr, rfl⟩


/-! ### every operation as an effect on the lookup function

Every operation is: add the new nodes, then update at most two table entries (the parent's kind; the
`d` of the old occupant / the losing new root). -/


def upd (x : Ts) (g : Option DNode → Option DNode) (F : Ts → Option DNode) : Ts → Option DNode :=
  fun c => if c = x then g (F x) else F c

def U (ns : List DNode) (F : Ts → Option DNode) : Ts → Option DNode := fun c => (nfind ns c).or (F c)

/-- set the kind of a container -/
def skG (K : DKind) (o : Option DNode) : Option DNode :=
  o.map fun n => match n.kind with
    | .elem _ => n
    | _ => { n with kind := K }


/-- An effect on a lookup function `F`: the nodes `ns` enter (`U ns F`: a new node under its identifier, `F` elsewhere),
    then the entry of the container `p` is rewritten by `s` and one further entry `x` by `g` (`upd x g F` rewrites the
    entry at `x`).  `skG K` is the `s` that gives a container the kind `K`; `g` is `id`, a funeral `fun1 t` or a stamp
    `setD t` (`RStep.g_cases`). -/
structure Eff where
  ns : List DNode
  p : Ts
  s : Option DNode → Option DNode
  x : Ts
  g : Option DNode → Option DNode

def Eff.run (e : Eff) (F : Ts → Option DNode) : Ts → Option DNode := upd e.x e.g (upd e.p e.s (U e.ns F))

def Comm (g h : Option DNode → Option DNode) : Prop := ∀ o, g (h o) = h (g o)

theorem comm_id_left (h : Option DNode → Option DNode) : Comm id h := fun _ => rfl
theorem comm_id_right (g : Option DNode → Option DNode) : Comm g id := fun _ => rfl
theorem comm_symm {g h : Option DNode → Option DNode} (c : Comm g h) : Comm h g := fun o => (c o).symm

theorem comm_skG_fun1 (m : List (String × Ts)) (s : Int) (t : Ts) : Comm (skG (.obj m s)) (fun1 t) := by
  intro o
  cases o with
  | none => rfl
  | some n =>
    obtain ⟨nc, nd, np, nk⟩ := n
    cases nk <;> rfl

theorem comm_skG_setD (K : DKind) (t : Ts) : Comm (skG K) (setD t) := by
  intro o
  cases o with
  | none => rfl
  | some n =>
    obtain ⟨nc, nd, np, nk⟩ := n
    cases nk <;> rfl

theorem upd_comm {x y : Ts} {g h : Option DNode → Option DNode} (hc : x ≠ y ∨ Comm g h)
    (F : Ts → Option DNode) : upd x g (upd y h F) = upd y h (upd x g F) := by
  funext c
  unfold upd
  by_cases hxy : x = y
  · subst hxy
    rcases hc with hc | hc
    · exact absurd rfl hc
    · by_cases e : c = x
      · simp [e, hc (F x)]
      · simp [e]
  · have hyx : ¬ y = x := fun e => hxy e.symm
    by_cases e1 : c = x
    · subst e1; simp [hxy]
    · by_cases e2 : c = y
      · subst e2; simp [hyx]
      · simp [e1, e2]

theorem upd_U {x : Ts} {g : Option DNode → Option DNode} {ns : List DNode} (hx : x ∉ ids ns)
    (F : Ts → Option DNode) : U ns (upd x g F) = upd x g (U ns F) := by
  funext c
  unfold upd U
  by_cases e : c = x
  · subst e; simp [nfind_none_iff.mpr hx]
  · simp [e]

theorem U_comm {ns1 ns2 : List DNode} (hd : ∀ c, c ∈ ids ns1 → c ∈ ids ns2 → False) (F : Ts → Option DNode) :
    U ns2 (U ns1 F) = U ns1 (U ns2 F) := by
  funext c
  unfold U
  by_cases h1 : c ∈ ids ns1
  · have : nfind ns2 c = none := nfind_none_iff.mpr (fun h2 => hd c h1 h2)
    simp [this]
  · simp [nfind_none_iff.mpr h1]

theorem eff_comm (a b : Eff) (F : Ts → Option DNode)
    (hd : ∀ c, c ∈ ids a.ns → c ∈ ids b.ns → False)
    (hap : a.p ∉ ids b.ns) (hax : a.x ∉ ids b.ns) (hbp : b.p ∉ ids a.ns) (hbx : b.x ∉ ids a.ns)
    (c1 : a.p ≠ b.p ∨ Comm b.s a.s) (c2 : b.p ≠ a.x ∨ Comm b.s a.g)
    (c3 : b.x ≠ a.p ∨ Comm b.g a.s) (c4 : b.x ≠ a.x ∨ Comm b.g a.g) :
    b.run (a.run F) = a.run (b.run F) := by
  unfold Eff.run
  have c1' : b.p ≠ a.p ∨ Comm b.s a.s := c1.imp (fun h e => h e.symm) id
  rw [upd_U hax, upd_U hap, U_comm hd, upd_U hbx, upd_U hbp]
  -- now four pointwise updates on `U a.ns (U b.ns F)`
  rw [upd_comm c2, upd_comm c1', upd_comm c4, upd_comm c3]

/-- the effect of an operation, as decided in the document `d` -/
noncomputable def effOf (d : Doc) : ObjOp → Eff
  | .put p k v ts =>
    match d.findObj p with
    | none => ⟨[], p, id, p, id⟩
    | some (_, m, size) =>
      match alFind k m with
      | none => ⟨nodesOf (.put p k v ts), p, skG (.obj (alSet k ts m) (size + 1)), p, id⟩
      | some old =>
        if (d.timeOf old).cmp ts = .lt then
          ⟨nodesOf (.put p k v ts), p, skG (.obj (alSet k ts m) (if d.isTomb old then size + 1 else size)), old, fun1 ts⟩
        else ⟨nodesOf (.put p k v ts), p, id, ts, fun1 old⟩
  | .del p k ts =>
    match d.findObj p with
    | none => ⟨[], p, id, p, id⟩
    | some (_, m, size) =>
      match alFind k m with
      | none => ⟨[], p, id, p, id⟩
      | some c =>
        if (d.timeOf c).cmp ts = .lt then
          ⟨[], p, skG (.obj m (if d.isTomb c then size else size - 1)), c, setD ts⟩
        else ⟨[], p, id, p, id⟩

theorem find_funeral_upd (d : Doc) (x t : Ts) : (d.funeral x t).find = upd x (fun1 t) d.find := by
  funext c; rw [find_funeral]; rfl

theorem find_makeTomb_upd (d : Doc) (x t : Ts) : (d.makeTomb x t).find = upd x (setD t) d.find := by
  funext c; rw [find_makeTomb]; rfl

theorem find_addAll_U (d : Doc) (ns : List DNode) : (d.addAll ns).find = U ns d.find := by
  funext c; rw [find_addAll]; rfl

theorem find_setKind_upd {d : Doc} {p : Ts} {pn : DNode} {m m' : List (String × Ts)} {s s' : Int}
    (hp : d.find p = some pn) (hk : pn.kind = .obj m s) :
    (d.set { pn with kind := .obj m' s' }).find = upd p (skG (.obj m' s')) d.find := by
  have hpc := find_some_c hp
  funext c
  rw [find_set]
  unfold upd
  by_cases e : c = p
  · subst e
    simp only [hpc, if_true, hp, skG, Option.map_some, hk]
  · have : ¬ pn.c = c := by rw [hpc]; exact fun e' => e e'.symm
    simp [e, this]

theorem upd_id (x : Ts) (F : Ts → Option DNode) : upd x id F = F := by
  funext c; unfold upd; by_cases e : c = x <;> simp [e]

theorem U_nil (F : Ts → Option DNode) : U [] F = F := by
  funext c; simp [U, nfind]

theorem find_applyOp_eff {d : Doc} (hwf : d.WF) : ∀ (o : ObjOp), OpOK d o →
    (applyOp d o).find = (effOf d o).run d.find
  | .put p k v ts, h => by
    obtain ⟨pn, m, size, ts', hpre⟩ := putPre_of_ok hwf h
    unfold effOf Eff.run
    simp only [hpre.findObj]
    cases hk : alFind k m with
    | none =>
      simp only [applyOp, put_new hpre hk, upd_id]
      rw [find_setKind_upd hpre.hp1 hpre.hk, find_addAll_U]
    | some old =>
      by_cases hlt : (d.timeOf old).cmp ts = .lt
      · simp only [applyOp, put_win hpre hk hlt, hlt, if_true]
        rw [find_funeral_upd, find_setKind_upd hpre.hp1 hpre.hk, find_addAll_U]
      · simp only [applyOp, put_lose hpre hk hlt, hlt, if_false, upd_id]
        rw [find_funeral_upd, find_addAll_U]
  | .del p k ts, h => by
    obtain ⟨pn, m, size, c, hpre⟩ := delPre_of_ok hwf h
    unfold effOf Eff.run
    simp only [findObj_some_iff.mpr ⟨hpre.hp, hpre.hk⟩, hpre.hf]
    by_cases hlt : (d.timeOf c).cmp ts = .lt
    · simp only [applyOp, del_eq hpre.hp hpre.hk hpre.hf, hlt, if_true, U_nil]
      rw [find_makeTomb_upd, find_setKind_upd hpre.hp hpre.hk]
    · simp only [applyOp, del_eq hpre.hp hpre.hk hpre.hf, hlt, if_false, U_nil, upd_id]


theorem upd_same (x : Ts) (g : Option DNode → Option DNode) (F : Ts → Option DNode) :
    upd x g F x = g (F x) := by simp [upd]

theorem upd_other {x c : Ts} (g : Option DNode → Option DNode) (F : Ts → Option DNode) (h : c ≠ x) :
    upd x g F c = F c := by simp [upd, h]

theorem U_old {ns : List DNode} {F : Ts → Option DNode} {c : Ts} (h : c ∉ ids ns) : U ns F c = F c := by
  simp [U, nfind_none_iff.mpr h]

theorem fresh_not_mem {d : Doc} {ns : List DNode} (hf : Fresh d ns) {c : Ts} {n : DNode}
    (h : d.find c = some n) : c ∉ ids ns := by
  intro hc; rw [hf c hc] at h; cases h

theorem run_other {e : Eff} {F : Ts → Option DNode} {c : Ts} (hn : c ∉ ids e.ns) (hx : c ≠ e.x ∨ e.g = id) :
    e.run F c = if c = e.p then e.s (F c) else F c := by
  unfold Eff.run
  have h1 : upd e.x e.g (upd e.p e.s (U e.ns F)) c = upd e.p e.s (U e.ns F) c := by
    rcases hx with hx | hx
    · exact upd_other _ _ hx
    · rw [hx, upd_id]
  rw [h1]
  by_cases hp : c = e.p
  · subst hp; rw [upd_same, U_old hn, if_pos rfl]
  · rw [upd_other _ _ hp, U_old hn, if_neg hp]


/-- what the view theorem needs beyond `Doc.WF`: no duplicate keys, bounded depth, an object root -/
structure ViewOK (d : Doc) : Prop where
  keys : KeysND d
  bounded : Bounded d
  root : IsObj d Ts.oldest


theorem viewOK_empty : ViewOK Doc.empty :=
  ⟨keysND_empty, bounded_empty, ⟨_, _, _, rfl, rfl⟩⟩


/-! ### a remote step in closed form -/

theorem wf_docEq {a b : Doc} (h : DocEq a b) (hb : (ids b.table).Nodup) (hw : a.WF) : b.WF :=
  ⟨hb, fun p n hf c hc => let ⟨nc, h1, h2⟩ := hw.child p n (by rw [h p]; exact hf) c hc; ⟨nc, by rw [← h c]; exact h1, h2⟩,
    fun p n hf => hw.inj p n (by rw [h p]; exact hf)⟩

theorem keysND_docEq {a b : Doc} (h : DocEq a b) (hk : KeysND a) : KeysND b :=
  fun p n m s hf hkk => hk p n m s (by rw [h p]; exact hf) hkk

theorem docEq_funeral {a b : Doc} (h : DocEq a b) (x t : Ts) : DocEq (a.funeral x t) (b.funeral x t) := by
  intro c; rw [find_funeral, find_funeral, h c, h x]

theorem docEq_makeTomb {a b : Doc} (h : DocEq a b) (x t : Ts) : DocEq (a.makeTomb x t) (b.makeTomb x t) := by
  intro c; rw [find_makeTomb, find_makeTomb, h c, h x]

def SameSort : DKind → DKind → Prop
  | .obj _ _, .obj _ _ => True
  | .arr _ _, .arr _ _ => True
  | _, _ => False

/-- `RStep d e pn K'`: the effect `e` is a remote step on the well-formed `d`. A fresh block of nodes enters the table;
    the entry `pn` of the parent `e.p` gets the kind `K'` of the same sort, whose children are old children of the parent
    or new nodes created under it; the entry `e.x` is left alone, buried or stamped dead. A buried entry is referenced by
    nothing afterwards: it is not in `K'`, and it was a child of the parent (which no other node references) or it is a new
    node that no new node references. This is the common form of `effOf` (object operations) and `DA.effE` (array operations) behind
    `find_applyOp_eff` and `DA.find_applyE`. -/
structure RStep (d : Doc) (e : Eff) (pn : DNode) (K' : DKind) : Prop where
  wf : d.WF
  hp : d.find e.p = some pn
  hs : e.s (some pn) = some { pn with kind := K' }
  block : ∃ ts ts', Block ts e.ns ts'
  fresh : Fresh d e.ns
  sort : SameSort pn.kind K'
  kidsK : ∀ c ∈ kids K', c ∈ kids pn.kind ∨ ∃ n ∈ e.ns, n.c = c ∧ n.parent = some e.p
  kidsnd : (kids K').Nodup
  /-- `e.x` is untouched (then it is `e.p`, by convention); or buried, and nothing may reference it afterwards
      (`wf_funeral`); or stamped dead, and stays the linked child it was -/
  fin : (e.g = id ∧ e.x = e.p) ∨
    (∃ t, e.g = fun1 t ∧ e.x ∉ kids K' ∧
      (e.x ∈ kids pn.kind ∨ (e.x ∈ ids e.ns ∧ ∀ n ∈ e.ns, e.x ∉ kids n.kind))) ∨
    (∃ t, e.g = setD t ∧ e.x ∈ kids pn.kind)
  /-- the rewrite of the parent's kind does not look at what a funeral or a tombstone stamp changes -/
  sg : ∀ t, Comm e.s (fun1 t) ∧ Comm e.s (setD t)

namespace RStep
variable {d d' : Doc} {e : Eff} {pn : DNode} {K' : DKind}

theorem p_old (h : RStep d e pn K') : e.p ∉ ids e.ns := fresh_not_mem h.fresh h.hp

def relinked (d : Doc) (e : Eff) (pn : DNode) (K' : DKind) : Doc := (d.addAll e.ns).set { pn with kind := K' }

theorem wf1 (h : RStep d e pn K') : (d.addAll e.ns).WF :=
  let ⟨_, _, hb⟩ := h.block; wf_addAll h.wf hb h.fresh

theorem hp1 (h : RStep d e pn K') : (d.addAll e.ns).find e.p = some pn := find_addAll_old h.fresh h.hp

theorem find_relinked (h : RStep d e pn K') : (relinked d e pn K').find = upd e.p e.s (U e.ns d.find) := by
  funext c
  unfold relinked
  rw [find_set, find_addAll_U]
  by_cases hc : c = e.p
  · subst hc
    rw [if_pos (find_some_c h.hp), upd_same, U_old h.p_old, h.hp, h.hs]
  · rw [if_neg (fun e' : pn.c = c => hc (e'.symm.trans (find_some_c h.hp))), upd_other _ _ hc]

theorem cases (h : RStep d e pn K') : ∃ c : Doc, c.find = e.run d.find ∧
    (c = relinked d e pn K' ∨
     (∃ t, c = (relinked d e pn K').funeral e.x t ∧ e.x ∉ kids K' ∧
        (e.x ∈ kids pn.kind ∨ (e.x ∈ ids e.ns ∧ ∀ n ∈ e.ns, e.x ∉ kids n.kind))) ∨
     ∃ t, c = (relinked d e pn K').makeTomb e.x t) := by
  unfold Eff.run
  rcases h.fin with ⟨hg, _⟩ | ⟨t, hg, hx⟩ | ⟨t, hg, _⟩
  · exact ⟨_, by rw [hg, upd_id, h.find_relinked], Or.inl rfl⟩
  · exact ⟨_, by rw [find_funeral_upd, h.find_relinked, hg], Or.inr (Or.inl ⟨t, rfl, hx⟩)⟩
  · exact ⟨_, by rw [find_makeTomb_upd, h.find_relinked, hg], Or.inr (Or.inr ⟨t, rfl⟩)⟩

theorem wf_relinked (h : RStep d e pn K') : (relinked d e pn K').WF := by
  obtain ⟨ts, ts', hb⟩ := h.block
  refine wf_setKind h.wf1 h.hp1 K' (fun c hc => ?_) h.kidsnd
  rcases h.kidsK c hc with hc | ⟨n, hn, rfl, hpar⟩
  · exact h.wf1.child e.p pn h.hp1 c hc
  · exact ⟨n, find_addAll_new (block_ids_nodup hb) hn, hpar⟩

theorem unlinked (h : RStep d e pn K') (hx : e.x ∉ kids K')
    (hx' : e.x ∈ kids pn.kind ∨ (e.x ∈ ids e.ns ∧ ∀ n ∈ e.ns, e.x ∉ kids n.kind)) :
    ∀ q n, (relinked d e pn K').find q = some n → e.x ∉ kids n.kind := by
  obtain ⟨ts, ts', hb⟩ := h.block
  intro q n hq hmem
  rcases find_setKind_cases h.hp1 hq with ⟨_, rfl⟩ | ⟨hqp, hq⟩
  · exact hx hmem
  · rcases find_addAll_cases hq with ⟨hn, _⟩ | ⟨_, hd⟩
    · -- a new node references new nodes only
      rcases hx' with hk | ⟨_, hun⟩
      · obtain ⟨nc, hnc, h1, _⟩ := hb.links n hn _ hmem
        obtain ⟨nx, hnx, _⟩ := h.wf.child e.p pn h.hp _ hk
        exact fresh_not_mem h.fresh hnx (h1 ▸ List.mem_map.mpr ⟨nc, hnc, rfl⟩)
      · exact hun n hn hmem
    · rcases hx' with hk | ⟨hnew, _⟩
      · exact hqp (wf_unique_parent h.wf h.hp hd hk hmem).symm
      · obtain ⟨nx, hnx, _⟩ := h.wf.child q n hd _ hmem
        exact fresh_not_mem h.fresh hnx hnew

theorem wf_next (h : RStep d e pn K') (hf : d'.find = e.run d.find) (hnd : (ids d'.table).Nodup) : d'.WF := by
  obtain ⟨c, hcf, hc⟩ := h.cases
  refine wf_docEq (a := c) (fun x => by rw [hcf, hf]) hnd ?_
  rcases hc with rfl | ⟨t, rfl, hx, hx'⟩ | ⟨t, rfl⟩
  · exact h.wf_relinked
  · exact wf_funeral h.wf_relinked e.x t (h.unlinked hx hx')
  · exact wf_makeTomb h.wf_relinked e.x t

theorem keysND_next (h : RStep d e pn K') (hf : d'.find = e.run d.find) (hk : KeysND d)
    (hn : NodesKeysND e.ns) (hK : ∀ m s, K' = .obj m s → (m.map (·.1)).Nodup) : KeysND d' := by
  have h2 : KeysND (relinked d e pn K') := by
    intro q n m s hq hkind
    rcases find_setKind_cases h.hp1 hq with ⟨_, rfl⟩ | ⟨_, hq⟩
    · exact hK m s hkind
    · exact keysND_addAll hk hn q n m s hq hkind
  obtain ⟨c, hcf, hc⟩ := h.cases
  refine keysND_docEq (a := c) (fun x => by rw [hcf, hf]) ?_
  rcases hc with rfl | ⟨t, rfl, _⟩ | ⟨t, rfl⟩
  · exact h2
  · exact keysND_funeral h2 e.x t
  · exact keysND_makeTomb h2 e.x t

theorem ranked_next (h : RStep d e pn K') (hf : d'.find = e.run d.find) {rk : Ts → Nat} (hr : Ranked d rk) :
    ∃ rk', Ranked d' rk' := by
  obtain ⟨ts, ts', hb⟩ := h.block
  have hK : ∀ c ∈ kids K', c ∈ ids e.ns ∨ c ∈ kids pn.kind := fun c hc =>
    (h.kidsK c hc).elim Or.inr fun ⟨n, hn, e1, _⟩ => Or.inl (e1 ▸ List.mem_map.mpr ⟨n, hn, rfl⟩)
  have h1 : Ranked (relinked d e pn K') _ := ranked_relink h.wf hb h.fresh h.hp hr K' hK
  obtain ⟨c, hcf, hc⟩ := h.cases
  have h2 : Ranked c (newRank rk e.ns ts') := by
    rcases hc with rfl | ⟨t, rfl, _⟩ | ⟨t, rfl⟩
    · exact h1
    · exact ranked_funeral h1 _ _
    · exact ranked_makeTomb h1 _ _
  exact ⟨_, fun q n hq => h2 q n (by rw [hcf, ← hf]; exact hq)⟩

theorem find_old (h : RStep d e pn K') (hf : d'.find = e.run d.find) {q : Ts} {n : DNode}
    (hq : d.find q = some n) (hqp : q ≠ e.p) (hqx : q ≠ e.x ∨ e.g = id) : d'.find q = some n := by
  rw [hf, run_other (fresh_not_mem h.fresh hq) hqx, if_neg hqp, hq]

theorem find_p (h : RStep d e pn K') (hf : d'.find = e.run d.find) (hx : e.x ≠ e.p ∨ e.g = id) :
    d'.find e.p = some { pn with kind := K' } := by
  rw [hf, run_other h.p_old (hx.imp Ne.symm id), if_pos rfl, h.hp, h.hs]

theorem g_cases (h : RStep d e pn K') : e.g = id ∨ (∃ t, e.g = fun1 t) ∨ ∃ t, e.g = setD t := by
  rcases h.fin with ⟨hg, _⟩ | ⟨t, hg, _⟩ | ⟨t, hg, _⟩
  · exact Or.inl hg
  · exact Or.inr (Or.inl ⟨t, hg⟩)
  · exact Or.inr (Or.inr ⟨t, hg⟩)

theorem cont (h : RStep d e pn K') (v : JVal) : pn.kind ≠ .elem v := fun hv => by
  have := h.sort
  rw [hv] at this
  cases K' <;> exact this

theorem cont' (h : RStep d e pn K') (v : JVal) : K' ≠ .elem v := fun hv => by
  have := h.sort
  rw [hv] at this
  cases hk : pn.kind <;> rw [hk] at this <;> exact this

theorem find_cont (h : RStep d e pn K') (hf : d'.find = e.run d.find) {q : Ts} {n : DNode}
    (hq : d.find q = some n) (hcont : ∀ v, n.kind ≠ .elem v) :
    ∃ n', d'.find q = some n' ∧ n'.parent = n.parent ∧ n'.kind = if q = e.p then K' else n.kind := by
  have hqn := fresh_not_mem h.fresh hq
  -- before the last entry is touched …
  obtain ⟨n1, hn1, hpar, hkind⟩ : ∃ n1, upd e.p e.s (U e.ns d.find) q = some n1 ∧ n1.parent = n.parent ∧
      n1.kind = if q = e.p then K' else n.kind := by
    by_cases hqp : q = e.p
    · subst hqp
      cases Option.some.inj (hq.symm.trans h.hp)
      rw [upd_same, U_old hqn, hq, if_pos rfl]
      exact ⟨_, h.hs, rfl, rfl⟩
    · rw [upd_other _ _ hqp, U_old hqn, if_neg hqp]; exact ⟨n, hq, rfl, rfl⟩
  have hcont1 : ∀ v, n1.kind ≠ .elem v := by
    intro v hv
    rw [hkind] at hv
    split at hv
    · exact h.cont' v hv
    · exact hcont v hv
  -- … and a funeral or a stamp leaves parent and kind of a container alone
  rw [hf]
  unfold Eff.run
  by_cases hx : q = e.x
  · subst hx
    rw [upd_same, hn1]
    obtain ⟨nc, nd, np, nk⟩ := n1
    rcases h.g_cases with hg | ⟨t, hg⟩ | ⟨t, hg⟩ <;> rw [hg]
    · exact ⟨_, rfl, hpar, hkind⟩
    · cases nk with
      | elem v => exact absurd rfl (hcont1 v)
      | obj m s => exact ⟨_, rfl, hpar, hkind⟩
      | arr sl s => exact ⟨_, rfl, hpar, hkind⟩
    · exact ⟨_, rfl, hpar, hkind⟩
  · rw [upd_other _ _ hx]; exact ⟨n1, hn1, hpar, hkind⟩

theorem sort_next (h : RStep d e pn K') (hf : d'.find = e.run d.find) {q : Ts} {n : DNode}
    (hq : d.find q = some n) (hcont : ∀ v, n.kind ≠ .elem v) : ∃ n', d'.find q = some n' ∧ SameSort n.kind n'.kind := by
  obtain ⟨n', hn', _, hk'⟩ := h.find_cont hf hq hcont
  refine ⟨n', hn', ?_⟩
  rw [hk']
  split
  · rename_i hqp
    subst hqp
    cases Option.some.inj (hq.symm.trans h.hp)
    exact h.sort
  · cases hk : n.kind <;> first | exact absurd hk (hcont _) | trivial

theorem isObj_next (h : RStep d e pn K') (hf : d'.find = e.run d.find) {q : Ts} (hq : IsObj d q) : IsObj d' q := by
  obtain ⟨n, m, s, hn, hk⟩ := hq
  obtain ⟨n', hn', hs⟩ := h.sort_next hf hn (by rw [hk]; intro v hv; cases hv)
  rw [hk] at hs
  cases hk' : n'.kind <;> rw [hk'] at hs <;> first | exact hs.elim | exact ⟨n', _, _, hn', hk'⟩

theorem bounded_next (h : RStep d e pn K') (hf : d'.find = e.run d.find) (hnd : (ids d'.table).Nodup)
    (hbd : Bounded d) : Bounded d' :=
  let ⟨_, hr, _⟩ := hbd
  let ⟨n', hn', _⟩ := h.find_cont hf h.hp h.cont
  bounded_of (h.wf_next hf hnd) (h.ranked_next hf hr) ⟨_, n', hn'⟩

theorem viewOK_next (h : RStep d e pn K') (hf : d'.find = e.run d.find) (hnd : (ids d'.table).Nodup)
    (hv : ViewOK d) (hn : NodesKeysND e.ns) (hK : ∀ m s, K' = .obj m s → (m.map (·.1)).Nodup) : ViewOK d' :=
  ⟨h.keysND_next hf hv.keys hn hK, h.bounded_next hf hnd hv.bounded, h.isObj_next hf hv.root⟩

theorem find_next_cases (h : RStep d e pn K') (hf : d'.find = e.run d.find) {q : Ts} {n : DNode}
    (hq : d'.find q = some n) : (d.find q).isSome ∨ q ∈ ids e.ns := by
  by_cases hn : q ∈ ids e.ns
  · exact Or.inr hn
  · left
    cases hd : d.find q with
    | some _ => rfl
    | none =>
      exfalso
      rw [hf] at hq
      unfold Eff.run at hq
      have h1 : upd e.p e.s (U e.ns d.find) q = none := by
        by_cases hp : q = e.p
        · rw [hp, h.hp] at hd; cases hd
        · rw [upd_other _ _ hp, U_old hn, hd]
      by_cases hx : q = e.x
      · subst hx
        rw [upd_same, h1] at hq
        rcases h.g_cases with hg | ⟨t, hg⟩ | ⟨t, hg⟩ <;> rw [hg] at hq <;> cases hq
      · rw [upd_other _ _ hx, h1] at hq; cases hq

theorem find_none_next (h : RStep d e pn K') (hf : d'.find = e.run d.find) {c : Ts} (hc : d.find c = none)
    (hn : c ∉ ids e.ns) : d'.find c = none := by
  cases hd : d'.find c with
  | none => rfl
  | some n =>
    rcases h.find_next_cases hf hd with h1 | h1
    · rw [hc] at h1; cases h1
    · exact absurd h1 hn

theorem fresh_next (h : RStep d e pn K') (hf : d'.find = e.run d.find) {ns : List DNode} (hfr : Fresh d ns)
    (hd : ∀ c, c ∈ ids e.ns → c ∈ ids ns → False) : Fresh d' ns := by
  intro c hc
  cases hq : d'.find c with
  | none => rfl
  | some n =>
    rcases h.find_next_cases hf hq with h1 | h1
    · rw [hfr c hc] at h1; cases h1
    · exact (hd c h1 hc).elim

/-- where the further entry `e.x` is: untouched (then it is the parent), an old child of the parent, or a new node -/
theorem x_where (h : RStep d e pn K') : (e.g = id ∧ e.x = e.p) ∨ e.x ∈ kids pn.kind ∨ e.x ∈ ids e.ns := by
  rcases h.fin with h0 | ⟨t, _, _, hk | ⟨hn, _⟩⟩ | ⟨t, _, hk⟩
  · exact Or.inl h0
  · exact Or.inr (Or.inl hk)
  · exact Or.inr (Or.inr hn)
  · exact Or.inr (Or.inl hk)

theorem x_cases (h : RStep d e pn K') : (d.find e.x).isSome ∨ e.x ∈ ids e.ns := by
  rcases h.x_where with ⟨_, hx⟩ | hk | hn
  · left; rw [hx, h.hp]; rfl
  · obtain ⟨nx, hnx, _⟩ := h.wf.child e.p pn h.hp _ hk; left; rw [hnx]; rfl
  · exact Or.inr hn

theorem comm_s_g {d1 : Doc} {e1 : Eff} {pn1 : DNode} {K1 : DKind} (h : RStep d e pn K') (h1 : RStep d1 e1 pn1 K1) :
    Comm e.s e1.g := by
  rcases h1.g_cases with hg | ⟨t, hg⟩ | ⟨t, hg⟩ <;> rw [hg]
  · exact comm_id_right _
  · exact (h.sg t).1
  · exact (h.sg t).2

theorem x_not_kid (h : RStep d e pn K') {q c : Ts} {nq : DNode} (hq : d.find q = some nq) (hqp : q ≠ e.p)
    (hc : c ∈ kids nq.kind) : c ≠ e.x ∨ e.g = id := by
  obtain ⟨nc, hnc, _⟩ := h.wf.child q nq hq c hc
  rcases h.x_where with ⟨hg, _⟩ | hk | hn
  · exact Or.inr hg
  · exact Or.inl fun e' => hqp (wf_unique_parent h.wf hq h.hp hc (e' ▸ hk))
  · exact Or.inl fun e' => fresh_not_mem h.fresh hnc (e' ▸ hn)

theorem refSt_next (h : RStep d e pn K') (hf : d'.find = e.run d.find) {c : Ts} {nc : DNode}
    (hc : d.find c = some nc) (hx : c ≠ e.x ∨ e.g = id) : refSt d' c = refSt d c := by
  by_cases hcp : c = e.p
  · subst hcp
    cases Option.some.inj (hc.symm.trans h.hp)
    exact refSt_of_d hc (h.find_p hf (hx.imp Ne.symm id)) rfl rfl
  · exact refSt_of_find (by rw [h.find_old hf hc hcp hx, hc])

/-- Everything a decision on the container `q` reads — its kind and the states of its children — is the same
    after a remote step on another parent. -/
theorem stable (h : RStep d e pn K') (hf : d'.find = e.run d.find) {q : Ts} {nq : DNode}
    (hq : d.find q = some nq) (hqp : q ≠ e.p) (hcont : ∀ v, nq.kind ≠ .elem v) :
    ∃ nq', d'.find q = some nq' ∧ nq'.kind = nq.kind ∧ ∀ c ∈ kids nq.kind, refSt d' c = refSt d c := by
  obtain ⟨n', hn', _, hk'⟩ := h.find_cont hf hq hcont
  rw [if_neg hqp] at hk'
  refine ⟨n', hn', hk', fun c hc => ?_⟩
  obtain ⟨nc, hnc, _⟩ := h.wf.child q nq hq c hc
  exact h.refSt_next hf hnc (h.x_not_kid hq hqp hc)

end RStep

theorem rstep_comm {d : Doc} {a b : Eff} {pna pnb : DNode} {Ka Kb : DKind} (ha : RStep d a pna Ka)
    (hb : RStep d b pnb Kb) (hd : ∀ c, c ∈ ids a.ns → c ∈ ids b.ns → False)
    (hs : a.p ≠ b.p ∨ Comm b.s a.s) (hx : b.x ≠ a.x ∨ a.g = id ∨ b.g = id) :
    b.run (a.run d.find) = a.run (b.run d.find) := by
  have old : ∀ {ns : List DNode}, Fresh d ns → ∀ {c : Ts}, (d.find c).isSome → c ∉ ids ns := fun hf c hc hm => by
    rw [hf c hm] at hc; cases hc
  refine eff_comm a b d.find hd (hap := old hb.fresh (by rw [ha.hp]; rfl)) (hbp := old ha.fresh (by rw [hb.hp]; rfl))
    (hax := ha.x_cases.elim (old hb.fresh) fun h h' => hd _ h h')
    (hbx := hb.x_cases.elim (old ha.fresh) fun h h' => hd _ h' h)
    (c1 := hs) (c2 := Or.inr (hb.comm_s_g ha)) (c3 := Or.inr (comm_symm (ha.comm_s_g hb))) (c4 := ?_)
  · rcases hx with hx | hx | hx
    · exact Or.inl hx
    · right; rw [hx]; exact comm_id_right _
    · right; rw [hx]; exact comm_id_left _

theorem rstep_comm_diff {d : Doc} {a b : Eff} {pna pnb : DNode} {Ka Kb : DKind} (ha : RStep d a pna Ka)
    (hb : RStep d b pnb Kb) (hd : ∀ c, c ∈ ids a.ns → c ∈ ids b.ns → False) (hp : a.p ≠ b.p) :
    b.run (a.run d.find) = a.run (b.run d.find) := by
  refine rstep_comm ha hb hd (Or.inl hp) ?_
  by_cases hga : a.g = id
  · exact Or.inr (Or.inl hga)
  by_cases hgb : b.g = id
  · exact Or.inr (Or.inr hgb)
  left
  intro e
  -- each touched entry is a child of its own parent or one of its own new nodes
  have cases : ∀ {x : Eff} {pn : DNode} {K : DKind}, RStep d x pn K → x.g ≠ id → x.x ∈ kids pn.kind ∨ x.x ∈ ids x.ns :=
    fun hx hg => hx.x_where.resolve_left fun h => hg h.1
  rcases cases ha hga with hka | hna <;> rcases cases hb hgb with hkb | hnb
  · exact hp (wf_unique_parent ha.wf ha.hp hb.hp hka (e ▸ hkb))
  · obtain ⟨n, hn, _⟩ := ha.wf.child _ _ ha.hp _ hka; exact fresh_not_mem hb.fresh hn (e ▸ hnb)
  · obtain ⟨n, hn, _⟩ := ha.wf.child _ _ hb.hp _ hkb; exact fresh_not_mem ha.fresh hn (e ▸ hna)
  · exact hd _ hna (e ▸ hnb)

/-- a step that keeps the parent's kind (`e.s = id`, `K' = pn.kind`): every old child stays linked, so the one entry that
    may be buried is a new node that no new node references (a put that loses buries its own root) -/
theorem rstep_keep {d : Doc} (hwf : d.WF) {e : Eff} {pn : DNode} (hp : d.find e.p = some pn) (hs : e.s = id)
    (hb : ∃ ts ts', Block ts e.ns ts') (hf : Fresh d e.ns) (hcont : ∀ v, pn.kind ≠ .elem v)
    (fin : (e.g = id ∧ e.x = e.p) ∨
      (∃ t, e.g = fun1 t ∧ e.x ∉ kids pn.kind ∧ e.x ∈ ids e.ns ∧ ∀ n ∈ e.ns, e.x ∉ kids n.kind) ∨
      (∃ t, e.g = setD t ∧ e.x ∈ kids pn.kind)) :
    RStep d e pn pn.kind :=
  ⟨hwf, hp, by rw [hs]; rfl, hb, hf, by cases hk : pn.kind <;> first | exact absurd hk (hcont _) | trivial,
    fun _ hc => Or.inl hc, hwf.inj _ _ hp,
    fin.imp id (Or.imp (fun ⟨t, h1, h2, h3, h4⟩ => ⟨t, h1, h2, Or.inr ⟨h3, h4⟩⟩) id),
    fun _ => hs ▸ ⟨comm_id_left _, comm_id_left _⟩⟩

/-! ### the object operations: remote steps (`rstep_applyOp`) and steps of the abstraction (`sim_op`) -/

theorem skG_some {pn : DNode} {m : List (String × Ts)} {s : Int} (hk : pn.kind = .obj m s) (K : DKind) :
    skG K (some pn) = some { pn with kind := K } := by simp only [skG, Option.map_some, hk]

theorem effOf_p (d : Doc) (o : ObjOp) : (effOf d o).p = o.parent := by
  cases o <;> simp only [effOf] <;> (repeat' split) <;> rfl

theorem effOf_ns {d : Doc} : ∀ {o : ObjOp}, OpOK d o → (effOf d o).ns = nodesOf o
  | .put p k v ts, h => by
    obtain ⟨pn, m, s, hn, hk⟩ := h.1
    simp only [effOf, findObj_some_iff.mpr ⟨hn, hk⟩]
    (repeat' split) <;> rfl
  | .del _ _ _, _ => by simp only [effOf]; (repeat' split) <;> rfl

/-- an applicable object operation is a remote step; a new object kind of the parent keeps distinct keys -/
theorem rstep_applyOp {d : Doc} (hwf : d.WF) : ∀ (o : ObjOp), OpOK d o → ∃ pn K', RStep d (effOf d o) pn K' ∧
    (KeysND d → ∀ m s, K' = .obj m s → (m.map (·.1)).Nodup)
  | .put p k v ts, h => by
    obtain ⟨pn, m, size, ts', hpre⟩ := putPre_of_ok hwf h
    have hb : ∃ a b, Block a (nodesOf (.put p k v ts)) b := ⟨_, _, hpre.block⟩
    have hcont : ∀ v, pn.kind ≠ .elem v := fun v hv => by rw [hpre.hk] at hv; cases hv
    have hkeep : KeysND d → ∀ m' s, pn.kind = .obj m' s → (m'.map (·.1)).Nodup := fun hk m' s e =>
      hk p pn m' s hpre.hp e
    have hunl : ∀ n ∈ nodesOf (.put p k v ts), ts ∉ kids n.kind := fun n hn =>
      hpre.root_unlinked n.c n (find_addAll_new (block_ids_nodup hpre.block) hn)
    -- the step that links the new root under `k`, whatever happens to the entry `x`
    have link : ∀ s' x g,
        ((g = id ∧ x = p) ∨ ∃ t, g = fun1 t ∧ x ∉ kids (.obj (alSet k ts m) s') ∧ x ∈ kids pn.kind) →
        ∃ pn K', RStep d ⟨nodesOf (.put p k v ts), p, skG (.obj (alSet k ts m) s'), x, g⟩ pn K' ∧
          (KeysND d → ∀ m' s, K' = .obj m' s → (m'.map (·.1)).Nodup) := fun s' x g hfin => by
      obtain ⟨n0, rest, hns, hn0c, hn0p⟩ := hpre.root
      obtain ⟨hnd, hsub⟩ := alSet_vals k hpre.vals_nodup hpre.ts_notin
      refine ⟨pn, _, ⟨hwf, hpre.hp, skG_some hpre.hk _, hb, hpre.fresh, by rw [hpre.hk]; trivial, fun c hc => ?_, hnd,
        hfin.imp id fun ⟨t, h1, h2, h3⟩ => Or.inl ⟨t, h1, h2, Or.inl h3⟩,
        fun t => ⟨comm_skG_fun1 _ _ t, comm_skG_setD _ t⟩⟩,
        fun hk m' s e => by cases e; exact alSet_keys_nodup _ _ _ (hk p pn m size hpre.hp hpre.hk)⟩
      exact (hsub c hc).elim (fun e => Or.inr ⟨n0, hns ▸ List.mem_cons_self, e ▸ hn0c, hn0p⟩)
        fun hc => Or.inl (hpre.kids_eq ▸ hc)
    unfold effOf
    simp only [hpre.findObj]
    cases hk : alFind k m with
    | none =>
      exact link _ _ _ (Or.inl ⟨rfl, rfl⟩)
    | some old =>
      dsimp only
      by_cases hlt : (d.timeOf old).cmp ts = .lt
      · rw [if_pos hlt]
        exact link _ _ _ (Or.inr ⟨ts, rfl, (alSet_vals_some hpre.vals_nodup hk hpre.ts_notin).2.1,
            hpre.kids_eq ▸ alFind_mem_vals hk⟩)
      · rw [if_neg hlt]
        exact ⟨pn, _, rstep_keep hwf hpre.hp rfl hb hpre.fresh hcont (Or.inr (Or.inl ⟨old, rfl,
          hpre.kids_eq ▸ hpre.ts_notin, hpre.ts_new, hunl⟩)), hkeep⟩
  | .del p k ts, h => by
    obtain ⟨pn, m, size, c, hpre⟩ := delPre_of_ok hwf h
    have hb : ∃ a b, Block a ([] : List DNode) b := ⟨ts, ts, block_nil ts⟩
    have hf : Fresh d [] := fun _ hc => (nomatch hc)
    have hkids : kids pn.kind = m.map (·.2) := by rw [hpre.hk]; rfl
    have hcont : ∀ v, pn.kind ≠ .elem v := fun v hv => by rw [hpre.hk] at hv; cases hv
    unfold effOf
    simp only [findObj_some_iff.mpr ⟨hpre.hp, hpre.hk⟩, hpre.hf]
    by_cases hlt : (d.timeOf c).cmp ts = .lt
    · rw [if_pos hlt]
      exact ⟨pn, _, ⟨hwf, hpre.hp, skG_some hpre.hk _, hb, hf, by rw [hpre.hk]; trivial,
        fun x hx => Or.inl (hkids ▸ hx), (hkids ▸ hwf.inj p pn hpre.hp : (m.map (·.2)).Nodup), Or.inr (Or.inr ⟨ts, rfl, hkids ▸ alFind_mem_vals hpre.hf⟩),
        fun t => ⟨comm_skG_fun1 _ _ t, comm_skG_setD _ t⟩⟩,
        fun hk m' s e => by cases e; exact hk p pn m size hpre.hp hpre.hk⟩
    · rw [if_neg hlt]
      exact ⟨pn, _, rstep_keep hwf hpre.hp rfl hb hf hcont (Or.inl ⟨rfl, rfl⟩), fun hk m' s e => hk p pn m' s hpre.hp e⟩



theorem sim_op {d : Doc} (hwf : d.WF) : ∀ (o : ObjOp), OpOK d o → abs (applyOp d o) = absOp o (abs d)
  | .put p k v ts, h => by
    obtain ⟨pn, m, size, ts', hpre⟩ := putPre_of_ok hwf h
    obtain ⟨d', r, hr⟩ := put_ok hpre k
    rw [applyOp_put hr]
    exact sim_put hpre hr
  | .del p k ts, h => by
    obtain ⟨pn, m, size, c, hpre⟩ := delPre_of_ok hwf h
    obtain ⟨d', r, hr⟩ := del_ok hpre ts
    rw [applyOp_del hr]
    have := sim_del hpre hr
    rw [this]
    simp [absOp, nodesOf, abs_mk_nil, ObjOp.parent, ObjOp.key, stepOf]

theorem nodup_op {d : Doc} (hwf : d.WF) : ∀ (o : ObjOp), OpOK d o → (ids (applyOp d o).table).Nodup
  | .put p k v ts, h => by
    obtain ⟨pn, m, size, ts', hpre⟩ := putPre_of_ok hwf h
    obtain ⟨d', r, hr⟩ := put_ok hpre k
    have h1 := nodup_addAll (nodesOf (.put p k v ts)) hwf.nodup
    rw [applyOp_put hr]
    rcases put_cases hpre hr with ⟨_, _, rfl⟩ | ⟨_, _, _, _, rfl⟩ | ⟨_, _, _, rfl⟩
    · exact nodup_set _ h1
    · exact nodup_funeral _ _ (nodup_set _ h1)
    · exact nodup_funeral _ _ h1
  | .del p k ts, h => by
    obtain ⟨pn, m, size, c, hpre⟩ := delPre_of_ok hwf h
    obtain ⟨d', r, hr⟩ := del_ok hpre ts
    rw [applyOp_del hr]
    obtain ⟨_, _, _, _, _, _, _, rfl | rfl⟩ := del_cases hr
    · exact hwf.nodup
    · exact nodup_makeTomb _ _ (nodup_set _ hwf.nodup)

theorem wf_op {d : Doc} (hwf : d.WF) (o : ObjOp) (ho : OpOK d o) : (applyOp d o).WF :=
  let ⟨_, _, h, _⟩ := rstep_applyOp hwf o ho
  h.wf_next (find_applyOp_eff hwf o ho) (nodup_op hwf o ho)

theorem bounded_op {d : Doc} (hwf : d.WF) (hbd : Bounded d) (o : ObjOp) (ho : OpOK d o) : Bounded (applyOp d o) :=
  let ⟨_, _, h, _⟩ := rstep_applyOp hwf o ho
  h.bounded_next (find_applyOp_eff hwf o ho) (nodup_op hwf o ho) hbd

/-! ### applicability is preserved by other operations -/

theorem aop_key_some {A N : Abs} {p q : Ts} {k k' : String} {f : Option KeySt → Step}
    (hf : ∀ s, ((f (some s)).st).isSome) (h : (A.key q k').isSome) : ((aop A N p k f).key q k').isSome := by
  unfold aop applyStep
  rw [kill_key]
  simp only [setKey]
  obtain ⟨s, hs⟩ := Option.isSome_iff_exists.mp h
  by_cases e : q = p ∧ k' = k
  · obtain ⟨rfl, rfl⟩ := e
    simp only [and_self, if_true]
    have : (union A N).key q k' = some s := by simp [union, hs]
    rw [this]; exact hf s
  · simp [e, union, hs]

theorem stepOf_st_isSome (o : ObjOp) (s : KeySt) : ((stepOf o (some s)).st).isSome := by
  cases o <;> simp only [stepOf, putStep, delStep] <;> split <;> rfl

theorem isObj_after_op {d : Doc} (hwf : d.WF) (o : ObjOp) (h : OpOK d o) {q : Ts} (hq : IsObj d q) :
    IsObj (applyOp d o) q :=
  let ⟨_, _, hr, _⟩ := rstep_applyOp hwf o h
  hr.isObj_next (find_applyOp_eff hwf o h) hq

theorem hasKey_after_op {d : Doc} (hwf : d.WF) (o : ObjOp) (h : OpOK d o) {q : Ts} {k : String}
    (hq : HasKey d q k) : HasKey (applyOp d o) q k := by
  rw [hasKey_iff] at hq ⊢
  have := congrArg (fun A => A.key q k) (sim_op hwf o h)
  simp only [abs] at this
  rw [this]
  exact aop_key_some (stepOf_st_isSome o) hq

/-- the created nodes' identifiers differ from the operation's timestamp in the delimiter only (`Ts.key`: era, lamport,
    cuid — not the key of an object) -/
theorem nodesOf_key (o : ObjOp) {c : Ts} (h : c ∈ ids (nodesOf o)) : c.key = o.ts.key := by
  rcases nodesOf_cases o with h0 | ⟨p, k, v, c', t', _, hc⟩
  · rw [h0] at h; cases h
  · have hb := (createNode_spec p o.ts v _ hc).1
    rw [hb.ids] at h
    obtain ⟨i, _, rfl⟩ := mem_delimSeq.mp h
    rfl

theorem nodesOf_disjoint {a b : ObjOp} (hne : a.ts.cmp b.ts ≠ .eq) {c : Ts} (ha : c ∈ ids (nodesOf a))
    (hb : c ∈ ids (nodesOf b)) : False := by
  apply hne
  rw [cmp_eq_iff, ← nodesOf_key a ha, ← nodesOf_key b hb]

theorem opOK_after_op {d : Doc} (hwf : d.WF) {a b : ObjOp} (ha : OpOK d a) (hb : OpOK d b)
    (hne : a.ts.cmp b.ts ≠ .eq) : OpOK (applyOp d a) b := by
  cases b with
  | del p k ts => exact hasKey_after_op hwf a ha hb
  | put p k v ts =>
    obtain ⟨h1, h2, h3⟩ := hb
    obtain ⟨_, _, r, _⟩ := rstep_applyOp hwf a ha
    have hf := find_applyOp_eff hwf a ha
    exact ⟨r.isObj_next hf h1, h2, r.fresh_next hf h3 fun c h1 h2 => nodesOf_disjoint hne (effOf_ns ha ▸ h1) h2⟩

theorem op_comm_ok {d : Doc} (hwf : d.WF) {a b : ObjOp} (ha : OpOK d a) (hb : OpOK d b)
    (hne : a.ts.cmp b.ts ≠ .eq) : OpOK (applyOp d a) b ∧ OpOK (applyOp d b) a :=
  ⟨opOK_after_op hwf ha hb hne, opOK_after_op hwf hb ha (fun e => hne (cmp_eq_symm _ _ e))⟩


/-! ### operations on DIFFERENT parents commute up to `DocEq` -/

theorem effOf_congr {d d' : Doc} (b : ObjOp) {pn pn' : DNode} {m : List (String × Ts)} {s : Int}
    (hp : d.find b.parent = some pn) (hk : pn.kind = .obj m s) (hp' : d'.find b.parent = some pn')
    (hk' : pn'.kind = pn.kind) (hr : ∀ c ∈ kids pn.kind, refSt d' c = refSt d c) : effOf d' b = effOf d b := by
  have f1 := findObj_some_iff.mpr ⟨hp, hk⟩
  have f2 := findObj_some_iff.mpr ⟨hp', hk'.trans hk⟩
  have hr' : ∀ k c, alFind k m = some c → d'.timeOf c = d.timeOf c ∧ d'.isTomb c = d.isTomb c := fun k c hc =>
    have h := hr c (hk ▸ alFind_mem_vals hc)
    ⟨congrArg KeySt.time h, congrArg KeySt.tomb h⟩
  cases b with
  | put p k v ts =>
    simp only [effOf, show d.findObj p = _ from f1, show d'.findObj p = _ from f2]
    cases hal : alFind k m with
    | none => rfl
    | some old => obtain ⟨e1, e2⟩ := hr' k old hal; simp only [e1, e2]
  | del p k ts =>
    simp only [effOf, show d.findObj p = _ from f1, show d'.findObj p = _ from f2]
    cases hal : alFind k m with
    | none => rfl
    | some old => obtain ⟨e1, e2⟩ := hr' k old hal; simp only [e1, e2]

theorem effOf_after_op {d : Doc} (hwf : d.WF) {a b : ObjOp} (ha : OpOK d a) (hb : OpOK d b)
    (hpar : a.parent ≠ b.parent) : effOf (applyOp d a) b = effOf d b := by
  obtain ⟨_, _, ra, _⟩ := rstep_applyOp hwf a ha
  obtain ⟨n, m, s, hn, hk⟩ := opOK_isObj hb
  obtain ⟨n', h1, h2, h3⟩ := ra.stable (find_applyOp_eff hwf a ha) hn
    (by rw [effOf_p]; exact hpar.symm) (by rw [hk]; intro v hv; cases hv)
  exact effOf_congr b hn hk h1 h2 h3

/-- two applicable remote object operations on DIFFERENT parents with
    distinguishable timestamps commute up to `DocEq` — including the case where one parent is the
    occupant the other operation supersedes or deletes -/
theorem ops_commute_diff_parents {d : Doc} (hwf : d.WF) {a b : ObjOp} (ha : OpOK d a) (hb : OpOK d b)
    (hne : a.ts.cmp b.ts ≠ .eq) (hpar : a.parent ≠ b.parent) :
    DocEq (applyOp (applyOp d a) b) (applyOp (applyOp d b) a) := by
  obtain ⟨hab, hba⟩ := op_comm_ok hwf ha hb hne
  obtain ⟨_, _, ra, _⟩ := rstep_applyOp hwf a ha
  obtain ⟨_, _, rb, _⟩ := rstep_applyOp hwf b hb
  intro c
  rw [find_applyOp_eff (wf_op hwf a ha) b hab, effOf_after_op hwf ha hb hpar, find_applyOp_eff hwf a ha,
    find_applyOp_eff (wf_op hwf b hb) a hba, effOf_after_op hwf hb ha hpar.symm, find_applyOp_eff hwf b hb]
  exact congrFun (rstep_comm_diff ra rb (fun c h1 h2 => nodesOf_disjoint hne (effOf_ns ha ▸ h1) (effOf_ns hb ▸ h2))
    (by rw [effOf_p, effOf_p]; exact hpar)) c


/-! ### last-writer-wins on one key -/

theorem cmp_lt_or_gt {a b : Ts} (h : a.cmp b ≠ .eq) : a.cmp b = .lt ∨ b.cmp a = .lt := by
  cases hc : a.cmp b with
  | lt => exact Or.inl rfl
  | eq => exact absurd hc h
  | gt => exact Or.inr ((cmp_gt_iff_lt a b).mp hc)

theorem cmp_asymm {a b : Ts} (h1 : a.cmp b = .lt) (h2 : b.cmp a = .lt) : False :=
  cmp_lt_irrefl a (cmp_lt_trans _ _ _ h1 h2)

theorem stepComm_symm {f1 f2 : Option KeySt → Step} {s : Option KeySt} (h : StepComm f1 f2 s) :
    StepComm f2 f1 s := by
  obtain ⟨h1, h2, h3⟩ := h
  refine ⟨h1.symm, h2.symm, ?_⟩
  rcases h3 with ⟨a, b⟩ | ⟨a, b⟩
  · exact Or.inl ⟨b.symm, a.symm⟩
  · exact Or.inr ⟨a.symm, b.symm⟩

/-- without causality a put and a later delete of an ABSENT key do not commute (the delete is refused first) -/
example : ¬ StepComm (putStep ⟨0, 1, "a", 0⟩) (delStep ⟨0, 2, "b", 0⟩) none := by
  simp [StepComm, putStep, delStep]
  decide

theorem stOf_time (o : ObjOp) : (stOf o).time = o.ts := by cases o <;> rfl

/-- one step on an occupied key in closed form: the operation's own state `stOf o` replaces an older state
    and buries its occupant, otherwise the operation's own node (if any) is buried; the size changes by the
    difference of the live counts -/
theorem stepOf_some_eq (o : ObjOp) (s : KeySt) :
    stepOf o (some s) =
      if s.time.cmp o.ts = .lt then
        ⟨some (stOf o), (if (stOf o).tomb then 0 else 1) - (if s.tomb then 0 else 1), s.occ⟩
      else ⟨some s, 0, (stOf o).occ⟩ := by
  cases o <;> cases h : s.tomb <;> simp [stepOf, putStep, delStep, stOf, ObjOp.ts, h]

/-- two steps on the same key commute: the newer state stays, the size changes telescope, and the occupant
    and the older operation's node are buried in either order (a delete needs the key to be present) -/
theorem stepComm_lt {a b : ObjOp} (h12 : a.ts.cmp b.ts = .lt) (s : Option KeySt)
    (ha : isDel a = true → s.isSome) (hb : isDel b = true → s.isSome) :
    StepComm (stepOf a) (stepOf b) s := by
  have h21 : ¬ b.ts.cmp a.ts = .lt := fun h => cmp_asymm h12 h
  cases s with
  | none =>
    cases a with
    | del => cases ha rfl
    | put =>
      cases b with
      | del => cases hb rfl
      | put => simp only [ObjOp.ts] at h12 h21; simp [StepComm, stepOf, putStep, h12, h21]
  | some s =>
    by_cases h1 : s.time.cmp a.ts = .lt
    · have h2 := cmp_lt_trans _ _ _ h1 h12
      refine ⟨?_, ?_, Or.inr ⟨?_, ?_⟩⟩ <;>
        simp only [stepOf_some_eq, stOf_time, h1, h2, h12, h21, if_true, if_false]
      omega
    · by_cases h2 : s.time.cmp b.ts = .lt
      · refine ⟨?_, ?_, Or.inl ⟨?_, ?_⟩⟩ <;>
          simp only [stepOf_some_eq, stOf_time, h1, h2, h21, if_true, if_false]
        omega
      · refine ⟨?_, ?_, Or.inl ⟨?_, ?_⟩⟩ <;> simp only [stepOf_some_eq, h1, h2, if_false]

theorem stepComm_ops {a b : ObjOp} (hne : a.ts.cmp b.ts ≠ .eq) (s : Option KeySt)
    (ha : isDel a = true → s.isSome) (hb : isDel b = true → s.isSome) :
    StepComm (stepOf a) (stepOf b) s :=
  (cmp_lt_or_gt hne).elim (fun h => stepComm_lt h s ha hb) fun h => stepComm_symm (stepComm_lt h s hb ha)


/-! ### two applicable remote operations with distinct timestamps commute up to `Sim` -/

theorem fresh_of_ok {d : Doc} {o : ObjOp} (h : OpOK d o) : Fresh d (nodesOf o) := by
  cases o with
  | put p k v ts => exact h.2.2
  | del p k ts => intro c hc; simp [nodesOf, ids] at hc

theorem not_mem_nodes_of_table {d : Doc} {o : ObjOp} (h : OpOK d o) {x : Ts} {n : DNode} (hx : d.find x = some n) :
    x ∉ ids (nodesOf o) := by
  intro hm
  rw [fresh_of_ok h x hm] at hx; cases hx

theorem bury_cases (o : ObjOp) (s : Option KeySt) {x : Ts} (h : (stepOf o s).bury = some x) :
    (x = o.ts ∧ ∃ p k v, o = .put p k v x) ∨ ∃ st, s = some st ∧ st.occ = some x := by
  cases o with
  | put p k v ts =>
    simp only [stepOf, putStep] at h
    cases s with
    | none => simp at h
    | some st =>
      simp only at h
      split at h
      · exact Or.inr ⟨st, rfl, h⟩
      · simp only [Option.some.injEq] at h
        subst h
        exact Or.inl ⟨rfl, p, k, v, rfl⟩
  | del p k ts =>
    simp only [stepOf, delStep] at h
    cases s with
    | none => simp at h
    | some st =>
      simp only at h
      split at h
      · exact Or.inr ⟨st, rfl, h⟩
      · simp at h

theorem root_mem_nodes {d : Doc} {p : Ts} {k : String} {v : JVal} {ts : Ts} (h : OpOK d (.put p k v ts)) :
    ts ∈ ids (nodesOf (.put p k v ts)) := by
  obtain ⟨_, ⟨ns, c, t', hc⟩, _⟩ := h
  have hroot := createNode_root hc
  subst hroot
  obtain ⟨n0, rest, hns, hc0, _⟩ := (createNode_spec p c v _ hc).2.2
  simp only at hns
  simp [nodesOf, hc, hns, ids, hc0]

theorem key_occ_in_table {d : Doc} (hwf : d.WF) {p : Ts} {k : String} {st : KeySt} {x : Ts}
    (h : keyOf' d p k = some st) (ho : st.occ = some x) : ∃ n, d.find x = some n := by
  rw [keyOf'_eq_occupant] at h
  obtain ⟨c, hc, rfl⟩ := Option.map_eq_some_iff.mp h
  obtain ⟨n, m, s, hn, hk, hal⟩ := occupant_some hc
  simp only [refSt] at ho
  split at ho
  · cases ho
  · cases ho
    obtain ⟨nc, h1, _⟩ := hwf.child p n hn x (hk ▸ alFind_mem_vals hal)
    exact ⟨nc, h1⟩

theorem absOp_comm {d : Doc} (hwf : d.WF) {a b : ObjOp} (ha : OpOK d a) (hb : OpOK d b)
    (hne : a.ts.cmp b.ts ≠ .eq) : absOp b (absOp a (abs d)) = absOp a (absOp b (abs d)) := by
  obtain ⟨na, _, _, hna, _⟩ := opOK_isObj ha
  obtain ⟨nb, _, _, hnb, _⟩ := opOK_isObj hb
  have hne' : b.ts.cmp a.ts ≠ .eq := fun e => hne (cmp_eq_symm _ _ e)
  -- the key of the parent is not affected by the new nodes
  have hkey : ∀ (o : ObjOp) (N : Abs), OpOK d o → Supp N (fun c => c ∈ ids (nodesOf o)) → ∀ n, d.find o.parent = some n →
      (union (abs d) N).key o.parent o.key = keyOf' d o.parent o.key := by
    intro o N ho hN n hn
    have := (hN o.parent (not_mem_nodes_of_table ho hn)).2.2.1 o.key
    simp [union, this, abs]
  have hbury : ∀ (o o' : ObjOp), OpOK d o → OpOK d o' → o.ts.cmp o'.ts ≠ .eq → ∀ n, d.find o.parent = some n →
      ∀ x, (stepOf o ((union (abs d) (abs ⟨nodesOf o⟩)).key o.parent o.key)).bury = some x → x ∉ ids (nodesOf o') := by
    intro o o' ho ho' hn n hfind x hx
    rw [hkey o _ ho (supp_abs_mk _) n hfind] at hx
    rcases bury_cases o _ hx with ⟨h1, p, k, v, h2⟩ | ⟨st, h1, h2⟩
    · intro hm
      have : x ∈ ids (nodesOf o) := by
        rw [h2] at ho ⊢
        exact root_mem_nodes ho
      exact nodesOf_disjoint hn this hm
    · obtain ⟨nx, hnx⟩ := key_occ_in_table hwf h1 h2
      exact not_mem_nodes_of_table ho' hnx
  unfold absOp
  refine aop_comm (abs d) (supp_abs_mk _) (supp_abs_mk _) (hd := fun c h1 h2 => nodesOf_disjoint hne h1 h2)
    (hp1 := not_mem_nodes_of_table hb hna) (hp2 := not_mem_nodes_of_table ha hnb)
    (hb1 := hbury a b ha hb hne na hna) (hb2 := hbury b a hb ha hne' nb hnb) (hc := ?_)
  · by_cases e : a.parent = b.parent ∧ a.key = b.key
    · right
      refine ⟨e.1, e.2, ?_⟩
      have hk2 : (union (union (abs d) (abs ⟨nodesOf a⟩)) (abs ⟨nodesOf b⟩)).key a.parent a.key =
          keyOf' d a.parent a.key := by
        have h1 := hkey a _ ha (supp_abs_mk _) na hna
        have h2 := ((supp_abs_mk (nodesOf b)) a.parent (not_mem_nodes_of_table hb hna)).2.2.1 a.key
        simp only [union] at h1 ⊢
        rw [h1, h2]; simp
      rw [hk2]
      apply stepComm_ops hne
      · exact key_isSome_of_del ha
      · rw [e.1, e.2]; exact key_isSome_of_del hb
    · exact Or.inl e

/-- (`_partial`: up to observational equivalence, not up to `DocEq`, which is false — see the
    counterexamples in `DC.Ex`): two applicable remote object operations with distinguishable timestamps
    commute, whatever their parents and keys -/
theorem op_comm_partial {d : Doc} (hwf : d.WF) {a b : ObjOp} (ha : OpOK d a) (hb : OpOK d b)
    (hne : a.ts.cmp b.ts ≠ .eq) : Sim (applyOp (applyOp d a) b) (applyOp (applyOp d b) a) := by
  have hne' : b.ts.cmp a.ts ≠ .eq := fun e => hne (cmp_eq_symm _ _ e)
  unfold Sim
  rw [sim_op (wf_op hwf a ha) b (opOK_after_op hwf ha hb hne), sim_op hwf a ha,
    sim_op (wf_op hwf b hb) a (opOK_after_op hwf hb ha hne'), sim_op hwf b hb]
  exact absOp_comm hwf ha hb hne

/-! ### permutations of a list of operations

`Good d ops` asks every operation to be applicable in `d` itself: a list holds no operation that needs another one first
(a delete of a key that a put of the same list creates).  Histories in which an operation becomes applicable at its
turn: `DCausal.causal_asim` (Proofs/DocCausal.lean). -/

/-- a well-formed document ready for the operations `ops` in any order: each one is applicable
    (object parent present; put: creatable value, fresh identifiers; delete: key present), and their
    timestamps are pairwise distinguishable by `Ts.cmp` -/
def Good (d : Doc) (ops : List ObjOp) : Prop :=
  d.WF ∧ (∀ o ∈ ops, OpOK d o) ∧ ops.Pairwise (fun a b => a.ts.cmp b.ts ≠ .eq)

def applyAll (d : Doc) (ops : List ObjOp) : Doc := ops.foldl applyOp d

theorem Good.wf {d : Doc} {ops : List ObjOp} (h : Good d ops) : d.WF := h.1
theorem Good.ok {d : Doc} {ops : List ObjOp} (h : Good d ops) : ∀ o ∈ ops, OpOK d o := h.2.1
theorem Good.distinct {d : Doc} {ops : List ObjOp} (h : Good d ops) :
    ops.Pairwise (fun a b => a.ts.cmp b.ts ≠ .eq) := h.2.2
theorem Good.head {d : Doc} {x : ObjOp} {l : List ObjOp} (h : Good d (x :: l)) : OpOK d x := h.ok x List.mem_cons_self

theorem good_perm {d : Doc} {l l' : List ObjOp} (hp : l.Perm l') (h : Good d l) : Good d l' := by
  refine ⟨h.wf, fun o ho => h.ok o (hp.mem_iff.mpr ho), ?_⟩
  refine (List.Perm.pairwise_iff ?_ hp).mp h.distinct
  intro x y hxy e
  exact hxy (cmp_eq_symm _ _ e)

theorem good_step {d : Doc} {x : ObjOp} {l : List ObjOp} (h : Good d (x :: l)) : Good (applyOp d x) l := by
  obtain ⟨hwf, hok, hpw⟩ := h
  rw [List.pairwise_cons] at hpw
  have hx := hok x (by simp)
  refine ⟨wf_op hwf x hx, ?_, hpw.2⟩
  intro o ho
  exact opOK_after_op hwf hx (hok o (List.mem_cons_of_mem _ ho)) (hpw.1 o ho)

theorem wf_applyAll {l : List ObjOp} : ∀ {d : Doc}, Good d l → (applyAll d l).WF := by
  induction l with
  | nil => intro d h; exact h.wf
  | cons x l ih => intro d h; exact ih (good_step h)

theorem applyAll_append (d : Doc) (a b : List ObjOp) : applyAll d (a ++ b) = applyAll (applyAll d a) b := by
  simp [applyAll, List.foldl_append]

theorem good_append_left {d : Doc} {a b : List ObjOp} (h : Good d (a ++ b)) : Good d a :=
  ⟨h.wf, fun o ho => h.ok o (List.mem_append_left _ ho), (List.pairwise_append.mp h.distinct).1⟩

theorem good_applyAll_append {a : List ObjOp} : ∀ {d : Doc} {b : List ObjOp}, Good d (a ++ b) →
    Good (applyAll d a) b := by
  induction a with
  | nil => intro d b h; exact h
  | cons x a ih => intro d b h; exact ih (good_step h)

theorem sim_congr_op {d d' : Doc} {x : ObjOp} {l : List ObjOp} (h1 : Good d (x :: l)) (h2 : Good d' (x :: l))
    (h : Sim d d') : Sim (applyOp d x) (applyOp d' x) := by
  unfold Sim at *
  rw [sim_op h1.wf x h1.head, sim_op h2.wf x h2.head, h]

theorem abs_applyAll {l : List ObjOp} : ∀ {d : Doc}, Good d l →
    abs (applyAll d l) = l.foldl (fun A o => absOp o A) (abs d) := by
  induction l with
  | nil => intro d _; rfl
  | cons x l ih =>
    intro d h
    simp only [applyAll, List.foldl_cons]
    have := ih (good_step h)
    simp only [applyAll] at this
    rw [this, sim_op h.wf x h.head]

/-- two replicas that start from observationally equivalent well-formed documents and apply the same
    remote object operations (puts / deletes on existing object parents, fresh identifiers, deletes only
    of present keys, pairwise distinguishable timestamps) in two different orders end in observationally
    equivalent documents -/
theorem converge_sim {d d' : Doc} {l l' : List ObjOp} (hp : l.Perm l') (h : Good d l) (h' : Good d' l)
    (hs : Sim d d') : Sim (applyAll d l) (applyAll d' l') :=
  Exch.perm_fold_equiv applyOp Sim sim_equivalence (Inv := Good)
    (inv_perm := fun _ _ _ hp h => good_perm hp h) (inv_step := fun _ _ _ h => good_step h)
    (congr := fun _ _ _ _ h1 h2 h => sim_congr_op h1 h2 h)
    (comm := fun _ x y _ h =>
      op_comm_partial h.wf h.head (h.ok y (by simp)) ((List.pairwise_cons.mp h.distinct).1 y List.mem_cons_self))
    l l' hp d d' h h' hs

theorem converge_sim_same {d : Doc} {l l' : List ObjOp} (hp : l.Perm l') (h : Good d l) :
    Sim (applyAll d l) (applyAll d l') := converge_sim hp h h (sim_refl d)


/-! ### what one key holds after any application order -/

/-- the operations of a list that address key `k` of `p` -/
def keyOps (p : Ts) (k : String) (ops : List ObjOp) : List ObjOp :=
  ops.filter (fun o => decide (o.parent = p ∧ o.key = k))

/-- last-writer-wins against the initial state `s` of the key -/
def lww (s : Option KeySt) (w : Option ObjOp) : Option KeySt :=
  match w, s with
  | none, s => s
  | some w, none => some (stOf w)
  | some w, some st => if st.time.cmp w.ts = .lt then some (stOf w) else some st

theorem stepOf_st_some (o : ObjOp) (st : KeySt) :
    (stepOf o (some st)).st = if st.time.cmp o.ts = .lt then some (stOf o) else some st := by
  rw [stepOf_some_eq]; split <;> rfl

theorem stepOf_st_none (o : ObjOp) (h : isDel o = false) : (stepOf o none).st = some (stOf o) := by
  cases o with
  | put p k v ts => rfl
  | del p k ts => cases h

/-- the keys of an object are an instance of `foldl_lwwCell`: only a put binds a key that holds nothing -/
theorem fold_lww (s : Option KeySt) (l : List ObjOp) (h : s = none → ∀ o ∈ l, isDel o = false) :
    l.foldl (fun s o => (stepOf o s).st) s = lww s (Spec.maxBy ObjOp.ts l) := by
  rw [show lww s (Spec.maxBy ObjOp.ts l) = lwwCell ObjOp.ts stOf KeySt.time s (Spec.maxBy ObjOp.ts l) by
    cases Spec.maxBy ObjOp.ts l <;> cases s <;> rfl]
  exact foldl_lwwCell ObjOp.ts stOf KeySt.time stOf_time (fun e a => stepOf_st_some a e) s l
    fun hs a ha => stepOf_st_none a (h hs a (List.mem_of_mem_head? ha))

theorem absOp_key {o : ObjOp} {A : Abs} {q : Ts} (hq : q ∉ ids (nodesOf o)) (k' : String) :
    (absOp o A).key q k' =
      if o.parent = q ∧ o.key = k' then (stepOf o (A.key q k')).st else A.key q k' := by
  have hN := (supp_abs_mk (nodesOf o)) q hq
  have hu : ∀ k'', (union A (abs ⟨nodesOf o⟩)).key q k'' = A.key q k'' := by
    intro k''; simp [union, hN.2.2.1 k'']
  unfold absOp aop applyStep
  rw [kill_key]
  simp only [setKey]
  by_cases e : o.parent = q ∧ o.key = k'
  · obtain ⟨rfl, rfl⟩ := e
    simp [hu]
  · have : ¬ (q = o.parent ∧ k' = o.key) := fun h => e ⟨h.1.symm, h.2.symm⟩
    simp [e, this, hu]

theorem fold_absOp_key {q : Ts} {k' : String} : ∀ (l : List ObjOp) (A : Abs), (∀ o ∈ l, q ∉ ids (nodesOf o)) →
    (l.foldl (fun A o => absOp o A) A).key q k' =
      (keyOps q k' l).foldl (fun s o => (stepOf o s).st) (A.key q k') := by
  intro l
  induction l with
  | nil => intro A _; rfl
  | cons x l ih =>
    intro A h
    simp only [List.foldl_cons, keyOps]
    rw [ih _ (fun o ho => h o (List.mem_cons_of_mem _ ho)), absOp_key (h x (by simp))]
    by_cases e : x.parent = q ∧ x.key = k'
    · simp [e, keyOps]
    · simp [e, keyOps]

/-- the state of key `k` of an object `p` of the initial document, after ANY application order of
    applicable remote puts/deletes: last-writer-wins between the initial state of the key and the
    operation on that key with the greatest timestamp (`KeySt` = tombstone flag, LWW time, live occupant) -/
theorem key_denote {d : Doc} {ops : List ObjOp} (h : Good d ops) {p : Ts} {n : DNode} (hp : d.find p = some n)
    (k : String) :
    keyOf' (applyAll d ops) p k = lww (keyOf' d p k) (Spec.maxBy ObjOp.ts (keyOps p k ops)) := by
  have hq : ∀ o ∈ ops, p ∉ ids (nodesOf o) := fun o ho => not_mem_nodes_of_table (h.ok o ho) hp
  have h1 := congrArg (fun A => A.key p k) (abs_applyAll h)
  simp only [abs] at h1
  rw [h1, fold_absOp_key ops _ hq]
  apply fold_lww
  intro hnone o ho
  simp only [keyOps, List.mem_filter, decide_eq_true_eq] at ho
  cases hdel : isDel o with
  | false => rfl
  | true =>
    have hk := key_isSome_of_del (h.ok _ ho.1) hdel
    have hnone' : keyOf' d p k = none := hnone
    rw [ho.2.1, ho.2.2, hnone'] at hk
    cases hk

/-- the right-hand side of `key_denote` does not depend on the order -/
theorem keyOps_maxBy_perm {l l' : List ObjOp} (hp : l.Perm l')
    (hd : l.Pairwise (fun a b => a.ts.cmp b.ts ≠ .eq)) (p : Ts) (k : String) :
    Spec.maxBy ObjOp.ts (keyOps p k l) = Spec.maxBy ObjOp.ts (keyOps p k l') :=
  maxBy_filter_perm ObjOp.ts _ hp hd

theorem key_denote_win {d : Doc} {ops : List ObjOp} (h : Good d ops) {p : Ts} {n : DNode} (hp : d.find p = some n)
    {k : String} {w : ObjOp} (hw : Spec.maxBy ObjOp.ts (keyOps p k ops) = some w)
    (hnew : ∀ st, keyOf' d p k = some st → st.time.cmp w.ts = .lt) :
    ∃ c, occupant (applyAll d ops) p k = some c ∧ refSt (applyAll d ops) c = stOf w := by
  have h1 := key_denote h hp k
  have h2 : lww (keyOf' d p k) (some w) = some (stOf w) := by
    cases hs : keyOf' d p k with
    | none => rfl
    | some st => simp only [lww, hnew st hs, if_true]
  rw [hw, h2, keyOf'_eq_occupant] at h1
  exact Option.map_eq_some_iff.mp h1

/-- puts: if the newest operation on key `k` of `p` is a put (newer than what the key held
    initially), then — in any application order — the key is occupied by the root node created by that
    put (identifier = the put's timestamp), and that node is live -/
theorem key_denote_put {d : Doc} {ops : List ObjOp} (h : Good d ops) {p : Ts} {n : DNode} (hp : d.find p = some n)
    {k : String} {p' : Ts} {k' : String} {v : JVal} {ts : Ts}
    (hw : Spec.maxBy ObjOp.ts (keyOps p k ops) = some (.put p' k' v ts))
    (hnew : ∀ st, keyOf' d p k = some st → st.time.cmp ts = .lt) :
    occupant (applyAll d ops) p k = some ts ∧ (applyAll d ops).isTomb ts = false := by
  obtain ⟨c, ho, hc⟩ := key_denote_win h hp hw hnew
  have ht : (applyAll d ops).isTomb c = false := congrArg KeySt.tomb hc
  have hocc := congrArg KeySt.occ hc
  simp only [refSt, stOf, ht, Bool.false_eq_true, if_false, Option.some.injEq] at hocc
  subst hocc
  exact ⟨ho, ht⟩

/-- deletes: if the newest operation on the key is a delete (newer than what the key held initially),
    the occupant of the key is a tombstone in any application order: the key is absent from the view -/
theorem key_denote_del {d : Doc} {ops : List ObjOp} (h : Good d ops) {p : Ts} {n : DNode} (hp : d.find p = some n)
    {k : String} {p' : Ts} {k' : String} {ts : Ts}
    (hw : Spec.maxBy ObjOp.ts (keyOps p k ops) = some (.del p' k' ts))
    (hnew : ∀ st, keyOf' d p k = some st → st.time.cmp ts = .lt) :
    ∃ c, occupant (applyAll d ops) p k = some c ∧ (applyAll d ops).isTomb c = true ∧
      (applyAll d ops).timeOf c = ts := by
  obtain ⟨c, ho, hc⟩ := key_denote_win h hp hw hnew
  exact ⟨c, ho, congrArg KeySt.tomb hc, congrArg KeySt.time hc⟩


/-! ### counterexamples: commutation up to `DocEq` is FALSE (three independent reasons), and non-vacuity -/

namespace Ex
def tA : Ts := ⟨0, 1, "a", 0⟩
def tB : Ts := ⟨0, 2, "b", 0⟩
def tC : Ts := ⟨0, 3, "c", 0⟩
def tD : Ts := ⟨0, 4, "d", 0⟩
def root : Ts := Ts.oldest

def keysAt (d : Doc) (c : Ts) : List String :=
  match d.find c with
  | some n => (match n.kind with | .obj m _ => m.map (·.1) | _ => [])
  | none => []
def dOf (d : Doc) (c : Ts) : Option (Option Ts) := (d.find c).map (·.d)

theorem not_docEq_of_keysAt {a b : Doc} (c : Ts) (h : keysAt a c ≠ keysAt b c) : ¬ DocEq a b := by
  intro e; apply h; unfold keysAt; rw [e c]
theorem not_docEq_of_dOf {a b : Doc} (c : Ts) (h : dOf a c ≠ dOf b c) : ¬ DocEq a b := by
  intro e; apply h; unfold dOf; rw [e c]
theorem not_docEq_of_occupant {a b : Doc} (p : Ts) (k : String) (h : occupant a p k ≠ occupant b p k) :
    ¬ DocEq a b := by
  intro e; apply h; unfold occupant; rw [docEq_findObj e p]

/-- (1) key order: two puts of NEW keys of the same object: the association list keeps arrival order,
    so neither `DocEq` nor syntactic equality of `view` holds; the key-sorted views agree -/
def e1a : Doc := applyAll Doc.empty [.put root "x" (.num 1) tA, .put root "y" (.num 2) tB]
def e1b : Doc := applyAll Doc.empty [.put root "y" (.num 2) tB, .put root "x" (.num 1) tA]
example : keysAt e1a root = ["x", "y"] ∧ keysAt e1b root = ["y", "x"] := by decide +kernel
theorem put_put_not_docEq_keyOrder : ¬ DocEq e1a e1b := not_docEq_of_keysAt root (by decide +kernel)
example : (e1a.view == e1b.view) = false ∧ (e1a.view.canon == e1b.view.canon) = true := by decide +kernel

/-- (2) deletion time of a superseded container: `k ↦ {x:1}` (put A), then puts B < C on the same key.
    The tombstoned object A keeps `d = B` in one order and `d = C` in the other (funeral with the winner
    of the moment); A is referenced by nobody any more, the views are equal -/
def base2 : Doc := applyOp Doc.empty (.put root "k" (.obj [("x", .num 1)]) tA)
def e2a : Doc := applyAll base2 [.put root "k" (.num 2) tB, .put root "k" (.num 3) tC]
def e2b : Doc := applyAll base2 [.put root "k" (.num 3) tC, .put root "k" (.num 2) tB]
example : dOf e2a tA = some (some tB) ∧ dOf e2b tA = some (some tC) := by decide +kernel
theorem put_put_not_docEq_tombTime : ¬ DocEq e2a e2b := not_docEq_of_dOf tA (by decide +kernel)
example : (e2a.view == e2b.view) = true := by decide +kernel

/-- (3) put / delete on a present key, A < B < C (A element, B object put, C delete): the key ends as a
    tombstone with time C in both orders, but its occupant is the tombstoned B in one order and the
    tombstoned A in the other, and the node tables have different sizes (A left the table in one order) -/
def base3 : Doc := applyOp Doc.empty (.put root "k" (.num 1) tA)
def e3a : Doc := applyAll base3 [.put root "k" (.obj [("x", .num 1)]) tB, .del root "k" tC]
def e3b : Doc := applyAll base3 [.del root "k" tC, .put root "k" (.obj [("x", .num 1)]) tB]
example : occupant e3a root "k" = some tB ∧ occupant e3b root "k" = some tA := by decide +kernel
example : e3a.table.length = 3 ∧ e3b.table.length = 4 := by decide +kernel
theorem put_del_not_docEq_occupant : ¬ DocEq e3a e3b := not_docEq_of_occupant root "k" (by decide +kernel)
example : (e3a.view == e3b.view) = true := by decide +kernel
example : e3a.timeOf tB = tC ∧ e3b.timeOf tA = tC ∧ e3a.isTomb tB = true ∧ e3b.isTomb tA = true := by decide +kernel

/-- a nested scenario — put of a nested object, put inside it, put replacing a nested key, delete —
    in two application orders of the three later operations -/
def nested : JVal := .obj [("a", .arr [.num 1, .obj [("z", .str "s")]]), ("b", .obj [("c", .bool true)])]
def base4 : Doc := applyOp Doc.empty (.put root "doc" nested tA)
/-- identifier of the object under "b" (created fifth by the depth-first traversal) -/
def idB : Ts := ⟨0, 1, "a", 5⟩
example : occupant base4 tA "b" = some idB := by decide +kernel
def ops4 : List ObjOp := [.put idB "c" (.num 7) tB, .put idB "n" (.obj [("q", .num 9)]) tC, .del idB "c" tD]
def ops4' : List ObjOp := [.del idB "c" tD, .put idB "n" (.obj [("q", .num 9)]) tC, .put idB "c" (.num 7) tB]
example : (applyAll base4 ops4).view.canon == (applyAll base4 ops4').view.canon := by decide +kernel
example : ((applyAll base4 ops4).view ==
    .obj [("doc", .obj [("a", .arr [.num 1, .obj [("z", .str "s")]]), ("b", .obj [("n", .obj [("q", .num 9)])])])]) = true := by
  decide +kernel
example : ((applyAll base4 ops4').view ==
    .obj [("doc", .obj [("a", .arr [.num 1, .obj [("z", .str "s")]]), ("b", .obj [("n", .obj [("q", .num 9)])])])]) = true := by
  decide +kernel

theorem fresh_of_all {d : Doc} {ns : List DNode} (h : (ids ns).all (fun c => (d.find c).isNone) = true) :
    Fresh d ns := by
  intro c hc
  have := List.all_eq_true.mp h c hc
  simpa using this

theorem base4_wf : base4.WF :=
  wf_op wf_doc_empty _ ⟨⟨_, _, _, rfl, rfl⟩, ⟨_, _, _, rfl⟩, fresh_of_all (by decide +kernel)⟩

/-- the hypotheses of the convergence theorem are satisfiable -/
theorem good4 : Good base4 ops4 := by
  refine ⟨base4_wf, ?_, by decide +kernel⟩
  intro o ho
  simp only [ops4, List.mem_cons, List.mem_nil_iff, or_false] at ho
  rcases ho with rfl | rfl | rfl
  · exact ⟨⟨_, _, _, rfl, rfl⟩, ⟨_, _, _, rfl⟩, fresh_of_all (by decide +kernel)⟩
  · exact ⟨⟨_, _, _, rfl, rfl⟩, ⟨_, _, _, rfl⟩, fresh_of_all (by decide +kernel)⟩
  · exact ⟨_, _, _, _, rfl, rfl, rfl⟩

example : Sim (applyAll base4 ops4) (applyAll base4 ops4') :=
  converge_sim_same (List.reverse_perm ops4).symm good4

end Ex

end DC

namespace DA
open DC

abbrev Ent := Ts × Ts × KeySt

/-- the abstract entry of a slot: order identifier, child, state of the child -/
def entOf (d : Doc) (x : Ts × Ts) : Ent := (x.1, x.2, refSt d x.2)

/-! ### the coarse observation: forget WHICH node occupies a slot, keep its state

`DC.Sim` records the child identifier of every slot, also of a tombstoned one; an update and a delete of
the same slot leave different tombstoned children behind (`Ex.upd_del_not_sim` in Proofs/DocArr.lean).  `ASim` forgets the child
identifier in the array skeletons (`erase` writes `Ts.oldest` in its place; the live occupant is still there, in the
state's `occ`). -/

def erase (e : Ent) : Ent := (e.1, Ts.oldest, e.2.2)

def cshape : Option (Option Ts × Shape) → Option (Option Ts × Shape)
  | some (par, .arr E) => some (par, .arr (E.map erase))
  | x => x

structure CEq (A B : Abs) : Prop where
  shape : ∀ c, cshape (A.shape c) = cshape (B.shape c)
  dead : ∀ c, A.dead c = B.dead c
  key : ∀ c k, A.key c k = B.key c k
  size : ∀ c, A.size c = B.size c

/-- observational equivalence of documents with arrays -/
def ASim (a b : Doc) : Prop := CEq (abs a) (abs b)

theorem ceq_refl (A : Abs) : CEq A A := ⟨fun _ => rfl, fun _ => rfl, fun _ _ => rfl, fun _ => rfl⟩
theorem ceq_of_eq {A B : Abs} (h : A = B) : CEq A B := h ▸ ceq_refl A

theorem asim_of_sim {a b : Doc} (h : Sim a b) : ASim a b := ceq_of_eq h
theorem cshape_not_arr {a b : Option (Option Ts × Shape)} (h : cshape a = cshape b)
    (ha : ∀ par E, a ≠ some (par, .arr E)) : b = a := by
  cases a with
  | none =>
    cases b with
    | none => rfl
    | some x => obtain ⟨par', sh⟩ := x; cases sh <;> simp [cshape] at h
  | some y =>
    obtain ⟨par, sh⟩ := y
    cases sh with
    | arr E => exact absurd rfl (ha par E)
    | elem v =>
      cases b with
      | none => simp [cshape] at h
      | some x => obtain ⟨par', sh'⟩ := x; cases sh' <;> simp_all [cshape]
    | obj =>
      cases b with
      | none => simp [cshape] at h
      | some x => obtain ⟨par', sh'⟩ := x; cases sh' <;> simp_all [cshape]

/-! ### `ASim` documents show the same key-sorted JSON -/

theorem arr_view_congr_c {a b : Doc} (f : Nat) : ∀ (sla slb : List (Ts × Ts)),
    (sla.map (entOf a)).map erase = (slb.map (entOf b)).map erase →
    (∀ x ∈ sla, a.isTomb x.2 = false → (a.viewOf f x.2).canon = (b.viewOf f x.2).canon) →
    (sla.filterMap fun (_, ch) => if a.isTomb ch then none else some (a.viewOf f ch)).map JVal.canon =
      (slb.filterMap fun (_, ch) => if b.isTomb ch then none else some (b.viewOf f ch)).map JVal.canon := by
  intro sla
  induction sla with
  | nil =>
    intro slb h _
    cases slb with
    | nil => rfl
    | cons y r => simp at h
  | cons x r ih =>
    intro slb h hP
    cases slb with
    | nil => simp at h
    | cons y r' =>
      obtain ⟨o, ch⟩ := x
      obtain ⟨o', ch'⟩ := y
      simp only [List.map_cons, List.cons.injEq] at h
      obtain ⟨hhead, hrest⟩ := h
      have hst : refSt a ch = refSt b ch' := by
        have := congrArg (fun e : Ent => e.2.2) hhead
        exact this
      have htomb : a.isTomb ch = b.isTomb ch' := congrArg KeySt.tomb hst
      have ih' := ih r' hrest (fun x hx => hP x (List.mem_cons_of_mem _ hx))
      simp only [List.filterMap_cons]
      by_cases ht : a.isTomb ch = true
      · have ht' : b.isTomb ch' = true := by rw [← htomb]; exact ht
        simp only [ht, ht', if_true]
        exact ih'
      · have ht2 : a.isTomb ch = false := by simpa using ht
        obtain ⟨ht', rfl⟩ := refSt_live hst ht2
        simp only [ht2, ht', Bool.false_eq_true, if_false, List.map_cons, List.cons.injEq]
        exact ⟨hP (o, ch) (by simp) ht2, ih'⟩

/-- By induction on the fuel.  Equal coarse shapes give `c` the same sort of node on both sides; under an object key and in
    an array slot the two children are in equal states, so both are dead (and not shown) or both live and the SAME node
    (`refSt_live`), to which the induction hypothesis applies. -/
theorem asim_viewOf {a b : Doc} (hs : ASim a b) (wa : a.WF) (ka : KeysND a) (kb : KeysND b) :
    ∀ (f : Nat) (c : Ts), (shapeOf a c).isSome → (a.viewOf f c).canon = (b.viewOf f c).canon := by
  have hshape : ∀ c, cshape (shapeOf a c) = cshape (shapeOf b c) := hs.shape
  have hkey : ∀ c k, keyOf' a c k = keyOf' b c k := hs.key
  intro f
  induction f with
  | zero => intro c _; rfl
  | succ f ih =>
    intro c hc
    have hsc := hshape c
    have hchild : ∀ n, a.find c = some n → ∀ ch ∈ kids n.kind, a.isTomb ch = false →
        (a.viewOf f ch).canon = (b.viewOf f ch).canon := by
      intro n hn ch hch hl
      obtain ⟨nc, h1, _⟩ := wa.child c n hn ch hch
      exact ih ch (shape_isSome_of_live h1 hl)
    simp only [Doc.viewOf]
    cases hfa : a.find c with
    | none => simp [shapeOf, hfa] at hc
    | some na =>
      cases hfb : b.find c with
      | none =>
        have : shapeOf b c = none := by simp [shapeOf, hfb]
        rw [this] at hsc
        have h2 := cshape_not_arr hsc.symm (by simp)
        rw [h2] at hc; simp at hc
      | some nb =>
        obtain ⟨ac, ad, ap, ak⟩ := na
        obtain ⟨bc, bd, bp, bk⟩ := nb
        simp only [shapeOf, hfa, hfb] at hsc hc
        cases ak with
        | elem va =>
          cases bk with
          | elem vb =>
            cases ad with
            | some _ => simp at hc
            | none =>
              cases bd with
              | some _ => simp [cshape] at hsc
              | none =>
                simp only [Option.isSome_none, Bool.false_eq_true, if_false, cshape, Option.some.injEq,
                  Prod.mk.injEq, Shape.elem.injEq] at hsc
                rw [hsc.2]
          | obj mb sb => cases ad <;> simp [cshape] at hsc
          | arr slb sb => cases ad <;> simp [cshape] at hsc
        | obj ma sa =>
          cases bk with
          | elem vb => cases bd <;> simp [cshape] at hsc
          | arr slb sb => simp [cshape] at hsc
          | obj mb sb =>
            simp only [canon_obj, JVal.obj.injEq]
            apply canonKvs_ext
            intro k
            rw [alFind_filterMap_view _ _ k ma (ka c _ ma sa hfa rfl),
              alFind_filterMap_view _ _ k mb (kb c _ mb sb hfb rfl)]
            have hk := hkey c k
            simp only [keyOf', hfa, hfb] at hk
            cases hma : alFind k ma with
            | none =>
              rw [hma] at hk
              cases hmb : alFind k mb with
              | none => rfl
              | some chb => rw [hmb] at hk; simp at hk
            | some cha =>
              rw [hma] at hk
              cases hmb : alFind k mb with
              | none => rw [hmb] at hk; simp at hk
              | some chb =>
                rw [hmb] at hk
                simp only [Option.map_some, Option.some.injEq] at hk
                have htomb : a.isTomb cha = b.isTomb chb := congrArg KeySt.tomb hk
                simp only [Option.bind_some]
                by_cases ht : a.isTomb cha = true
                · have ht' : b.isTomb chb = true := by rw [← htomb]; exact ht
                  simp [ht, ht']
                · have ht2 : a.isTomb cha = false := by simpa using ht
                  obtain ⟨ht', rfl⟩ := refSt_live hk ht2
                  simp only [ht2, ht', Bool.false_eq_true, if_false, Option.map_some, Option.some.injEq]
                  exact hchild _ hfa cha (alFind_mem_vals hma) ht2
        | arr sla sa =>
          cases bk with
          | elem vb => cases bd <;> simp [cshape] at hsc
          | obj mb sb => simp [cshape] at hsc
          | arr slb sb =>
            simp only [cshape, Option.some.injEq, Prod.mk.injEq, Shape.arr.injEq] at hsc
            simp only [canon_arr, canonList_eq_map, JVal.arr.injEq]
            apply arr_view_congr_c f sla slb hsc.2
            intro x hx hl
            exact hchild _ hfa x.2 (List.mem_map.mpr ⟨x, hx, rfl⟩) hl

theorem asim_viewAt_canon {a b : Doc} (hs : ASim a b) (wa : a.WF) (ka : KeysND a) (kb : KeysND b)
    (ba : Bounded a) (bb : Bounded b) {c : Ts} (hc : (shapeOf a c).isSome) :
    (a.viewAt c).canon = (b.viewAt c).canon := by
  obtain ⟨rka, hra, hba⟩ := ba
  obtain ⟨rkb, hrb, hbb⟩ := bb
  unfold Doc.viewAt
  have h1 := hba c
  have h2 := hbb c
  rw [viewOf_stable hra (a.table.length + 1) (a.table.length + 1 + b.table.length) c (by omega) (by omega),
    viewOf_stable hrb (b.table.length + 1) (a.table.length + 1 + b.table.length) c (by omega) (by omega)]
  exact asim_viewOf hs wa ka kb _ c hc

theorem asim_view_canon {a b : Doc} (hs : ASim a b) (wa : a.WF) (ka : KeysND a) (kb : KeysND b)
    (ba : Bounded a) (bb : Bounded b) (hroot : IsObj a Ts.oldest) : a.view.canon = b.view.canon := by
  have : (shapeOf a Ts.oldest).isSome := by
    obtain ⟨par, h⟩ := isObj_iff.mp hroot
    rw [h]; rfl
  exact asim_viewAt_canon hs wa ka kb ba bb this

end DA

namespace DC

/-! ### convergence, with views -/

theorem sim_viewAt_canon {a b : Doc} (hs : Sim a b) (wa : a.WF) (ka : KeysND a) (kb : KeysND b)
    (ba : Bounded a) (bb : Bounded b) {c : Ts} (hc : (shapeOf a c).isSome) :
    (a.viewAt c).canon = (b.viewAt c).canon :=
  DA.asim_viewAt_canon (DA.asim_of_sim hs) wa ka kb ba bb hc

theorem sim_view_canon {a b : Doc} (hs : Sim a b) (wa : a.WF) (ka : KeysND a) (kb : KeysND b)
    (ba : Bounded a) (bb : Bounded b) (hroot : IsObj a Ts.oldest) : a.view.canon = b.view.canon :=
  DA.asim_view_canon (DA.asim_of_sim hs) wa ka kb ba bb hroot


/-- the value of a put has no duplicate keys -/
def OpKeysND : ObjOp → Prop
  | .put _ _ v _ => JKeysND v
  | .del _ _ _ => True

theorem nodesKeysND_of_op (o : ObjOp) (h : OpKeysND o) : NodesKeysND (nodesOf o) := by
  rcases nodesOf_cases o with h0 | ⟨p, k, v, c, t', ho, hc⟩
  · rw [h0]; exact fun n hn => nomatch hn
  · rw [ho] at h; exact createNode_keysND p o.ts v _ hc h

theorem viewOK_op {d : Doc} (hwf : d.WF) (hv : ViewOK d) (o : ObjOp) (ho : OpOK d o) (hk : OpKeysND o) :
    ViewOK (applyOp d o) :=
  let ⟨_, _, h, hK⟩ := rstep_applyOp hwf o ho
  h.viewOK_next (find_applyOp_eff hwf o ho) (nodup_op hwf o ho) hv (effOf_ns ho ▸ nodesKeysND_of_op o hk) (hK hv.keys)

theorem viewOK_applyAll {l : List ObjOp} : ∀ {d : Doc}, Good d l → ViewOK d → (∀ o ∈ l, OpKeysND o) →
    ViewOK (applyAll d l) := by
  induction l with
  | nil => intro d _ hv _; exact hv
  | cons x l ih =>
    intro d h hv hk
    exact ih (good_step h) (viewOK_op h.wf hv x h.head (hk x (by simp)))
      (fun o ho => hk o (List.mem_cons_of_mem _ ho))

/-- two application orders of the same remote object operations give the same document view
    after key sorting (`JVal.canon`; objects are association lists whose key order is arrival order — see
    counterexample (1) — and the driver compares after sorting) -/
theorem converge_view {d : Doc} {l l' : List ObjOp} (hp : l.Perm l') (h : Good d l) (hv : ViewOK d)
    (hk : ∀ o ∈ l, OpKeysND o) : (applyAll d l).view.canon = (applyAll d l').view.canon := by
  have h' := good_perm hp h
  have hk' : ∀ o ∈ l', OpKeysND o := fun o ho => hk o (hp.mem_iff.mpr ho)
  have v1 := viewOK_applyAll h hv hk
  have v2 := viewOK_applyAll h' hv hk'
  exact sim_view_canon (converge_sim_same hp h) (wf_applyAll h) v1.keys v2.keys
    v1.bounded v2.bounded v1.root

/-- the same below any node that is visible in the first result (a container or a live element) -/
theorem converge_viewAt {d : Doc} {l l' : List ObjOp} (hp : l.Perm l') (h : Good d l) (hv : ViewOK d)
    (hk : ∀ o ∈ l, OpKeysND o) {c : Ts} (hc : (shapeOf (applyAll d l) c).isSome) :
    ((applyAll d l).viewAt c).canon = ((applyAll d l').viewAt c).canon := by
  have h' := good_perm hp h
  have hk' : ∀ o ∈ l', OpKeysND o := fun o ho => hk o (hp.mem_iff.mpr ho)
  have v1 := viewOK_applyAll h hv hk
  have v2 := viewOK_applyAll h' hv hk'
  exact sim_viewAt_canon (converge_sim_same hp h) (wf_applyAll h) v1.keys v2.keys
    v1.bounded v2.bounded hc


/-! ### commutation in terms of the model's own functions -/

theorem opOK_of_ok {d : Doc} : ∀ (o : ObjOp) {d' : Doc} {r : Option Ts}, runOp d o = .ok (d', r) →
    Fresh d (nodesOf o) → OpOK d o
  | .put p k v ts, d', r, h, hf => by
    simp only [runOp] at h
    unfold Doc.putInObject at h
    split at h
    · cases h
    · rename_i pn m size hfo
      obtain ⟨h1, h2⟩ := findObj_some_iff.mp hfo
      split at h
      · cases h
      · cases h
      · rename_i ns newC t' hc
        exact ⟨⟨pn, m, size, h1, h2⟩, ⟨ns, newC, t', hc⟩, hf⟩
  | .del p k ts, d', r, h, _ => by
    obtain ⟨pn, m, size, c, hp, hk, hf, _⟩ := del_cases (show d.deleteInObject p k ts false = .ok (d', r) from h)
    exact ⟨pn, m, size, c, hp, hk, hf⟩

/-- a remote put/delete that returns `.ok` (put: with fresh identifiers) keeps `Doc.WF` -/
theorem wf_runOp {d : Doc} (hwf : d.WF) (o : ObjOp) {d' : Doc} {r : Option Ts} (h : runOp d o = .ok (d', r))
    (hf : Fresh d (nodesOf o)) : d'.WF := by
  have hok := opOK_of_ok o h hf
  obtain ⟨r', hr⟩ := runOp_ok hwf o hok
  rw [h] at hr
  simp only [Outcome.ok.injEq, Prod.mk.injEq] at hr
  rw [hr.1]; exact wf_op hwf o hok

/-- any two remote object operations (put/put, put/delete, delete/delete; same or different
    parents, same or different keys) that are applicable to a well-formed `d` and carry distinguishable
    timestamps return `.ok` in both orders, and the two results are observationally equivalent -/
theorem ops_commute_partial {d : Doc} (hwf : d.WF) {a b : ObjOp} (ha : OpOK d a) (hb : OpOK d b)
    (hne : a.ts.cmp b.ts ≠ .eq) :
    ∃ da ra dab rab db rb dba rba,
      runOp d a = .ok (da, ra) ∧ runOp da b = .ok (dab, rab) ∧
      runOp d b = .ok (db, rb) ∧ runOp db a = .ok (dba, rba) ∧ Sim dab dba ∧ dab.WF ∧ dba.WF := by
  obtain ⟨hab, hba⟩ := op_comm_ok hwf ha hb hne
  obtain ⟨ra, h1⟩ := runOp_ok hwf a ha
  obtain ⟨rab, h2⟩ := runOp_ok (wf_op hwf a ha) b hab
  obtain ⟨rb, h3⟩ := runOp_ok hwf b hb
  obtain ⟨rba, h4⟩ := runOp_ok (wf_op hwf b hb) a hba
  exact ⟨_, ra, _, rab, _, rb, _, rba, h1, h2, h3, h4, op_comm_partial hwf ha hb hne,
    wf_op (wf_op hwf a ha) b hab, wf_op (wf_op hwf b hb) a hba⟩

/-- `ops_commute_partial`, "when all four calls return `.ok`" form -/
theorem ops_commute_of_ok_partial {d : Doc} (hwf : d.WF) {a b : ObjOp} (hne : a.ts.cmp b.ts ≠ .eq)
    (hfa : Fresh d (nodesOf a)) (hfb : Fresh d (nodesOf b))
    {da dab db dba : Doc} {ra rab rb rba : Option Ts}
    (h1 : runOp d a = .ok (da, ra)) (h2 : runOp da b = .ok (dab, rab))
    (h3 : runOp d b = .ok (db, rb)) (h4 : runOp db a = .ok (dba, rba)) : Sim dab dba := by
  obtain ⟨da', ra', dab', rab', db', rb', dba', rba', e1, e2, e3, e4, hs, _, _⟩ :=
    ops_commute_partial hwf (opOK_of_ok a h1 hfa) (opOK_of_ok b h3 hfb) hne
  rw [h1] at e1
  simp only [Outcome.ok.injEq, Prod.mk.injEq] at e1
  rw [← e1.1, h2] at e2
  rw [h3] at e3
  simp only [Outcome.ok.injEq, Prod.mk.injEq] at e2 e3
  rw [← e3.1, h4] at e4
  simp only [Outcome.ok.injEq, Prod.mk.injEq] at e4
  rw [e2.1, e4.1]; exact hs


/-! ### the visible value under the key is the value of the newest put -/

section putlast
variable {d : Doc} {p : Ts} {v : JVal} {ts : Ts} {pn : DNode} {m : List (String × Ts)} {size : Int}
  {ns : List DNode} {ts' : Ts}

theorem PutPre.present (h : PutPre d p v ts pn m size ns ts') {k : String} {d' : Doc} {r : Option Ts}
    (hr : d.putInObject p k v ts = .ok (d', r))
    (hwin : ∀ oldC, alFind k m = some oldC → (d.timeOf oldC).cmp ts = .lt) : Present d' ns := by
  have hnew : ∀ n ∈ ns, ∀ s', ((d.addAll ns).set { pn with kind := s' }).find n.c = some n := fun n hn s' => by
    rw [find_set, if_neg, find_addAll_new (block_ids_nodup h.block) hn]
    exact fun e => h.p_not_new ((find_some_c h.hp).symm.trans e ▸ List.mem_map.mpr ⟨n, hn, rfl⟩)
  rcases put_cases h hr with ⟨s', _, rfl⟩ | ⟨oldC, s', hk, _, rfl⟩ | ⟨oldC, hk, hlt, _⟩
  · exact fun n hn => hnew n hn _
  · intro n hn
    obtain ⟨no, h1, _⟩ := h.old_find hk
    rw [find_funeral, if_neg, hnew n hn]
    exact fun e => by rw [← e, h.fresh _ (List.mem_map.mpr ⟨n, hn, rfl⟩)] at h1; cases h1
  · exact absurd (hwin oldC hk) hlt

theorem put_win_viewAt (h : PutPre d p v ts pn m size ns ts') (hb : Bounded d) {k : String} {d' : Doc}
    {r : Option Ts} (hr : d.putInObject p k v ts = .ok (d', r))
    (hwin : ∀ oldC, alFind k m = some oldC → (d.timeOf oldC).cmp ts = .lt) :
    d'.viewAt ts = v ∧ d'.isTomb ts = false := by
  have hpres := h.present hr hwin
  obtain ⟨F, hF⟩ := viewOf_createNode d' p ts v _ h.hc hpres
  have hb' := bounded_op h.wf hb _ (h.ok k)
  rw [applyOp_put hr] at hb'
  obtain ⟨rk, hrk, hbd⟩ := hb'
  refine ⟨?_, (created_root_live h.hc hpres).2⟩
  have := hbd ts
  unfold Doc.viewAt
  rw [viewOf_stable hrk (d'.table.length + 1) (d'.table.length + 1 + F) ts (by omega) (by omega)]
  exact hF _ (by omega)

end putlast

/-- if the newest operation on key `k` of `p` is the put of `v` (newer than what the key held
    initially), then in ANY application order the view below that put's root node — which occupies the
    key, by `key_denote_put` — is `v` (after key sorting) -/
theorem key_value_denote {d : Doc} {l : List ObjOp} (h : Good d l) (hv : ViewOK d) (hk : ∀ o ∈ l, OpKeysND o)
    {p : Ts} {n : DNode} (hp : d.find p = some n) {k : String} {p' : Ts} {k' : String} {v : JVal} {ts : Ts}
    (hw : Spec.maxBy ObjOp.ts (keyOps p k l) = some (.put p' k' v ts))
    (hnew : ∀ st, keyOf' d p k = some st → st.time.cmp ts = .lt) :
    ((applyAll d l).viewAt ts).canon = v.canon := by
  obtain ⟨hwmem, hwmax⟩ := maxBy_spec ObjOp.ts _ _ hw
  obtain ⟨hwl, hpk⟩ := List.mem_filter.mp hwmem
  obtain ⟨rfl, rfl⟩ : p' = p ∧ k' = k := of_decide_eq_true hpk
  obtain ⟨l1, l2, rfl⟩ := List.append_of_mem hwl
  -- the order with the winning put last
  have hperm : (l1 ++ ObjOp.put p' k' v ts :: l2).Perm ((l1 ++ l2) ++ [ObjOp.put p' k' v ts]) :=
    (List.perm_middle).trans (List.perm_append_singleton _ _).symm
  have hsub : ∀ o ∈ l1 ++ l2, o ∈ l1 ++ ObjOp.put p' k' v ts :: l2 := fun o ho =>
    hperm.mem_iff.mpr (List.mem_append_left _ ho)
  have h' := good_perm hperm h
  have hrest := good_append_left h'
  have hlast := good_applyAll_append h'
  have hv0 := viewOK_applyAll hrest hv fun o ho => hk o (hsub o ho)
  -- the winning put, applied last
  obtain ⟨pn, m, size, ts', hpre⟩ := putPre_of_ok hlast.wf hlast.head
  obtain ⟨d', r, hr⟩ := put_ok hpre k'
  have hd' : applyAll d ((l1 ++ l2) ++ [ObjOp.put p' k' v ts]) = d' := by
    rw [applyAll_append]; exact applyOp_put hr
  -- it wins: what the key holds before it is the initial state or an older operation (`key_denote`)
  have hwin : ∀ oldC, alFind k' m = some oldC → ((applyAll d (l1 ++ l2)).timeOf oldC).cmp ts = .lt := by
    intro oldC hold
    have hkd := key_denote hrest hp k'
    rw [show keyOf' (applyAll d (l1 ++ l2)) p' k' = some (refSt (applyAll d (l1 ++ l2)) oldC) by
      simp only [keyOf', hpre.hp, hpre.hk, hold, Option.map_some]] at hkd
    have holder : ∀ y, Spec.maxBy ObjOp.ts (keyOps p' k' (l1 ++ l2)) = some y → (stOf y).time.cmp ts = .lt := by
      intro y hy
      obtain ⟨hy1, hy2⟩ := List.mem_filter.mp (maxBy_spec ObjOp.ts _ _ hy).1
      have hne : y.ts.cmp ts ≠ .eq := (List.pairwise_append.mp h'.distinct).2.2 y hy1 _ (List.mem_singleton.mpr rfl)
      rw [stOf_time]
      exact (cmp_lt_or_gt hne).resolve_right (hwmax y (List.mem_filter.mpr ⟨hsub y hy1, hy2⟩))
    change (refSt (applyAll d (l1 ++ l2)) oldC).time.cmp ts = .lt
    cases hmx : Spec.maxBy ObjOp.ts (keyOps p' k' (l1 ++ l2)) with
    | none => rw [hmx] at hkd; exact hnew _ hkd.symm
    | some y =>
      rw [hmx] at hkd
      cases hinit : keyOf' d p' k' with
      | none => rw [hinit] at hkd; rw [Option.some.inj hkd]; exact holder y hmx
      | some st =>
        rw [hinit] at hkd
        simp only [lww] at hkd
        split at hkd <;> rw [Option.some.inj hkd]
        · exact holder y hmx
        · exact hnew st hinit
  obtain ⟨hview, hlive⟩ := put_win_viewAt hpre hv0.bounded hr hwin
  -- transfer to the given order
  have hsim : Sim d' (applyAll d (l1 ++ ObjOp.put p' k' v ts :: l2)) := hd' ▸ converge_sim_same hperm.symm h'
  have v1 := viewOK_applyAll h' hv fun o ho => hk o (hperm.mem_iff.mpr ho)
  have v2 := viewOK_applyAll h hv hk
  rw [hd'] at v1
  obtain ⟨n0, hn0, _, hmem⟩ := hpre.root_find
  have hshape : (shapeOf d' ts).isSome :=
    shape_isSome_of_live (find_some_c hn0 ▸ hpre.present hr hwin n0 hmem) hlive
  have hwf' := wf_op hpre.wf _ (hpre.ok k')
  rw [applyOp_put hr] at hwf'
  rw [← sim_viewAt_canon hsim hwf' v1.keys v2.keys v1.bounded v2.bounded hshape, hview]


/-! ### the replica-level function: `execRemote` on a document is `applyOp` -/

theorem execRemote_put {d : Doc} (hwf : d.WF) {p : Ts} {k : String} {v : JVal} {ts : Ts}
    (h : OpOK d (.put p k v ts)) :
    execRemote (.doc d) ts (.docPut p k v) = .ok (.doc (applyOp d (.put p k v ts))) := by
  obtain ⟨r, hr⟩ := runOp_ok hwf _ h
  simp only [runOp] at hr
  simp only [execRemote, hr]

theorem execRemote_del {d : Doc} (hwf : d.WF) {p : Ts} {k : String} {ts : Ts}
    (h : OpOK d (.del p k ts)) :
    execRemote (.doc d) ts (.docRemove p k) = .ok (.doc (applyOp d (.del p k ts))) := by
  obtain ⟨r, hr⟩ := runOp_ok hwf _ h
  simp only [runOp] at hr
  simp only [execRemote, hr]


/-! ### operations on pairwise different parents converge up to `DocEq`, with equal views -/

theorem opOK_docEq {a b : Doc} (h : DocEq a b) {o : ObjOp} (ho : OpOK a o) : OpOK b o := by
  have h' : ∀ c, b.find c = a.find c := fun c => (h c).symm
  cases o <;> simp only [OpOK, IsObj, HasKey, Fresh, h'] <;> exact ho

theorem docEq_applyOp {a b : Doc} (h : DocEq a b) (ha : a.WF) (hb : b.WF) {o : ObjOp} (hoa : OpOK a o)
    (hob : OpOK b o) : DocEq (applyOp a o) (applyOp b o) := by
  obtain ⟨n, m, s, hn, hk⟩ := opOK_isObj hoa
  intro c
  rw [find_applyOp_eff ha o hoa, find_applyOp_eff hb o hob, ← funext h,
    effOf_congr o hn hk (h _ ▸ hn) rfl fun c _ => refSt_of_find (h c).symm]

structure GoodPar (z : Doc) (ops : List ObjOp) : Prop where
  good : Good z ops
  par : ops.Pairwise (fun a b => a.parent ≠ b.parent)

/-- if the operations address pairwise different parents, any two
    application orders give the same node table up to order (`DocEq`) and literally the same `view` -/
theorem converge_docEq_diff_parents {d : Doc} {l l' : List ObjOp} (hp : l.Perm l') (h : Good d l)
    (hpar : l.Pairwise (fun a b => a.parent ≠ b.parent)) :
    DocEq (applyAll d l) (applyAll d l') ∧ (applyAll d l).view = (applyAll d l').view := by
  have key : DocEq (applyAll d l) (applyAll d l') :=
    Exch.perm_fold_equiv applyOp DocEq docEq_equivalence (Inv := GoodPar)
      (inv_perm := fun _ _ _ hp h =>
        ⟨good_perm hp h.good, (List.Perm.pairwise_iff (fun hab e => hab e.symm) hp).mp h.par⟩)
      (inv_step := fun _ _ _ h => ⟨good_step h.good, (List.pairwise_cons.mp h.par).2⟩)
      (congr := fun _ _ _ _ h1 h2 hzz => docEq_applyOp hzz h1.good.wf h2.good.wf h1.good.head h2.good.head)
      (comm := fun _ _ y _ h =>
        ops_commute_diff_parents h.good.wf h.good.head (h.good.ok y (by simp))
          ((List.pairwise_cons.mp h.good.distinct).1 y List.mem_cons_self)
          ((List.pairwise_cons.mp h.par).1 y List.mem_cons_self))
      l l' hp d d ⟨h, hpar⟩ ⟨h, hpar⟩ (docEq_refl d)
  exact ⟨key, docEq_view key (wf_applyAll h).nodup (wf_applyAll (good_perm hp h)).nodup⟩

end DC
end Orda
