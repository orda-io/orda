/-
What a document call EMITS is an applicable remote operation with the SAME effect (C01/C02/C05 for documents).

Of a replica that merely satisfies `DP.DocInv` neither this nor "a receiver holding the same document reaches the
sender's state" is true (`Counter.local_call_statement_false`, `Counter.receiver_statement_false`): `dinsert h pos []`
queues an insert of an empty batch, which `GoodD` refuses; and `DP.DInv` neither records a causal insertion history of
the arrays (`OrdOK` inside `GoodD` asks for one) nor excludes a slot carrying the head's identity `Ts.oldest`, after
which sender and receiver disagree (`Counter.dX`).

Each local operation on `Doc` is compared with its remote counterpart (exact equality of the resulting documents), the wire
form of the call denotes that remote operation (`exec_core`, `Emits`), and it is applicable up to the history clause
(`GoodW` = `GoodD` without `OrdOK`).  `HistOK` (every array has a causal insertion history) supplies the clause; it
holds in every state reachable by calls and deliveries (`histOK_life`), which gives both statements for reachable
replicas (`life_local_call_is_applicable_remote_op`, proviso: no empty insert; `life_receiver_reaches_senders_state`).
-/
import Orda.Proofs.DocRemoteInv
import Orda.Proofs.ReplicaApi
namespace Orda.DLR
open Orda Orda.DC Orda.DA Orda.DM Orda.DR
open Orda.DP (DInv DocInv St)

/-! ## a successful mutating call -/

/-- the bodies the document calls prepare -/
inductive Prepared : Call → OpBody → Prop
  | put (h k v) (hn : JVal.hasNull v = false) : Prepared (.dput h k v) (.docPut h k v)
  | remove (h k) : Prepared (.dremove h k) (.docRemove h k)
  | insert (h) (pos : Int) (vs) (hn : JVal.hasNullList vs = false) : Prepared (.dinsert h pos vs) (.docInsert h pos.toNat none vs)
  | delete (h) (pos : Int) : Prepared (.ddelete h pos) (.docDelete h pos.toNat 1 [])
  | deleteMany (h) (pos n : Int) : Prepared (.ddeleteMany h pos n) (.docDelete h pos.toNat n.toNat [])
  | update (h) (pos : Int) (vs) (hn : JVal.hasNullList vs = false) : Prepared (.dupdate h pos vs) (.docUpdate h pos.toNat [] vs)

def PrepOK (c : Call) (p : Prep) : Prop :=
  (∃ e, p = .done (.err e)) ∨ ∃ b post, p = .op b post ∧ Prepared c b

/-- `Call.prepareDoc` is a chain of checks, each of which ends the call with an error or lets it go on -/
theorem prepOK_guard {c : Call} (o : Option Nat) {k : Prep} :
    (o = none → PrepOK c k) → PrepOK c (match o with | some e => .done (.err e) | none => k) := by
  intro hk
  cases o with
  | none => exact hk rfl
  | some e => exact Or.inl ⟨e, rfl⟩

theorem prepOK_if {c : Call} (b : Bool) (e : Nat) {k : Prep} :
    (b = false → PrepOK c k) → PrepOK c (if b then .done (.err e) else k) := by
  intro hk
  cases b with
  | false => exact hk rfl
  | true => exact Or.inl ⟨e, rfl⟩

theorem prepare_mut (d : Doc) (c : Call) (hm : DP.isMutating c = true) : PrepOK c (c.prepare (.doc d)) := by
  cases c with
  | dput h k v => exact prepOK_guard _ fun _ => prepOK_if _ _ fun hn => Or.inr ⟨_, _, rfl, .put _ _ _ hn⟩
  | dremove h k => exact prepOK_guard _ fun _ => Or.inr ⟨_, _, rfl, .remove _ _⟩
  | dinsert h pos vs =>
    exact prepOK_guard _ fun _ => prepOK_guard _ fun _ => prepOK_if _ _ fun hn =>
      Or.inr ⟨_, _, rfl, .insert _ _ _ ((DP.any_hasNull_iff _).symm.trans hn)⟩
  | ddelete h pos => exact prepOK_guard _ fun _ => prepOK_guard _ fun _ => Or.inr ⟨_, _, rfl, .delete _ _⟩
  | ddeleteMany h pos n => exact prepOK_guard _ fun _ => prepOK_guard _ fun _ => Or.inr ⟨_, _, rfl, .deleteMany _ _ _⟩
  | dupdate h pos vs =>
    exact prepOK_guard _ fun _ => prepOK_guard _ fun _ => prepOK_if _ _ fun hn =>
      Or.inr ⟨_, _, rfl, .update _ _ _ ((DP.any_hasNull_iff _).symm.trans hn)⟩
  | _ => cases hm

theorem call_ok_inv {r : Replica} {d : Doc} (hs : r.state = .doc d) {c : Call} (hm : DP.isMutating c = true) {v : Ret}
    (hok : (r.call c).2 = .ok v) :
    ∃ b s' b' ret, Prepared c b ∧ execLocal (.doc d) r.opId.next.ts b = .ok (s', b', ret) ∧
      (r.call c).1 = { r with opId := r.opId.next, state := s', rbOps := r.rbOps ++ [⟨r.opId.next, b'⟩],
                              buffer := r.buffer ++ [Op.wire ⟨r.opId.next, b'⟩] } := by
  rcases prepare_mut d c hm with ⟨e, he⟩ | ⟨b, post, hb, hp⟩
  · rw [← hs] at he
    rw [call_of_done he] at hok
    cases hok
  · rw [← hs] at hb
    cases he : execLocal r.state r.opId.next.ts b with
    | ok x =>
      obtain ⟨s', b', ret⟩ := x
      rw [call_of_ok hb he]
      exact ⟨b, s', b', ret, hp, hs ▸ he, rfl⟩
    | err e => rw [call_of_err hb he] at hok; cases hok
    | panic w => rw [call_of_panic hb he] at hok; cases hok

/-! ## local against remote, on documents -/

theorem remove_local_remote {d : Doc} {p : Ts} {k : String} {ts : Ts} {d' : Doc} {old : Option Ts}
    (h : d.deleteInObject p k ts true = .ok (d', old)) :
    d.deleteInObject p k ts false = .ok (d', old) ∧ HasKey d p k := by
  unfold Doc.deleteInObject at h ⊢
  split at h
  · cases h
  rename_i pn m size hp
  split at h
  · cases h
  rename_i c hk
  simp only [if_true] at h
  simp only [Bool.false_eq_true, if_false]
  obtain ⟨h1, h2⟩ := findObj_some_iff.mp hp
  refine ⟨?_, pn, m, size, c, h1, h2, hk⟩
  by_cases hc : (!d.isTomb c && (d.timeOf c).cmp ts == Ordering.lt) = true
  · rw [if_pos hc] at h
    simp only [Bool.and_eq_true, Bool.not_eq_true'] at hc
    rw [if_pos hc.2]
    simp only [hc.1, Bool.false_eq_true, if_false]
    exact h
  · rw [if_neg hc] at h; cases h

theorem fresh_of_block {L : OpId} {d : Doc} (I : DInv L 0 d) {t t' : Ts} {ns : List DNode} (hb : Block t ns t')
    (he : t.era = L.era) (hl : t.lamport = L.lamport + 1) : Fresh d ns :=
  DP.fresh_of_newst (b' := t'.delim) I (fun c hc => by
    obtain ⟨a1, a2, a3, a4⟩ := DP.block_newst (L := L) hb he hl c hc
    exact ⟨a1, a2, Nat.zero_le _, a4⟩)

theorem put_local_remote {L : OpId} {d : Doc} (I : DInv L 0 d) {p : Ts} {k : String} {v : JVal} {d' : Doc}
    {old : Option Ts} (h : d.putInObject p k v L.next.ts = .ok (d', old)) :
    OpOK d (.put p k v L.next.ts) ∧ applyOp d (.put p k v L.next.ts) = d' := by
  refine ⟨?_, by simp only [applyOp, h]⟩
  unfold Doc.putInObject at h
  split at h
  · cases h
  rename_i pn m size hp
  split at h
  · cases h
  · cases h
  rename_i ns c t' hc
  refine ⟨⟨pn, m, size, findObj_some_iff.mp hp⟩, ⟨ns, c, t', hc⟩, ?_⟩
  have hn : nodesOf (.put p k v L.next.ts) = ns := by simp only [nodesOf, hc]
  rw [hn]
  exact fresh_of_block I (createNode_spec p _ v _ hc).1 rfl rfl

theorem insert_local_remote {d : Doc} {p : Ts} {pos : Nat} {ts : Ts} {vs : List JVal} {d' : Doc} {a : Ts}
    (h : d.insertLocalInArray p pos ts vs = .ok (d', a)) :
    IsArr d p ∧ (a = Ts.oldest ∨ a ∈ slotIds d p) ∧
      ((slotIds d p).Nodup → Ts.oldest ∉ slotIds d p → (∀ o ∈ slotIds d p, o.cmp ts = .lt) →
        d.insertRemoteInArray p a ts vs = .ok d') := by
  unfold Doc.insertLocalInArray at h
  unfold Doc.insertRemoteInArray IsArr
  split at h
  · cases h
  rename_i pn slots size hp
  refine ⟨by rw [hp]; rfl, ?_⟩
  have hsl : slotIds d p = slots.map (·.1) := by unfold slotIds; rw [slotsOf_of_findArr hp]
  rw [hsl]
  split at h
  · cases h
  · cases h
  rename_i ns cs t' hc
  simp only at h ⊢
  obtain ⟨_, hcsk, _⟩ := createMany_ids_key hc
  have hgt : (∀ o ∈ slots.map (·.1), o.cmp ts = .lt) →
      ∀ n ∈ cs.map (fun c => (c, c)), ∀ y ∈ slots, y.1.cmp n.1 ≠ .gt := by
    intro hlt n hn y hy
    obtain ⟨c, hc', rfl⟩ := List.mem_map.mp hn
    rw [cmp_congr_key y.1 y.1 c ts rfl (hcsk c hc'), hlt y.1 (List.mem_map_of_mem hy)]
    decide
  cases ha : (if pos = 0 then some Ts.oldest else (nthLive (slotLive (d.addAll ns)) (pos - 1) slots).map (·.1)) with
  | none => rw [ha] at h; cases h
  | some a' =>
    cases hi : insertAtLive (slotLive (d.addAll ns)) (cs.map fun c => (c, c)) pos slots with
    | none => rw [ha, hi] at h; cases h
    | some sl =>
      rw [ha, hi] at h
      simp only [Outcome.ok.injEq, Prod.mk.injEq] at h
      obtain ⟨rfl, rfl⟩ := h
      obtain ⟨h1, h2⟩ := insertAtLive_eq_insertAfterId (fun (s : Ts × Ts) => s.1) _ _ _ pos _ sl ha hi
      exact ⟨h1, fun hnd hnh hlt => by rw [h2 hnd hnh (hgt hlt)]⟩

theorem isTomb_makeTomb_ne (d : Doc) {x c : Ts} (t : Ts) (h : c ≠ x) : (d.makeTomb x t).isTomb c = d.isTomb c :=
  isTomb_of_find (by rw [find_makeTomb, if_neg h])

theorem findArr_foldTomb {p : Ts} {sl : List (Ts × Ts)} {sz : Int} : ∀ (l : List ((Ts × Ts) × Ts)) (d : Doc) (pn : DNode),
    d.findArr p = some (pn, sl, sz) → ∃ pn', (DP.foldTomb d l).findArr p = some (pn', sl, sz)
  | [], d, pn, h => ⟨pn, h⟩
  | x :: l, d, pn, h => by
    obtain ⟨pn1, h1⟩ := findArr_makeTomb (x := x.1.2) (t := x.2) h
    exact findArr_foldTomb l _ pn1 h1

theorem del_go_live (slots : List (Ts × Ts)) : ∀ (live : List (Ts × Ts)) (t : Ts) (D : Doc) (k : Int),
    (∀ s ∈ live, slots.find? (fun x => x.1 = s.1) = some s) → (live.map (·.2)).Nodup →
    (∀ s ∈ live, D.isTomb s.2 = false) →
    Doc.deleteRemoteInArray.go slots (live.map (·.1)) t D k =
      (DP.foldTomb D (live.zip (delimSeq t live.length)), k + live.length)
  | [], t, D, k, _, _, _ => by simp [Doc.deleteRemoteInArray.go, DP.foldTomb]
  | s :: rest, t, D, k, hf, hnd, hl => by
    simp only [List.map_cons, List.nodup_cons] at hnd
    have hs := hf s (by simp)
    have hls := hl s (by simp)
    simp only [List.map_cons, Doc.deleteRemoteInArray.go, hs, hls, Bool.not_false, if_true, List.length_cons,
      delimSeq, List.zip_cons_cons]
    rw [del_go_live slots rest t.nextDelim (D.makeTomb s.2 t) (k + 1) (fun s' hs' => hf s' (by simp [hs'])) hnd.2
      (fun s' hs' => by
        rw [isTomb_makeTomb_ne]
        · exact hl s' (by simp [hs'])
        · intro e; exact hnd.1 (e ▸ List.mem_map.mpr ⟨s', hs', rfl⟩))]
    simp only [DP.foldTomb, List.foldl_cons, Prod.mk.injEq, true_and]
    push_cast; omega

theorem live_range {d : Doc} {slots live : List (Ts × Ts)} {pos n : Nat}
    (h : ((slots.filter (slotLive d)).drop pos).take n = live) :
    live.Sublist slots ∧ (∀ s ∈ live, d.isTomb s.2 = false) ∧ live.length ≤ n := by
  subst h
  refine ⟨((List.take_sublist _ _).trans (List.drop_sublist _ _)).trans List.filter_sublist, fun s hs => ?_,
    List.length_take_le _ _⟩
  have := (List.mem_filter.mp ((List.drop_sublist _ _).subset ((List.take_sublist _ _).subset hs))).2
  simpa [slotLive] using this

theorem delete_local_remote {d : Doc} {p : Ts} {pos num : Nat} {ts : Ts} {d' : Doc} {tgs olds : List Ts}
    (h : d.deleteLocalInArray p pos num ts = .ok (d', tgs, olds)) :
    IsArr d p ∧ ((slotIds d p).Nodup → ((slotsOf d p).map (·.2)).Nodup →
      d.deleteRemoteInArray p tgs ts = .ok d' ∧ (∀ tg ∈ tgs, tg ∈ slotIds d p) ∧ tgs.Nodup) := by
  unfold Doc.deleteLocalInArray at h
  unfold Doc.deleteRemoteInArray
  split at h
  · cases h
  rename_i pn slots size hp
  refine ⟨by unfold IsArr; rw [hp]; rfl, fun hnd hkn => ?_⟩
  simp only at h ⊢
  have hsl : slotsOf d p = slots := slotsOf_of_findArr hp
  unfold slotIds at hnd ⊢
  rw [hsl] at hnd hkn ⊢
  generalize hlive : ((slots.filter (slotLive d)).drop pos).take num = live at h
  obtain ⟨hsub, hlv, hle⟩ := live_range hlive
  have hmem : ∀ s ∈ live, s ∈ slots := fun s hs => hsub.subset hs
  by_cases hlen : live.length < num
  · rw [if_pos hlen] at h; cases h
  · rw [if_neg hlen] at h
    have hlen' : live.length = num := by omega
    have hgo := del_go_live slots live ts d 0 (fun s hs => ListAux.find?_of_nodup (·.1) _ hnd s (hmem s hs))
      (List.Nodup.sublist (hsub.map _) hkn) hlv
    rw [hlen'] at hgo
    obtain ⟨pn', hp'⟩ := findArr_foldTomb (live.zip (delimSeq ts num)) d pn hp
    have hfind' : (DP.foldTomb d (live.zip (delimSeq ts num))).find p = some pn' := (findArr_some_iff.mp hp').1
    split at h
    case h_2 heq => exact nomatch heq.symm.trans hfind'
    rename_i pn'' heq
    obtain rfl : pn'' = pn' := Option.some.inj (heq.symm.trans hfind')
    simp only [Outcome.ok.injEq, Prod.mk.injEq] at h
    obtain ⟨rfl, rfl, rfl⟩ := h
    refine ⟨?_, ?_, ?_⟩
    · rw [hgo]
      simp only [hp']
      congr 3
      simp
    · exact fun tg htg => (hsub.map _).subset htg
    · exact List.Nodup.sublist (hsub.map _) hnd

theorem next_key_ne_of_st {L : OpId} {t : Ts} (h : St L 0 t) : t.key ≠ L.next.ts.key := by
  intro e
  simp only [Ts.key, DP.next_ts, Prod.mk.injEq] at e
  have := h.2
  omega

/-- what `DP.DInv` says of the array `p` whose slots are `slots` -/
structure ArrFacts (L : OpId) (d : Doc) (p : Ts) (slots : List (Ts × Ts)) : Prop where
  ids : slotIds d p = slots.map (·.1)
  slotsOf : slotsOf d p = slots
  ord_nodup : (slots.map (·.1)).Nodup
  kids_nodup : (slots.map (·.2)).Nodup
  ord_st : ∀ o ∈ slots.map (·.1), St L 0 o
  child : ∀ s ∈ slots, ∃ n, d.find s.2 = some n ∧ St L 0 s.2 ∧ s.2 ≠ p

theorem arr_facts {L : OpId} {d : Doc} (I : DInv L 0 d) {p : Ts} {pn : DNode} {slots : List (Ts × Ts)} {size : Int}
    (hp : d.findArr p = some (pn, slots, size)) : ArrFacts L d p slots := by
  obtain ⟨h1, h2⟩ := findArr_some_iff.mp hp
  have hsl : slotsOf d p = slots := slotsOf_of_findArr hp
  have hkids : kids pn.kind = slots.map (·.2) := by rw [h2]; rfl
  refine ⟨by unfold slotIds; rw [hsl], hsl, (arr_ord I h1 h2).1, ?_, (arr_ord I h1 h2).2, ?_⟩
  · have := I.wf.inj p pn h1; rwa [hkids] at this
  · intro s hs
    have hk : s.2 ∈ kids pn.kind := by rw [hkids]; exact List.mem_map.mpr ⟨s, hs, rfl⟩
    obtain ⟨n, hn, _⟩ := I.wf.child p pn h1 s.2 hk
    refine ⟨n, hn, ?_, I.kid_ne h1 hk⟩
    have := (I.stamps s.2 n hn).1
    rwa [find_some_c hn] at this

theorem arr_ids {L : OpId} {d : Doc} (I : DInv L 0 d) {p : Ts} (h : IsArr d p) :
    (slotIds d p).Nodup ∧ ((slotsOf d p).map (·.2)).Nodup ∧ ∀ o ∈ slotIds d p, St L 0 o := by
  obtain ⟨pn, slots, size, hp⟩ := isArr_iff.mp h
  have F := arr_facts I hp
  rw [F.ids, F.slotsOf]
  exact ⟨F.ord_nodup, F.kids_nodup, F.ord_st⟩

theorem update_local_remote {L : OpId} {d : Doc} (I : DInv L 0 d) {p : Ts} {pos : Nat} {vs : List JVal} {d' : Doc}
    {tgs olds : List Ts} (hn : JVal.hasNullList vs = false)
    (h : d.updateLocalInArray p pos L.next.ts vs = .ok (d', tgs, olds)) :
    IsArr d p ∧ d.updateRemoteInArray p L.next.ts tgs vs = .ok d' ∧ (∀ tg ∈ tgs, tg ∈ slotIds d p) ∧ tgs.Nodup ∧
      tgs.length ≤ vs.length := by
  unfold Doc.updateLocalInArray at h
  unfold Doc.updateRemoteInArray
  split at h
  · cases h
  rename_i pn slots size hp
  refine ⟨by unfold IsArr; rw [hp]; rfl, ?_⟩
  simp only [hp] at h ⊢
  have F := arr_facts I hp
  rw [F.ids]
  generalize hlive : ((slots.filter (slotLive d)).drop pos).take vs.length = live at h
  obtain ⟨hsub, hlv, hle⟩ := live_range hlive
  have hmem : ∀ s ∈ live, s ∈ slots := fun s hs => hsub.subset hs
  by_cases hlen : live.length < vs.length
  · rw [if_pos hlen] at h; cases h
  · rw [if_neg hlen] at h
    cases hg : Doc.updateLocalInArray.go p live vs L.next.ts d with
    | err e => rw [hg] at h; cases h
    | panic w => rw [hg] at h; cases h
    | ok d1 =>
      rw [hg] at h
      simp only [Outcome.ok.injEq, Prod.mk.injEq] at h
      obtain ⟨rfl, rfl, rfl⟩ := h
      obtain ⟨hp1, hk1⟩ := findArr_some_iff.mp hp
      -- `DP.update_loop` runs the local loop and, the children being older than the operation, the remote one to the same table
      obtain ⟨d2, _, _, _, R⟩ := DP.update_loop (L := L) (hd := p) (size := size) live vs 0 d pn slots I
        hp1 hk1 (fun s hs => ⟨hmem s hs, hlv s hs⟩) (List.Nodup.sublist (hsub.map _) F.kids_nodup) (by omega) hn
      obtain rfl : d2 = d1 := Outcome.ok.inj (R.run.symm.trans hg)
      refine ⟨R.remote fun s hs => ?_, ?_, ?_, ?_⟩
      · obtain ⟨n, hn', _, _⟩ := F.child s (hmem s hs)
        exact DP.timeOf_lt I hn'
      · exact fun tg htg => (hsub.map _).subset htg
      · exact List.Nodup.sublist (hsub.map _) F.ord_nodup
      · simpa using hle

/-! ## applicability of the single-target operations of a local delete / update -/

theorem flatDel_pairwise (p : Ts) : ∀ (tgs : List Ts) (t : Ts), tgs.Nodup → (flatDel p tgs t).Pairwise Compat
  | [], _, _ => by simp [flatDel]
  | tg :: tgs, t, hnd => by
    simp only [List.nodup_cons] at hnd
    simp only [flatDel, List.pairwise_cons]
    refine ⟨?_, flatDel_pairwise p tgs _ hnd.2⟩
    intro e he
    obtain ⟨tg', t1, h1, _, rfl⟩ := mem_flatDel he
    refine ⟨fun c hc _ => by simp [nodesE, ids] at hc, ?_⟩
    intro _ htg
    simp only [EOp.tgt, Option.some.injEq] at htg
    exact absurd (htg ▸ h1) hnd.1

theorem goodE_flatDel {d : Doc} (hwf : d.WF) {p : Ts} (harr : IsArr d p) {tgs : List Ts} (t : Ts)
    (hmem : ∀ tg ∈ tgs, tg ∈ slotIds d p) (hnd : tgs.Nodup) : GoodE d (flatDel p tgs t) := by
  refine ⟨hwf, ?_, flatDel_pairwise p tgs t hnd, noIns_ordOK d _ ?_⟩
  · intro e he
    obtain ⟨tg, t1, h1, _, rfl⟩ := mem_flatDel he
    exact ⟨harr, hmem tg h1⟩
  · intro e he q
    obtain ⟨tg, t1, h1, _, rfl⟩ := mem_flatDel he
    rfl

theorem hasNull_of_mem {vs : List JVal} (hn : JVal.hasNullList vs = false) {v : JVal} (hv : v ∈ vs) :
    v.hasNull = false := by
  simpa using List.any_eq_false.mp ((DP.any_hasNull_iff vs).trans hn) v hv

theorem flatUpd_pairwise (p : Ts) : ∀ (tgs : List Ts) (vs : List JVal) (t : Ts), tgs.Nodup →
    JVal.hasNullList vs = false → (flatUpd p tgs vs t).Pairwise Compat
  | [], _, _, _, _ => by simp [flatUpd]
  | _ :: _, [], _, _, _ => by simp [flatUpd]
  | tg :: tgs, v :: vs, t, hnd, hn => by
    simp only [List.nodup_cons] at hnd
    simp only [JVal.hasNullList, Bool.or_eq_false_iff] at hn
    simp only [flatUpd, List.pairwise_cons]
    refine ⟨?_, flatUpd_pairwise p tgs vs _ hnd.2 hn.2⟩
    intro e he
    obtain ⟨tg', v', t1, h1, _, h3, rfl⟩ := mem_flatUpd he
    obtain ⟨⟨ns, c, t'⟩, hc⟩ := DP.createNode_ok p t v hn.1
    rw [hc] at h3
    simp only at h3
    refine ⟨?_, ?_⟩
    · -- the nodes of the first operation end below `t'`, those of a later one start at `t1`, not below `t'`
      intro x hx1 hx2
      have hns : nodesE (.upd1 p tg t v) = ns := by simp only [nodesE, hc]
      have a := (block_delim (createNode_spec p t v _ hc).1 (hns ▸ hx1)).2.1
      obtain ⟨_, hb⟩ := nodesE_block (.upd1 p tg' t1 v')
      have b := (block_delim hb hx2).1
      have := h3.2.2.2
      simp only [EOp.ts] at a b
      omega
    · intro _ htg
      simp only [EOp.tgt, Option.some.injEq] at htg
      exact absurd (htg ▸ h1) hnd.1

theorem goodE_flatUpd {L : OpId} {d : Doc} (I : DInv L 0 d) {p : Ts} (harr : IsArr d p) {tgs : List Ts} {vs : List JVal}
    (hmem : ∀ tg ∈ tgs, tg ∈ slotIds d p) (hnd : tgs.Nodup) (hn : JVal.hasNullList vs = false) :
    GoodE d (flatUpd p tgs vs L.next.ts) := by
  refine ⟨I.wf, ?_, flatUpd_pairwise p tgs vs _ hnd hn, noIns_ordOK d _ ?_⟩
  · intro e he
    obtain ⟨tg, v, t1, h1, h2, h3, rfl⟩ := mem_flatUpd he
    obtain ⟨⟨ns, c, t'⟩, hc⟩ := DP.createNode_ok p t1 v (hasNull_of_mem hn h2)
    refine ⟨harr, ⟨ns, c, t', hc⟩, ?_, hmem tg h1⟩
    have : nodesE (.upd1 p tg t1 v) = ns := by simp only [nodesE, hc]
    rw [this]
    exact fresh_of_block I (createNode_spec p t1 v _ hc).1 h3.1 h3.2.1
  · intro e he q
    obtain ⟨_, _, _, _, _, _, rfl⟩ := mem_flatUpd he
    rfl

/-! ## causal insertion histories of the arrays -/

-- `ArrHist d p` is `DA.Hist (slotIds d p)` by unfolding (`arrHist_iff`); the lemmas about histories are stated on `Hist`
/-- the slot order of the array `p` was produced by a causal history of inserts -/
def ArrHist (d : Doc) (p : Ts) : Prop := ∃ M0, slotIds d p = foldIds [] M0 ∧ ACausal M0

/-- every array of the document has a causal insertion history (what `DP.DInv` does not record) -/
def HistOK (d : Doc) : Prop := ∀ p, IsArr d p → ArrHist d p

theorem ts0_key_of_mem {o : AIns} {k : Nat × Nat × String} (hne : o.cs ≠ []) (h : ∀ x ∈ o.cs, x.key = k) :
    o.ts0.key = k := by
  cases hcs : o.cs with
  | nil => exact absurd hcs hne
  | cons y ys =>
    have := h y (by rw [hcs]; simp)
    simpa [AIns.ts0, hcs, Ts.key] using this

theorem next_key_ne_oldest (L : OpId) : L.next.ts.key ≠ Ts.oldest.key := by
  intro e
  simp only [Ts.key, DP.next_ts, Ts.oldest, Prod.mk.injEq] at e
  omega

theorem hist_extend {L : OpId} {d : Doc} {p : Ts} {M0 : List AIns} (hb : slotIds d p = foldIds [] M0) (hc : ACausal M0)
    (hst : ∀ o ∈ slotIds d p, St L 0 o) {a : Ts} {cs : List Ts} (ha : a = Ts.oldest ∨ a ∈ slotIds d p)
    (hne : cs ≠ []) (hnd : cs.Nodup) (hk : ∀ x ∈ cs, x.key = L.next.ts.key) : ACausal (M0 ++ [⟨a, cs⟩]) := by
  have hmem := foldIds_mem_iff M0 hc
  have hnewkey : (AIns.mk a cs).ts0.key = L.next.ts.key := ts0_key_of_mem hne hk
  refine ACausal.snoc hc hne (fun x hx => (hk x hx).trans hnewkey.symm) hnd (hnewkey ▸ next_key_ne_oldest L)
    (fun o ho => ?_) (ha.imp id fun h => ?_)
  · obtain ⟨y, hy⟩ := List.exists_mem_of_ne_nil _ (hc.nonempty o ho)
    rw [← hc.samekey o ho y hy, hnewkey]
    exact next_key_ne_of_st (hst y (hb ▸ (hmem y).mpr ⟨o, ho, hy⟩))
  · obtain ⟨o, ho, hao⟩ := (hmem a).mp (hb ▸ h)
    refine ⟨o, ho, hao, ?_⟩
    rw [cmp_congr_key _ a _ L.next.ts (hc.samekey _ ho a hao).symm hnewkey]
    exact DP.cmp_lt_of_st (hst a h)

theorem hist_noHead {d : Doc} {p : Ts} (h : ArrHist d p) : Ts.oldest ∉ slotIds d p := by
  obtain ⟨M0, hb, hc⟩ := h
  intro hm
  rw [hb] at hm
  obtain ⟨o, ho, hx⟩ := (foldIds_mem_iff M0 hc _).mp hm
  exact hc.notHead o ho (hc.samekey o ho _ hx).symm

theorem histOK_noHeadSlots {d : Doc} (h : HistOK d) : ∀ p, Ts.oldest ∉ slotIds d p := by
  intro p
  by_cases hp : IsArr d p
  · exact hist_noHead (h p hp)
  · unfold slotIds slotsOf
    unfold IsArr at hp
    cases hf : d.findArr p with
    | none => simp
    | some x => rw [hf] at hp; exact absurd rfl hp

/-! ## the histories under object operations and elementary array operations -/

theorem hist_nil : Hist [] := ⟨[], rfl, ACausal.nil⟩

theorem acausal_single {cs : List Ts} {k : Nat × Nat × String} (hne : cs ≠ []) (hnd : cs.Nodup)
    (hk : ∀ x ∈ cs, x.key = k) (hko : k ≠ Ts.oldest.key) : ACausal [⟨Ts.oldest, cs⟩] :=
  have hkey : (AIns.mk Ts.oldest cs).ts0.key = k := ts0_key_of_mem hne hk
  ACausal.snoc (o := ⟨Ts.oldest, cs⟩) ACausal.nil hne (fun x hx => (hk x hx).trans hkey.symm) hnd (hkey ▸ hko)
    (fun _ h => (nomatch h)) (Or.inl rfl)

theorem hist_fresh {cs : List Ts} {k : Nat × Nat × String} (hnd : cs.Nodup) (hk : ∀ x ∈ cs, x.key = k)
    (hko : k ≠ Ts.oldest.key) : Hist cs := by
  by_cases hne : cs = []
  · subst hne; exact hist_nil
  · exact ⟨[⟨Ts.oldest, cs⟩], (foldIds_fresh cs).symm, acausal_single hne hnd hk hko⟩

theorem isArr_iff_arrV {d : Doc} {q : Ts} : IsArr d q ↔ (arrV (d.find q)).isSome := by
  unfold IsArr
  rw [findArr_isSome_iff]
  unfold idsOf
  cases arrV (d.find q) <;> simp

theorem slotIds_of_arrV (d : Doc) (q : Ts) : slotIds d q = ((arrV (d.find q)).map (List.map (·.1))).getD [] := by
  rw [slotIds_eq_idsOf]; rfl

theorem arrHist_iff {d : Doc} {p : Ts} : ArrHist d p ↔ Hist (slotIds d p) := Iff.rfl

theorem arrHist_congr {d d' : Doc} {q : Ts} (h : arrV (d'.find q) = arrV (d.find q)) (hh : IsArr d q → ArrHist d q) :
    IsArr d' q → ArrHist d' q := by
  intro hq
  rw [isArr_iff_arrV, h, ← isArr_iff_arrV] at hq
  have := hh hq
  rw [arrHist_iff, slotIds_of_arrV] at this ⊢
  rw [h]; exact this

theorem histOK_docEq {a b : Doc} (h : DocEq a b) (hh : HistOK a) : HistOK b :=
  fun q => arrHist_congr (by rw [h q]) (hh q)

theorem hist_new_node {t t' : Ts} {ns : List DNode} (hb : Block t ns t') (hok : ∀ n ∈ ns, DP.NodeOK n)
    (hkey : t.key ≠ Ts.oldest.key) {n : DNode} (hn : n ∈ ns) {sl : List (Ts × Ts)} (h : arrV (some n) = some sl) :
    Hist (sl.map (·.1)) := by
  have hk : ∃ s, n.kind = .arr sl s := by
    obtain ⟨nc, nd, np, nk⟩ := n
    cases nk with
    | elem v => simp [arrV] at h
    | obj m s => simp [arrV] at h
    | arr sl' s =>
      simp only [arrV, Option.some.injEq] at h
      exact ⟨s, by rw [h]⟩
  obtain ⟨s, hk⟩ := hk
  have hno := hok n hn
  unfold DP.NodeOK at hno
  rw [hk] at hno
  simp only at hno
  have hkids : kids n.kind = sl.map (·.2) := by rw [hk]; rfl
  rw [hno.2]
  apply hist_fresh (k := t.key) _ _ hkey
  · have := hb.inj n hn; rwa [hkids] at this
  · intro x hx
    obtain ⟨nc, hnc, rfl, _⟩ := hb.links n hn x (by rw [hkids]; exact hx)
    obtain ⟨a1, a2, a3, _⟩ := hb.mem_ids (List.mem_map.mpr ⟨nc, hnc, rfl⟩)
    simp only [Ts.key, a1, a2, a3]

theorem histOK_run {d d' : Doc} {e : Eff} {pn : DNode} {K' : DKind} (h : RStep d e pn K') (hf : d'.find = e.run d.find)
    (hh : HistOK d) (hnew : ∀ n ∈ e.ns, ∀ sl, arrV (some n) = some sl → Hist (sl.map (·.1)))
    (hs : IsArr d' e.p → ArrHist d' e.p) : HistOK d' := by
  intro q
  have hrun := run_arrV e d.find (arrV_g h) h.p_old q
  rw [← hf] at hrun
  by_cases hn : q ∈ ids e.ns
  · rw [if_pos hn] at hrun
    intro hq
    rw [arrHist_iff, slotIds_of_arrV, hrun]
    obtain ⟨n, hn'⟩ := Option.isSome_iff_exists.mp (nfind_isSome_iff.mpr hn)
    rw [isArr_iff_arrV, hrun, hn'] at hq
    obtain ⟨sl, hsl⟩ := Option.isSome_iff_exists.mp hq
    rw [hn', hsl]
    exact hnew n (nfind_some hn').1 sl hsl
  · rw [if_neg hn] at hrun
    by_cases hqp : q = e.p
    · subst hqp; exact hs
    · rw [if_neg hqp] at hrun
      exact arrHist_congr hrun (hh q)

theorem stepIds_nil (l : List Ts) (a : Ts) : stepIds l a [] = l := by
  unfold stepIds
  cases h : insertAfterId id a [] l with
  | none => rfl
  | some l' => exact insertAfterId_nil id a l l' h

theorem nodesE_ok (e : EOp) : ∀ n ∈ nodesE e, DP.NodeOK n := by
  rcases nodesE_cases e with ⟨h, _⟩ | ⟨p, _, vs, t', _, hc⟩ | ⟨_, p, _, v, c, t', _, hc⟩
  · rw [h]; exact fun _ hn => nomatch hn
  · exact (DP.createArrItems_spec2 p e.ts vs _ _ t' hc).1
  · exact (DP.createNode_spec2 p e.ts v _ hc).1

/-- elementary array operations keep the histories: an insert extends the history of its array (`hins`: the batch
    is empty or the extended history is causal), the arrays among the new nodes start theirs (`hkey`) -/
theorem histOK_applyE {d : Doc} (hwf : d.WF) (hh : HistOK d) (e : EOp) (he : EOK d e)
    (hkey : nodesE e = [] ∨ e.ts.key ≠ Ts.oldest.key)
    (hins : ∀ p a ts vs, e = .ins p a ts vs → newSlots e = [] ∨ Hist (stepIds (slotIds d p) a (newSlots e))) :
    HistOK (applyE d e) := by
  obtain ⟨pn, K', hr⟩ := rstep_applyE hwf e he
  apply histOK_run hr (find_applyE hwf e he) hh
  · rw [effE_ns]
    intro n hn sl' hsl'
    rcases hkey with hk | hk
    · rw [hk] at hn; cases hn
    · obtain ⟨t', hb⟩ := nodesE_block e
      exact hist_new_node hb (nodesE_ok e) hk hn hsl'
  · rw [effE_p]
    intro hq
    rw [arrHist_iff, slotIds_applyE hwf he (isArr_find he.isArr)]
    cases hi : insOnE e.p e with
    | none => exact hh e.p he.isArr
    | some o =>
      simp only
      cases e with
      | ins p a ts vs =>
        simp only [insOnE, EOp.p, if_true, Option.some.injEq] at hi
        subst hi
        simp only [EOp.p]
        rcases hins p a ts vs rfl with h | h
        · rw [h, stepIds_nil]; exact hh p he.isArr
        · exact h
      | del1 p tg t => simp [insOnE] at hi
      | upd1 p tg t v => simp [insOnE] at hi

theorem histOK_applyAllE : ∀ (l : List EOp) {d : Doc}, GoodE d l → HistOK d →
    (∀ e ∈ l, (nodesE e = [] ∨ e.ts.key ≠ Ts.oldest.key) ∧ ∀ q, insOnE q e = none) → HistOK (applyAllE d l)
  | [], d, _, hh, _ => hh
  | e :: l, d, hg, hh, hk => by
    have hok : EOK d e := hg.2.1 e (by simp)
    have h1 := histOK_applyE hg.1 hh e hok (hk e (by simp)).1 (by
      intro p a ts vs he
      have := (hk e (by simp)).2 p
      rw [he] at this
      simp [insOnE] at this)
    exact histOK_applyAllE l (goodE_step hg) h1 (fun e' he' => hk e' (List.mem_cons_of_mem _ he'))

theorem arrV_skG_obj (m : List (String × Ts)) (s : Int) (o : Option DNode) : arrV (skG (.obj m s) o) = none := by
  cases o with
  | none => rfl
  | some n =>
    obtain ⟨nc, nd, np, nk⟩ := n
    cases nk <;> rfl

theorem histOK_applyOp {d : Doc} (hwf : d.WF) (hh : HistOK d) (o : ObjOp) (ho : OpOK d o)
    (hkey : nodesOf o = [] ∨ o.ts.key ≠ Ts.oldest.key) : HistOK (applyOp d o) := by
  obtain ⟨pn, K', hr, _⟩ := rstep_applyOp hwf o ho
  apply histOK_run hr (find_applyOp_eff hwf o ho) hh
  · rw [effOf_ns ho]
    intro n hn sl' hsl'
    rcases hkey with hk | hk
    · rw [hk] at hn; cases hn
    · rcases nodesOf_cases o with h0 | ⟨p, k, v, c, t', _, hc⟩
      · rw [h0] at hn; cases hn
      · exact hist_new_node (createNode_spec p o.ts v _ hc).1 (DP.createNode_spec2 p o.ts v _ hc).1 hk hn hsl'
  · rw [effOf_p]
    intro hq
    exact absurd rfl (obj_ne_arr (isObj_after_op hwf o ho (opOK_isObj ho)) hq)

/-! ## one call: the remote operation its wire form denotes -/

/-- `GoodD d [x]` without the clause `OrdOK` (a causal insertion history of the array that receives an insert) -/
def GoodW (d : Doc) : DOp → Prop
  | .o y => d.WF ∧ OpOK d y
  | .a y => d.WF ∧ (∀ e ∈ flat y, EOK d e) ∧ (flat y).Pairwise Compat ∧ BatchOK y

theorem goodW_of_goodD {d : Doc} {x : DOp} (h : GoodD d [x]) : GoodW d x := by
  cases x with
  | o y => exact goodD_obj h
  | a y =>
    obtain ⟨hg, hb⟩ := goodD_arr h
    exact ⟨hg.1, hg.2.1, hg.2.2.1, hb⟩

theorem goodD_of_goodW {d : Doc} {x : DOp} (h : GoodW d x) (ho : ∀ y, x = .a y → OrdOK d (flat y)) : GoodD d [x] := by
  cases x with
  | o y => exact goodD_single_obj h.1 h.2
  | a y => exact goodD_single_arr h.1 ⟨h.1, h.2.1, h.2.2.1, ho y rfl⟩ h.2.2.2

theorem goodE_of_goodW_noIns {d : Doc} {y : AOp} (h : GoodW d (.a y)) (hy : ∀ p a ts vs, y ≠ .ins p a ts vs) :
    GoodE d (flat y) :=
  ⟨h.1, h.2.1, h.2.2.1, noIns_ordOK d _ (flat_noIns hy)⟩

theorem goodW_cases {d : Doc} : ∀ {x : DOp}, GoodW d x →
    (∃ p a ts vs, x = .a (.ins p a ts vs) ∧ EOK d (.ins p a ts vs)) ∨ GoodD d [x]
  | .a (.ins p a ts vs), h => Or.inl ⟨p, a, ts, vs, rfl, h.2.1 _ (List.mem_singleton_self _)⟩
  | .o _, h => Or.inr (goodD_single_obj h.1 h.2)
  | .a (.del _ _ _), h => Or.inr (goodD_single_arr h.1 (goodE_of_goodW_noIns h fun _ _ _ _ e => nomatch e) h.2.2.2)
  | .a (.upd _ _ _ _), h => Or.inr (goodD_single_arr h.1 (goodE_of_goodW_noIns h fun _ _ _ _ e => nomatch e) h.2.2.2)

theorem execRemoteBase_is_applyD_weak (q : Replica) (d : Doc) (hq : q.state = .doc d) (o : Op) (x : DOp)
    (hx : toDOp o = some x) (hok : GoodW d x) :
    (q.execRemoteBase o).1.state = .doc (applyD d x) ∧ (q.execRemoteBase o).2 = none := by
  rcases goodW_cases hok with ⟨p, a, ts, vs, rfl, he⟩ | hg
  · obtain ⟨d', h1⟩ := execRemote_ins he
    unfold toDOp at hx
    unfold Replica.execRemoteBase
    split at hx <;> cases hx
    rename_i hb
    simp only [hq, hb, execRemote, h1, applyD, applyA, and_self]
  · exact execRemoteBase_is_applyD q d hq o x hx hg

theorem eok_of_insertLocal {L : OpId} {d : Doc} (I : DInv L 0 d) {p : Ts} {pos : Nat} {vs : List JVal} {d' : Doc} {a : Ts}
    (hn : JVal.hasNullList vs = false) (h : d.insertLocalInArray p pos L.next.ts vs = .ok (d', a)) :
    EOK d (.ins p a L.next.ts vs) := by
  obtain ⟨harr, hanc, _⟩ := insert_local_remote h
  obtain ⟨_, _, host⟩ := arr_ids I harr
  obtain ⟨⟨ns, cs, t'⟩, hc⟩ := DP.createArrItems_ok p L.next.ts vs hn
  have hc' : createMany p L.next.ts vs = .ok (ns, cs, t') := hc
  obtain ⟨hblock, _, _⟩ := createMany_block (p := p) hc
  obtain ⟨_, hcsk, _⟩ := createMany_ids_key hc'
  refine ⟨harr, ⟨ns, cs, t', hc'⟩, ?_, ?_, hanc⟩
  · have : nodesE (.ins p a L.next.ts vs) = ns := by simp only [nodesE, hc']
    rw [this]
    exact fresh_of_block I hblock rfl rfl
  · have : newSlots (.ins p a L.next.ts vs) = cs := by simp only [newSlots, hc']
    rw [this]
    intro c hc1 hc2
    exact next_key_ne_of_st (host c hc2) (hcsk c hc1)

/-- no slot of the array that receives an insert carries the identity of the head -/
def NoHead (d : Doc) : DOp → Prop
  | .a (.ins p _ _ _) => Ts.oldest ∉ slotIds d p
  | _ => True

def InsReady (d : Doc) : DOp → Prop
  | .a (.ins p _ _ vs) => ArrHist d p ∧ vs ≠ []
  | _ => True

theorem insReady_noHead {d : Doc} : ∀ {x : DOp}, InsReady d x → NoHead d x
  | .a (.ins _ _ _ _), h => hist_noHead h.1
  | .o _, _ | .a (.del _ _ _), _ | .a (.upd _ _ _ _), _ => trivial

theorem noHead_of {d : Doc} (h : ∀ p, Ts.oldest ∉ slotIds d p) : ∀ x, NoHead d x
  | .a (.ins p _ _ _) => h p
  | .o _ | .a (.del _ _ _) | .a (.upd _ _ _ _) => trivial

/-- The local call `c` took the document from `d` to `d'`, and `x` is the remote operation that does the same: it carries
    acceptable values and is applicable up to the history clause (`GoodW`); applying `x` to `d` gives EXACTLY `d'` when no
    slot of a receiving array carries the head's identity, and `x` is fully applicable (`GoodD`) when the receiving array
    has a causal insertion history and the inserted batch is not empty. -/
structure Denotes (d : Doc) (c : Call) (x : DOp) (d' : Doc) : Prop where
  vals : ValuesOK x
  weak : GoodW d x
  eq : NoHead d x → applyD d x = d'
  good : InsReady d x → GoodD d [x]
  src : ∀ p a ts vs, x = .a (.ins p a ts vs) → ∃ pos : Int, c = .dinsert p pos vs

theorem ordOK_single_ins {L : OpId} {d : Doc} (I : DInv L 0 d) {p a : Ts} {vs : List JVal}
    (he : EOK d (.ins p a L.next.ts vs)) (hh : ArrHist d p) (hne : vs ≠ []) : OrdOK d [.ins p a L.next.ts vs] := by
  obtain ⟨M0, hb, hc⟩ := hh
  refine ordOK_single_ins_iff.mpr ⟨M0, hb, ?_⟩
  obtain ⟨harr, ⟨ns, cs, t', hc'⟩, _, _, hanch⟩ := he
  have hns : newSlots (.ins p a L.next.ts vs) = cs := by simp only [newSlots, hc']
  rw [hns]
  obtain ⟨_, hcsk, hcsnd⟩ := createMany_ids_key hc'
  have hlen := DP.createArrItems_len p vs _ _ _ _ hc'
  apply hist_extend hb hc (arr_ids I harr).2.2 hanch ?_ hcsnd hcsk
  intro e
  rw [e] at hlen
  exact hne (List.length_eq_zero_iff.mp hlen.symm)

/-- a local delete of `num` elements (one, or many): both calls prepare the same body -/
theorem core_delete {L : OpId} {d : Doc} (I : DInv L 0 d) {c : Call} {h : Ts} {pos num : Nat} {s' : DState}
    {b' : OpBody} {ret : Ret} (he : execLocal (.doc d) L.next.ts (.docDelete h pos num []) = .ok (s', b', ret)) :
    ∃ x d', s' = .doc d' ∧ toDOp (Op.wire ⟨L.next, b'⟩) = some x ∧ Denotes d c x d' := by
  simp only [execLocal] at he
  split at he <;> cases he
  rename_i d' tgs olds hdel
  obtain ⟨harr, hrem⟩ := delete_local_remote hdel
  obtain ⟨hnd1, hnd2, _⟩ := arr_ids I harr
  obtain ⟨h1, h2, h3⟩ := hrem hnd1 hnd2
  have hg := goodE_flatDel I.wf harr L.next.ts h2 h3
  exact ⟨.a (.del h tgs L.next.ts), d', rfl, rfl,
    { vals := trivial
      weak := ⟨I.wf, hg.2.1, hg.2.2.1, trivial⟩
      eq := fun _ => by simp only [applyD, applyA, h1]
      good := fun _ => goodD_single_arr I.wf hg trivial
      src := by intro p a ts vs e; cases e }⟩

theorem exec_core {L : OpId} {d : Doc} (I : DInv L 0 d) {c : Call} {b : OpBody} {s' : DState} {b' : OpBody} {ret : Ret}
    (hp : Prepared c b) (hk : DP.CallKeysND c) (he : execLocal (.doc d) L.next.ts b = .ok (s', b', ret)) :
    ∃ x d', s' = .doc d' ∧ toDOp (Op.wire ⟨L.next, b'⟩) = some x ∧ Denotes d c x d' := by
  cases hp with
  | put h k v hn =>
    simp only [execLocal] at he
    split at he <;> cases he
    rename_i d' old hput
    obtain ⟨hok, heq⟩ := put_local_remote I hput
    exact ⟨.o (.put h k v L.next.ts), d', rfl, rfl,
      { vals := ⟨hn, hk⟩
        weak := ⟨I.wf, hok⟩
        eq := fun _ => heq
        good := fun _ => goodD_single_obj I.wf hok
        src := by intro p a ts vs e; cases e }⟩
  | remove h k =>
    simp only [execLocal] at he
    split at he <;> cases he
    rename_i d' old hrm
    obtain ⟨hrem, hkey⟩ := remove_local_remote hrm
    have hok : OpOK d (.del h k L.next.ts) := hkey
    exact ⟨.o (.del h k L.next.ts), d', rfl, rfl,
      { vals := trivial
        weak := ⟨I.wf, hok⟩
        eq := fun _ => by simp only [applyD, applyOp, hrem]
        good := fun _ => goodD_single_obj I.wf hok
        src := by intro p a ts vs e; cases e }⟩
  | insert h pos vs hn =>
    simp only [execLocal] at he
    split at he <;> cases he
    rename_i d' a hins
    have heok := eok_of_insertLocal I hn hins
    obtain ⟨hnd1, _, host⟩ := arr_ids I heok.1
    have hw : GoodW d (.a (.ins h a L.next.ts vs)) :=
      ⟨I.wf, List.forall_mem_singleton.mpr heok, List.pairwise_singleton _ _, trivial⟩
    refine ⟨.a (.ins h a L.next.ts vs), d', rfl, rfl,
      { vals := ⟨hn, hk⟩, weak := hw, eq := fun hnh => ?eq, good := fun hr => ?good, src := ?src }⟩
    case eq =>
      have := (insert_local_remote hins).2.2 hnd1 hnh fun o ho => DP.cmp_lt_of_st (host o ho)
      simp only [applyD, applyA, this]
    case good =>
      exact goodD_of_goodW hw fun y hy => by
        obtain rfl := DOp.a.inj hy
        exact ordOK_single_ins I heok hr.1 hr.2
    case src =>
      intro p a' ts vs' e
      obtain ⟨rfl, _, _, rfl⟩ := AOp.ins.inj (DOp.a.inj e)
      exact ⟨pos, rfl⟩
  | delete h pos => exact core_delete I he
  | deleteMany h pos n => exact core_delete I he
  | update h pos vs hn =>
    simp only [execLocal] at he
    split at he <;> cases he
    rename_i d' tgs olds hupd
    obtain ⟨harr, h1, h2, h3, h4⟩ := update_local_remote I hn hupd
    have hg := goodE_flatUpd I harr h2 h3 hn
    exact ⟨.a (.upd h L.next.ts tgs vs), d', rfl, rfl,
      { vals := ⟨hn, hk⟩
        weak := ⟨I.wf, hg.2.1, hg.2.2.1, h4⟩
        eq := fun _ => by simp only [applyD, applyA, h1]
        good := fun _ => goodD_single_arr I.wf hg h4
        src := by intro p a ts vs e; cases e }⟩

/-! ## the theorems for one call -/

/-- What a successful mutating document call emits: it queues the operation `o`, of the replica's era, whose wire form
    denotes the remote operation `x` that does what the call did.  The statements about one call below are projections
    of this. -/
structure Emits (r : Replica) (c : Call) (d : Doc) (o : Op) (x : DOp) (d' : Doc) : Prop extends Denotes d c x d' where
  buffer : (r.call c).1.buffer = r.buffer ++ [o]
  id : o.id = r.opId.next
  opId : (r.call c).1.opId = r.opId.next
  state : (r.call c).1.state = .doc d'
  den : toDOp o = some x
  era : o.id.era = r.opId.era

theorem local_call_core (r : Replica) (d : Doc) (hs : r.state = .doc d) (h : DP.DocInv r) (c : Call)
    (hk : DP.CallKeysND c) (hm : DP.isMutating c = true) (v : Ret) (hok : (r.call c).2 = .ok v) :
    ∃ (o : Op) (x : DOp) (d' : Doc), Emits r c d o x d' := by
  obtain ⟨I, _⟩ := h.of_state hs
  obtain ⟨b, s', b', ret, hp, he, hcall⟩ := call_ok_inv hs hm hok
  obtain ⟨x, d', hst, hden, hc⟩ := exec_core I hp hk he
  exact ⟨Op.wire ⟨r.opId.next, b'⟩, x, d',
    { hc with
      buffer := by rw [hcall]
      id := rfl
      opId := by rw [hcall]
      state := by rw [hcall]; exact hst
      den := hden
      era := rfl }⟩

section
variable {r : Replica} {c : Call} {d d' : Doc} {o : Op} {x : DOp}

theorem Emits.noHead (E : Emits r c d o x d') (hnh : ∀ p, Ts.oldest ∉ slotIds d p) : applyD d x = d' :=
  E.eq (noHead_of hnh x)

/-- `hins` is void for every call but `dinsert` -/
theorem Emits.ready (E : Emits r c d o x d')
    (hins : ∀ p pos vs, c = .dinsert p pos vs → IsArr d p → ArrHist d p ∧ vs ≠ []) :
    applyD d x = d' ∧ GoodD d [x] := by
  have hready : InsReady d x := by
    match x, E.weak, E.src with
    | .a (.ins p a ts vs), hw, hsrc =>
      obtain ⟨pos, rfl⟩ := hsrc p a ts vs rfl
      exact hins p pos vs rfl (hw.2.1 _ (List.mem_singleton_self _)).1
    | .o _, _, _ | .a (.del _ _ _), _, _ | .a (.upd _ _ _ _), _, _ => trivial
  exact ⟨E.eq (insReady_noHead hready), E.good hready⟩

end

/-- The ONE statement about a successful mutating call: it emits (`Emits`) an operation that is fully applicable and gives
    exactly the sender's document. `hins` is void for every call but `dinsert`. -/
theorem local_call_ready (r : Replica) (d : Doc) (hs : r.state = .doc d) (h : DP.DocInv r)
    (c : Call) (hk : DP.CallKeysND c) (hm : DP.isMutating c = true) (v : Ret) (hok : (r.call c).2 = .ok v)
    (hins : ∀ p pos vs, c = .dinsert p pos vs → IsArr d p → ArrHist d p ∧ vs ≠ []) :
    ∃ (o : Op) (x : DOp) (d' : Doc), Emits r c d o x d' ∧ applyD d x = d' ∧ GoodD d [x] :=
  have ⟨o, x, d', E⟩ := local_call_core r d hs h c hk hm v hok
  ⟨o, x, d', E, E.ready hins⟩

/-- `local_call_ready` read off as a tuple. `hh` — the arrays of the document have causal insertion histories (`HistOK`;
    `DP.DInv` does not record them; invariant along `DR.Life`, see `histOK_life`); `hne` — the call does not insert an EMPTY
    batch (`GoodD`'s `ACausal` refuses empty batches).  Both are void for every call but `dinsert`; without them the statement
    is false (`Counter.local_call_statement_false`, `Counter.local_call_goodD_fails_X`). -/
theorem local_call_is_applicable_remote_op_partial (r : Replica) (d : Doc) (hs : r.state = .doc d) (h : DP.DocInv r)
    (c : Call) (hk : DP.CallKeysND c) (hm : DP.isMutating c = true) (v : Ret) (hok : (r.call c).2 = .ok v)
    (hh : HistOK d) (hne : ∀ hd pos, c ≠ .dinsert hd pos []) :
    ∃ (o : Op) (x : DOp) (d' : Doc),
      (r.call c).1.buffer = r.buffer ++ [o] ∧ o.id = r.opId.next ∧
      (r.call c).1.state = .doc d' ∧
      toDOp o = some x ∧ GoodD d [x] ∧ ValuesOK x ∧ o.id.era = r.opId.era ∧
      DocEq (applyD d x) d' :=
  have ⟨o, x, d', E, e, g⟩ := local_call_ready r d hs h c hk hm v hok fun p pos _ e ha =>
    ⟨hh p ha, fun e' => hne p pos (e' ▸ e)⟩
  ⟨o, x, d', E.buffer, E.id, E.state, E.den, g, E.vals, E.era, e ▸ docEq_refl _⟩

/-- for every call but `dinsert` neither `hh` nor `hne` is needed -/
theorem local_call_is_applicable_remote_op_noInsert (r : Replica) (d : Doc) (hs : r.state = .doc d) (h : DP.DocInv r)
    (c : Call) (hk : DP.CallKeysND c) (hm : DP.isMutating c = true) (v : Ret) (hok : (r.call c).2 = .ok v)
    (hni : ∀ hd pos vs, c ≠ .dinsert hd pos vs) :
    ∃ (o : Op) (x : DOp) (d' : Doc),
      (r.call c).1.buffer = r.buffer ++ [o] ∧ o.id = r.opId.next ∧
      (r.call c).1.state = .doc d' ∧
      toDOp o = some x ∧ GoodD d [x] ∧ ValuesOK x ∧ o.id.era = r.opId.era ∧
      DocEq (applyD d x) d' := by
  have ⟨o, x, d', E, e, g⟩ := local_call_ready r d hs h c hk hm v hok fun p pos vs e => absurd e (hni p pos vs)
  exact ⟨o, x, d', E.buffer, E.id, E.state, E.den, g, E.vals, E.era, e ▸ docEq_refl _⟩

/-- the weakest form: NO hypothesis on the history; the operation is `GoodW` (= `GoodD` without `OrdOK`;
    `goodD_of_goodW` gives `GoodD` back from `OrdOK`), equality of the documents under `NoHead` -/
theorem local_call_is_applicable_remote_op_weak (r : Replica) (d : Doc) (hs : r.state = .doc d) (h : DP.DocInv r)
    (c : Call) (hk : DP.CallKeysND c) (hm : DP.isMutating c = true) (v : Ret) (hok : (r.call c).2 = .ok v) :
    ∃ (o : Op) (x : DOp) (d' : Doc),
      (r.call c).1.buffer = r.buffer ++ [o] ∧ o.id = r.opId.next ∧
      (r.call c).1.state = .doc d' ∧
      toDOp o = some x ∧ GoodW d x ∧ ValuesOK x ∧ o.id.era = r.opId.era ∧
      (NoHead d x → DocEq (applyD d x) d') := by
  obtain ⟨o, x, d', E⟩ := local_call_core r d hs h c hk hm v hok
  exact ⟨o, x, d', E.buffer, E.id, E.state, E.den, E.weak, E.vals, E.era, fun hn => E.eq hn ▸ docEq_refl _⟩

/-- the receiver, under `hnh` — no array slot carries the identity of the head (`Ts.oldest`), which `DP.DInv` does not
    exclude (`Counter.receiver_statement_false`) and `HistOK` implies (`histOK_noHeadSlots`).  No history is needed:
    a second replica holding the same document that receives the emitted operation reaches the SAME document (plain
    equality, hence `DocEq` and the same JSON view) without error or panic. -/
theorem receiver_reaches_senders_state_of_noHeadSlots (r q : Replica) (d : Doc) (hs : r.state = .doc d) (hq : q.state = .doc d)
    (h : DP.DocInv r) (c : Call) (hk : DP.CallKeysND c) (hm : DP.isMutating c = true) (v : Ret)
    (hok : (r.call c).2 = .ok v) (hnh : ∀ p, Ts.oldest ∉ slotIds d p) :
    ∃ (o : Op) (d' dq : Doc), (r.call c).1.buffer = r.buffer ++ [o] ∧ (r.call c).1.state = .doc d' ∧
      (q.execRemoteBase o).1.state = .doc dq ∧ (q.execRemoteBase o).2 = none ∧ DocEq dq d' ∧ dq.view = d'.view := by
  obtain ⟨o, x, d', E⟩ := local_call_core r d hs h c hk hm v hok
  obtain ⟨e1, e2⟩ := execRemoteBase_is_applyD_weak q d hq o x E.den E.weak
  rw [E.noHead hnh] at e1
  exact ⟨o, d', d', E.buffer, E.state, e1, e2, docEq_refl _, rfl⟩

/-! ## the histories are an invariant of deliveries and calls -/

/-- the new nodes of an operation (if any) do not carry the key of the head -/
def KeyOK : DOp → Prop
  | .o y => nodesOf y = [] ∨ y.ts.key ≠ Ts.oldest.key
  | .a y => ∀ e ∈ flat y, nodesE e = [] ∨ e.ts.key ≠ Ts.oldest.key

theorem histOK_applyD {d : Doc} {x : DOp} (hh : HistOK d) (hw : GoodW d x) (hk : KeyOK x)
    (hins : ∀ p a ts vs, x = .a (.ins p a ts vs) → vs = [] ∨ OrdOK d [.ins p a ts vs]) : HistOK (applyD d x) := by
  cases x with
  | o y => exact histOK_applyOp hw.1 hh y hw.2 hk
  | a y =>
    by_cases hy : ∃ p a ts vs, y = .ins p a ts vs
    · obtain ⟨p, a, ts, vs, rfl⟩ := hy
      have he : EOK d (.ins p a ts vs) := hw.2.1 _ (by simp [flat])
      show HistOK (applyE d (.ins p a ts vs))
      apply histOK_applyE hw.1 hh _ he (hk _ (by simp [flat]))
      intro p' a' ts' vs' e
      simp only [EOp.ins.injEq] at e
      obtain ⟨rfl, rfl, rfl, rfl⟩ := e
      rcases hins p a ts vs rfl with h | h
      · left; subst h; simp [newSlots, createMany, createArrItems]
      · right
        exact (ordOK_single_ins_iff.mp h).step
    · have hy' : ∀ p a ts vs, y ≠ .ins p a ts vs := fun p a ts vs e => hy ⟨p, a, ts, vs, e⟩
      have hg := goodE_of_goodW_noIns hw hy'
      have heq : DocEq (applyA d y) (applyAllE d (flat y)) := applyA_flat (rest := []) (by simpa using hg) hw.2.2.2
      exact histOK_docEq (docEq_symm heq)
        (histOK_applyAllE (flat y) hg hh (fun e he => ⟨hk e he, flat_noIns hy' e he⟩))

theorem key_ne_of_absent {d : Doc} (hroot : (d.find Ts.oldest).isSome) {t : Ts} (h0 : t.delim = 0)
    (hf : d.find t = none) : t.key ≠ Ts.oldest.key := by
  intro e
  have : t = Ts.oldest := by
    obtain ⟨a, b, c, dl⟩ := t
    simp only [Ts.key, Ts.oldest, Prod.mk.injEq] at e h0 ⊢
    obtain ⟨rfl, rfl, rfl⟩ := e
    subst h0
    rfl
  rw [this] at hf
  rw [hf] at hroot
  cases hroot

theorem createNode_ts_mem {p ts : Ts} {v : JVal} {ns : List DNode} {c t' : Ts}
    (hc : createNode p ts v = .ok (ns, c, t')) : ts ∈ ids ns := by
  obtain ⟨_, _, n0, rest, hns, hn0, _⟩ := createNode_spec p ts v _ hc
  simp only at hns hn0
  rw [hns, ← hn0]
  exact List.mem_map_of_mem List.mem_cons_self

/-- the timestamp of a wire operation has delimiter 0; its first new node carries it and is fresh, the head is in the
    table: the new nodes are away from the head's key -/
theorem keyOK_of_goodW {d : Doc} {x : DOp} (hroot : (d.find Ts.oldest).isSome) (h0 : (dts x).delim = 0)
    (hw : GoodW d x) : KeyOK x := by
  cases x with
  | o y =>
    cases y with
    | put p k v ts =>
      obtain ⟨_, ⟨ns, c, t', hc⟩, hf⟩ := hw.2
      exact Or.inr (key_ne_of_absent hroot h0 (hf ts (by simp only [nodesOf, hc]; exact createNode_ts_mem hc)))
    | del p k ts => exact Or.inl rfl
  | a y =>
    cases y with
    | ins p a ts vs =>
      intro e he
      obtain rfl := List.mem_singleton.mp he
      obtain ⟨_, ⟨ns, cs, t', hc⟩, hf, _, _⟩ := hw.2.1 _ he
      have hn : nodesE (.ins p a ts vs) = ns := by simp only [nodesE, hc]
      rw [hn] at hf ⊢
      cases hns : ns with
      | nil => exact Or.inl rfl
      | cons n0 rest =>
        have hids := (createMany_block hc).1.ids
        rw [hns] at hids
        simp only [ids, List.map_cons, List.length_cons, delimSeq, List.cons.injEq] at hids
        exact Or.inr (key_ne_of_absent hroot (t := ts) h0 (hf ts (by rw [hns]; simp [ids, hids.1])))
    | del p tgs ts =>
      intro e he
      obtain ⟨tg, t1, _, _, rfl⟩ := mem_flatDel he
      exact Or.inl rfl
    | upd p ts tgs vs =>
      intro e he
      obtain ⟨tg', v', t1, _, _, haft, rfl⟩ := mem_flatUpd he
      have hkey : t1.key = ts.key := haft.key
      refine Or.inr (hkey ▸ ?_)
      match tgs, vs, he, hw with
      | tg :: tgs, v :: vs, _, hw =>
        obtain ⟨_, ⟨ns, c, t', hc⟩, hf, _⟩ := hw.2.1 (.upd1 p tg ts v) List.mem_cons_self
        exact key_ne_of_absent hroot h0 (hf ts (by simp only [nodesE, hc]; exact createNode_ts_mem hc))
      | [], _, he, _ => simp [flat, flatUpd] at he
      | _ :: _, [], he, _ => simp [flat, flatUpd] at he

/-! ## along a replica's life -/

theorem call_nonmut {r : Replica} {d : Doc} (hs : r.state = .doc d) (h : DP.DocInv r) {c : Call}
    (hm : DP.isMutating c = false) : (r.call c).1 = r := by
  obtain ⟨d', o, E, -⟩ := DP.call_full (h.of_state hs).1 c
  rw [E.res.quiet_call hs hm]

theorem histOK_empty : HistOK Doc.empty := by
  intro p hp
  exfalso
  obtain ⟨pn, sl, sz, h⟩ := isArr_iff.mp hp
  obtain ⟨h1, h2⟩ := findArr_some_iff.mp h
  obtain ⟨_, rfl⟩ := DP.find_empty h1
  cases h2

theorem ordOK_of_goodD_ins {d : Doc} {p a ts : Ts} {vs : List JVal} (h : GoodD d [.a (.ins p a ts vs)]) :
    OrdOK d [.ins p a ts vs] := by
  simpa [flat] using (goodD_arr h).1.2.2.2

theorem goodD_ins_hist {d : Doc} {p a ts : Ts} {vs : List JVal} (h : GoodD d [.a (.ins p a ts vs)]) :
    HistExt (slotIds d p) ⟨a, newSlots (.ins p a ts vs)⟩ :=
  ordOK_single_ins_iff.mp (ordOK_of_goodD_ins h)

theorem histOK_call (r : Replica) (d : Doc) (hs : r.state = .doc d) (h : DP.DocInv r) (hh : HistOK d) (c : Call)
    (hk : DP.CallKeysND c) : ∀ d', (r.call c).1.state = .doc d' → HistOK d' := by
  intro d' hd'
  have same : (r.call c).1 = r → HistOK d' := by
    intro e
    rw [e, hs] at hd'
    simp only [DState.doc.injEq] at hd'
    exact hd' ▸ hh
  by_cases hm : DP.isMutating c = true
  · cases hres : (r.call c).2 with
    | err e => exact same (call_err_same r c hres)
    | panic w => exact absurd hres (DP.doc_call_no_panic r c h w)
    | ok v =>
      obtain ⟨o, x, d1, E⟩ := local_call_core r d hs h c hk hm v hres
      obtain ⟨I, _⟩ := h.of_state hs
      rw [E.state] at hd'
      simp only [DState.doc.injEq] at hd'
      rw [← hd', ← E.noHead (histOK_noHeadSlots hh)]
      obtain ⟨m, s, hroot⟩ := I.root
      apply histOK_applyD hh E.weak (keyOK_of_goodW (by simp [hroot]) (by rw [toDOp_ts E.den]; rfl) E.weak)
      intro p a ts vs e
      subst e
      by_cases hv : vs = []
      · exact Or.inl hv
      · right
        have he : EOK d (.ins p a ts vs) := E.weak.2.1 _ (by simp [flat])
        exact ordOK_of_goodD_ins (E.good ⟨hh p he.1, hv⟩)
  · exact same (call_nonmut hs h (by simpa using hm))

theorem histOK_remote (r : Replica) (d : Doc) (hs : r.state = .doc d) (h : DP.DocInv r) (hh : HistOK d) (o : Op) (x : DOp)
    (hx : toDOp o = some x) (hok : GoodD d [x]) : ∀ d', (r.execRemoteBase o).1.state = .doc d' → HistOK d' := by
  intro d' hd'
  rw [(execRemoteBase_is_applyD r d hs o x hx hok).1] at hd'
  simp only [DState.doc.injEq] at hd'
  rw [← hd']
  obtain ⟨I, _⟩ := h.of_state hs
  obtain ⟨m, s, hroot⟩ := I.root
  have hw := goodW_of_goodD hok
  apply histOK_applyD hh hw (keyOK_of_goodW (by simp [hroot]) (by rw [toDOp_ts hx]; rfl) hw)
  intro p a ts vs e
  subst e
  exact Or.inr (ordOK_of_goodD_ins hok)

theorem histOK_life (cuid : String) (create : Bool) (r : Replica) (h : Life cuid create r) :
    ∀ d, r.state = .doc d → HistOK d := by
  induction h with
  | new =>
    intro d hd
    have : (Replica.new .document cuid create).state = .doc Doc.empty := by cases create <;> rfl
    rw [this] at hd
    simp only [DState.doc.injEq] at hd
    exact hd ▸ histOK_empty
  | step hl hs ih =>
    have hinv := docInv_life _ _ _ hl
    have ⟨d0, hs0, _, _⟩ := hinv
    cases hs with
    | call c hk => exact histOK_call _ d0 hs0 hinv (ih d0 hs0) c hk
    | deliver d hs' o x hx hok hera hv => exact histOK_remote _ d hs' hinv (ih d hs') o x hx hok

/-- every reachable replica (reached by public calls and deliveries of applicable remote operations, `DR.Life`) emits
    a `GoodD` operation that gives its own document; the only proviso: the call is not an insert of an EMPTY batch (for
    which `GoodD` is false, see `Counter.local_call_statement_false`) -/
theorem life_local_call_is_applicable_remote_op (cuid : String) (create : Bool) (r : Replica) (hl : Life cuid create r)
    (d : Doc) (hs : r.state = .doc d) (c : Call) (hk : DP.CallKeysND c) (hm : DP.isMutating c = true) (v : Ret)
    (hok : (r.call c).2 = .ok v) (hne : ∀ hd pos, c ≠ .dinsert hd pos []) :
    ∃ (o : Op) (x : DOp) (d' : Doc),
      (r.call c).1.buffer = r.buffer ++ [o] ∧ o.id = r.opId.next ∧
      (r.call c).1.state = .doc d' ∧
      toDOp o = some x ∧ GoodD d [x] ∧ ValuesOK x ∧ o.id.era = r.opId.era ∧
      DocEq (applyD d x) d' :=
  local_call_is_applicable_remote_op_partial r d hs (docInv_life cuid create r hl) c hk hm v hok
    (histOK_life cuid create r hl d hs) hne

/-- the receiver, for every reachable sender: no hypothesis on the array slots -/
theorem life_receiver_reaches_senders_state (cuid : String) (create : Bool) (r q : Replica) (hl : Life cuid create r)
    (d : Doc) (hs : r.state = .doc d) (hq : q.state = .doc d) (c : Call) (hk : DP.CallKeysND c)
    (hm : DP.isMutating c = true) (v : Ret) (hok : (r.call c).2 = .ok v) :
    ∃ (o : Op) (d' dq : Doc), (r.call c).1.buffer = r.buffer ++ [o] ∧ (r.call c).1.state = .doc d' ∧
      (q.execRemoteBase o).1.state = .doc dq ∧ (q.execRemoteBase o).2 = none ∧ DocEq dq d' ∧ dq.view = d'.view :=
  receiver_reaches_senders_state_of_noHeadSlots r q d hs hq (docInv_life cuid create r hl) c hk hm v hok
    (histOK_noHeadSlots (histOK_life cuid create r hl d hs))

/-! ## the invariant under deliveries from `GoodW` (`DR.docInv_remote` without the history clause) -/

theorem dinv_applyD_weak {L : OpId} {d : Doc} (I : DInv L 0 d) (hkeys : KeysND d) (x : DOp) (hok : GoodW d x)
    (hst : St L 0 (dts x)) (hv : ValuesOK x) : DInv L 0 (applyD d x) ∧ KeysND (applyD d x) := by
  rcases goodW_cases hok with ⟨p, a, ts, vs, rfl, he⟩ | hg
  · exact dinv_applyE I hkeys (.ins p a ts vs) he hst hv.2
  · exact dinv_applyD I hkeys x hg hst hv

/-- a remote operation that is applicable up to the history clause keeps the document invariant -/
theorem docInv_remote_weak (r : Replica) (d : Doc) (hs : r.state = .doc d) (h : DP.DocInv r) (o : Op) (x : DOp)
    (hx : toDOp o = some x) (hok : GoodW d x) (hera : o.id.era = r.opId.era) (hv : ValuesOK x) :
    DP.DocInv (r.execRemoteBase o).1 :=
  docInv_of_applyD r d hs h o x hx hera (execRemoteBase_is_applyD_weak r d hs o x hx hok).1
    fun I hkeys hst => dinv_applyD_weak I hkeys x hok hst hv

/-! ## non-vacuity -/

namespace ExLR
def docOf (r : Replica) : Doc := match r.state with | .doc d => d | _ => Doc.empty

theorem docOf_eq {r : Replica} {d : Doc} (h : r.state = .doc d) : docOf r = d := by unfold docOf; rw [h]

def r0 : Replica := Replica.new .document "c" true
/-- `{"a": [1, {"x": 5}, [7, 8]]}` -/
def c1 : Call := .dput Ts.oldest "a" (.arr [.num 1, .obj [("x", .num 5)], .arr [.num 7, .num 8]])
def r1 : Replica := (r0.call c1).1
def arrId : Ts := ⟨0, 2, "c", 0⟩
/-- a local insert in the middle of the array, one of the values nested -/
def c2 : Call := .dinsert arrId 1 [.str "m", .arr [.num 3]]
def r2 : Replica := (r1.call c2).1
/-- a local update of two slots (the two just inserted) -/
def c3 : Call := .dupdate arrId 1 [.obj [("k", .num 1)], .num 9]
def r3 : Replica := (r2.call c3).1

theorem keys2 : DP.CallKeysND c2 := by simp [c2, DP.CallKeysND, JKeysND, JKeysNDList]
theorem keys3 : DP.CallKeysND c3 := by simp [c3, DP.CallKeysND, JKeysND, JKeysNDList, JKeysNDKvs]

theorem life1 : Life "c" true r1 :=
  .step .new (.call _ c1 (by simp [c1, DP.CallKeysND, JKeysND, JKeysNDList, JKeysNDKvs]))
theorem life2 : Life "c" true r2 := .step life1 (.call _ c2 keys2)

/-- the operation the insert emits: anchor = the order identifier of the slot before position 1 -/
def o2 : Op := ⟨⟨0, 3, "c", 3⟩, .docInsert arrId 0 (some ⟨0, 2, "c", 1⟩) [.str "m", .arr [.num 3]]⟩
def x2 : DOp := .a (.ins arrId ⟨0, 2, "c", 1⟩ ⟨0, 3, "c", 0⟩ [.str "m", .arr [.num 3]])
/-- the operation the update emits: targets = the order identifiers of the live slots 1, 2 -/
def o3 : Op := ⟨⟨0, 4, "c", 4⟩, .docUpdate arrId 0 [⟨0, 3, "c", 0⟩, ⟨0, 3, "c", 1⟩] [.obj [("k", .num 1)], .num 9]⟩
def x3 : DOp := .a (.upd arrId ⟨0, 4, "c", 0⟩ [⟨0, 3, "c", 0⟩, ⟨0, 3, "c", 1⟩] [.obj [("k", .num 1)], .num 9])
/-- a subscriber holding the same document (another client, its own clock) that receives the emitted operation -/
def q1 : Replica := { Replica.new .document "s" false with state := r1.state }

/-- both calls evaluated in one theorem, so that the replicas are computed once: `.1` the insert `c2` at `r1` (and its
    delivery to `q1`), `.2` the update `c3` at `r2`; the examples project it -/
theorem runs :
    ((r1.call c2).2 = .ok .none ∧ r2.buffer = r1.buffer ++ [o2] ∧ applyD (docOf r1) x2 = docOf r2 ∧
      (q1.execRemoteBase o2).1.state = r2.state) ∧
    (r2.state = .doc (docOf r2) ∧ (r2.call c3).2 = .ok (.vals [.str "m", .arr [.num 3]]) ∧
      r3.buffer = r2.buffer ++ [o3] ∧ applyD (docOf r2) x3 = docOf r3) :=
  ⟨⟨rfl, rfl, rfl, rfl⟩, ⟨rfl, rfl, rfl, rfl⟩⟩

example : r2.buffer = r1.buffer ++ [o2] := runs.1.2.1
example : toDOp o2 = some x2 := rfl
example : r3.buffer = r2.buffer ++ [o3] := runs.2.2.2.1
example : toDOp o3 = some x3 := rfl
/-- applying the denoted operations to the state before the call gives the state after the call, exactly -/
example : applyD (docOf r1) x2 = docOf r2 := runs.1.2.2.1
example : applyD (docOf r2) x3 = docOf r3 := runs.2.2.2.2
example : ((docOf r3).view ==
    .obj [("a", .arr [.num 1, .obj [("k", .num 1)], .num 9, .obj [("x", .num 5)], .arr [.num 7, .num 8]])]) = true := by
  decide +kernel

theorem emits2 : ∃ (o : Op) (x : DOp) (d' : Doc),
    (r1.call c2).1.buffer = r1.buffer ++ [o] ∧ o.id = r1.opId.next ∧ (r1.call c2).1.state = .doc d' ∧
    toDOp o = some x ∧ GoodD (docOf r1) [x] ∧ ValuesOK x ∧ o.id.era = r1.opId.era ∧ DocEq (applyD (docOf r1) x) d' :=
  life_local_call_is_applicable_remote_op "c" true r1 life1 (docOf r1) rfl c2 keys2 rfl .none runs.1.1
    (by intro hd pos e; cases e)

/-- `life_local_call_is_applicable_remote_op` instantiated on the insert … -/
example : ∃ (o : Op) (x : DOp) (d' : Doc),
    (r1.call c2).1.buffer = r1.buffer ++ [o] ∧ o.id = r1.opId.next ∧ (r1.call c2).1.state = .doc d' ∧
    toDOp o = some x ∧ GoodD (docOf r1) [x] ∧ ValuesOK x ∧ o.id.era = r1.opId.era ∧ DocEq (applyD (docOf r1) x) d' :=
  emits2

/-- … and on the update -/
example : ∃ (o : Op) (x : DOp) (d' : Doc),
    (r2.call c3).1.buffer = r2.buffer ++ [o] ∧ o.id = r2.opId.next ∧ (r2.call c3).1.state = .doc d' ∧
    toDOp o = some x ∧ GoodD (docOf r2) [x] ∧ ValuesOK x ∧ o.id.era = r2.opId.era ∧ DocEq (applyD (docOf r2) x) d' :=
  life_local_call_is_applicable_remote_op "c" true r2 life2 (docOf r2) runs.2.1 c3 keys3 rfl
    (.vals [.str "m", .arr [.num 3]]) runs.2.2.1 (by intro hd pos e; cases e)

/-- hence the emitted insert is ready for `DM.mixed_converge` / `DR.docInv_remote` at any replica holding the document -/
example : GoodD (docOf r1) [x2] := by
  obtain ⟨o, x, d', h1, _, _, h4, h5, _⟩ := emits2
  have e := runs.1.2.1
  unfold r2 at e
  obtain rfl : o = o2 := (List.cons.inj (List.append_cancel_left (h1.symm.trans e))).1
  cases h4
  exact h5

example : ∃ (o : Op) (d' dq : Doc), (r1.call c2).1.buffer = r1.buffer ++ [o] ∧ (r1.call c2).1.state = .doc d' ∧
    (q1.execRemoteBase o).1.state = .doc dq ∧ (q1.execRemoteBase o).2 = none ∧ DocEq dq d' ∧ dq.view = d'.view :=
  life_receiver_reaches_senders_state "c" true r1 q1 life1 (docOf r1) rfl rfl c2 keys2 rfl .none runs.1.1

example : (q1.execRemoteBase o2).1.state = r2.state := runs.1.2.2.2

end ExLR

/-! ## both statements are false of a replica that only satisfies `DP.DocInv`: two counterexamples -/

namespace Counter
open ExLR

/-! (a) a REACHABLE state, an insert of an EMPTY batch: the call succeeds and queues an operation, but `GoodD` refuses an
    insert without identifiers (`ACausal.nonempty`) -/

def cE : Call := .dinsert arrId 0 []
def oE : Op := ⟨⟨0, 3, "c", 3⟩, .docInsert arrId 0 (some Ts.oldest) []⟩

theorem runE : (r1.call cE).2 = .ok .none ∧ (r1.call cE).1.buffer = r1.buffer ++ [oE] := ⟨rfl, rfl⟩

set_option linter.unusedVariables false in
theorem local_call_statement_false :
    ¬ (∀ (r : Replica) (d : Doc) (hs : r.state = .doc d) (h : DP.DocInv r) (c : Call)
        (hk : DP.CallKeysND c) (hm : DP.isMutating c = true) (v : Ret) (hok : (r.call c).2 = .ok v),
        ∃ (o : Op) (x : DOp) (d' : Doc),
          (r.call c).1.buffer = r.buffer ++ [o] ∧ o.id = r.opId.next ∧
          (r.call c).1.state = .doc d' ∧
          toDOp o = some x ∧ GoodD d [x] ∧ ValuesOK x ∧ o.id.era = r.opId.era ∧
          DocEq (applyD d x) d') := by
  intro H
  obtain ⟨o, x, d', h1, _, _, h4, h5, _⟩ := H r1 (docOf r1) rfl (docInv_life _ _ _ life1) cE trivial rfl .none runE.1
  obtain rfl : o = oE := (List.cons.inj (List.append_cancel_left (h1.symm.trans runE.2))).1
  cases h4
  obtain ⟨M0, _, hc⟩ := goodD_ins_hist h5
  exact hc.nonempty _ (List.mem_append_right _ (List.mem_singleton_self _)) rfl

/-! (b) a state that satisfies `DP.DocInv` but is NOT reachable: the first slot of the array carries the order identifier
    `Ts.oldest`, the identity of the head.  The local insert after that slot reports the anchor `Ts.oldest`, which a
    receiver reads as "at the head". -/

def A : Ts := ⟨0, 1, "c", 0⟩
def k1 : Ts := ⟨0, 1, "c", 1⟩
def k2 : Ts := ⟨0, 1, "c", 2⟩
def nR : DNode := ⟨Ts.oldest, none, none, .obj [("a", A)] 1⟩
def nA : DNode := ⟨A, none, some Ts.oldest, .arr [(Ts.oldest, k1), (k2, k2)] 2⟩
def n1 : DNode := ⟨k1, none, some A, .elem (.num 1)⟩
def n2 : DNode := ⟨k2, none, some A, .elem (.num 2)⟩
def dX : Doc := ⟨[nR, nA, n1, n2]⟩
def rX : Replica :=
  { typ := .document, opId := ⟨0, 5, "c", 5⟩, state := .doc dX, buffer := [], cp := ⟨0, 0⟩,
    rbOpId := ⟨0, 5, "c", 5⟩, rbSnap := .doc dX, rbOps := [] }

theorem forallX {P : Ts → DNode → Prop} (hR : P Ts.oldest nR) (hA : P A nA) (h1 : P k1 n1) (h2 : P k2 n2)
    {p : Ts} {n : DNode} (h : dX.find p = some n) : P p n := by
  have hc := find_some_c h
  have hm := find_some_mem h
  simp only [dX, List.mem_cons, List.not_mem_nil, or_false] at hm
  subst hc
  rcases hm with rfl | rfl | rfl | rfl
  · exact hR
  · exact hA
  · exact h1
  · exact h2

theorem stX (t : Ts) (h1 : t.era = 0) (h2 : t.lamport ≤ 5) : St rX.opId 0 t := ⟨h1, Or.inl h2⟩

def rkX (c : Ts) : Nat := if c = Ts.oldest then 2 else if c = A then 1 else 0

theorem dinvX : DInv rX.opId 0 dX where
  wf :=
    { nodup := by decide
      child := fun _ _ h => forallX (P := fun p n => ∀ c ∈ kids n.kind, ∃ nc, dX.find c = some nc ∧ nc.parent = some p)
        (List.forall_mem_singleton.mpr ⟨nA, rfl, rfl⟩)
        (List.forall_mem_cons.mpr ⟨⟨n1, rfl, rfl⟩, List.forall_mem_singleton.mpr ⟨n2, rfl, rfl⟩⟩)
        (fun _ hc => nomatch hc) (fun _ hc => nomatch hc) h
      inj := fun _ _ h => forallX (P := fun _ n => (kids n.kind).Nodup) (by decide) (by decide) (by decide) (by decide) h }
  acyc := ⟨rkX, fun _ _ h => forallX (P := fun p n => ∀ c ∈ kids n.kind, rkX c < rkX p) (by decide) (by decide)
    (by decide) (by decide) h⟩
  root := ⟨_, _, rfl⟩
  sizes _ _ h := forallX (P := fun _ n => DP.SizeOK dX n.kind) (by show (1 : Int) = _; rfl) (by show (2 : Int) = _; rfl)
    trivial trivial h
  stamps _ _ h := forallX (P := fun _ n => St rX.opId 0 n.c ∧ (∀ t, n.d = some t → St rX.opId 0 t) ∧
      ∀ o ∈ DP.ordIds n.kind, St rX.opId 0 o)
    ⟨stX _ rfl (by decide), fun _ ht => (nomatch ht), fun _ ho => (nomatch ho)⟩
    ⟨stX _ rfl (by decide), fun _ ht => (nomatch ht), List.forall_mem_cons.mpr ⟨stX Ts.oldest rfl (by decide),
      List.forall_mem_singleton.mpr (stX k2 rfl (by decide))⟩⟩
    ⟨stX _ rfl (by decide), fun _ ht => (nomatch ht), fun _ ho => (nomatch ho)⟩
    ⟨stX _ rfl (by decide), fun _ ht => (nomatch ht), fun _ ho => (nomatch ho)⟩ h
  ordnd _ _ h := forallX (P := fun _ n => (DP.ordIds n.kind).Nodup) (by decide) (by decide) (by decide) (by decide) h
  linked _ _ h := forallX (P := fun c n => n.d = none → c = Ts.oldest ∨ ∃ p pn, n.parent = some p ∧ dX.find p = some pn ∧
      c ∈ kids pn.kind)
    (fun _ => Or.inl rfl) (fun _ => Or.inr ⟨Ts.oldest, nR, rfl, rfl, by decide⟩)
    (fun _ => Or.inr ⟨A, nA, rfl, rfl, by decide⟩) (fun _ => Or.inr ⟨A, nA, rfl, rfl, by decide⟩) h
  scalar _ _ v h := forallX (P := fun _ n => n.kind = .elem v → DP.Scalar v) (fun hk => nomatch hk) (fun hk => nomatch hk)
    (fun hk => DKind.elem.inj hk ▸ trivial) (fun hk => DKind.elem.inj hk ▸ trivial) h

theorem docInvX : DP.DocInv rX :=
  ⟨dX, rfl, dinvX, fun p n m s h => forallX (P := fun _ n => n.kind = .obj m s → (m.map (·.1)).Nodup)
    (fun hk => (DKind.obj.inj hk).1 ▸ by decide) (fun hk => nomatch hk) (fun hk => nomatch hk)
    (fun hk => nomatch hk) h⟩

/-- insert `9` after the first element -/
def cX : Call := .dinsert A 1 [.num 9]
def oX : Op := ⟨⟨0, 6, "c", 6⟩, .docInsert A 0 (some Ts.oldest) [.num 9]⟩

theorem runX : (rX.call cX).2 = .ok .none ∧ (rX.call cX).1.buffer = rX.buffer ++ [oX] ∧
    (docOf (rX.call cX).1).view = .obj [("a", .arr [.num 1, .num 9, .num 2])] ∧
    (docOf (rX.execRemoteBase oX).1).view = .obj [("a", .arr [.num 9, .num 1, .num 2])] := ⟨rfl, rfl, rfl, rfl⟩

/-- the sender shows `[1, 9, 2]`, the receiver `[9, 1, 2]` -/
example : (docOf (rX.call cX).1).view = .obj [("a", .arr [.num 1, .num 9, .num 2])] := runX.2.2.1
example : (docOf (rX.execRemoteBase oX).1).view = .obj [("a", .arr [.num 9, .num 1, .num 2])] := runX.2.2.2

set_option linter.unusedVariables false in
theorem receiver_statement_false :
    ¬ (∀ (r q : Replica) (d : Doc) (hs : r.state = .doc d) (hq : q.state = .doc d)
        (h : DP.DocInv r) (c : Call) (hk : DP.CallKeysND c) (hm : DP.isMutating c = true) (v : Ret)
        (hok : (r.call c).2 = .ok v),
        ∃ (o : Op) (d' dq : Doc), (r.call c).1.buffer = r.buffer ++ [o] ∧ (r.call c).1.state = .doc d' ∧
          (q.execRemoteBase o).1.state = .doc dq ∧ (q.execRemoteBase o).2 = none ∧ DocEq dq d' ∧ dq.view = d'.view) := by
  intro H
  obtain ⟨o, d', dq, h1, h2, h3, _, _, h6⟩ := H rX rX dX rfl rfl docInvX cX
    (by simp [cX, DP.CallKeysND, JKeysND, JKeysNDList]) rfl .none runX.1
  obtain rfl : o = oX := (List.cons.inj (List.append_cancel_left (h1.symm.trans runX.2.1))).1
  rw [← docOf_eq h2, ← docOf_eq h3, runX.2.2.1, runX.2.2.2] at h6
  simp at h6

theorem headX : Ts.oldest ∈ slotIds dX A := by decide

/-- the same state refutes the first statement for a NON-empty insert: the array has no causal history, so `GoodD` fails
    (and so does `DocEq (applyD d x) d'`) — `HistOK` in `local_call_is_applicable_remote_op_partial` cannot be dropped -/
theorem not_histOK_X : ¬ HistOK dX := fun h => histOK_noHeadSlots h A headX

/-- … for the insert of `9` above: the emitted operation is NOT `GoodD` in `dX` (no history exists), although `dX` satisfies
    `DP.DocInv` -/
theorem local_call_goodD_fails_X :
    ¬ ∃ (o : Op) (x : DOp), (rX.call cX).1.buffer = rX.buffer ++ [o] ∧ toDOp o = some x ∧ GoodD dX [x] := by
  rintro ⟨o, x, h1, h4, h5⟩
  obtain rfl : o = oX := (List.cons.inj (List.append_cancel_left (h1.symm.trans runX.2.1))).1
  cases h4
  exact hist_noHead (goodD_ins_hist h5).hist headX

end Counter

end Orda.DLR
