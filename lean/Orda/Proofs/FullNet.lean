/-
The WHOLE modelled system — wired clients (Model/Wired: `WDt.createPack`, `WDt.applyPack`, with the replica of
Model/Replica inside) + the store-level server (Model/Server: `processPack` on a `Store`) — refines `PNet`
(Proofs/ProtoNet), so that the convergence theorems of Props/C07 are theorems about the executable model that the
correspondence harness ties to the Go code.

`PNet` keeps the protocol checkpoint beside the replica and executes pulled operations one by one; the wired layer keeps
the checkpoint IN the replica and `Replica.receive` also appends to the rollback log.  Neither field is read by a call or
a remote execution, so replicas are compared up to them (`erase`).  No transaction unit ever travels (`noTx_reach`:
proved, no step carries a guard for it), so `Replica.receive` is `execAll`.  Error packs produced by the server DO join
the responses and ARE delivered: the client only calls its error handler, an invisible step.  `full_step_simulates`:
every step of the whole system is a step of `PNet` or invisible under `Rel`; a further step of `FStep` owes it a case, and
a client step the lemma that the wired function IS the `PNet` function on `CRel`-related clients (as `createPack_is_send`,
`applyPack_is_receive`).
OUT OF SCOPE: the entry phase on the client side (`applyPack`'s subscribe / due-to-create branches; store side:
`ServerRefineJoin`), user transactions (as in `PNet`), read-only / volatile clients.
-/
import Orda.Proofs.ServerRefine
import Orda.Proofs.ProtoNet
import Orda.Model.Wired
namespace Orda.FullNet
open Orda Orda.SRef Orda.PNet

/-! ## Replicas up to the fields the protocol layer owns -/

/-- forget the checkpoint and the rollback log -/
def erase (r : Replica) : Replica := { r with cp := ⟨0, 0⟩, rbOps := [] }

theorem eq_of_erase {a b : Replica} (h : erase a = erase b) : ∃ cp rb, b = { a with cp := cp, rbOps := rb } := by
  cases a; cases b
  simp only [erase, Replica.mk.injEq] at h
  obtain ⟨h1, h2, h3, h4, _, h5, h6, _⟩ := h
  subst h1 h2 h3 h4 h5 h6
  exact ⟨_, _, rfl⟩

theorem opId_of_erase {a b : Replica} (h : erase a = erase b) : a.opId = b.opId := (congrArg Replica.opId h :)
theorem state_of_erase {a b : Replica} (h : erase a = erase b) : a.state = b.state := (congrArg Replica.state h :)
theorem buffer_of_erase {a b : Replica} (h : erase a = erase b) : a.buffer = b.buffer := (congrArg Replica.buffer h :)

theorem execRemoteBase_sim {a b : Replica} (h : erase a = erase b) (o : Op) :
    erase (a.execRemoteBase o).1 = erase (b.execRemoteBase o).1 ∧
    (a.execRemoteBase o).2 = (b.execRemoteBase o).2 ∧ (a.execRemoteBase o).1.cp = a.cp := by
  obtain ⟨cp, rb, rfl⟩ := eq_of_erase h
  rw [execRemoteBase_eq, execRemoteBase_eq]
  exact ⟨rfl, rfl, rfl⟩

theorem execAll_sim : ∀ (ops : List Op) {a b : Replica}, erase a = erase b →
    erase (execAll a ops) = erase (execAll b ops) ∧ (execAll a ops).cp = a.cp
  | [], _, _, h => ⟨h, rfl⟩
  | o :: os, a, b, h => by
    obtain ⟨h1, _, h3⟩ := execRemoteBase_sim h o
    obtain ⟨g1, g2⟩ := execAll_sim os h1
    exact ⟨g1, g2.trans h3⟩

theorem execOK_sim : ∀ (ops : List Op) {a b : Replica}, erase a = erase b → ExecOK a ops → ExecOK b ops
  | [], _, _, _, _ => trivial
  | o :: os, a, b, h, hk => by
    obtain ⟨h1, h2, _⟩ := execRemoteBase_sim h o
    exact ⟨h2 ▸ hk.1, execOK_sim os h1 hk.2⟩

/-- a call reads neither `cp` nor `rbOps`: on a replica with both overwritten it does what it does on `r`, with `cp` kept
    and some `rbOps` (`rb'`: a call that queues an operation appends it); and no call changes the client id -/
theorem call_set (r : Replica) (cp : CheckPoint) (rb : List Op) (c : Call) :
    (∃ rb', (({ r with cp := cp, rbOps := rb } : Replica).call c).1 = { (r.call c).1 with cp := cp, rbOps := rb' }) ∧
    (r.call c).1.opId.cuid = r.opId.cuid := by
  have hc := call_case r c
  generalize hx : r.call c = x at hc
  cases hc with
  | done hp => exact ⟨⟨rb, by rw [call_of_done (r := { r with cp := cp, rbOps := rb }) hp]⟩, rfl⟩
  | ok hp he => exact ⟨⟨_, by rw [call_of_ok (r := { r with cp := cp, rbOps := rb }) hp he]; rfl⟩, rfl⟩
  | err hp he => exact ⟨⟨rb, by rw [call_of_err (r := { r with cp := cp, rbOps := rb }) hp he]⟩, rfl⟩
  | panic hp he => exact ⟨⟨rb, by rw [call_of_panic (r := { r with cp := cp, rbOps := rb }) hp he]⟩, rfl⟩

theorem call_sim {a b : Replica} (h : erase a = erase b) (c : Call) :
    erase (a.call c).1 = erase (b.call c).1 ∧ (a.call c).1.cp = a.cp ∧ (a.call c).1.opId.cuid = a.opId.cuid := by
  obtain ⟨cp, rb, rfl⟩ := eq_of_erase h
  obtain ⟨⟨rb1, e⟩, _⟩ := call_set a cp rb c
  -- at `a`'s own `cp` and `rbOps` the overwritten replica is `a`: the call keeps `cp`
  obtain ⟨⟨rb2, e'⟩, hcu⟩ := call_set a a.cp a.rbOps c
  have hcp := congrArg Replica.cp e'
  exact ⟨e ▸ rfl, hcp, hcu⟩

/-! ## `Replica.receive` on operations that are not transaction units is `execAll` -/

def isTx : OpBody → Bool
  | .transaction _ _ => true
  | _ => false

theorem receive_ok : ∀ (ops : List Op) (r : Replica), (∀ o ∈ ops, isTx o.body = false) → ExecOK r ops →
    ∃ r3, r.receive ops = (r3, .ok ()) ∧ erase r3 = erase (execAll r ops) ∧ r3.cp = r.cp
  | [], r, _, _ => ⟨r, rfl, rfl, rfl⟩
  | o :: rest, r, hn, hk => by
    have hnt : ∀ tag n, o.body ≠ .transaction tag n := fun tag n e => by
      have := hn o List.mem_cons_self
      rw [e] at this; cases this
    obtain ⟨hk1, hk2⟩ := hk
    have hcp := (execRemoteBase_sim (a := r) (b := r) rfl o).2.2
    -- each operation is a unit of its own: executed, then appended to the rollback log
    obtain ⟨r3, g1, g2, g3⟩ :=
      receive_ok rest { (r.execRemoteBase o).1 with rbOps := (r.execRemoteBase o).1.rbOps ++ [o] }
        (fun x hx => hn x (List.mem_cons_of_mem _ hx)) (execOK_sim rest (a := (r.execRemoteBase o).1) rfl hk2)
    refine ⟨r3, ?_, ?_, g3.trans hcp⟩
    · rw [receive_single r o rest hnt, applyUnit_go_cons,
        show r.execRemoteBase o = ((r.execRemoteBase o).1, none) from Prod.ext rfl hk1]
      exact g1
    · rw [g2]
      exact (execAll_sim rest (a := { (r.execRemoteBase o).1 with rbOps := (r.execRemoteBase o).1.rbOps ++ [o] })
        (b := (r.execRemoteBase o).1) rfl).1

/-! ## One-step lemmas of the wired layer -/

/-- an error pack changes nothing in the wired datatype (the error handler is called, that is all) -/
theorem applyPack_error_is_stutter (w : WDt) (p : Pack) (h : p.error = true) :
    (w.applyPack p).1 = w ∧ (w.applyPack p).2.2 = none ∧ ∃ c, (w.applyPack p).2.1 = [.errors [c]] := by
  unfold WDt.applyPack
  rw [if_pos h]
  split <;> exact ⟨rfl, rfl, _, rfl⟩

theorem applyPack_subscribed (w : WDt) (p : Pack) (hs : w.dstate = .subscribed) (he : p.error = false)
    (hsub : p.subscribe = false) :
    w.applyPack p =
      match ({ w.rep with cp := ⟨max w.rep.cp.sseq p.cp.sseq, max w.rep.cp.cseq p.cp.cseq⟩ } : Replica).receive
          (newForeignOps w.rep.opId.cuid w.rep.cp p.cp p.ops) with
      | (r3, .ok ()) =>
        ({ w with rep := r3 },
         (if (newForeignOps w.rep.opId.cuid w.rep.cp p.cp p.ops).isEmpty then []
          else [.remoteOps (newForeignOps w.rep.opId.cuid w.rep.cp p.cp p.ops).length]), none)
      | (r3, .err c) => ({ w with rep := r3 }, [.errors [c]], none)
      | (r3, .panic why) => ({ w with rep := r3 }, [], some why) := by
  obtain ⟨rep, key, duid, ds⟩ := w
  cases hs
  simp only [WDt.applyPack, he, hsub, Bool.false_eq_true, if_false, Bool.false_and, Bool.and_false, reduceCtorEq,
    decide_false, Bool.or_self]
  cases Replica.receive { rep with cp := ⟨max rep.cp.sseq p.cp.sseq, max rep.cp.cseq p.cp.cseq⟩ }
      (newForeignOps rep.opId.cuid rep.cp p.cp p.ops) with
  | mk r3 res => cases res <;> rfl

theorem nfo_subset (u : String) (a b : CheckPoint) (ops : List Op) : ∀ o ∈ newForeignOps u a b ops, o ∈ ops := by
  intro o ho
  unfold newForeignOps at ho
  exact (List.mem_filter.1 (List.mem_of_mem_drop ho)).1

/-- The wired client's `applyPack` IS the protocol's `receive`.  For a subscribed wired datatype and an ordinary
    response (no error bit, no subscribe bit) whose operations are no transaction units and whose remote executions
    do not panic (`PNet.faults_deliveries_exact` in reachable states): the datatype after `applyPack` holds, up to
    `rbOps`, the replica of `RClient.receive` (`newForeignOps` executed one by one), its checkpoint is the `max`-merged
    one, nothing else of the wired datatype changes, and no panic is reported. -/
theorem applyPack_is_receive {w : WDt} {rc : RClient} {p : Pack} (hs : w.dstate = .subscribed)
    (he : p.error = false) (hsub : p.subscribe = false)
    (hsim : erase w.rep = erase rc.r) (hcp : rc.cp = w.rep.cp)
    (hnotx : ∀ o ∈ p.ops, isTx o.body = false)
    (hok : ExecOK rc.r (newForeignOps rc.cuid rc.cp p.cp p.ops)) (i : Nat) :
    erase (w.applyPack p).1.rep = erase (rc.receive ⟨i, p.ops, p.cp⟩).r ∧
    (rc.receive ⟨i, p.ops, p.cp⟩).cp = (w.applyPack p).1.rep.cp ∧
    (w.applyPack p).1.dstate = .subscribed ∧ (w.applyPack p).1.key = w.key ∧ (w.applyPack p).1.duid = w.duid ∧
    (w.applyPack p).2.2 = none := by
  have hcu : rc.cuid = w.rep.opId.cuid := by
    unfold RClient.cuid; rw [opId_of_erase hsim]
  rw [hcu, hcp] at hok
  have hn : ∀ o ∈ newForeignOps w.rep.opId.cuid w.rep.cp p.cp p.ops, isTx o.body = false :=
    fun o ho => hnotx o (nfo_subset _ _ _ _ o ho)
  have hsim2 : erase rc.r = erase ({ w.rep with cp := ⟨max w.rep.cp.sseq p.cp.sseq, max w.rep.cp.cseq p.cp.cseq⟩ } : Replica) :=
    hsim.symm
  obtain ⟨r3, g1, g2, g3⟩ := receive_ok _ _ hn (execOK_sim _ hsim2 hok)
  rw [applyPack_subscribed w p hs he hsub, g1]
  simp only []
  refine ⟨?_, ?_, hs, trivial, trivial, trivial⟩
  · rw [g2]
    show _ = erase (execAll rc.r (newForeignOps rc.cuid rc.cp p.cp p.ops))
    rw [hcu, hcp]
    exact (execAll_sim _ hsim2.symm).1
  · rw [g3]
    show CheckPoint.mk (max rc.cp.sseq p.cp.sseq) (max rc.cp.cseq p.cp.cseq) = _
    rw [hcp]

/-! ## No transaction unit ever travels (`PNet` has no transaction calls) -/

theorem execLocal_noTx (s : DState) (ts : Ts) (b : OpBody) {s' : DState} {b' : OpBody} {ret : Ret}
    (h : execLocal s ts b = .ok (s', b', ret)) : isTx b' = false := by
  have hm := (Orda.execLocal_ok h).1
  cases b' <;> first | rfl | cases hm

theorem wire_noTx (o : Op) (h : isTx o.body = false) : isTx o.wire.body = false := by
  have e : ∀ b : OpBody, isTx b.wire = isTx b := fun b => by cases b <;> rfl
  exact (e o.body).trans h

theorem call_noTx (r : Replica) (c : Call) : ∀ o ∈ (r.call c).1.buffer, o ∈ r.buffer ∨ isTx o.body = false := by
  have hc := call_case r c
  generalize r.call c = x at hc
  cases hc with
  | done | err | panic => exact fun o ho => Or.inl ho
  | ok _ he =>
    intro o ho
    rcases List.mem_append.1 ho with ho | ho
    · exact Or.inl ho
    · rw [List.mem_singleton.1 ho]; exact Or.inr (wire_noTx _ (execLocal_noTx _ _ _ he))

/-- no buffer of a `PNet` state holds a transaction unit -/
def NoTxR (S : RSys) : Prop := ∀ cl ∈ S.clients, ∀ o ∈ cl.r.buffer, isTx o.body = false

theorem noTx_step {typ : DtType} {S S' : RSys} (h : NoTxR S) (s : RStep typ S S') : NoTxR S' := by
  cases s with
  | call i cl c hi hc =>
    intro cl' hcl' o ho
    rcases List.mem_or_eq_of_mem_set hcl' with hm | rfl
    · exact h cl' hm o ho
    · rcases call_noTx cl.r c o ho with h1 | h1
      · exact h cl (List.mem_of_getElem? hi) o h1
      · exact h1
  | send i cl hi => exact h
  | serve r cl cp2 docs hr hi hp => exact h
  | refuse r cl code hr hi hp => exact h
  | deliver p cl hp hi =>
    intro cl' hcl' o ho
    rcases List.mem_or_eq_of_mem_set hcl' with hm | rfl
    · exact h cl' hm o ho
    · have : (cl.receive p).r.buffer = cl.r.buffer := PNet.execAll_buffer _ _
      rw [this] at ho
      exact h cl (List.mem_of_getElem? hi) o ho

theorem noTx_reach {typ : DtType} {cuids : List String} {S : RSys} (h : RReach typ cuids S) : NoTxR S := by
  induction h with
  | init _ =>
    intro cl hcl o ho
    simp only [RSys.init, List.mem_map] at hcl
    obtain ⟨u, _, rfl⟩ := hcl
    cases ho
  | step _ s ih => exact noTx_step ih s

theorem log_noTx {typ : DtType} {cuids : List String} {S : RSys} (h : RReach typ cuids S) :
    ∀ o ∈ S.log, isTx o.body = false := by
  intro o ho
  obtain ⟨cl, hcl, hm⟩ := (log_is_exactly_issued (proj_reach h) o).1 ho
  obtain ⟨rc, hrc, rfl⟩ := List.mem_map.1 hcl
  exact noTx_reach h rc hrc o (List.mem_of_mem_take hm)

theorem resp_noTx {typ : DtType} {cuids : List String} {S : RSys} (h : RReach typ cuids S) {p : PResp} {cl : RClient}
    (hp : p ∈ S.resps) (hi : S.clients[p.i]? = some cl) : ∀ o ∈ p.ops, isTx o.body = false := by
  obtain ⟨e, sr, h1, _⟩ := (proto_inv (proj_reach h)).resp p hp cl.view (proj_get hi)
  intro o ho
  rw [h1] at ho
  exact log_noTx h o (List.mem_of_mem_take (List.mem_of_mem_drop ho))

/-! ## The whole system -/

/-- the whole system: the real store, wired clients (registered client record + wired datatype), the network -/
structure FSys where
  st : Store
  clients : List (ClientDoc × WDt)
  reqs : List (Nat × Pack)        -- every request ever sent (client index, pack)
  resps : List (Nat × Pack)       -- every response ever produced (error packs included)

inductive FStep (typ : DtType) (tg : Target) : FSys → FSys → Prop
  /-- client `i` issues a public call on its replica -/
  | call (F : FSys) (i : Nat) (cd : ClientDoc) (w : WDt) (c : Call) :
      F.clients[i]? = some (cd, w) → callOK typ c →
      FStep typ tg F { F with clients := F.clients.set i (cd, { w with rep := (w.rep.call c).1 }) }
  /-- client `i` sends the pack `WDt.createPack` builds -/
  | send (F : FSys) (i : Nat) (cd : ClientDoc) (w : WDt) :
      F.clients[i]? = some (cd, w) →
      FStep typ tg F { F with reqs := F.reqs ++ [(i, w.createPack)] }
  /-- ANY request ever sent is served (any number of times) by `processPack` for the sender's client record; the
      response pack — an error pack too — joins the responses -/
  | serve (F : FSys) (i : Nat) (p : Pack) (cd : ClientDoc) (w : WDt) :
      (i, p) ∈ F.reqs → F.clients[i]? = some (cd, w) →
      FStep typ tg F { F with st := (processPack F.st cd tg.col p).store,
                              resps := F.resps ++ [(i, (processPack F.st cd tg.col p).resp)] }
  /-- ANY response ever produced is applied by its client (any number of times, in any order) with `WDt.applyPack` -/
  | deliver (F : FSys) (i : Nat) (p : Pack) (cd : ClientDoc) (w : WDt) :
      (i, p) ∈ F.resps → F.clients[i]? = some (cd, w) →
      FStep typ tg F { F with clients := F.clients.set i (cd, (w.applyPack p).1) }
  /-- any pack of anybody answered for another datatype id -/
  | other (F : FSys) (cd : ClientDoc) (col : CollectionDoc) (p : Pack) :
      (processPack F.st cd col p).resp.duid ≠ tg.duid →
      FStep typ tg F { F with st := (processPack F.st cd col p).store }
  /-- anything that leaves the datatype and operation collections alone -/
  | frame (F : FSys) (st' : Store) :
      st'.datatypes = F.st.datatypes → st'.operations = F.st.operations → FStep typ tg F { F with st := st' }

inductive FRun (typ : DtType) (tg : Target) : FSys → FSys → Prop
  | refl (F : FSys) : FRun typ tg F F
  | step {F F' F'' : FSys} : FRun typ tg F F' → FStep typ tg F' F'' → FRun typ tg F F''

/-! ## The simulation relation -/

def reqOf (e : Nat × Pack) : PReq := ⟨e.1, e.2.cp.sseq, e.2.ops⟩
/-- the protocol response a response pack stands for (none for an error pack); `SRef.respOf` is the list form for one result -/
def respOf (e : Nat × Pack) : Option PResp := if e.2.error then none else some ⟨e.1, e.2.ops, e.2.cp⟩

/-- a wired client and its `PNet` client: the same replica up to `cp`/`rbOps`, the protocol checkpoint is the replica's
    `cp`; the wired datatype is subscribed to the target; its client record is the registered, non-volatile one -/
structure CRel (tg : Target) (cw : ClientDoc × WDt) (rc : RClient) : Prop where
  rep : erase cw.2.rep = erase rc.r
  cp : rc.cp = cw.2.rep.cp
  subscribed : cw.2.dstate = .subscribed
  key : cw.2.key = tg.key
  duid : cw.2.duid = tg.duid
  cuid : cw.1.cuid = cw.2.rep.opId.cuid
  notVolatile : cw.1.typ ≠ 2

theorem CRel.rcuid {tg : Target} {cw : ClientDoc × WDt} {rc : RClient} (h : CRel tg cw rc) : rc.cuid = cw.1.cuid := by
  unfold RClient.cuid; rw [h.cuid, opId_of_erase h.rep]

/-- `Rel tg F S`: store abstraction as in `ServerRefine` (`SRef.Good` is stated on `SRef.SSys` and reads its store only),
    clients pairwise `CRel` (the ghost `applied` is whatever `S` says), requests = the packs' protocol content,
    responses = the non-error packs' protocol content -/
structure Rel (tg : Target) (F : FSys) (S : RSys) : Prop where
  good : SRef.Good tg ⟨F.st, [], [], []⟩
  log : S.log = absLog F.st tg.duid
  cps : S.cps = absCps F.st tg.duid
  len : F.clients.length = S.clients.length
  cli : ∀ (i : Nat) cw rc, F.clients[i]? = some cw → S.clients[i]? = some rc → CRel tg cw rc
  reqs : S.reqs = F.reqs.map reqOf
  reqsOk : ∀ e ∈ F.reqs, PackOf tg (reqOf e) e.2
  resps : S.resps = F.resps.filterMap respOf
  respsOk : ∀ e ∈ F.resps, e.2.subscribe = false

theorem Rel.partner {tg : Target} {F : FSys} {S : RSys} (h : Rel tg F S) {i : Nat} {cw : ClientDoc × WDt}
    (hi : F.clients[i]? = some cw) : ∃ rc, S.clients[i]? = some rc ∧ CRel tg cw rc := by
  have hlt : i < F.clients.length := (List.getElem?_eq_some_iff.1 hi).1
  have hlt' : i < S.clients.length := by rw [← h.len]; exact hlt
  exact ⟨S.clients[i], List.getElem?_eq_getElem hlt', h.cli i cw _ hi (List.getElem?_eq_getElem hlt')⟩

theorem Rel.setClient {tg : Target} {F : FSys} {S : RSys} (h : Rel tg F S) (i : Nat) {cw' : ClientDoc × WDt}
    {rc' : RClient} (hnew : CRel tg cw' rc') :
    Rel tg { F with clients := F.clients.set i cw' } { S with clients := S.clients.set i rc' } := by
  refine { h with len := ?_, cli := ?_ }
  · show (F.clients.set i cw').length = (S.clients.set i rc').length
    rw [List.length_set, List.length_set]; exact h.len
  · intro j cw rc h1 h2
    rcases ListAux.getElem?_set_some h1 with ⟨_, rfl⟩ | ⟨hne, h1'⟩
    · rcases ListAux.getElem?_set_some h2 with ⟨_, rfl⟩ | ⟨hne', _⟩
      · exact hnew
      · exact absurd ‹j = i› hne'
    · rcases ListAux.getElem?_set_some h2 with ⟨he, _⟩ | ⟨_, h2'⟩
      · exact absurd he hne
      · exact h.cli j cw rc h1' h2'

theorem Rel.setStore {tg : Target} {F : FSys} {S : RSys} (h : Rel tg F S) {st' : Store}
    (g : SRef.Good tg ⟨st', [], [], []⟩) (hl : absLog st' tg.duid = absLog F.st tg.duid)
    (hc : absCps st' tg.duid = absCps F.st tg.duid) : Rel tg { F with st := st' } S :=
  { h with good := g, log := h.log.trans hl.symm, cps := h.cps.trans hc.symm }

/-- The pack of a subscribed wired datatype IS the protocol request: `createPack` carries the replica's checkpoint
    sseq and its buffer beyond the acknowledged cseq (`PNet.RStep.send`'s request), as an ordinary pack for the target
    (`SRef.PackOf`).  `hbuf` (buffer numbered 1, 2, …) is `PR.CInv.bufOk`, an invariant of reachable states. -/
theorem createPack_is_send {tg : Target} {cw : ClientDoc × WDt} {rc : RClient} (h : CRel tg cw rc) (i : Nat)
    (hbuf : ∀ k (hk : k < rc.r.buffer.length), rc.r.buffer[k].id.seq = k + 1) :
    reqOf (i, cw.2.createPack) = ⟨i, rc.cp.sseq, rc.r.buffer.drop rc.cp.cseq⟩ ∧
    PackOf tg (reqOf (i, cw.2.createPack)) cw.2.createPack := by
  have hb : cw.2.rep.buffer = rc.r.buffer := buffer_of_erase h.rep
  have hp := pending_eq_drop cw.2.rep fun o ho => by
    rw [hb, List.head?_eq_getElem?] at ho
    obtain ⟨hlt, rfl⟩ := List.getElem?_eq_some_iff.1 ho
    exact hbuf 0 hlt
  constructor
  · show PReq.mk i cw.2.rep.cp.sseq cw.2.rep.pending = _
    rw [hp, hb, h.cp]
  · exact packOf_createPack cw.2 i h.subscribed h.key h.duid

theorem ordinary_resp_subscribe {st : Store} {cl : ClientDoc} {col : CollectionDoc} {p : Pack} {d : DatatypeDoc}
    (h : Ordinary st cl col p d) : (processPack st cl col p).resp.subscribe = false := by
  rw [h.eq_finish]; unfold SL.finish; split <;> simp [SL.pushErrR, SL.okR, SL.resp1]

/-! ## Every step of the whole system is a step of `PNet` or invisible -/

theorem full_step_simulates {typ : DtType} {tg : Target} {cuids : List String} {F F' : FSys} {S : RSys}
    (h : Rel tg F S) (hr : RReach typ cuids S) (s : FStep typ tg F F') :
    ∃ S', Rel tg F' S' ∧ (RStep typ S S' ∨ S' = S) := by
  cases s with
  | call i cd w c hi hc =>
    obtain ⟨rc, hrc, cr⟩ := h.partner hi
    obtain ⟨c1, c2, c3⟩ := call_sim cr.rep c
    exact ⟨_, h.setClient i (rc' := { rc with r := (rc.r.call c).1 })
      { cr with rep := c1, cp := cr.cp.trans c2.symm, cuid := cr.cuid.trans c3.symm },
      Or.inl (RStep.call S i rc c hrc hc)⟩
  | send i cd w hi =>
    obtain ⟨rc, hrc, cr⟩ := h.partner hi
    have hbuf : ∀ k (hk : k < rc.r.buffer.length), rc.r.buffer[k].id.seq = k + 1 :=
      fun k hk => (((proto_inv (proj_reach hr)).cli i rc.view (proj_get hrc)).bufOk k hk).1
    obtain ⟨e1, e2⟩ := createPack_is_send cr i hbuf
    refine ⟨{ S with reqs := S.reqs ++ [⟨i, rc.cp.sseq, rc.r.buffer.drop rc.cp.cseq⟩] },
      { h with reqs := ?_, reqsOk := ?_ }, Or.inl (RStep.send S i rc hrc)⟩
    · show S.reqs ++ _ = (F.reqs ++ [(i, w.createPack)]).map reqOf
      rw [List.map_append, ← h.reqs, List.map_singleton, e1]
    · intro e he
      rcases List.mem_append.1 he with he | he
      · exact h.reqsOk e he
      · cases List.mem_singleton.1 he; exact e2
  | serve i p cd w hp hi =>
    obtain ⟨rc, hrc, cr⟩ := h.partner hi
    have hpk : PackOf tg (reqOf (i, p)) p := h.reqsOk (i, p) hp
    have hmem : reqOf (i, p) ∈ S.reqs := by rw [h.reqs]; exact List.mem_map.2 ⟨_, hp, rfl⟩
    obtain ⟨d, hord⟩ := h.good.ordinary (cd := cd) hpk cr.notVolatile
    have hgood : SRef.Good tg ⟨(processPack F.st cd tg.col p).store, [], [], []⟩ := h.good.processPack ..
    have hrcu : rc.cuid = cd.cuid := cr.rcuid
    have hrespsOk : ∀ e ∈ F.resps ++ [(i, (processPack F.st cd tg.col p).resp)], e.2.subscribe = false := by
      intro e he
      rcases List.mem_append.1 he with he | he
      · exact h.respsOk e he
      · cases List.mem_singleton.1 he; exact ordinary_resp_subscribe hord
    -- the server's part of the state moves as the protocol's server function says; an error pack joins the responses
    -- and stands for no protocol response
    obtain ⟨e1, e2, e3⟩ := served_commutes h.good.inv hord.served hord.eq_finish hord.readWrite cr.notVolatile
      hord.noSnapshot hord.logKept
    rw [SL.inOps_of_ne p (d := .normal) nofun, hord.duid, hpk.duid, ← hrcu, ← h.log, ← h.cps] at e1 e2 e3
    refine ⟨_, ?_, Or.inl (RStep.of_absServe typ S (reqOf (i, p)) rc hmem hrc)⟩
    refine { h with good := hgood, log := e1.symm, cps := e2.symm, resps := ?_, respsOk := hrespsOk }
    show S.resps ++ ((absServe S.log S.cps rc.cuid p.cp.sseq p.ops).2.2.map (fun a => (⟨i, a.1, a.2⟩ : PResp))).toList =
      (F.resps ++ [(i, (processPack F.st cd tg.col p).resp)]).filterMap respOf
    rw [List.filterMap_append, ← h.resps, ← e3 (PResp.mk i), List.filterMap_cons, List.filterMap_nil]
    unfold respOf
    cases (processPack F.st cd tg.col p).resp.error <;> rfl
  | deliver i p cd w hp hi =>
    obtain ⟨rc, hrc, cr⟩ := h.partner hi
    by_cases he : p.error = true
    · -- an error pack: the client only calls its error handler
      refine ⟨S, ?_, Or.inr rfl⟩
      show Rel tg { F with clients := F.clients.set i (cd, (w.applyPack p).1) } S
      rw [(applyPack_error_is_stutter w p he).1, ListAux.set_self hi]; exact h
    · have he' : p.error = false := Bool.eq_false_iff.2 he
      have hmem : (⟨i, p.ops, p.cp⟩ : PResp) ∈ S.resps := by
        rw [h.resps]
        exact List.mem_filterMap.2 ⟨(i, p), hp, by show (if p.error then none else some _) = _; rw [he']; rfl⟩
      obtain ⟨a1, a2, a3, a4, a5, _⟩ := applyPack_is_receive cr.subscribed he' (h.respsOk (i, p) hp) cr.rep cr.cp
        (resp_noTx hr (p := ⟨i, p.ops, p.cp⟩) hmem hrc) (faults_deliveries_exact hr (p := ⟨i, p.ops, p.cp⟩) hmem hrc) i
      have hcu : cd.cuid = (w.applyPack p).1.rep.opId.cuid := by
        rw [opId_of_erase a1]
        show _ = (execAll rc.r _).opId.cuid
        rw [PNet.execAll_cuid]
        exact cr.rcuid.symm
      exact ⟨_, h.setClient i (cw' := (cd, (w.applyPack p).1)) (rc' := rc.receive ⟨i, p.ops, p.cp⟩)
          { cr with rep := a1, cp := a2, subscribed := a3, key := a4.trans cr.key, duid := a5.trans cr.duid, cuid := hcu },
        Or.inl (RStep.deliver S ⟨i, p.ops, p.cp⟩ rc hmem hrc)⟩
  | other cd col p hne =>
    obtain ⟨_, h2, h3⟩ := other_abs F.st cd col p hne
    exact ⟨S, h.setStore (h.good.processPack ..) h2 h3, Or.inr rfl⟩
  | frame st' hd ho =>
    obtain ⟨_, h2, h3⟩ := abs_of_same hd ho tg.duid
    exact ⟨S, h.setStore (store_step_simulates h.good (.frame _ st' hd ho)).1 h2 h3, Or.inr rfl⟩

/-- Runs.  Every run of the whole system is matched by a run of `PNet`. -/
theorem full_run_simulates_pnet {typ : DtType} {tg : Target} {cuids : List String} {F0 F : FSys} {S0 : RSys}
    (h0 : Rel tg F0 S0) (hr0 : RReach typ cuids S0) (run : FRun typ tg F0 F) :
    ∃ S, Rel tg F S ∧ RReach typ cuids S := by
  induction run with
  | refl => exact ⟨S0, h0, hr0⟩
  | step _ s ih =>
    obtain ⟨S, h, hr⟩ := ih
    obtain ⟨S', h', hs⟩ := full_step_simulates h hr s
    refine ⟨S', h', ?_⟩
    rcases hs with hs | hs
    · exact RReach.step hr hs
    · rw [hs]; exact hr

/-! ## Convergence of the whole system -/

/-- quiescence read on the whole system: every wired client has seen the store's whole log of the target, and the
    store has recorded (= stored) everything the client issued -/
def FQuiescent (tg : Target) (F : FSys) : Prop :=
  ∀ cw ∈ F.clients, cw.2.rep.cp.sseq = (absLog F.st tg.duid).length ∧
    (absRec F.st tg.duid cw.2.rep.opId.cuid).cseq = cw.2.rep.buffer.length

theorem quiescent_of_rel {tg : Target} {F : FSys} {S : RSys} (h : Rel tg F S) (hq : FQuiescent tg F) : QuiescentR S := by
  intro cl hcl
  obtain ⟨i, hi⟩ := List.mem_iff_getElem?.1 hcl
  have hlt : i < S.clients.length := (List.getElem?_eq_some_iff.1 hi).1
  have hlt' : i < F.clients.length := by rw [h.len]; exact hlt
  have hf : F.clients[i]? = some F.clients[i] := List.getElem?_eq_getElem hlt'
  have cr := h.cli i _ cl hf hi
  obtain ⟨q1, q2⟩ := hq _ (List.getElem_mem hlt')
  refine ⟨?_, ?_⟩
  · rw [cr.cp, h.log]; exact q1
  · have : S.recOf cl.cuid = absRec F.st tg.duid (F.clients[i]).2.rep.opId.cuid := by
      unfold RSys.recOf absRec RClient.cuid; rw [h.cps, opId_of_erase cr.rep]
    rw [this, ← buffer_of_erase cr.rep]; exact q2

theorem full_quiescent_pnet {typ : DtType} {tg : Target} {cuids : List String} {F0 F : FSys} {S0 : RSys}
    (h0 : Rel tg F0 S0) (hr0 : RReach typ cuids S0) (run : FRun typ tg F0 F) (hq : FQuiescent tg F) :
    ∃ S, Rel tg F S ∧ RReach typ cuids S ∧ QuiescentR S :=
  let ⟨S, h, hr⟩ := full_run_simulates_pnet h0 hr0 run
  ⟨S, h, hr, quiescent_of_rel h hq⟩

theorem state_of_rel {tg : Target} {F : FSys} {S : RSys} (h : Rel tg F S) (i : Nat) (hi : i < F.clients.length) :
    (F.clients[i]).2.rep.state = (S.clients[i]'(h.len ▸ hi)).r.state :=
  state_of_erase (h.cli i _ _ (List.getElem?_eq_getElem hi) (List.getElem?_eq_getElem (h.len ▸ hi))).rep

/-- Lists: at quiescence all wired clients hold the same list state — whatever the network duplicated, lost,
    delayed or reordered, with the store-level server and the wired client layer in between -/
theorem full_quiescent_converged_list {tg : Target} {cuids : List String} {F0 F : FSys} {S0 : RSys}
    (h0 : Rel tg F0 S0) (hr0 : RReach .list cuids S0) (run : FRun .list tg F0 F) (hq : FQuiescent tg F)
    (i j : Nat) (hi : i < F.clients.length) (hj : j < F.clients.length) :
    (F.clients[i]).2.rep.state = (F.clients[j]).2.rep.state := by
  obtain ⟨S, h, hr, hqS⟩ := full_quiescent_pnet h0 hr0 run hq
  rw [state_of_rel h i hi, state_of_rel h j hj]
  exact faults_list_quiescent_converged S hr hqS i j _ _

/-- Counters: the same value everywhere -/
theorem full_quiescent_converged_counter {tg : Target} {cuids : List String} {F0 F : FSys} {S0 : RSys}
    (h0 : Rel tg F0 S0) (hr0 : RReach .counter cuids S0) (run : FRun .counter tg F0 F) (hq : FQuiescent tg F)
    (i j : Nat) (hi : i < F.clients.length) (hj : j < F.clients.length) :
    (F.clients[i]).2.rep.state = (F.clients[j]).2.rep.state := by
  obtain ⟨S, h, hr, hqS⟩ := full_quiescent_pnet h0 hr0 run hq
  rw [state_of_rel h i hi, state_of_rel h j hj]
  exact faults_counter_quiescent_converged S hr hqS i j _ _

/-- Maps: all wired clients answer every read alike (get, Size, views) -/
theorem full_quiescent_converged_map {tg : Target} {cuids : List String} {F0 F : FSys} {S0 : RSys}
    (h0 : Rel tg F0 S0) (hr0 : RReach .map cuids S0) (run : FRun .map tg F0 F) (hq : FQuiescent tg F)
    (i j : Nat) (hi : i < F.clients.length) (hj : j < F.clients.length) (mi mj : LwwMap)
    (hsi : (F.clients[i]).2.rep.state = .map mi) (hsj : (F.clients[j]).2.rep.state = .map mj) : SameReads mi mj := by
  obtain ⟨S, h, hr, hqS⟩ := full_quiescent_pnet h0 hr0 run hq
  exact faults_map_quiescent_converged S hr hqS i j _ _ mi mj (state_of_rel h i hi ▸ hsi) (state_of_rel h j hj ▸ hsj)

/-- Documents: all wired clients hold `ASim`-equal documents with one JSON value -/
theorem full_quiescent_converged_document {tg : Target} {cuids : List String} {F0 F : FSys} {S0 : RSys}
    (h0 : Rel tg F0 S0) (hr0 : RReach .document cuids S0) (run : FRun .document tg F0 F) (hq : FQuiescent tg F)
    (i j : Nat) (hi : i < F.clients.length) (hj : j < F.clients.length) (di dj : Doc)
    (hsi : (F.clients[i]).2.rep.state = .doc di) (hsj : (F.clients[j]).2.rep.state = .doc dj) :
    DA.ASim di dj ∧ di.view.canon = dj.view.canon := by
  obtain ⟨S, h, hr, hqS⟩ := full_quiescent_pnet h0 hr0 run hq
  exact faults_doc_quiescent_converged S hr hqS i j _ _ di dj (state_of_rel h i hi ▸ hsi) (state_of_rel h j hj ▸ hsj)

/-! ## The initial state -/

/-- wired clients of fresh subscribers: registered non-volatile client records, replicas `Replica.new typ u false`,
    state `.subscribed`, the target's key and id -/
def initClients (typ : DtType) (tg : Target) (cds : List ClientDoc) : List (ClientDoc × WDt) :=
  cds.map (fun cd => (cd, ⟨Replica.new typ cd.cuid false, tg.key, tg.duid, .subscribed⟩))

def FSys.init (typ : DtType) (tg : Target) (st0 : Store) (cds : List ClientDoc) : FSys :=
  ⟨st0, initClients typ tg cds, [], []⟩

/-- the whole system started on a good store in which the target exists with an empty log and no recorded client is
    related to `PNet`'s initial state (entry phase — create / subscribe through `applyPack`'s other branches — out of
    scope here: see `ServerRefineJoin`) -/
theorem rel_init (typ : DtType) {tg : Target} {st0 : Store} {cds : List ClientDoc}
    (g : SRef.Good tg ⟨st0, [], [], []⟩) (hl : absLog st0 tg.duid = []) (hc : absCps st0 tg.duid = [])
    (hv : ∀ cd ∈ cds, cd.typ ≠ 2) :
    Rel tg (FSys.init typ tg st0 cds) (RSys.init typ (cds.map (·.cuid))) := by
  refine { good := g, log := hl.symm, cps := hc.symm, cli := ?_, reqs := rfl, reqsOk := List.forall_mem_nil _,
           resps := rfl, respsOk := List.forall_mem_nil _, len := by simp [FSys.init, initClients, RSys.init] }
  intro i cw rc h1 h2
  simp only [FSys.init, initClients, RSys.init, List.getElem?_map] at h1 h2
  cases hq : cds[i]? with
  | none => simp [hq] at h1
  | some cd =>
    simp [hq] at h1 h2
    subst h1 h2
    exact { rep := rfl, cp := rfl, subscribed := rfl, key := rfl, duid := rfl, cuid := rfl,
            notVolatile := hv cd (List.mem_of_getElem? hq) }

/-! ## Non-vacuity

`SRef.Ex`'s store `s2` (collection "c", clients "a" and "b" registered), the target "k"/"d1" created empty with nobody
recorded (a create pack without operations of a volatile client), two subscribed wired counter clients.  Then, through
the steps of the whole system: a calls `inc 5`, sends (`createPack`), is served (`processPack`), applies the answer
(`applyPack`); b sends, is served, applies the answer and executes a's operation.  Quiescent; both hold 5. -/
namespace Ex
open Orda.SRef.Ex

def tg : Target := ⟨col, "d1", "k"⟩
def st0 : Store :=
  (processPack s2 ⟨"v", "v", 1, 2, 0⟩ col
    { key := "k", duid := "d1", create := true, cp := ⟨0, 0⟩, typ := .counter, ops := [] }).store
def wA0 : WDt := ⟨Replica.new .counter "a" false, "k", "d1", .subscribed⟩
def wB0 : WDt := ⟨Replica.new .counter "b" false, "k", "d1", .subscribed⟩
def wA1 : WDt := { wA0 with rep := (wA0.rep.call (.inc 5)).1 }
def pA : Pack := wA1.createPack
def r1 : PPResult := processPack st0 cA col pA
def wA2 : WDt := (wA1.applyPack r1.resp).1
def pB : Pack := wB0.createPack
def r2 : PPResult := processPack r1.store cB col pB
def wB1 : WDt := (wB0.applyPack r2.resp).1

def F0 : FSys := FSys.init .counter tg st0 [cA, cB]
def F1 : FSys := ⟨st0, [(cA, wA1), (cB, wB0)], [], []⟩
def F2 : FSys := ⟨st0, [(cA, wA1), (cB, wB0)], [(0, pA)], []⟩
def F3 : FSys := ⟨r1.store, [(cA, wA1), (cB, wB0)], [(0, pA)], [(0, r1.resp)]⟩
def F4 : FSys := ⟨r1.store, [(cA, wA2), (cB, wB0)], [(0, pA)], [(0, r1.resp)]⟩
def F5 : FSys := ⟨r1.store, [(cA, wA2), (cB, wB0)], [(0, pA), (1, pB)], [(0, r1.resp)]⟩
def F6 : FSys := ⟨r2.store, [(cA, wA2), (cB, wB0)], [(0, pA), (1, pB)], [(0, r1.resp), (1, r2.resp)]⟩
def F7 : FSys := ⟨r2.store, [(cA, wA2), (cB, wB1)], [(0, pA), (1, pB)], [(0, r1.resp), (1, r2.resp)]⟩

example : F0 = ⟨st0, [(cA, wA0), (cB, wB0)], [], []⟩ := rfl

theorem run : FRun .counter tg F0 F7 := by
  have h1 : FRun .counter tg F0 F1 := .step (.refl _) (.call _ 0 cA wA0 (.inc 5) rfl trivial)
  have h2 : FRun .counter tg F0 F2 := .step h1 (.send _ 0 cA wA1 rfl)
  have h3 : FRun .counter tg F0 F3 := .step h2 (.serve _ 0 pA cA wA1 (.head _) rfl)
  have h4 : FRun .counter tg F0 F4 := .step h3 (.deliver _ 0 r1.resp cA wA1 (.head _) rfl)
  have h5 : FRun .counter tg F0 F5 := .step h4 (.send _ 1 cB wB0 rfl)
  have h6 : FRun .counter tg F0 F6 := .step h5 (.serve _ 1 pB cB wB0 (.tail _ (.head _)) rfl)
  exact .step h6 (.deliver _ 1 r2.resp cB wB0 (.tail _ (.head _)) rfl)

theorem inv0 : LogInv st0 := logInv_processPack _ _ _ _ inv2'
  where inv2' : LogInv s2 :=
    logInv_processClient _ _ _ _ (logInv_processClient _ _ _ _ (logInv_makeCollection _ _ logInv_empty))

theorem rel0 : Rel tg F0 (RSys.init .counter ["a", "b"]) :=
  rel_init .counter (cds := [cA, cB])
    ⟨inv0, ⟨"d1", "k", 1, .counter, 0, 0, 0, true, [], []⟩, rfl, rfl, rfl, by decide⟩ rfl rfl
    (by intro cd h; simp only [List.mem_cons, List.not_mem_nil, or_false] at h; rcases h with rfl | rfl <;> decide)

theorem quiescent7 : FQuiescent tg F7 :=
  List.forall_mem_cons.2 ⟨⟨rfl, rfl⟩, List.forall_mem_cons.2 ⟨⟨rfl, rfl⟩, fun _ h => nomatch h⟩⟩

/-- the run is matched by a `PNet` run … -/
example : ∃ S, Rel tg F7 S ∧ RReach .counter ["a", "b"] S :=
  full_run_simulates_pnet rel0 (.init (by decide)) run

/-- … both wired clients hold the same counter state, by the theorem, … -/
example : wA2.rep.state = wB1.rep.state :=
  full_quiescent_converged_counter rel0 (.init (by decide)) run quiescent7 0 1 (by decide) (by decide)

/-- … which is 5 (b executed a's operation through `applyPack` → `Replica.receive`); the store's log and records -/
example : wA2.rep.state = .counter 5 ∧ wB1.rep.state = .counter 5 ∧
    absLog r2.store "d1" = [⟨⟨0, 1, "a", 1⟩, .increase 5⟩] ∧
    absCps r2.store "d1" = [("a", ⟨1, 1⟩), ("b", ⟨1, 0⟩)] := ⟨rfl, rfl, rfl, rfl⟩

end Ex

end Orda.FullNet
