/-
Continues namespace `Orda.DCausal` of `Proofs/DocMixed.lean`, which has `Valid`, `newIds`, `FreshIn`, the step, congruence
and commutation lemmas on `GoodD` (`goodD_step`, `goodD_asim`, `asim_applyD`, `comm_asim_goodD`) and `view_of_valid`.

Document convergence for CAUSAL histories: an operation may address a node (parent object / array, anchor slot, target
slot, key) that ANOTHER operation of the same history creates.  `Valid d L`: every operation of `L` is applicable
(`DM.GoodD _ [x]`) at the moment it is applied; `Valid d L ∧ Valid d L'` with `L.Perm L'` = two causal delivery orders of
one history.

`causal_converge_partial`: `ASim` of the two results and equal key-sorted views, under ONE extra hypothesis, GLOBAL
FRESHNESS `FreshIn d L`: no operation of the history creates a node whose identifier is in the table of the start document
`d` (the suffix `_partial` stands for this hypothesis).  The statement without it is open: neither proved here nor
refuted.  The adjacent-exchange argument, however, is FALSE without it (`Anti`).  `freshIn_of_keys`: `FreshIn` from unique
operation identifiers.

The exchange argument (`Exch.Sys`, instance `causalSys`): an operation applicable at the start stays applicable after another
applicable operation of the history (`goodD_mono`, from `goodD_pair`: applicable in any order), the two commute up to `ASim`
(`comm_asim_D`), and applicability is carried along `ASim` (`goodD_asim`; `Doc.find c = none` is NOT determined by the
abstraction — tombstoned elements — hence the freshness hypothesis).
-/
import Orda.Proofs.DocMixed
import Orda.Proofs.DocHist
import Orda.Proofs.Exchange
namespace Orda.DCausal
open Orda Orda.DC Orda.DA Orda.DM Orda.Exch

/-- two DIFFERENT operations of one history: distinguishable timestamps (`Ts.cmp ≠ .eq`, the clause of `Good` /
    `GoodD`) and disjoint new identifiers (`Cross` of `GoodD`, `Compat` of `GoodE`), for each pair of their
    elementary operations -/
def DCompat : DOp → DOp → Prop
  | .o a, .o b => a.ts.cmp b.ts ≠ .eq
  | .o a, .a b => ∀ e ∈ flat b, (∀ c, c ∈ oIds a → c ∈ eIds e → False) ∧ a.ts.cmp e.ts ≠ .eq
  | .a a, .o b => ∀ e ∈ flat a, (∀ c, c ∈ oIds b → c ∈ eIds e → False) ∧ b.ts.cmp e.ts ≠ .eq
  | .a a, .a b => ∀ e ∈ flat a, ∀ e' ∈ flat b, Compat e e' ∧ e.ts.cmp e'.ts ≠ .eq

/-- the operations of a history are pairwise compatible as operations of ONE history: distinguishable timestamps and disjoint new
    identifiers (what unique operation identifiers give) -/
def Distinct (l : List DOp) : Prop := l.Pairwise DCompat

theorem goodD_nil_of_wf {s : Doc} (h : s.WF) : GoodD s [] :=
  ⟨⟨h, fun _ h => (List.not_mem_nil h).elim, List.Pairwise.nil⟩, DR.goodE_nil h,
    fun _ h => (List.not_mem_nil h).elim, fun _ h => (List.not_mem_nil h).elim⟩

theorem dcompat_symm {x y : DOp} (h : DCompat x y) : DCompat y x := by
  cases x with
  | o a =>
    cases y with
    | o b => exact fun e => h (cmp_eq_symm _ _ e)
    | a b => exact h
  | a a =>
    cases y with
    | o b => exact h
    | a b =>
      intro e he e' he'
      obtain ⟨h1, h2⟩ := h e' he' e he
      exact ⟨h1.symm, fun e0 => h2 (cmp_eq_symm _ _ e0)⟩

theorem distinct_perm {l l' : List DOp} (hp : l.Perm l') (h : Distinct l) : Distinct l' :=
  (List.Perm.pairwise_iff (fun hab => dcompat_symm hab) hp).mp h

theorem freshIn_perm {d : Doc} {l l' : List DOp} (hp : l.Perm l') (h : FreshIn d l) : FreshIn d l' :=
  fun x hx => h x (hp.mem_iff.mpr hx)

theorem valid_append {l1 : List DOp} : ∀ {d : Doc} {l2 : List DOp},
    Valid d (l1 ++ l2) ↔ Valid d l1 ∧ Valid (applyAllD d l1) l2 := by
  induction l1 with
  | nil => intro d l2; simp [Valid, applyAllD]
  | cons x l ih =>
    intro d l2
    simp only [List.cons_append, Valid, applyAllD, List.foldl_cons]
    rw [ih]
    simp only [applyAllD, and_assoc]

theorem applyAllD_append (d : Doc) (l1 l2 : List DOp) :
    applyAllD d (l1 ++ l2) = applyAllD (applyAllD d l1) l2 := by
  simp [applyAllD, List.foldl_append]

theorem applyAllD_cons (d : Doc) (x : DOp) (l : List DOp) : applyAllD d (x :: l) = applyAllD (applyD d x) l := rfl

/-! ## freshness of identifiers that the applied operation does not create -/

theorem find_none_applyOp {d : Doc} (hwf : d.WF) {o : ObjOp} (ho : OpOK d o) {c : Ts} (hc : d.find c = none)
    (hn : c ∉ oIds o) : (applyOp d o).find c = none := by
  obtain ⟨pn, K', hr, _⟩ := rstep_applyOp hwf o ho
  exact hr.find_none_next (find_applyOp_eff hwf o ho) hc (effOf_ns ho ▸ hn)

theorem find_none_applyE {d : Doc} (hwf : d.WF) {e : EOp} (he : EOK d e) {c : Ts} (hc : d.find c = none)
    (hn : c ∉ eIds e) : (applyE d e).find c = none := by
  obtain ⟨pn, K', hr⟩ := rstep_applyE hwf e he
  exact hr.find_none_next (find_applyE hwf e he) hc (effE_ns d e ▸ hn)

theorem find_none_applyAllE : ∀ (l : List EOp) {d : Doc}, GoodE d l → ∀ {c : Ts}, d.find c = none →
    (∀ e ∈ l, c ∉ eIds e) → (applyAllE d l).find c = none
  | [], _, _, _, hc, _ => hc
  | e :: l, d, hg, c, hc, hn =>
    find_none_applyAllE l (goodE_step hg) (find_none_applyE hg.1 (hg.2.1 e (by simp)) hc (hn e (by simp)))
      (fun e' he' => hn e' (List.mem_cons_of_mem _ he'))

theorem find_none_applyD {s : Doc} {y : DOp} (h : GoodD s [y]) {c : Ts} (hc : s.find c = none)
    (hn : c ∉ newIds y) : (applyD s y).find c = none := by
  cases y with
  | o o =>
    obtain ⟨wa, oa⟩ := DR.goodD_obj h
    exact find_none_applyOp wa oa hc hn
  | a x =>
    obtain ⟨ga, e1⟩ := goodD_arr_flat h
    show (applyA s x).find c = none
    rw [e1 c]
    apply find_none_applyAllE _ ga hc
    intro e he hce
    exact hn (List.mem_flatMap.mpr ⟨e, he, hce⟩)

theorem dcompat_away {y x : DOp} (h : DCompat y x) {c : Ts} (hc : c ∈ newIds x) : c ∉ newIds y := by
  intro hy
  cases y with
  | o a =>
    cases x with
    | o b => exact nodesOf_disjoint h hy hc
    | a b =>
      obtain ⟨e, he, hce⟩ := List.mem_flatMap.mp hc
      exact (h e he).1 c hy hce
  | a a =>
    obtain ⟨e, he, hce⟩ := List.mem_flatMap.mp hy
    cases x with
    | o b => exact (h e he).1 c hc hce
    | a b =>
      obtain ⟨e', he', hce'⟩ := List.mem_flatMap.mp hc
      exact (h e he e' he').1.1 c hce hce'

theorem freshIn_step {s : Doc} {y : DOp} {l : List DOp} (hf : FreshIn s l) (hy : GoodD s [y])
    (hc : ∀ x ∈ l, DCompat y x) : FreshIn (applyD s y) l :=
  fun x hx c hcx => find_none_applyD hy (hf x hx c hcx) (dcompat_away (hc x hx) hcx)

theorem freshIn_next {s : Doc} {y : DOp} {l : List DOp} (hf : FreshIn s (y :: l)) (hy : GoodD s [y])
    (hd : Distinct (y :: l)) : FreshIn (applyD s y) l :=
  freshIn_step (fun x hx => hf x (List.mem_cons_of_mem _ hx)) hy (List.pairwise_cons.1 hd).1

/-! ## causal insert histories of one array: one more insert -/

theorem ts0_eq_of_key {a b : AIns} (h : a.ts0.key = b.ts0.key) : a.ts0 = b.ts0 := by
  unfold AIns.ts0 Ts.key at *
  simp only [Prod.mk.injEq] at h
  obtain ⟨h1, h2, h3⟩ := h
  simp only [Ts.mk.injEq]
  exact ⟨h1, h2, h3, trivial⟩

/-- an insert that extends one causal history of a slot list extends every causal history with the same `foldIds`: the two
    hold the same identifiers, and an identifier names the timestamp of its batch -/
theorem acausal_transfer {M M' : List AIns} {o : AIns} (hM' : ACausal M') (hf : foldIds [] M = foldIds [] M')
    (h : ACausal (M ++ [o])) : ACausal (M' ++ [o]) := by
  have hM := h.prefix
  obtain ⟨hd, ha⟩ := ACausal.last h
  have ho : o ∈ M ++ [o] := List.mem_append_right _ List.mem_cons_self
  -- the two histories hold the same identifiers, and an identifier names its batch's timestamp
  have hsame : ∀ {m' c}, m' ∈ M' → c ∈ m'.cs → ∃ m ∈ M, c ∈ m.cs ∧ m.ts0 = m'.ts0 := fun {m' c} hm' hc => by
    obtain ⟨m, hm, h2⟩ := (foldIds_mem_iff M hM c).mp (hf ▸ (foldIds_mem_iff M' hM' c).mpr ⟨m', hm', hc⟩)
    exact ⟨m, hm, h2, ts0_eq_of_key (by rw [← hM.samekey m hm c h2, hM'.samekey m' hm' c hc])⟩
  apply ACausal.snoc hM' (h.nonempty o ho) (h.samekey o ho) (h.nodup o ho) (h.notHead o ho)
  · intro m' hm' hk
    obtain ⟨c, hc⟩ := List.exists_mem_of_ne_nil _ (hM'.nonempty m' hm')
    obtain ⟨m, hm, _, e⟩ := hsame hm' hc
    exact hd m hm (by rw [e, hk])
  · refine ha.imp_right fun ⟨m, hm, h2, h3⟩ => ?_
    obtain ⟨m', hm', h5⟩ := (foldIds_mem_iff M' hM' _).mp (hf ▸ (foldIds_mem_iff M hM _).mpr ⟨m, hm, h2⟩)
    exact ⟨m', hm', h5, by
      rw [ts0_eq_of_key (by rw [← hM'.samekey m' hm' _ h5, hM.samekey m hm _ h2] : m'.ts0.key = m.ts0.key)]; exact h3⟩

/-- two inserts that each extend SOME causal history of the same slot list extend a common one, in both orders -/
theorem acausal_merge {M1 M2 : List AIns} {o1 o2 : AIns} (hf : foldIds [] M1 = foldIds [] M2)
    (h1 : ACausal (M1 ++ [o1])) (h2 : ACausal (M2 ++ [o2])) (hne : o1.ts0.key ≠ o2.ts0.key) :
    ACausal (M1 ++ [o1, o2]) ∧ ACausal (M1 ++ [o2, o1]) := by
  have c2 : ACausal (M1 ++ [o2]) := acausal_transfer h1.prefix hf.symm h2
  have snoc2 : ∀ {o o' : AIns}, ACausal (M1 ++ [o]) → ACausal (M1 ++ [o']) → o.ts0.key ≠ o'.ts0.key →
      ACausal (M1 ++ [o, o']) := by
    intro o o' h h' hk
    obtain ⟨d, a⟩ := ACausal.last h'
    have m : o' ∈ M1 ++ [o'] := List.mem_append_right _ List.mem_cons_self
    rw [List.append_cons M1 o [o']]
    refine ACausal.snoc h (h'.nonempty o' m) (h'.samekey o' m) (h'.nodup o' m) (h'.notHead o' m)
      (forall_mem_snoc d hk) ?_
    rcases a with h | ⟨m, hm, h⟩
    · exact Or.inl h
    · exact Or.inr ⟨m, List.mem_append_left _ hm, h⟩
  exact ⟨snoc2 h1 c2 hne, snoc2 c2 h1 hne.symm⟩

/-! ## two applicable operations of one history, in any order -/

theorem filterMap_insOn_nil {l : List EOp} {p : Ts} (h : ¬ ∃ e ∈ l, (insOnE p e).isSome) :
    l.filterMap (insOnE p) = [] :=
  List.filterMap_eq_nil_iff.2 fun e he => Option.not_isSome_iff_eq_none.1 fun hi => h ⟨e, he, hi⟩

theorem ordOK_append {s : Doc} {l1 l2 : List EOp} (h1 : OrdOK s l1) (h2 : OrdOK s l2)
    (hm : ∀ p, (∃ e ∈ l1, (insOnE p e).isSome) → (∃ e ∈ l2, (insOnE p e).isSome) →
      ∃ M0, slotIds s p = foldIds [] M0 ∧
        ∀ l', l'.Perm ((l1 ++ l2).filterMap (insOnE p)) → ACausal (M0 ++ l')) : OrdOK s (l1 ++ l2) := by
  intro p ⟨e, he, hi⟩
  by_cases n1 : ∃ e ∈ l1, (insOnE p e).isSome
  · by_cases n2 : ∃ e ∈ l2, (insOnE p e).isSome
    · exact hm p n1 n2
    · rw [List.filterMap_append, filterMap_insOn_nil n2, List.append_nil]
      exact h1 p n1
  · rw [List.filterMap_append, filterMap_insOn_nil n1, List.nil_append]
    exact h2 p ((List.mem_append.1 he).elim (fun h => absurd ⟨e, h, hi⟩ n1) fun h => ⟨e, h, hi⟩)

theorem ts0_key_of_causal {M : List AIns} {p a ts : Ts} {vs : List JVal}
    (h : ACausal (M ++ [⟨a, newSlots (.ins p a ts vs)⟩])) :
    (AIns.mk a (newSlots (.ins p a ts vs))).ts0.key = ts.key := by
  have hm : (AIns.mk a (newSlots (.ins p a ts vs))) ∈ M ++ [⟨a, newSlots (.ins p a ts vs)⟩] :=
    List.mem_append_right _ List.mem_cons_self
  obtain ⟨c, hc⟩ := List.exists_mem_of_ne_nil _ (h.nonempty _ hm)
  rw [← h.samekey _ hm c hc]
  exact nodesE_key (e := .ins p a ts vs) (newSlots_sub hc)

/-- two inserts into one array, each ready on its own, are ready together in either order (`acausal_merge`) -/
theorem ordOK_ins_ins {s : Doc} {p a1 t1 a2 t2 : Ts} {vs1 vs2 : List JVal}
    (h1 : OrdOK s [.ins p a1 t1 vs1]) (h2 : OrdOK s [.ins p a2 t2 vs2]) (hne : t1.cmp t2 ≠ .eq) :
    ∃ M0, slotIds s p = foldIds [] M0 ∧
      ∀ l', l'.Perm (([EOp.ins p a1 t1 vs1] ++ [EOp.ins p a2 t2 vs2]).filterMap (insOnE p)) → ACausal (M0 ++ l') := by
  obtain ⟨M1, hb1, c1⟩ := ordOK_single_ins_iff.mp h1
  obtain ⟨M2, hb2, c2⟩ := ordOK_single_ins_iff.mp h2
  have hk : (AIns.mk a1 (newSlots (.ins p a1 t1 vs1))).ts0.key ≠ (AIns.mk a2 (newSlots (.ins p a2 t2 vs2))).ts0.key := by
    rw [ts0_key_of_causal c1, ts0_key_of_causal c2]
    exact fun e => hne ((cmp_eq_iff _ _).mpr e)
  obtain ⟨m1, m2⟩ := acausal_merge (hb1.symm.trans hb2) c1 c2 hk
  refine ⟨M1, hb1, fun l' hl' => ?_⟩
  rw [List.filterMap_append, filterMap_insOn_ins, filterMap_insOn_ins] at hl'
  rcases perm_pair hl' with rfl | rfl
  · exact m1
  · exact m2

theorem goodE_pair {s : Doc} {a b : AOp} (ha : GoodE s (flat a)) (hb : GoodE s (flat b))
    (hc : ∀ e ∈ flat a, ∀ e' ∈ flat b, Compat e e' ∧ e.ts.cmp e'.ts ≠ .eq) : GoodE s ([a, b].flatMap flat) := by
  have e : [a, b].flatMap flat = flat a ++ flat b := by
    simp only [List.flatMap_cons, List.flatMap_nil, List.append_nil]
  rw [e]
  refine ⟨ha.1, fun e he => (List.mem_append.1 he).elim (ha.2.1 e) (hb.2.1 e),
    List.pairwise_append.mpr ⟨ha.2.2.1, hb.2.2.1, fun e he e' he' => (hc e he e' he').1⟩,
    ordOK_append ha.2.2.2 hb.2.2.2 fun p n1 n2 => ?_⟩
  obtain ⟨a1, t1, vs1, rfl⟩ := ins_of_insOn n1
  obtain ⟨a2, t2, vs2, rfl⟩ := ins_of_insOn n2
  exact ordOK_ins_ins ha.2.2.2 hb.2.2.2 (hc _ (List.mem_singleton_self _) _ (List.mem_singleton_self _)).2

theorem goodD_pair {s : Doc} {x y : DOp} (hx : GoodD s [x]) (hy : GoodD s [y]) (hc : DCompat x y) :
    GoodD s [x, y] := by
  -- `objs` and `arrs` of the two-element list compute; the parts come from `hx` and `hy`, the cross conditions from `hc`
  have cross : ∀ {a : ObjOp} {b : AOp}, (∀ e ∈ flat b, (∀ c, c ∈ oIds a → c ∈ eIds e → False) ∧ a.ts.cmp e.ts ≠ .eq) →
      ∀ x ∈ [a], ∀ e ∈ [b].flatMap flat, (∀ c, c ∈ oIds x → c ∈ eIds e → False) ∧ x.ts.cmp e.ts ≠ .eq := by
    intro a b h x hx e he
    cases List.mem_singleton.1 hx
    obtain ⟨b', hb', he⟩ := List.mem_flatMap.1 he
    cases List.mem_singleton.1 hb'
    exact h e he
  cases x with
  | o a =>
    cases y with
    | o b =>
      refine ⟨⟨hx.1.1, fun o ho => ?_, List.pairwise_pair.mpr hc⟩, hx.2.1, hx.2.2.1, fun _ _ _ h => nomatch h⟩
      rcases List.mem_pair.1 ho with rfl | rfl
      · exact (DR.goodD_obj hx).2
      · exact (DR.goodD_obj hy).2
    | a b => exact ⟨hx.1, hy.2.1, hy.2.2.1, cross hc⟩
  | a a =>
    cases y with
    | o b => exact ⟨hy.1, hx.2.1, hx.2.2.1, cross hc⟩
    | a b =>
      refine ⟨hx.1, goodE_pair (DR.goodD_arr hx).1 (DR.goodD_arr hy).1 hc, fun op ho => ?_, fun _ h => nomatch h⟩
      rcases List.mem_pair.1 ho with rfl | rfl
      · exact (DR.goodD_arr hx).2
      · exact (DR.goodD_arr hy).2


/-! ## monotonicity of applicability, commutation; the exchange argument -/

theorem goodD_mono {s : Doc} {x y : DOp} (hx : GoodD s [x]) (hy : GoodD s [y]) (hc : DCompat y x) :
    GoodD (applyD s y) [x] :=
  goodD_step (goodD_pair hy hx hc)

theorem comm_asim_D {s : Doc} {x y : DOp} (hx : GoodD s [x]) (hy : GoodD s [y]) (hc : DCompat x y) :
    ASim (applyD (applyD s x) y) (applyD (applyD s y) x) :=
  comm_asim_goodD (goodD_pair hx hy hc)

theorem valid_iff_runs : ∀ (l : List DOp) (d : Doc), Valid d l ↔ Runs applyD (fun s x => GoodD s [x]) d l
  | [], _ => Iff.rfl
  | x :: l, d => and_congr Iff.rfl (valid_iff_runs l (applyD d x))

/-- causal histories as an instance of the exchange argument (`Exch.Sys`).  The invariant: the state is well formed, the
    new identifiers of the remaining operations are fresh in it (what carries applicability along `ASim`: `Doc.find c =
    none` is not determined by the abstraction), and these are different operations of one history -/
theorem causalSys : Sys applyD ASim (fun s x => GoodD s [x]) (fun s l => s.WF ∧ FreshIn s l ∧ Distinct l) where
  equiv := asim_equivalence
  perm hp h := ⟨h.1, freshIn_perm hp h.2.1, distinct_perm hp h.2.2⟩
  step h ok := ⟨wf_applyD ok, freshIn_next h.2.1 ok h.2.2, (List.pairwise_cons.1 h.2.2).2⟩
  mono h hx hy := goodD_mono hx hy (dcompat_symm ((List.pairwise_cons.1 h.2.2).1 _ List.mem_cons_self))
  comm h hx hy := comm_asim_D hx hy ((List.pairwise_cons.1 h.2.2).1 _ List.mem_cons_self)
  carry _ hb h ok :=
    have gb := goodD_asim h hb.1 ok fun x hx => hb.2.1 x (List.mem_singleton.1 hx ▸ List.mem_cons_self)
    ⟨gb, asim_applyD ok gb h⟩

theorem causal_asim (L : List DOp) {d : Doc} {L' : List DOp} (hp : L.Perm L') (hwf : d.WF) (hd : Distinct L)
    (hf : FreshIn d L) (hv : Valid d L) (hv' : Valid d L') : ASim (applyAllD d L) (applyAllD d L') :=
  causalSys.exchange hp ⟨hwf, hf, hd⟩ ⟨hwf, hf, hd⟩ (asim_refl d) ((valid_iff_runs _ _).1 hv) ((valid_iff_runs _ _).1 hv')

/-- Convergence for causal histories, under GLOBAL FRESHNESS (`hf : FreshIn d L`: no operation creates a node whose
    identifier is in the table of the start document); `_partial` because of this hypothesis, without which the
    statement is open. -/
theorem causal_converge_partial {d : Doc} {L L' : List DOp} (hp : L.Perm L') (hwf : d.WF) (hd : Distinct L)
    (hf : FreshIn d L) (hv : Valid d L) (hv' : Valid d L') :
    ASim (applyAllD d L) (applyAllD d L') ∧
      (ViewOK d → (∀ x ∈ objs L, OpKeysND x) → (∀ e ∈ (arrs L).flatMap flat, EKeysND e) →
        (applyAllD d L).view.canon = (applyAllD d L').view.canon) := by
  have hs := causal_asim L hp hwf hd hf hv hv'
  exact ⟨hs, view_of_valid hp hwf hv hv' hs⟩


/-! ## decidable sufficient conditions (for concrete instances) -/

def dcompatB : DOp → DOp → Bool
  | .o a, .o b => decide (a.ts.cmp b.ts ≠ .eq)
  | .o a, .a b => (flat b).all fun e => (oIds a).all (fun c => !memB c (eIds e)) && decide (a.ts.cmp e.ts ≠ .eq)
  | .a a, .o b => (flat a).all fun e => (oIds b).all (fun c => !memB c (eIds e)) && decide (b.ts.cmp e.ts ≠ .eq)
  | .a a, .a b => (flat a).all fun e => (flat b).all fun e' => compatB e e' && decide (e.ts.cmp e'.ts ≠ .eq)

theorem cross_of_all {x : ObjOp} {e : EOp} (h : (oIds x).all (fun c => !memB c (eIds e)) = true) :
    ∀ c, c ∈ oIds x → c ∈ eIds e → False := by
  intro c h1 h2
  have := List.all_eq_true.mp h c h1
  rw [memB_iff.mpr h2] at this
  cases this

theorem dcompat_of_B {x y : DOp} (h : dcompatB x y = true) : DCompat x y := by
  cases x with
  | o a =>
    cases y with
    | o b =>
      have : ¬ a.ts.cmp b.ts = .eq := by simpa [dcompatB] using h
      exact this
    | a b =>
      intro e he
      have := List.all_eq_true.mp h e he
      simp only [Bool.and_eq_true, decide_eq_true_eq] at this
      exact ⟨cross_of_all this.1, this.2⟩
  | a a =>
    cases y with
    | o b =>
      intro e he
      have := List.all_eq_true.mp h e he
      simp only [Bool.and_eq_true, decide_eq_true_eq] at this
      exact ⟨cross_of_all this.1, this.2⟩
    | a b =>
      intro e he e' he'
      have := List.all_eq_true.mp (List.all_eq_true.mp h e he) e' he'
      simp only [Bool.and_eq_true, decide_eq_true_eq] at this
      exact ⟨compat_of_B this.1, this.2⟩

theorem distinct_of_B {l : List DOp} (h : l.Pairwise (fun a b => dcompatB a b = true)) : Distinct l :=
  h.imp dcompat_of_B

theorem freshIn_of_all {d : Doc} {l : List DOp}
    (h : (l.all fun x => (newIds x).all fun c => (d.find c).isNone) = true) : FreshIn d l := by
  intro x hx c hc
  have := List.all_eq_true.mp (List.all_eq_true.mp h x hx) c hc
  simpa using this

theorem valid_cons {d : Doc} {x : DOp} {l : List DOp} (g : GoodD d [x])
    (h : (applyD d x).WF → Valid (applyD d x) l) : Valid d (x :: l) := ⟨g, h (wf_applyD g)⟩

theorem goodD_single_put {d : Doc} {p : Ts} {k : String} {v : JVal} {ts : Ts} (hwf : d.WF) (h1 : IsObj d p)
    (h2 : ∃ ns c t', createNode p ts v = .ok (ns, c, t'))
    (h3 : (ids (nodesOf (.put p k v ts))).all (fun c => (d.find c).isNone) = true) :
    GoodD d [.o (.put p k v ts)] :=
  DR.goodD_single_obj hwf ⟨h1, h2, DC.Ex.fresh_of_all h3⟩

theorem goodD_single_del {d : Doc} {p : Ts} {k : String} {ts : Ts} (hwf : d.WF) (h : HasKey d p k) : GoodD d [.o (.del p k ts)] :=
  DR.goodD_single_obj hwf h

theorem goodD_single_ins {s : Doc} {p a ts : Ts} {vs : List JVal} (hwf : s.WF) (hok : EOK s (.ins p a ts vs))
    (h : HistExt (slotIds s p) ⟨a, newSlots (.ins p a ts vs)⟩) : GoodD s [.a (.ins p a ts vs)] :=
  DR.goodD_single_arr (x := .ins p a ts vs) hwf
    ⟨hwf, fun _ he => List.mem_singleton.1 he ▸ hok, List.pairwise_singleton _ _, ordOK_single_ins_iff.mpr h⟩ trivial

/-! ## global freshness from unique operation identifiers -/

theorem flat_key (a : AOp) : ∀ e ∈ flat a, e.ts.key = a.ts.key := by
  cases a with
  | ins p an ts vs => intro e he; simp only [flat, List.mem_cons, List.mem_nil_iff, or_false] at he; subst he; rfl
  | del p tgs t => intro e he; obtain ⟨_, _, _, ha, rfl⟩ := mem_flatDel he; exact ha.key
  | upd p t tgs vs => intro e he; obtain ⟨_, _, _, _, _, ha, rfl⟩ := mem_flatUpd he; exact ha.key

theorem newIds_key {x : DOp} {c : Ts} (h : c ∈ newIds x) : c.key = (DR.dts x).key := by
  cases x with
  | o o => exact nodesOf_key o h
  | a a =>
    obtain ⟨e, he, hce⟩ := List.mem_flatMap.mp h
    rw [nodesE_key hce, flat_key a e he]
    rfl

/-- GLOBAL FRESHNESS from unique operation identifiers: no node of the start document was created by an operation with
    the (era, lamport, client) of an operation of the history -/
theorem freshIn_of_keys {d : Doc} {l : List DOp} (h : ∀ n ∈ d.table, ∀ x ∈ l, n.c.key ≠ (DR.dts x).key) :
    FreshIn d l := by
  intro x hx c hc
  cases hf : d.find c with
  | none => rfl
  | some n =>
    exfalso
    apply h n (find_some_mem hf) x hx
    rw [find_some_c hf, newIds_key hc]


/-! ## non-vacuity: operations that address nodes created by other operations of the history -/

namespace Ex

def root : Ts := Ts.oldest
def t1 : Ts := ⟨0, 1, "a", 0⟩
def t2 : Ts := ⟨0, 2, "b", 0⟩
def t3 : Ts := ⟨0, 3, "c", 0⟩
def t4 : Ts := ⟨0, 2, "d", 0⟩
/-- the object created by `x1` -/
def objN : Ts := t1
/-- the array created by `x1` inside that object -/
def arrN : Ts := ⟨0, 1, "a", 1⟩

/-- put `{"a": []}` under the key `o` of the root -/
def x1 : DOp := .o (.put root "o" (.obj [("a", .arr [])]) t1)
/-- insert into the NEW array -/
def x2 : DOp := .a (.ins arrN Ts.oldest t2 [.num 1, .str "s"])
/-- put into the NEW object -/
def x3 : DOp := .o (.put objN "b" (.num 2) t3)
/-- an independent put into the root -/
def x4 : DOp := .o (.put root "z" (.num 9) t4)

def L : List DOp := [x1, x2, x3, x4]
def L' : List DOp := [x4, x1, x3, x2]

theorem perm : L.Perm L' :=
  ((List.reverse_perm [x2, x3, x4]).symm.cons x1).trans (List.Perm.swap x4 x1 _)

theorem distinct : Distinct L := distinct_of_B (by decide)

theorem freshIn : FreshIn Doc.empty L := freshIn_of_all (by decide)

theorem causal_x2 : ACausal ([] ++ [⟨Ts.oldest, newSlots (.ins arrN Ts.oldest t2 [.num 1, .str "s"])⟩]) where
  nonempty := by decide
  samekey := by decide
  nodup := by decide
  notHead := by decide
  distinct := by decide
  anchored := by
    intro i hi
    match i, hi with
    | 0, _ => left; rfl

theorem valid : Valid Doc.empty L := by
  refine valid_cons (goodD_single_put wf_doc_empty ⟨_, _, _, rfl, rfl⟩ ⟨_, _, _, rfl⟩ (by decide)) fun w1 => ?_
  refine valid_cons (goodD_single_ins w1 (eok_of_B (by decide)) ⟨[], by decide, causal_x2⟩) fun w2 => ?_
  refine valid_cons (goodD_single_put w2 ⟨_, _, _, rfl, rfl⟩ ⟨_, _, _, rfl⟩ (by decide)) fun w3 => ?_
  refine valid_cons (goodD_single_put w3 ⟨_, _, _, rfl, rfl⟩ ⟨_, _, _, rfl⟩ (by decide)) fun _ => trivial

theorem valid' : Valid Doc.empty L' := by
  refine valid_cons (goodD_single_put wf_doc_empty ⟨_, _, _, rfl, rfl⟩ ⟨_, _, _, rfl⟩ (by decide)) fun w1 => ?_
  refine valid_cons (goodD_single_put w1 ⟨_, _, _, rfl, rfl⟩ ⟨_, _, _, rfl⟩ (by decide)) fun w2 => ?_
  refine valid_cons (goodD_single_put w2 ⟨_, _, _, rfl, rfl⟩ ⟨_, _, _, rfl⟩ (by decide)) fun w3 => ?_
  refine valid_cons (goodD_single_ins w3 (eok_of_B (by decide)) ⟨[], by decide, causal_x2⟩) fun _ => trivial

/-- `causal_converge_partial` instantiated: two different causal delivery orders of a history in which `x2` and `x3`
    address nodes created by `x1` -/
example : ASim (applyAllD Doc.empty L) (applyAllD Doc.empty L') :=
  (causal_converge_partial perm wf_doc_empty distinct freshIn valid valid').1

example : (applyAllD Doc.empty L).view.canon = (applyAllD Doc.empty L').view.canon :=
  (causal_converge_partial perm wf_doc_empty distinct freshIn valid valid').2 viewOK_empty
    (by
      intro x hx
      have : objs L = [.put root "o" (.obj [("a", .arr [])]) t1, .put objN "b" (.num 2) t3,
        .put root "z" (.num 9) t4] := rfl
      rw [this] at hx
      simp only [List.mem_cons, List.mem_nil_iff, or_false] at hx
      rcases hx with rfl | rfl | rfl <;> simp [OpKeysND, JKeysND, JKeysNDList, JKeysNDKvs])
    (by
      intro e he
      have : (arrs L).flatMap flat = [.ins arrN Ts.oldest t2 [.num 1, .str "s"]] := rfl
      rw [this] at he
      simp only [List.mem_cons, List.mem_nil_iff, or_false] at he
      subst he
      simp [EKeysND, JKeysND, JKeysNDList])

/-- … and what the two replicas show -/
example : ((applyAllD Doc.empty L).view.canon ==
    .obj [("o", .obj [("a", .arr [.num 1, .str "s"]), ("b", .num 2)]), ("z", .num 9)]) = true ∧
    ((applyAllD Doc.empty L').view.canon == (applyAllD Doc.empty L).view.canon) = true := by decide +kernel

/-- this history is outside `DM.mixed_converge`: `GoodD` FAILS for it — `x3` (and `x2`) is not
    applicable in the start document, its parent does not exist yet -/
example : ¬ GoodD Doc.empty L := by
  intro h
  have hok : OpOK Doc.empty (.put objN "b" (.num 2) t3) := h.1.2.1 _ (mem_objs.mpr (by simp [L, x3]))
  obtain ⟨n, m, s, h1, _⟩ := hok.1
  have : Doc.empty.find objN = none := rfl
  rw [this] at h1
  cases h1

end Ex

/-! ## why GLOBAL FRESHNESS: an identifier of the start document that an operation of the history creates AGAIN

The start document holds the element `c0` under the key `k`.  `oz` creates a node with the identifier `c0` again: it is
applicable only after `c0` has left the table (a put on `k` that wins over `c0` buries it).  Both histories below are
valid and they converge, but the list obtained from the second one by moving `ox` (applicable at the start, first in the
first history) to the front is NOT valid: after `ox` the put `oy` loses against the tombstone and `c0` stays in the
table.  So without `FreshIn` validity is not preserved by the exchange of adjacent applicable operations on which the
proof of `causal_converge_partial` rests.  `Anti` refutes the exchange argument only: the two histories do converge,
and convergence without `FreshIn` stays open. -/
namespace Anti

def c0 : Ts := ⟨0, 1, "a", 0⟩
def d0 : Doc := applyOp Doc.empty (.put Ts.oldest "k" (.num 1) c0)
def ox : DOp := .o (.del Ts.oldest "k" ⟨0, 5, "x", 0⟩)
def oy : DOp := .o (.put Ts.oldest "k" (.num 2) ⟨0, 4, "y", 0⟩)
def oy' : DOp := .o (.put Ts.oldest "k" (.num 3) ⟨0, 6, "w", 0⟩)
/-- creates the identifier `c0` again -/
def oz : DOp := .o (.put Ts.oldest "j" (.num 7) c0)

theorem d0_wf : d0.WF :=
  wf_op wf_doc_empty _ ⟨⟨_, _, _, rfl, rfl⟩, ⟨_, _, _, rfl⟩, DC.Ex.fresh_of_all (by decide)⟩

theorem valid1 : Valid d0 [ox, oy', oz, oy] := by
  refine valid_cons (goodD_single_del d0_wf ⟨_, _, _, _, rfl, rfl, rfl⟩) fun w1 => ?_
  refine valid_cons (goodD_single_put w1 ⟨_, _, _, rfl, rfl⟩ ⟨_, _, _, rfl⟩ (by decide)) fun w2 => ?_
  refine valid_cons (goodD_single_put w2 ⟨_, _, _, rfl, rfl⟩ ⟨_, _, _, rfl⟩ (by decide)) fun w3 => ?_
  refine valid_cons (goodD_single_put w3 ⟨_, _, _, rfl, rfl⟩ ⟨_, _, _, rfl⟩ (by decide)) fun _ => trivial

theorem valid2 : Valid d0 [oy, ox, oz, oy'] := by
  refine valid_cons (goodD_single_put d0_wf ⟨_, _, _, rfl, rfl⟩ ⟨_, _, _, rfl⟩ (by decide)) fun w1 => ?_
  refine valid_cons (goodD_single_del w1 ⟨_, _, _, _, rfl, rfl, rfl⟩) fun w2 => ?_
  refine valid_cons (goodD_single_put w2 ⟨_, _, _, rfl, rfl⟩ ⟨_, _, _, rfl⟩ (by decide)) fun w3 => ?_
  refine valid_cons (goodD_single_put w3 ⟨_, _, _, rfl, rfl⟩ ⟨_, _, _, rfl⟩ (by decide)) fun _ => trivial

theorem distinct : Distinct [ox, oy', oz, oy] := distinct_of_B (by decide)

/-- `ox` is applicable at the start … -/
theorem ox_ok : GoodD d0 [ox] := goodD_single_del d0_wf ⟨_, _, _, _, rfl, rfl, rfl⟩

/-- … but moved to the front of the second history it blocks `oz` -/
theorem not_valid : ¬ Valid d0 [ox, oy, oz, oy'] := by
  intro h
  have hz : GoodD (applyD (applyD d0 ox) oy) [oz] := h.2.2.1
  have hf := goodD_fresh hz oz (by simp) c0 (by decide)
  have e : ((applyD (applyD d0 ox) oy).find c0).isSome = true := by decide
  rw [hf] at e
  cases e

/-- the hypothesis of `causal_converge_partial` that fails here -/
theorem not_freshIn : ¬ FreshIn d0 [ox, oy', oz, oy] := by
  intro h
  have hf := h oz (by simp) c0 (by decide)
  have e : (d0.find c0).isSome = true := by decide
  rw [hf] at e
  cases e

/-- the two valid histories converge all the same -/
example : ((applyAllD d0 [ox, oy', oz, oy]).view.canon == .obj [("j", .num 7), ("k", .num 3)]) = true ∧
    ((applyAllD d0 [oy, ox, oz, oy']).view.canon == (applyAllD d0 [ox, oy', oz, oy]).view.canon) = true := by decide +kernel

end Anti

end Orda.DCausal
