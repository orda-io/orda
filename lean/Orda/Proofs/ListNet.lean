/-
Lists converge over the server log, with no causal hypothesis (C01/C02/C05 for the List datatype, end to end).

The system: `n` fresh list replicas around ONE server log of (author, wire operation).  Steps: ANY public call (reads,
refused calls, calls of other datatypes, inserts of zero values included), push of the next buffered operation, pull of
the next log entry (skipped by its author, otherwise `execRemoteBase`).  The only assumption is the one `Reach.init`
carries: pairwise distinct client identifiers.

The idea: a ghost sequence `ap i` of the log-tagged operations node `i` has applied.  The node's state is the remote
application of what they denote, that sequence is `LCausal`, and whatever precedes an own operation in `ap i` sits in
the log before it (`NodeInv.causal`).  So what a delivered operation refers to (anchor, targets) was created by
operations the receiver has already applied (`Inv.deliver`), deliveries keep `LCausal`, and `rga_full_converge_state`
gives equal states for equal sets of operations.  Each local execution IS the remote application of the operation it
queues (`local_step`).  An insert of zero values is accepted by the model and queued, but `LCausal` does not admit it and
it changes no state: `toL` lets it denote nothing.  The bookkeeping that does not depend on the datatype is
`NetBook.Book`.

What the list contributes to `NetBook` is `den`, `EntOK`, the datatype part `Dt` of a node's invariant and
`closed : NetBook.Closed …` (calls and deliveries keep `Dt`), with `view` and `Step.cstep` to read this system's `Node`/`Step`
as `NetBook`'s; `NetBook.NetInv.step` then carries the invariant.  `own/oth/lkey`, `NodeInv`, `Inv` (converted by `book`/`dt`/
`of_dt`, `Inv.toNet`/`of_net`) are the words in which this system's theorems are stated: `Dt` and `NetBook.Book` field for field.
-/
import Orda.Proofs.RgaFull
import Orda.Proofs.NetBook
import Orda.Proofs.LiveWalk
namespace Orda.LNet
open Orda.RF

/-! ## list operations: the wire form -/

/-- the list operation a wire operation denotes; an insert of ZERO values denotes nothing (it changes no list state,
    `exec_toL`), as do malformed inserts and operations of other datatypes -/
def toL (o : Op) : Option LOp :=
  match o.body with
  | .insert _ (some a) (v :: vs) => some (.ins a o.id.ts (v :: vs))
  | .delete _ _ tg => some (.del tg o.id.ts)
  | .update _ tg vs => some (.upd tg vs o.id.ts)
  | _ => none

/-- the bodies a list replica issues -/
def ListBody (b : OpBody) : Prop :=
  (∃ p a vs, b = .insert p (some a) vs) ∨ (∃ p n tg, b = .delete p n tg) ∨ (∃ p tg vs, b = .update p tg vs)

theorem toL_ts {o : Op} {x : LOp} (h : toL o = some x) : x.ts = o.id.ts := by
  unfold toL at h
  split at h <;> simp only [Option.some.injEq, reduceCtorEq] at h <;> subst h <;> rfl

/-- inserting nothing changes nothing (the local walk; `applyL_ins_nil` needs the remote one, `insertAfterId_nil`) -/
theorem insertAtLive_nil {β : Type} (isLive : β → Bool) : ∀ (p : Nat) (l l' : List β),
    insertAtLive isLive [] p l = some l' → l' = l
  | 0, l, l', h => by
    simp only [insertAtLive, List.nil_append, Option.some.injEq] at h
    exact h.symm
  | p + 1, [], l', h => by simp [insertAtLive] at h
  | p + 1, x :: xs, l', h => by
    unfold insertAtLive at h
    split at h
    · split at h
      · simp only [List.nil_append, Option.some.injEq] at h
        exact h.symm
      · obtain ⟨l'', h', rfl⟩ := Option.map_eq_some_iff.mp h
        rw [insertAtLive_nil isLive p xs l'' h']
    · obtain ⟨l'', h', rfl⟩ := Option.map_eq_some_iff.mp h
      rw [insertAtLive_nil isLive (p + 1) xs l'' h']

theorem rga_eta (l : Rga) : (⟨l.nodes, l.size + ((([] : List JVal).length : Nat) : Int)⟩ : Rga) = l := by
  cases l; simp

theorem applyL_ins_nil (l : Rga) (a ts : Ts) : l.applyL (.ins a ts []) = l := by
  show (match l.insertRemote a ts [] with | .ok s' => s' | _ => l) = l
  unfold Rga.insertRemote
  cases h : insertAfterId RNode.o a (mkNodes ts []) l.nodes with
  | none => rfl
  | some l' =>
    have : l' = l.nodes := insertAfterId_nil RNode.o a l.nodes l' h
    subst this
    exact rga_eta l

theorem remoteState_ins (l : Rga) (id : OpId) (p : Nat) (a : Ts) (vs : List JVal) :
    remoteState (.list l) ⟨id, .insert p (some a) vs⟩ = .list (l.applyL (.ins a id.ts vs)) := by
  simp only [remoteState, execRemote, Rga.applyL]
  cases l.insertRemote a id.ts vs <;> rfl

theorem remoteState_del (l : Rga) (id : OpId) (p n : Nat) (tg : List Ts) :
    remoteState (.list l) ⟨id, .delete p n tg⟩ = .list (l.applyL (.del tg id.ts)) := rfl

theorem remoteState_upd (l : Rga) (id : OpId) (p : Nat) (tg : List Ts) (vs : List JVal) :
    remoteState (.list l) ⟨id, .update p tg vs⟩ = .list (l.applyL (.upd tg vs id.ts)) := by
  simp only [remoteState, execRemote, Rga.applyL]
  cases l.updateRemote tg vs id.ts <;> rfl

theorem exec_toL (r : Replica) (l : Rga) (o : Op) (hs : r.state = .list l) (hb : ListBody o.body) :
    (r.execRemoteBase o).1.state = .list (l.applyAllL (toL o).toList) := by
  rcases o with ⟨id, body⟩
  rw [execRemoteBase_eq]
  show remoteState r.state _ = _
  rw [hs]
  rcases hb with ⟨p, a, vs, rfl⟩ | ⟨p, n, tg, rfl⟩ | ⟨p, tg, vs, rfl⟩
  · rw [remoteState_ins]
    cases vs with
    | nil => rw [applyL_ins_nil]; rfl
    | cons v vs => rfl
  · rw [remoteState_del]; rfl
  · rw [remoteState_upd]; rfl

/-! ## local execution = remote application -/

theorem walkEff_del (z : RNode) : ∀ (tgs : List Ts) (t : Ts) (k : Nat), tgs.length ≤ k →
    (z.o ∈ tgs → z.isLive = true) →
    walkEff (fun x t => { x with v := none, t := t }) tgs (delimSeq t k) z = (delEff tgs t z.o).app z
  | [], _, _, _, _ => by rw [walkEff]; rfl
  | _ :: _, _, 0, hk, _ => absurd hk (Nat.not_succ_le_zero _)
  | tg :: tgs, t, k + 1, hk, hz => by
    rw [delimSeq, walkEff, delEff]
    by_cases e : tg = z.o
    · rw [if_pos e, if_pos e]
      simp only [Eff.app, delF, hz (List.mem_cons.mpr (Or.inl e.symm)), if_true]
    · rw [if_neg e, if_neg e]
      exact walkEff_del z tgs t.nextDelim k (Nat.le_of_succ_le_succ hk)
        fun h => hz (List.mem_cons_of_mem _ h)

theorem mapLiveFrom_del (l : List RNode) (p k : Nat) (t : Ts) (l' tc : List RNode)
    (hnd : (l.map (·.o)).Nodup)
    (h : mapLiveFrom (fun x t => { x with v := none, t := t }) p (delimSeq t k) l = some (l', tc)) :
    l' = l.map (fun z => (delEff (tc.map (·.o)) t z.o).app z) ∧ tc.Sublist l ∧
      liveCount l' = liveCount l - (k : Int) := by
  rw [mapLiveFrom_eq_walk] at h
  obtain ⟨h1, h2, h3, h4, h5⟩ := walkLive_map _ false (fun _ _ => rfl) l p _ l' tc hnd h
  rw [delimSeq_length] at h3 h5
  refine ⟨h1.trans (List.map_congr_left fun z hz =>
    walkEff_del z _ t k (by rw [List.length_map, h3]; exact Nat.le_refl _) (h4 z hz)), h2, ?_⟩
  simp only [Bool.false_eq_true, if_false] at h5
  unfold liveCount
  omega

theorem walkEff_upd (z : RNode) : ∀ (tgs : List Ts) (vs : List JVal) (t : Ts),
    (z.o ∈ tgs → z.isLive = true) → z.t.cmp t = .lt →
    walkEff (fun x (tv : Ts × JVal) => { x with v := some tv.2, t := tv.1 }) tgs
      ((delimSeq t vs.length).zip vs) z = (updEff tgs vs t z.o).app z
  | [], _, _, _, _ => by rw [walkEff]; rfl
  | _ :: _, [], _, _, _ => by rw [List.length_nil, delimSeq, List.zip_nil_left, walkEff]; rfl
  | tg :: tgs, v :: vs, t, hz, hlt => by
    rw [List.length_cons, delimSeq, List.zip_cons_cons, walkEff, updEff]
    by_cases e : tg = z.o
    · have hv : z.v.isNone = false := by
        have : z.v.isSome = true := hz (List.mem_cons.mpr (Or.inl e.symm))
        cases hzv : z.v <;> simp [hzv] at this ⊢
      rw [if_pos e, if_pos e]
      simp only [Eff.app, updF, hv, hlt, Bool.false_eq_true, if_false, beq_self_eq_true, if_true]
    · rw [if_neg e, if_neg e]
      exact walkEff_upd z tgs vs t.nextDelim (fun h => hz (List.mem_cons_of_mem _ h))
        (by rw [cmp_congr_key _ _ t.nextDelim t rfl rfl]; exact hlt)

theorem updGo_eq (l : List RNode) (p : Nat) (vs : List JVal) (t : Ts) (l' tc : List RNode)
    (hnd : (l.map (·.o)).Nodup) (hlt : ∀ n ∈ l, n.t.cmp t = .lt)
    (h : Rga.updateLocal.go p ((delimSeq t vs.length).zip vs) l = some (l', tc)) :
    l' = l.map (fun z => (updEff (tc.map (·.o)) vs t z.o).app z) ∧ tc.Sublist l ∧ tc.length = vs.length := by
  rw [updGo_eq_walk] at h
  obtain ⟨h1, h2, h3, h4, _⟩ := walkLive_map _ true (fun _ _ => rfl) l p _ l' tc hnd h
  rw [List.length_zip, delimSeq_length, Nat.min_self] at h3
  exact ⟨h1.trans (List.map_congr_left fun z hz => walkEff_upd z _ vs t (h4 z hz) (hlt z hz)), h2, h3⟩

theorem rga_ext {a b : Rga} (h1 : a.nodes = b.nodes) (h2 : a.size = b.size) : a = b := by
  cases a; cases b; simp only at h1 h2; rw [h1, h2]

theorem deleteLocal_eq_applyL (s : Rga) (pos num : Nat) (ts : Ts) (s' : Rga) (tg : List Ts) (old : List JVal)
    (hnd : s.ids.Nodup) (hsz : s.size = liveCount s.nodes)
    (h : s.deleteLocal pos num ts = .ok (s', tg, old)) :
    s' = s.applyL (.del tg ts) ∧ ∀ x ∈ tg, x ∈ s.ids := by
  unfold Rga.deleteLocal at h
  cases hr : mapLiveFrom (fun x t => { x with v := none, t := t }) pos (delimSeq ts num) s.nodes with
  | none => rw [hr] at h; cases h
  | some res =>
    obtain ⟨l', tc⟩ := res
    rw [hr] at h
    simp only [Outcome.ok.injEq, Prod.mk.injEq] at h
    obtain ⟨rfl, rfl, _⟩ := h
    obtain ⟨h1, h2, h3⟩ := mapLiveFrom_del s.nodes pos num ts l' tc hnd hr
    have hn : (s.applyL (.del (tc.map (·.o)) ts)).nodes = l' := by
      rw [applyL_del_nodes s _ ts hnd, h1]; rfl
    refine ⟨rga_ext hn.symm ?_, ?_⟩
    · show s.size - (num : Int) = (s.deleteRemote (tc.map (·.o)) ts).size
      rw [deleteRemote_size, deleteRemote_go_size _ ts s.nodes s.size hnd hsz, ← deleteRemote_nodes]
      have : (s.deleteRemote (tc.map (·.o)) ts).nodes = l' := hn
      rw [this, h3, hsz]
    · intro x hx
      exact (h2.map _).subset hx

theorem updateLocal_eq_applyL (s : Rga) (pos : Nat) (ts : Ts) (vs : List JVal) (s' : Rga) (tg : List Ts)
    (old : List JVal) (hnd : s.ids.Nodup) (hlt : ∀ n ∈ s.nodes, n.t.cmp ts = .lt)
    (h : s.updateLocal pos ts vs = .ok (s', tg, old)) :
    s' = s.applyL (.upd tg vs ts) ∧ ∀ x ∈ tg, x ∈ s.ids := by
  unfold Rga.updateLocal at h
  simp only at h
  cases hr : Rga.updateLocal.go pos ((delimSeq ts vs.length).zip vs) s.nodes with
  | none => rw [hr] at h; cases h
  | some res =>
    obtain ⟨l', tc⟩ := res
    rw [hr] at h
    simp only [Outcome.ok.injEq, Prod.mk.injEq] at h
    obtain ⟨rfl, rfl, _⟩ := h
    obtain ⟨h1, h2, h3⟩ := updGo_eq s.nodes pos vs ts l' tc hnd hlt hr
    refine ⟨rga_ext ?_ (applyL_upd_size s _ vs ts).symm, ?_⟩
    · rw [applyL_upd_nodes s _ vs ts hnd]
      show l' = _
      rw [h1]
      apply List.map_congr_left
      intro z _
      unfold opNode
      rw [eff_upd, if_pos (by rw [List.length_map, h3]; exact Nat.le_refl _)]
    · intro x hx
      exact (h2.map _).subset hx

theorem insertLocal_eq_applyL (s : Rga) (pos : Nat) (ts : Ts) (vs : List JVal) (s' : Rga) (a : Ts)
    (hnd : s.ids.Nodup) (hnohead : Ts.oldest ∉ s.ids) (hnew : ∀ n ∈ s.nodes, n.o.cmp ts = .lt)
    (h : s.insertLocal pos ts vs = .ok (s', a)) :
    s' = s.applyL (.ins a ts vs) ∧ (a = Ts.oldest ∨ a ∈ s.ids) := by
  have hr := insertLocal_eq_insertRemote_partial s pos ts vs a s' hnd hnohead hnew h
  constructor
  · show s' = match s.insertRemote a ts vs with | .ok s' => s' | _ => s
    rw [hr]
  · unfold Rga.insertLocal at h
    cases ha : s.anchorAt pos with
    | none => rw [ha] at h; simp at h
    | some a' =>
      cases hi : insertAtLive RNode.isLive (mkNodes ts vs) pos s.nodes with
      | none => rw [ha, hi] at h; simp at h
      | some l =>
        rw [ha, hi] at h
        simp only [Outcome.ok.injEq, Prod.mk.injEq] at h
        obtain ⟨_, rfl⟩ := h
        unfold Rga.anchorAt at ha
        split at ha
        · left; simpa using ha.symm
        · right
          simp only [Option.map_eq_some_iff] at ha
          obtain ⟨x, hx, rfl⟩ := ha
          exact List.mem_map.mpr ⟨x, nthLive_mem RNode.isLive s.nodes _ x hx, rfl⟩

/-! ## causal sequences -/

theorem mem_insOps_iff {ops : List LOp} {io : InsOp} :
    io ∈ insOps ops ↔ LOp.ins io.anchor io.ts io.vals ∈ ops := by
  constructor
  · intro h
    obtain ⟨p, hp, hpi⟩ := List.mem_filterMap.mp h
    cases p with
    | ins a ts vals =>
      simp only [toIns, Option.some.injEq] at hpi
      subst hpi
      exact hp
    | del tgs ts => simp [toIns] at hpi
    | upd tgs vs ts => simp [toIns] at hpi
  · intro h
    exact mem_insOps h

theorem lcausal_prefix : ∀ (l2 : List LOp) {l1 : List LOp}, LCausal (l1 ++ l2) → LCausal l1 := by
  intro l2
  induction l2 using List.reverseRecOn with
  | nil => intro l1 h; simpa using h
  | append_singleton l2 p ih =>
    intro l1 h
    rw [← List.append_assoc] at h
    exact ih h.init

theorem lcausal_snoc_mod {ops : List LOp} {p : LOp} (h : LCausal ops) (hm : p.isMod = true)
    (hmod : ∀ q ∈ ops, q.isMod = true → q.ts.cmp p.ts ≠ .eq)
    (htg : ∀ x ∈ p.targets, ∃ q ∈ ops, x ∈ q.insIds) : LCausal (ops ++ [p]) := by
  apply h.snoc _ (fun q hq hqm _ => hmod q hq hqm) htg
  cases p with
  | ins a ts vals => simp [LOp.isMod] at hm
  | del tgs ts => simpa [toIns] using h.ins
  | upd tgs vs ts => simpa [toIns] using h.ins

theorem lcausal_snoc_ins {ops : List LOp} {a ts : Ts} {vals : List JVal} (h : LCausal ops) (hd : ts.delim = 0)
    (hne : vals ≠ []) (hnh : ts.key ≠ Ts.oldest.key) (hfresh : ∀ q ∈ ops, q.ts.key ≠ ts.key)
    (hanch : a = Ts.oldest ∨ ∃ q ∈ ops, a ∈ q.insIds ∧ q.ts.cmp ts = .lt) :
    LCausal (ops ++ [.ins a ts vals]) := by
  apply h.snoc _ (fun _ _ _ hm => by simp [LOp.isMod] at hm) (fun x hx => by simp [LOp.targets] at hx)
  show InsCausal (insOps ops ++ [⟨a, ts, vals⟩])
  apply h.ins.snoc hd hne hnh
  · intro io hio
    exact hfresh _ (mem_insOps_iff.mp hio)
  · rcases hanch with h1 | ⟨q, hq, h2, h3⟩
    · exact Or.inl h1
    · right
      cases q with
      | ins a' ts' vals' => exact ⟨⟨a', ts', vals'⟩, mem_insOps hq, h2, h3⟩
      | del tgs ts' => simp [LOp.insIds] at h2
      | upd tgs vs ts' => simp [LOp.insIds] at h2

theorem lcausal_last_ins {ops : List LOp} {a ts : Ts} {vals : List JVal} (h : LCausal (ops ++ [.ins a ts vals])) :
    a = Ts.oldest ∨ ∃ q ∈ ops, a ∈ q.insIds ∧ q.ts.cmp ts = .lt := by
  have hi := h.ins
  rw [insOps_append] at hi
  rcases (InsCausal.last (o := ⟨a, ts, vals⟩) (by simpa [toIns] using hi)).2 with h1 | ⟨io, hio, h2, h3⟩
  · exact Or.inl h1
  · exact Or.inr ⟨_, mem_insOps_iff.mp hio, h2, h3⟩

theorem lcausal_last_targets {ops : List LOp} {p : LOp} (h : LCausal (ops ++ [p])) :
    ∀ x ∈ p.targets, ∃ q ∈ ops, x ∈ q.insIds := by
  intro x hx
  have hi : ops.length < (ops ++ [p]).length := by simp
  have e : (ops ++ [p])[ops.length]'hi = p := by simp
  obtain ⟨j, hj, hm⟩ := h.targeted ops.length hi x (by rw [e]; exact hx)
  rw [List.getElem_append_left hj] at hm
  exact ⟨_, List.getElem_mem hj, hm⟩

theorem ids_mem {ops : List LOp} (hc : LCausal ops) {x : Ts} (hx : x ∈ (Rga.empty.applyAllL ops).ids) :
    ∃ q ∈ ops, x ∈ q.insIds := by
  rw [applyAllL_ids] at hx
  obtain ⟨io, hio, hxi⟩ := (rga_mem_iff _ hc.ins x).mp hx
  exact ⟨_, mem_insOps_iff.mp hio, hxi⟩

theorem no_head {ops : List LOp} (hc : LCausal ops) : Ts.oldest ∉ (Rga.empty.applyAllL ops).ids := by
  rw [applyAllL_ids]
  exact rga_no_head _ hc.ins

/-- by the merge rule `n.t` is the stamp of a delete or an update, or that of the insert that created the node -/
theorem nodes_t_key (ops : List LOp) (hc : LCausal ops) :
    ∀ n ∈ (Rga.empty.applyAllL ops).nodes, ∃ p ∈ ops, n.t.key = p.ts.key := by
  intro n hn
  obtain ⟨a, ts, vals, v0, hins, hm, htomb, hlive⟩ := rga_payload_spec ops hc n hn
  by_cases hd : ∃ p ∈ ops, ∃ t, p.eff n.o = .del t
  · obtain ⟨_, ⟨p, hp, e⟩, _⟩ := htomb hd
    exact ⟨p, hp, (eff_stamp p n.o n.t (by rw [e]; rfl)).2⟩
  · rcases hlive hd with ⟨_, ht, _⟩ | ⟨p, hp, v, e, _⟩
    · exact ⟨_, hins, ht ▸ mkNodes_key (n := ⟨n.o, some v0, n.o⟩) hm⟩
    · exact ⟨p, hp, (eff_stamp p n.o n.t (by rw [e]; rfl)).2⟩

theorem sizeOK_iff (l : Rga) : l.SizeOK ↔ l.size = liveCount l.nodes := by
  unfold Rga.SizeOK liveCount
  rw [live_eq_lv, lv_length, List.countP_eq_length_filter]

theorem validateInsert_none {l : Rga} {pos : Int} (h : l.validateInsert pos = none) : 0 ≤ pos ∧ pos ≤ l.size := by
  unfold Rga.validateInsert at h
  split at h
  · cases h
  · split at h
    · cases h
    · omega

/-! ## a public call on a list replica -/

/-- what a successful local list execution did (`b` is the queued wire body) -/
def LocalOp (l : Rga) (ts : Ts) (b : OpBody) (l' : Rga) : Prop :=
  (∃ pos a vs, b = .insert 0 (some a) vs ∧ l.insertLocal pos ts vs = .ok (l', a)) ∨
  (∃ pos num tg old, b = .delete 0 0 tg ∧ l.deleteLocal pos num ts = .ok (l', tg, old)) ∨
  (∃ pos tg vs old, b = .update 0 tg vs ∧ l.updateLocal pos ts vs = .ok (l', tg, old))

theorem execLocal_list {l : Rga} {ts : Ts} {b b' : OpBody} {s' : DState} {ret : Ret}
    (h : execLocal (.list l) ts b = .ok (s', b', ret)) : ∃ l', s' = .list l' ∧ LocalOp l ts b'.wire l' := by
  cases b <;> simp only [execLocal, reduceCtorEq] at h
  case insert pos t vs =>
    split at h
    · cases h; exact ⟨_, rfl, Or.inl ⟨pos, _, vs, rfl, ‹_›⟩⟩
    · cases h
    · cases h
  case delete pos num tg0 =>
    split at h
    · cases h; exact ⟨_, rfl, Or.inr (Or.inl ⟨pos, num, _, _, rfl, ‹_›⟩)⟩
    · cases h
    · cases h
  case update pos tg0 vs =>
    split at h
    · cases h; exact ⟨_, rfl, Or.inr (Or.inr ⟨pos, _, vs, _, rfl, ‹_›⟩)⟩
    · cases h
    · cases h

/-- a call that queued: one operation `o` under the next identifier is appended, and the new state is what `LocalOp` says -/
structure Queued (r : Replica) (l : Rga) (r' : Replica) (o : Op) (l' : Rga) : Prop where
  buffer : r'.buffer = r.buffer ++ [o]
  id : o.id = r.opId.next
  opId : r'.opId = r.opId.next
  state : r'.state = .list l'
  op : LocalOp l r.opId.next.ts o.body l'

theorem call_cases (r : Replica) (l : Rga) (hs : r.state = .list l) (c : Call) :
    Bump r (r.call c).1 ∨ ∃ o l', Queued r l (r.call c).1 o l' := by
  have s := call_case r c
  generalize r.call c = x at s ⊢
  cases s with
  | done _ | err _ _ => exact Or.inl { state := rfl, buffer := rfl, cuid := rfl, era := rfl, lamport := Nat.le_refl _ }
  | panic _ _ => exact Or.inl { state := rfl, buffer := rfl, cuid := rfl, era := rfl, lamport := Nat.le_succ _ }
  | ok _ he =>
    rw [hs] at he
    obtain ⟨l', rfl, hl⟩ := execLocal_list he
    exact Or.inr ⟨_, l', { buffer := rfl, id := rfl, opId := rfl, state := rfl, op := hl }⟩

theorem insIds_key {q : LOp} {x : Ts} (h : x ∈ q.insIds) : x.key = q.ts.key := by
  cases q with
  | ins a ts vals => exact delimSeq_key h
  | del tgs ts => simp [LOp.insIds] at h
  | upd tgs vs ts => simp [LOp.insIds] at h

theorem local_step {ops : List LOp} (hc : LCausal ops) {ts : Ts} (hd : ts.delim = 0) (hnh : ts.key ≠ Ts.oldest.key)
    (hnew : ∀ p ∈ ops, p.ts.cmp ts = .lt) {o : Op} (hid : o.id.ts = ts) {l' : Rga}
    (h : LocalOp (Rga.empty.applyAllL ops) ts o.body l') :
    l' = (Rga.empty.applyAllL ops).applyAllL (toL o).toList ∧ LCausal (ops ++ (toL o).toList) ∧
      ListBody o.body := by
  have hnd := ids_nodup hc
  have hnohead := no_head hc
  have hsz := size_eq_liveCount ops hc
  have hcmpne : ∀ q ∈ ops, q.ts.cmp ts ≠ .eq := fun q hq e => by rw [hnew q hq] at e; cases e
  have hkey : ∀ q ∈ ops, q.ts.key ≠ ts.key := fun q hq e => hcmpne q hq ((cmp_eq_iff _ _).mpr e)
  have hidm : ∀ x ∈ (Rga.empty.applyAllL ops).ids, ∃ q ∈ ops, x ∈ q.insIds ∧ q.ts.cmp ts = .lt := by
    intro x hx
    obtain ⟨q, hq, hm⟩ := ids_mem hc hx
    exact ⟨q, hq, hm, hnew q hq⟩
  have hnewo : ∀ n ∈ (Rga.empty.applyAllL ops).nodes, n.o.cmp ts = .lt := by
    intro n hn
    obtain ⟨q, hq, hm, hlt⟩ := hidm n.o (List.mem_map.mpr ⟨n, hn, rfl⟩)
    rw [cmp_congr_key n.o q.ts ts ts (insIds_key hm) rfl]
    exact hlt
  have hnewt : ∀ n ∈ (Rga.empty.applyAllL ops).nodes, n.t.cmp ts = .lt := by
    intro n hn
    obtain ⟨q, hq, hk⟩ := nodes_t_key ops hc n hn
    rw [cmp_congr_key n.t q.ts ts ts hk rfl]
    exact hnew q hq
  rcases o with ⟨id, body⟩
  simp only at hid h
  subst hid
  rcases h with ⟨pos, a, vs, rfl, hl⟩ | ⟨pos, num, tg, old, rfl, hl⟩ | ⟨pos, tg, vs, old, rfl, hl⟩
  · obtain ⟨h1, h2⟩ := insertLocal_eq_applyL _ pos id.ts vs l' a hnd hnohead hnewo hl
    refine ⟨?_, ?_, Or.inl ⟨0, a, vs, rfl⟩⟩
    · cases vs with
      | nil => rw [h1, applyL_ins_nil]; rfl
      | cons v vs => rw [h1]; rfl
    · cases vs with
      | nil => simpa [toL] using hc
      | cons v vs =>
        show LCausal (ops ++ [.ins a id.ts (v :: vs)])
        apply lcausal_snoc_ins hc hd (by simp) hnh hkey
        rcases h2 with h2 | h2
        · exact Or.inl h2
        · exact Or.inr (hidm a h2)
  · obtain ⟨h1, h2⟩ := deleteLocal_eq_applyL _ pos num id.ts l' tg old hnd hsz hl
    refine ⟨by rw [h1]; rfl, ?_, Or.inr (Or.inl ⟨0, 0, tg, rfl⟩)⟩
    show LCausal (ops ++ [.del tg id.ts])
    apply lcausal_snoc_mod (p := .del tg id.ts) hc rfl (fun q hq _ => hcmpne q hq)
    intro x hx
    obtain ⟨q, hq, hm, _⟩ := hidm x (h2 x hx)
    exact ⟨q, hq, hm⟩
  · obtain ⟨h1, h2⟩ := updateLocal_eq_applyL _ pos id.ts vs l' tg old hnd hnewt hl
    refine ⟨by rw [h1]; rfl, ?_, Or.inr (Or.inr ⟨0, tg, vs, rfl⟩)⟩
    show LCausal (ops ++ [.upd tg vs id.ts])
    apply lcausal_snoc_mod (p := .upd tg vs id.ts) hc rfl (fun q hq _ => hcmpne q hq)
    intro x hx
    obtain ⟨q, hq, hm, _⟩ := hidm x (h2 x hx)
    exact ⟨q, hq, hm⟩

/-! ## the system -/

/-- one client: the real replica model, how many operations of its buffer are in the log, how many log entries it has
    consumed -/
structure Node where
  r : Replica
  pushed : Nat
  pulled : Nat

structure Net where
  nodes : List Node
  log : List LEnt

/-- every node is a fresh subscriber `Replica.new .list (cuid i) false`; nothing pushed or pulled; empty log -/
def Net.init (cuid : Nat → String) (n : Nat) : Net :=
  ⟨(List.range n).map fun i => ⟨Replica.new .list (cuid i) false, 0, 0⟩, []⟩

/-- client identifiers of the `n` nodes are pairwise distinct -/
def CuidsDistinct (cuid : Nat → String) (n : Nat) : Prop := ∀ i j, i < n → j < n → cuid i = cuid j → i = j

inductive Step : Net → Net → Prop
  /-- node `i` issues the public call `c` — ANY `Call` (reads, refused calls, calls of other datatypes, inserts of
      zero values included) -/
  | call (net : Net) (i : Nat) (nd : Node) (c : Call) (hi : net.nodes[i]? = some nd) :
      Step net ⟨net.nodes.set i { nd with r := (nd.r.call c).1 }, net.log⟩
  /-- the next unpushed operation of node `i`'s buffer is appended to the log (buffer order) -/
  | push (net : Net) (i : Nat) (nd : Node) (o : Op) (hi : net.nodes[i]? = some nd)
      (ho : nd.r.buffer[nd.pushed]? = some o) :
      Step net ⟨net.nodes.set i { nd with pushed := nd.pushed + 1 }, net.log ++ [(i, o)]⟩
  /-- node `i` consumes its next log entry: skipped if `i` is the author, otherwise delivered with `execRemoteBase` -/
  | pull (net : Net) (i : Nat) (nd : Node) (a : Nat) (o : Op) (hi : net.nodes[i]? = some nd)
      (hl : net.log[nd.pulled]? = some (a, o)) :
      Step net ⟨net.nodes.set i { nd with r := if a = i then nd.r else (nd.r.execRemoteBase o).1,
                                          pulled := nd.pulled + 1 }, net.log⟩

/-- the reachable states of the system of `n` nodes with the (pairwise distinct) client identifiers `cuid 0 … cuid (n-1)` -/
inductive Reach (cuid : Nat → String) (n : Nat) : Net → Prop
  | init (hc : CuidsDistinct cuid n) : Reach cuid n (Net.init cuid n)
  | step {net net' : Net} : Reach cuid n net → Step net net' → Reach cuid n net'

/-- the entries of `l` written by `i` / by the others (the terms of `NetBook.own`/`oth`, whose lemmas apply) -/
def own (i : Nat) (l : List LEnt) : List LEnt := l.filter fun e => e.1 == i
def oth (i : Nat) (l : List LEnt) : List LEnt := l.filter fun e => !(e.1 == i)
theorem mem_oth {i : Nat} {l : List LEnt} {e : LEnt} : e ∈ oth i l ↔ e ∈ l ∧ e.1 ≠ i := NetBook.mem_oth
theorem oth_single_ne {i a : Nat} (h : a ≠ i) (o : Op) : oth i [(a, o)] = [(a, o)] := NetBook.oth_single_ne h o

/-- the operations node `nd` (number `i`) has applied: its own buffer and the log entries of the others among the first
    `pulled` ones -/
def appliedOps (log : List LEnt) (i : Nat) (nd : Node) : List Op :=
  nd.r.buffer ++ (oth i (log.take nd.pulled)).map (·.2)

/-- nodes `i` and `j` have applied the same multiset of operations -/
def SameOps (net : Net) (i j : Nat) : Prop :=
  ∃ ni nj, net.nodes[i]? = some ni ∧ net.nodes[j]? = some nj ∧
    (appliedOps net.log i ni).Perm (appliedOps net.log j nj)

/-- every buffer completely pushed, every node has consumed the whole log -/
def Quiescent (net : Net) : Prop :=
  ∀ nd ∈ net.nodes, nd.pushed = nd.r.buffer.length ∧ nd.pulled = net.log.length

/-! ## the executable form (for concrete runs) -/

inductive Act where
  | call (i : Nat) (c : Call)
  | push (i : Nat)
  | pull (i : Nat)

def Net.act (net : Net) : Act → Option Net
  | .call i c =>
    match net.nodes[i]? with
    | some nd => some ⟨net.nodes.set i { nd with r := (nd.r.call c).1 }, net.log⟩
    | none => none
  | .push i =>
    match net.nodes[i]? with
    | some nd =>
      match nd.r.buffer[nd.pushed]? with
      | some o => some ⟨net.nodes.set i { nd with pushed := nd.pushed + 1 }, net.log ++ [(i, o)]⟩
      | none => none
    | none => none
  | .pull i =>
    match net.nodes[i]? with
    | some nd =>
      match net.log[nd.pulled]? with
      | some (a, o) =>
        some ⟨net.nodes.set i { nd with r := if a = i then nd.r else (nd.r.execRemoteBase o).1,
                                        pulled := nd.pulled + 1 }, net.log⟩
      | none => none
    | none => none

def Net.run (net : Net) : List Act → Option Net
  | [] => some net
  | a :: as => match net.act a with
    | some net' => net'.run as
    | none => none

theorem step_of_act {net net' : Net} {a : Act} (h : net.act a = some net') : Step net net' := by
  unfold Net.act at h
  split at h
  · split at h
    · cases h; exact .call net _ _ _ ‹_›
    · cases h
  · split at h
    · split at h
      · cases h; exact .push net _ _ _ ‹_› ‹_›
      · cases h
    · cases h
  · split at h
    · split at h
      · cases h; exact .pull net _ _ _ _ ‹_› ‹_›
      · cases h
    · cases h

theorem reach_run {cuid : Nat → String} {n : Nat} : ∀ (as : List Act) {net net' : Net}, Reach cuid n net →
    net.run as = some net' → Reach cuid n net' := fun as _ _ hr h =>
  ListAux.run_induction (Q := fun _ => True) (fun _ => rfl) (fun s a _ => by simp only [Net.run]; cases Net.act s a <;> rfl)
    (fun hr _ h => .step hr (step_of_act h)) as hr h fun _ _ => trivial

/-! ## the datatype part of the invariant: `den`, `EntOK`, `Dt` -/

/-- the list operations a sequence of entries denotes (inserts of zero values denote nothing) -/
def den (l : List LEnt) : List LOp := l.filterMap fun e => toL e.2
/-- what identifies an operation: (lamport, client) -/
def lkey (e : LEnt) : Nat × String := (e.2.id.lamport, e.2.id.cuid)

/-- what is known about every operation of the system -/
def EntOK (cuid : Nat → String) (n : Nat) (e : LEnt) : Prop :=
  e.1 < n ∧ e.2.id.cuid = cuid e.1 ∧ e.2.id.era = 0 ∧ 1 ≤ e.2.id.lamport ∧ ListBody e.2.body

theorem EntOK.era {cuid : Nat → String} {n : Nat} {e : LEnt} (h : EntOK cuid n e) : e.2.id.era = 0 := h.2.2.1
theorem EntOK.body {cuid : Nat → String} {n : Nat} {e : LEnt} (h : EntOK cuid n e) : ListBody e.2.body := h.2.2.2.2

theorem den_append (l l' : List LEnt) : den (l ++ l') = den l ++ den l' := List.filterMap_append ..
theorem den_single (e : LEnt) : den [e] = (toL e.2).toList := by
  cases h : toL e.2 <;> simp [den, h]
theorem den_cons (e : LEnt) (l : List LEnt) : den (e :: l) = (toL e.2).toList ++ den l := by
  rw [← den_single]; exact den_append [e] l
theorem den_snoc (l : List LEnt) (e : LEnt) : den (l ++ [e]) = den l ++ (toL e.2).toList := by
  rw [den_append, den_single]

theorem mem_den {l : List LEnt} {x : LOp} : x ∈ den l ↔ ∃ e ∈ l, toL e.2 = some x := List.mem_filterMap

theorem applyAllL_app (s : Rga) (l l' : List LOp) : s.applyAllL (l ++ l') = (s.applyAllL l).applyAllL l' :=
  List.foldl_append ..

theorem key_ne_of_lkey {e e' : LEnt} {x x' : LOp} (h : lkey e ≠ lkey e') (hx : toL e.2 = some x)
    (hx' : toL e'.2 = some x') : x.ts.key ≠ x'.ts.key := by
  rw [toL_ts hx, toL_ts hx']
  exact fun e0 => h (Prod.ext (Prod.mk.inj (Prod.mk.inj e0).2).1 (Prod.mk.inj (Prod.mk.inj e0).2).2)

theorem entOK_auth {cuid : Nat → String} {n : Nat} (e : LEnt) (h : EntOK cuid n e) :
    e.1 < n ∧ e.2.id.cuid = cuid e.1 := ⟨h.1, h.2.1⟩

/-- the datatype part of a node's invariant (the `D` of `NetBook.NetInv`; what `NodeInv` has beside `NetBook.Book`) -/
structure Dt (r : Replica) (A : List LEnt) : Prop where
  st : r.state = .list (Rga.empty.applyAllL (den A))
  lc : LCausal (den A)
  clock_era : r.opId.era = 0

theorem Dt.bump {r r' : Replica} {A : List LEnt} (d : Dt r A) (h : Bump r r') : Dt r' A :=
  ⟨h.state.trans d.st, d.lc, h.era.trans d.clock_era⟩

theorem den_lt {P : LEnt → Prop} {c : String} {log : List LEnt} {i : Nat} {r : Replica} {pu pl : Nat} {A : List LEnt}
    (hera : ∀ e, P e → e.2.id.era = 0) (d : Dt r A) (B : NetBook.Book P c log i r.buffer r.opId pu pl A) :
    ∀ p ∈ den A, p.ts.cmp r.opId.next.ts = .lt := by
  intro p hp
  obtain ⟨e, he, hep⟩ := mem_den.mp hp
  rw [toL_ts hep]
  apply cmp_lt_of_lamport_lt
  · show e.2.id.era = r.opId.era
    rw [hera e (B.ent_ok e he), d.clock_era]
  · show e.2.id.lamport < r.opId.lamport + 1
    exact Nat.lt_succ_of_le (B.lam_le e he)

theorem Dt.state_of_perm {r r' : Replica} {A B : List LEnt} (d : Dt r A) (d' : Dt r' B) (h : (den A).Perm (den B)) :
    r.state = r'.state := by
  rw [d.st, d'.st, rga_full_converge_state _ _ h d.lc d'.lc]

/-- causal delivery on ghost sequences: the author had applied `P` when it issued `o` (`Aa = P ++ (a, o) :: S`), the
    receiver's `Aj` contains `P`: what `o` refers to (anchor, targets) was created by operations in `Aj` -/
theorem lcausal_deliver {Aa Aj P S : List LEnt} {a : Nat} {o : Op} (hsplit : Aa = P ++ (a, o) :: S)
    (ha : LCausal (den Aa)) (hj : LCausal (den Aj)) (hsub : P ⊆ Aj) (hkeys : ∀ e ∈ Aj, lkey e ≠ lkey (a, o)) :
    LCausal (den Aj ++ (toL o).toList) := by
  cases hx : toL o with
  | none => simpa using hj
  | some x =>
    show LCausal (den Aj ++ [x])
    have hPx : LCausal (den P ++ [x]) := by
      rw [hsplit, den_append, den_cons, hx, ← List.append_assoc] at ha
      exact lcausal_prefix _ ha
    have hsubP : ∀ q ∈ den P, q ∈ den Aj := by
      intro q hq
      obtain ⟨e, he, heq⟩ := mem_den.mp hq
      exact mem_den.mpr ⟨e, hsub he, heq⟩
    have hkne : ∀ q ∈ den Aj, q.ts.key ≠ x.ts.key := by
      intro q hq
      obtain ⟨e, he, heq⟩ := mem_den.mp hq
      exact key_ne_of_lkey (e' := (a, o)) (hkeys e he) heq hx
    have hmod : ∀ {p : LOp}, p.isMod = true → p.ts = x.ts → p.targets = x.targets → LCausal (den Aj ++ [p]) := by
      intro p hm hts htg
      apply lcausal_snoc_mod hj hm
      · intro q hq _ e0
        exact hkne q hq (hts ▸ (cmp_eq_iff _ _).mp e0)
      · intro t ht
        obtain ⟨q, hq, hm⟩ := lcausal_last_targets hPx t (htg ▸ ht)
        exact ⟨q, hsubP q hq, hm⟩
    cases x with
    | ins a' ts vals =>
      have hi := hPx.ins
      have hm : (⟨a', ts, vals⟩ : InsOp) ∈ insOps (den P ++ [.ins a' ts vals]) := mem_insOps (by simp)
      apply lcausal_snoc_ins hj (hi.delim0 _ hm) (hi.nonempty _ hm) (hi.notHead _ hm) hkne
      rcases lcausal_last_ins hPx with h1 | ⟨q, hq, h2, h3⟩
      · exact Or.inl h1
      · exact Or.inr ⟨q, hsubP q hq, h2, h3⟩
    | del tgs ts => exact hmod rfl rfl rfl
    | upd tgs vs ts => exact hmod rfl rfl rfl

/-! ## calls and deliveries keep `Dt` (`closed`); this system's `Node` and `Step` read as `NetBook`'s -/

theorem closed (cuid : Nat → String) (n : Nat) : NetBook.Closed (EntOK cuid n) (fun _ r _ A => Dt r A)
    (fun _ => True) (fun _ _ _ => True) cuid n where
  auth := entOK_auth
  call := by
    intro log i r pu pl A c d B hi hg
    rcases call_cases r _ d.st c with hb | ⟨o, l', q⟩
    · have B' := B.clock hb.cuid hb.lamport
      rw [← hb.buffer] at B'
      exact .inl ⟨d.bump hb, B'⟩
    · -- the next identifier has lamport ≥ 1: it is not the head's
      have hnh : r.opId.next.ts.key ≠ Ts.oldest.key := fun e0 =>
        Nat.succ_ne_zero _ (Prod.mk.inj (Prod.mk.inj e0).2).1
      obtain ⟨hl', hlc, hbody⟩ := local_step d.lc (ts := r.opId.next.ts) rfl hnh (den_lt (fun _ he => he.era) d B)
        (congrArg OpId.ts q.id) q.op
      have hP : EntOK cuid n (i, o) :=
        ⟨hi, (congrArg OpId.cuid q.id).trans B.clock_cuid, (congrArg OpId.era q.id).trans d.clock_era,
          (congrArg OpId.lamport q.id).symm ▸ Nat.le_add_left 1 _, hbody⟩
      have B' := B.queue q.id hP
      rw [← q.buffer, ← q.opId] at B'
      exact .inr ⟨o, ⟨by rw [q.state, hl', den_snoc, applyAllL_app], den_snoc A _ ▸ hlc, q.opId ▸ d.clock_era⟩, B'⟩
  skip := id
  deliver := by
    intro log j a r ra pu pl pua pla A Aa Pre S o d B da Ba hkeys hhead hl ha hsplit hsub hk hP
    exact ⟨by rw [exec_toL r _ o d.st hP.body, den_snoc, applyAllL_app],
      den_snoc A _ ▸ lcausal_deliver hsplit da.lc d.lc hsub hk,
      by rw [execRemoteBase_opId, NetBook.sync_era]; exact d.clock_era⟩
  first := fun _ _ _ => trivial

/-- a node, as `NetBook` and the transaction layer see it -/
abbrev view : NetBook.View Node where
  r := Node.r
  pu := Node.pushed
  pl := Node.pulled
  node := Node.mk
  r_node _ _ _ := rfl
  pu_node _ _ _ := rfl
  pl_node _ _ _ := rfl
  eta _ := rfl

theorem Step.cstep {net net' : Net} (h : Step net net') :
    NetBook.CStep view (fun _ _ _ => True) net.nodes net.log net'.nodes net'.log := by
  cases h with
  | call i nd c hi => exact .call i nd c hi trivial
  | push i nd o hi ho => exact .push i nd o hi ho
  | pull i nd a o hi hl => exact .pull i nd a o hi hl

/-! What a node has applied against what it has (`appliedOps`), for any system on `Node`s whose invariant is a
`NetBook.NetInv`: this one, the one with a creator (Proofs/FlatNetCreate.lean) and the header-free sides of the transaction
systems (Proofs/ListTxNet.lean, Proofs/FlatTxNetCreate.lean). -/

/-- what `lnet_nodes_applied_ops` and the theorems of that name in the transaction systems (`ltx_…`, `cltx_…`) say of a state,
    `applied i` being what node `i` has applied -/
def AppliedBy (net : Net) (applied : Nat → List LOp) : Prop :=
  ∀ i nd, net.nodes[i]? = some nd →
    nd.r.state = .list (Rga.empty.applyAllL (applied i)) ∧ LCausal (applied i) ∧
    (applied i).Perm ((appliedOps net.log i nd).filterMap toL)

section net
variable {P : LEnt → Prop} {D : Nat → Replica → Nat → List LEnt → Prop} {H : LEnt → Prop} {cuid : Nat → String} {n : Nat}
  {nodes : List Node} {log : List LEnt} {ap : Nat → List LEnt}

theorem den_perm {c : String} {i : Nat} {nd : Node} {A : List LEnt}
    (B : NetBook.Book P c log i nd.r.buffer nd.r.opId nd.pushed nd.pulled A) :
    (den A).Perm ((appliedOps log i nd).filterMap toL) := by
  have e : (A.map (·.2)).filterMap toL = den A := List.filterMap_map ..
  exact e ▸ B.ops_perm.filterMap toL

theorem appliedBy_of_net (I : NetBook.NetInv view P D H cuid n nodes log ap) (dt : ∀ {i r pl A}, D i r pl A → Dt r A) :
    AppliedBy ⟨nodes, log⟩ fun i => den (ap i) := fun i nd hi =>
  have ⟨d, B⟩ := I.node i nd hi
  ⟨(dt d).st, (dt d).lc, den_perm B⟩

theorem perm_of_sameOps_net (I : NetBook.NetInv view P D H cuid n nodes log ap) {i j : Nat}
    (h : SameOps ⟨nodes, log⟩ i j) : (den (ap i)).Perm (den (ap j)) := by
  obtain ⟨ni, nj, hni, hnj, hperm⟩ := h
  exact ((den_perm (I.node i ni hni).2).trans (hperm.filterMap toL)).trans (den_perm (I.node j nj hnj).2).symm

end net

/-! ## the invariant in the terms of this system: `NodeInv`, `Inv` -/

/-- the invariant of one node in the terms of this system: the datatype part `Dt` (`st`, `lc`, `clock_era`) and, field for
    field, `NetBook.Book`; the proofs go through the two (`dt`, `book`, `of_dt`) -/
structure NodeInv (cuid : Nat → String) (n : Nat) (log : List LEnt) (i : Nat) (nd : Node) (A : List LEnt) : Prop where
  st : nd.r.state = .list (Rga.empty.applyAllL (den A))
  lc : LCausal (den A)
  pushed_le : nd.pushed ≤ nd.r.buffer.length
  pulled_le : nd.pulled ≤ log.length
  own_eq : own i A = nd.r.buffer.map (fun o => (i, o))
  oth_eq : oth i A = oth i (log.take nd.pulled)
  log_own : own i log = (nd.r.buffer.take nd.pushed).map (fun o => (i, o))
  clock_cuid : nd.r.opId.cuid = cuid i
  clock_era : nd.r.opId.era = 0
  lam_le : ∀ e ∈ A, e.2.id.lamport ≤ nd.r.opId.lamport
  ent_ok : ∀ e ∈ A, EntOK cuid n e
  buf_sorted : nd.r.buffer.Pairwise (fun o o' => o.id.lamport < o'.id.lamport)
  keys : A.Pairwise (fun e e' => lkey e ≠ lkey e')
  /-- CAUSALITY: what node `i` had applied when it issued `o` is in the log before `o` -/
  causal : ∀ P o S, A = P ++ (i, o) :: S → ∀ k, log[k]? = some (i, o) → ∀ e ∈ P, e ∈ log.take k

/-- `NetBook.NetInv` in the terms of this system (`toNet`, `of_net`) -/
structure Inv (cuid : Nat → String) (n : Nat) (net : Net) (ap : Nat → List LEnt) : Prop where
  distinct : CuidsDistinct cuid n
  len : net.nodes.length = n
  node : ∀ i nd, net.nodes[i]? = some nd → NodeInv cuid n net.log i nd (ap i)
  log_auth : ∀ e ∈ net.log, e.1 < n
  log_keys : net.log.Pairwise (fun e e' => lkey e ≠ lkey e')

namespace NodeInv
variable {cuid : Nat → String} {n : Nat} {log : List LEnt} {i : Nat} {nd : Node} {A : List LEnt}

theorem book (N : NodeInv cuid n log i nd A) :
    NetBook.Book (EntOK cuid n) (cuid i) log i nd.r.buffer nd.r.opId nd.pushed nd.pulled A :=
  { N with }

theorem dt (N : NodeInv cuid n log i nd A) : Dt nd.r A := { N with }

theorem of_dt (d : Dt nd.r A)
    (B : NetBook.Book (EntOK cuid n) (cuid i) log i nd.r.buffer nd.r.opId nd.pushed nd.pulled A) :
    NodeInv cuid n log i nd A :=
  { d, B with }

theorem buf_mem (N : NodeInv cuid n log i nd A) {o : Op} (h : o ∈ nd.r.buffer) : (i, o) ∈ A :=
  N.book.mem_buf_iff.mpr h

end NodeInv

namespace Inv
variable {cuid : Nat → String} {n : Nat} {net : Net} {ap : Nat → List LEnt}

theorem toNet (I : Inv cuid n net ap) : NetBook.NetInv view (EntOK cuid n)
    (fun _ r _ A => Dt r A) (fun _ => True) cuid n net.nodes net.log ap :=
  { I with node := fun i nd hi => ⟨(I.node i nd hi).dt, (I.node i nd hi).book⟩, log_head := fun _ _ => trivial }

theorem of_net {nodes : List Node} {log : List LEnt} (I : NetBook.NetInv view (EntOK cuid n)
    (fun _ r _ A => Dt r A) (fun _ => True) cuid n nodes log ap) : Inv cuid n ⟨nodes, log⟩ ap :=
  { I with node := fun i nd hi => .of_dt (I.node i nd hi).1 (I.node i nd hi).2 }

/-- every delivery extends the receiver's causal sequence: what the delivered operation refers to (anchor, targets)
    was created by operations the receiver has already applied -/
theorem deliver (I : Inv cuid n net ap) {j : Nat} {nd : Node} {a : Nat} {o : Op} (hj : net.nodes[j]? = some nd)
    (hl : net.log[nd.pulled]? = some (a, o)) (ha : a ≠ j) :
    LCausal (den (ap j) ++ (toL o).toList) ∧ (∀ e ∈ ap j, lkey e ≠ lkey (a, o)) ∧ EntOK cuid n (a, o) := by
  obtain ⟨nda, P, S, hna, hsplit, hsubset, hkeys, hent⟩ := I.toNet.deliver_core entOK_auth hj hl ha
  exact ⟨lcausal_deliver hsplit (I.node a nda hna).lc (I.node j nd hj).lc hsubset hkeys, hkeys, hent⟩

theorem den_perm (I : Inv cuid n net ap) {i : Nat} {nd : Node} (hi : net.nodes[i]? = some nd) :
    (den (ap i)).Perm ((appliedOps net.log i nd).filterMap toL) :=
  LNet.den_perm (I.node i nd hi).book

theorem step_grows (I : Inv cuid n net ap) {net' : Net} (h : Step net net') :
    ∃ ap', Inv cuid n net' ap' ∧ NetBook.Grows ap ap' :=
  let ⟨ap', I', hg⟩ := I.toNet.step (closed cuid n) h.cstep
  ⟨ap', of_net I', hg⟩

theorem step (I : Inv cuid n net ap) {net' : Net} (h : Step net net') : ∃ ap', Inv cuid n net' ap' :=
  let ⟨ap', I', _⟩ := I.step_grows h
  ⟨ap', I'⟩

end Inv

theorem inv_init {cuid : Nat → String} {n : Nat} (hc : CuidsDistinct cuid n) :
    Inv cuid n (Net.init cuid n) (fun _ => []) :=
  .of_net (.init hc fun _ _ => ⟨⟨rfl, .nil, rfl⟩, .init rfl⟩)

theorem inv_reach {cuid : Nat → String} {n : Nat} {net : Net} (h : Reach cuid n net) : ∃ ap, Inv cuid n net ap := by
  induction h with
  | init hc => exact ⟨_, inv_init hc⟩
  | step _ hs ih =>
    obtain ⟨ap, I⟩ := ih
    exact I.step hs

/-! ## the theorems -/

/-- every delivery the system performs extends the receiver's causal sequence, and IS the remote application
    `Rga.applyL` of the operation it denotes (nothing for an insert of zero values) — no hypothesis about causality -/
theorem lnet_deliveries_causal {cuid : Nat → String} {n : Nat} : ∀ net, Reach cuid n net →
    ∃ applied : Nat → List LOp, ∀ (i : Nat) (nd : Node) (a : Nat) (o : Op), net.nodes[i]? = some nd →
      net.log[nd.pulled]? = some (a, o) → a ≠ i →
      nd.r.state = .list (Rga.empty.applyAllL (applied i)) ∧ LCausal (applied i ++ (toL o).toList) ∧
      (nd.r.execRemoteBase o).1.state = .list (Rga.empty.applyAllL (applied i ++ (toL o).toList)) := by
  intro net h
  obtain ⟨ap, I⟩ := inv_reach h
  refine ⟨fun i => den (ap i), ?_⟩
  intro i nd a o hi hl ha
  have N := I.node i nd hi
  obtain ⟨hlc, _, hent⟩ := I.deliver hi hl ha
  refine ⟨N.st, hlc, ?_⟩
  rw [exec_toL nd.r _ o N.st hent.body, applyAllL_app]

/-- every node's state is the remote application of a causal sequence, and that sequence is a permutation of what the
    operations it HAS (own buffer and consumed log entries of the others, `appliedOps`) denote -/
theorem lnet_nodes_applied_ops {cuid : Nat → String} {n : Nat} : ∀ net, Reach cuid n net →
    ∃ applied : Nat → List LOp, ∀ i nd, net.nodes[i]? = some nd →
      nd.r.state = .list (Rga.empty.applyAllL (applied i)) ∧ LCausal (applied i) ∧
      (applied i).Perm ((appliedOps net.log i nd).filterMap toL) := by
  intro net h
  obtain ⟨ap, I⟩ := inv_reach h
  exact ⟨_, appliedBy_of_net I.toNet id⟩

/-- every node's state is what the remote application of the operations it has applied gives, and that sequence is
    causal -/
theorem lnet_nodes_applied {cuid : Nat → String} {n : Nat} : ∀ net, Reach cuid n net →
    ∃ applied : Nat → List LOp, ∀ i nd, net.nodes[i]? = some nd →
      nd.r.state = .list (Rga.empty.applyAllL (applied i)) ∧ LCausal (applied i) := by
  intro net h
  obtain ⟨applied, H⟩ := lnet_nodes_applied_ops net h
  exact ⟨applied, fun i nd hi => ⟨(H i nd hi).1, (H i nd hi).2.1⟩⟩

/-- two nodes that have the same operations hold the SAME list state — same order, values, value
    timestamps, tombstones, Size -/
theorem lnet_same_operations_same_state {cuid : Nat → String} {n : Nat} : ∀ net, Reach cuid n net →
    ∀ i j (hi : i < net.nodes.length) (hj : j < net.nodes.length),
    SameOps net i j → net.nodes[i].r.state = net.nodes[j].r.state := by
  intro net h i j hi hj hsame
  obtain ⟨ap, I⟩ := inv_reach h
  exact (I.node i _ (List.getElem?_eq_getElem hi)).dt.state_of_perm (I.node j _ (List.getElem?_eq_getElem hj)).dt
    (perm_of_sameOps_net I.toNet hsame)

theorem sameOps_of_caught_up {cuid : Nat → String} {n : Nat} {net : Net} (h : Reach cuid n net) {i j : Nat}
    (hi : i < net.nodes.length) (hj : j < net.nodes.length)
    (pi : net.nodes[i].pushed = net.nodes[i].r.buffer.length) (li : net.nodes[i].pulled = net.log.length)
    (pj : net.nodes[j].pushed = net.nodes[j].r.buffer.length) (lj : net.nodes[j].pulled = net.log.length) :
    SameOps net i j :=
  let ⟨_, I⟩ := inv_reach h
  ⟨_, _, List.getElem?_eq_getElem hi, List.getElem?_eq_getElem hj,
    I.toNet.caught_up_perm (List.getElem?_eq_getElem hi) (List.getElem?_eq_getElem hj) pi li pj lj⟩

theorem sameOps_of_quiescent {cuid : Nat → String} {n : Nat} {net : Net} (h : Reach cuid n net) (hq : Quiescent net)
    {i j : Nat} (hi : i < net.nodes.length) (hj : j < net.nodes.length) : SameOps net i j :=
  sameOps_of_caught_up h hi hj (hq _ (List.getElem_mem hi)).1 (hq _ (List.getElem_mem hi)).2
    (hq _ (List.getElem_mem hj)).1 (hq _ (List.getElem_mem hj)).2

/-- at quiescence (every buffer completely pushed, every node has consumed the whole log) all nodes hold the
    same list state -/
theorem lnet_quiescent_converged {cuid : Nat → String} {n : Nat} : ∀ net, Reach cuid n net → Quiescent net →
    ∀ i j (hi : i < net.nodes.length) (hj : j < net.nodes.length),
    net.nodes[i].r.state = net.nodes[j].r.state := by
  intro net h hq i j hi hj
  exact lnet_same_operations_same_state net h i j hi hj (sameOps_of_quiescent h hq hi hj)

/-- in every reachable state the stored Size of every node is the number of its live elements -/
theorem lnet_size_is_live_count {cuid : Nat → String} {n : Nat} : ∀ net, Reach cuid n net →
    ∀ nd ∈ net.nodes, ∃ l, nd.r.state = .list l ∧ l.size = liveCount l.nodes ∧ l.ids.Nodup := by
  intro net h nd hnd
  obtain ⟨ap, I⟩ := inv_reach h
  obtain ⟨i, hi⟩ := List.mem_iff_getElem?.mp hnd
  have N := I.node i nd hi
  exact ⟨_, N.st, size_eq_liveCount _ N.lc, ids_nodup N.lc⟩

/-! ## non-vacuity: three nodes, nine calls, a complete run to quiescence

Node 0 inserts `[1, 2]`; everybody pulls it.  Then, CONCURRENTLY: nodes 1 and 2 both insert at position 1 (`"b"`, `"c"`:
same anchor — node 2's operation has the larger client identifier and goes first); node 0 deletes its element `2`; node 1
deletes the element `1` that node 0 inserted while node 2 updates it (the delete wins); node 0 issues an insert at position 5
(refused: out of range); node 1 issues an insert of ZERO values (accepted, queued, denotes nothing); node 2 issues a map call
(refused: wrong datatype).  Everything is pushed (node 2 first), every node pulls the whole log. -/
namespace Ex

def cu : Nat → String
  | 0 => "a" | 1 => "b" | _ => "c"

def acts : List Act := [
  .call 0 (.linsert 0 [.num 1, .num 2]),
  .push 0, .pull 0, .pull 1, .pull 2,
  .call 1 (.linsert 1 [.str "b"]),
  .call 2 (.linsert 1 [.str "c"]),
  .call 0 (.ldelete 1),
  .call 1 (.ldelete 0),
  .call 2 (.lupdate 0 [.str "u"]),
  .call 0 (.linsert 5 [.num 9]),
  .call 1 (.linsert 0 []),
  .call 2 (.mput "k" (.num 1)),
  .push 2, .push 1, .push 0, .push 1, .push 2, .push 1,
  .pull 0, .pull 0, .pull 0, .pull 0, .pull 0, .pull 0,
  .pull 1, .pull 1, .pull 1, .pull 1, .pull 1, .pull 1,
  .pull 2, .pull 2, .pull 2, .pull 2, .pull 2, .pull 2]

def finalNet : Net := ((Net.init cu 3).run acts).getD ⟨[], []⟩

theorem final_facts : ((Net.init cu 3).run acts).isSome = true ∧ finalNet.nodes.length = 3 ∧
    (∀ nd ∈ finalNet.nodes, nd.pushed = nd.r.buffer.length ∧ nd.pulled = finalNet.log.length) ∧
    (finalNet.log.length = 7 ∧ finalNet.log.map (·.1) = [0, 2, 1, 0, 1, 2, 1]) := by decide +kernel

theorem run_isSome : ((Net.init cu 3).run acts).isSome = true := final_facts.1

theorem run_final : (Net.init cu 3).run acts = some finalNet := ListAux.some_getD run_isSome

theorem cu_distinct : CuidsDistinct cu 3 := NetBook.distinct3 (by decide) (by decide) (by decide)

theorem reach_final : Reach cu 3 finalNet := reach_run acts (.init cu_distinct) run_final

theorem quiescent_final : Quiescent finalNet := final_facts.2.2.1

theorem len_final : finalNet.nodes.length = 3 := final_facts.2.1

/-- seven operations went through the log (the out-of-range insert and the wrong-datatype call queued nothing; the insert of
    zero values did) -/
example : finalNet.log.length = 7 ∧ finalNet.log.map (·.1) = [0, 2, 1, 0, 1, 2, 1] := final_facts.2.2.2

example : (finalNet.nodes[0]'(by rw [len_final]; decide)).r.state = (finalNet.nodes[1]'(by rw [len_final]; decide)).r.state :=
  lnet_quiescent_converged finalNet reach_final quiescent_final 0 1 _ _
example : (finalNet.nodes[1]'(by rw [len_final]; decide)).r.state = (finalNet.nodes[2]'(by rw [len_final]; decide)).r.state :=
  lnet_quiescent_converged finalNet reach_final quiescent_final 1 2 _ _

def a0 : Ts := ⟨0, 1, "a", 0⟩
def a1 : Ts := ⟨0, 1, "a", 1⟩

/-- … and the common state: order, values, value timestamps, tombstones, Size -/
def common : DState := .list
  ⟨[⟨a0, none, ⟨0, 3, "b", 0⟩⟩, ⟨⟨0, 2, "c", 0⟩, some (.str "c"), ⟨0, 2, "c", 0⟩⟩,
    ⟨⟨0, 2, "b", 0⟩, some (.str "b"), ⟨0, 2, "b", 0⟩⟩, ⟨a1, none, ⟨0, 2, "a", 0⟩⟩], 2⟩

/-- node 0 holds it (evaluation); the others hold what node 0 holds (convergence) -/
theorem final_state (i : Nat) (hi : i < finalNet.nodes.length) : finalNet.nodes[i].r.state = common :=
  (lnet_quiescent_converged finalNet reach_final quiescent_final i 0 hi (by rw [len_final]; decide)).trans (by rfl)

example : (finalNet.nodes[0]'(by rw [len_final]; decide)).r.state = common := final_state 0 (by rw [len_final]; decide)
example : (finalNet.nodes[1]'(by rw [len_final]; decide)).r.state = common := final_state 1 (by rw [len_final]; decide)
example : (finalNet.nodes[2]'(by rw [len_final]; decide)).r.state = common := final_state 2 (by rw [len_final]; decide)

example : ∃ ops : List LOp, common = .list (Rga.empty.applyAllL ops) ∧ LCausal ops := by
  obtain ⟨applied, h⟩ := lnet_nodes_applied finalNet reach_final
  obtain ⟨h1, h2⟩ := h 0 _ (List.getElem?_eq_getElem (by rw [len_final]; decide))
  exact ⟨applied 0, (final_state 0 (by rw [len_final]; decide)).symm.trans h1, h2⟩

/-- why `toL` (and so `den`) drops inserts of zero values: `LCausal` does not admit them (`InsCausal.nonempty`), while the
    model accepts the call `linsert pos []` and queues the operation (seventh log entry above) -/
example : ¬ LCausal [.ins Ts.oldest ⟨0, 4, "b", 0⟩ []] := fun h =>
  h.ins.nonempty ⟨Ts.oldest, ⟨0, 4, "b", 0⟩, []⟩ (by simp [insOps, toIns]) rfl
example : ((Replica.new .list "b" false).call (.linsert 0 [])).1.buffer =
    [⟨⟨0, 1, "b", 1⟩, .insert 0 (some Ts.oldest) []⟩] := by rfl

/-- a state in the middle of the run: nodes 0 and 1 have pushed everything and consumed the whole log, node 2 has not
    consumed anything of the second round -/
def midNet : Net := ((Net.init cu 3).run (acts.take 31)).getD ⟨[], []⟩
theorem mid_run : ((Net.init cu 3).run (acts.take 31)).isSome = true ∧ midNet.nodes.length = 3 := by decide +kernel
theorem mid_isSome : ((Net.init cu 3).run (acts.take 31)).isSome = true := mid_run.1
theorem run_mid : (Net.init cu 3).run (acts.take 31) = some midNet := ListAux.some_getD mid_isSome
theorem reach_mid : Reach cu 3 midNet := reach_run (acts.take 31) (.init cu_distinct) run_mid
theorem len_mid : midNet.nodes.length = 3 := mid_run.2

theorem mid_facts : ¬ (∀ nd ∈ midNet.nodes, nd.pushed = nd.r.buffer.length ∧ nd.pulled = midNet.log.length) ∧
    ∀ i (h : i < 2), (midNet.nodes[i]'(by rw [len_mid]; omega)).pushed =
        (midNet.nodes[i]'(by rw [len_mid]; omega)).r.buffer.length ∧
      (midNet.nodes[i]'(by rw [len_mid]; omega)).pulled = midNet.log.length := by decide +kernel

example : ¬ Quiescent midNet := mid_facts.1

example : (midNet.nodes[0]'(by rw [len_mid]; decide)).r.state = (midNet.nodes[1]'(by rw [len_mid]; decide)).r.state :=
  lnet_same_operations_same_state midNet reach_mid 0 1 _ _
    (sameOps_of_caught_up reach_mid _ _ (mid_facts.2 0 (by decide)).1 (mid_facts.2 0 (by decide)).2
      (mid_facts.2 1 (by decide)).1 (mid_facts.2 1 (by decide)).2)

/-- node 2 (which has not yet seen the concurrent insert of node 1, the deletes and the empty insert) differs -/
example : (midNet.nodes[2]'(by rw [len_mid]; decide)).r.state = .list
    ⟨[⟨a0, some (.str "u"), ⟨0, 3, "c", 0⟩⟩, ⟨⟨0, 2, "c", 0⟩, some (.str "c"), ⟨0, 2, "c", 0⟩⟩,
      ⟨a1, some (.num 2), a1⟩], 3⟩ := by rfl

end Ex

end Orda.LNet
