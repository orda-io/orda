/-
The REST patch endpoint on a key that does NOT exist yet (C19 / C11): the document is created, end to end through the store.
The creating temporary replica holds its snapshot operation in the buffer, so what is pushed is that operation followed by
the patch unit; the server's rebuild of the new record is a fresh replica receiving exactly these
(`patchDocument_creates_and_stores_target`).  The empty object on an absent key creates nothing.
`ExC`: the store of `RestP.Ex` and a new key.
-/
import Orda.Proofs.RestPatch
namespace Orda.RestP
open Orda

theorem objPut_ne_nil (k : String) (v : JVal) (l : List (String × JVal)) : objPut k v l ≠ [] := by
  cases l with
  | nil => simp [objPut]
  | cons x xs =>
    obtain ⟨k', v'⟩ := x
    unfold objPut
    split
    · simp
    · split <;> simp

theorem canonKvs_ne_nil {tgt : List (String × JVal)} (h : tgt ≠ []) : JVal.canonKvs tgt ≠ [] := by
  cases tgt with
  | nil => exact absurd rfl h
  | cons x xs =>
    obtain ⟨k, v⟩ := x
    unfold JVal.canonKvs
    exact objPut_ne_nil _ _ _

theorem empty_view : Doc.empty.view = .obj [] := by decide +kernel

theorem execRemoteBase_snap (q : Replica) (dq : Doc) (hq : q.state = .doc dq) (id : OpId) (d : Doc) :
    (q.execRemoteBase ⟨id, .snapshot (.doc d)⟩).1.state = .doc d ∧ (q.execRemoteBase ⟨id, .snapshot (.doc d)⟩).2 = none := by
  unfold Replica.execRemoteBase
  simp [hq, execRemote]

theorem find_upsert_fresh {st : Store} {d : DatatypeDoc} {n : Nat} {key : String} (hfresh : st.getDatatype d.duid = none)
    (hk : st.getDatatypeByKey n key = none) (h1 : d.colNum = n) (h2 : d.key = key) :
    (upsertDatatype d st.datatypes).find? (fun x => x.colNum = n ∧ x.key = key) = some d := by
  have hk' : st.datatypes.find? (fun x => decide (x.colNum = n ∧ x.key = key)) = none := hk
  rcases SL.upsert_split d st.datatypes with ⟨_, x, _, e, hx, _⟩ | ⟨_, hu⟩
  · exact absurd hx (SL.getDatatype_none hfresh x (e ▸ by simp))
  · rw [hu, List.find?_append, hk']
    simp [h1, h2]

/-- the EMPTY-object target on a key that does not exist: the script is empty, the endpoint answers OK with `{}` and stores
    NOTHING — no datatype record, no operation (the snapshot operation of the temporary replica is dropped), no notification,
    no snapshot job.  The document is NOT created. -/
theorem patchDocument_create_empty_target_stores_nothing
    (st : Store) (colName key tmpDuid tmpCuid : String) (col : CollectionDoc)
    (hc : st.getCollection colName = some col) (hd : st.getDatatypeByKey col.num key = none) :
    st.patchDocument colName key (.obj []) tmpDuid tmpCuid = (st, .ok (.obj []), [], []) := by
  have hnil : jsonDiff Doc.empty.view.canon (JVal.obj []).canon = [] := by decide +kernel
  rw [patchDocument_absent hc hd, run_nil (d0 := Doc.empty) rfl hnil, empty_view]

set_option linter.unusedVariables false in
/-- the key does not exist, the target is a non-empty object: the document is CREATED and STORED.
    Named hypotheses: `hlog` (C06), `hfresh` (the random datatype id is not in use), `hsnap` (no stored snapshot carries it —
    follows from `SN.SnapNoOrphan st`, see `snap_fresh`), `hne` (the target is not the empty object); `hk` is not used
    (`run_pushes` asks `hn` only).
    `n` is the number of stored operations (the snapshot operation + the patch unit) = the new end of the log. -/
theorem patchDocument_creates_and_stores_target
    (st : Store) (colName key tmpDuid tmpCuid : String) (col : CollectionDoc)
    (hc : st.getCollection colName = some col) (hd : st.getDatatypeByKey col.num key = none)
    (hlog : LogInv st) (hfresh : st.getDatatype tmpDuid = none) (hsnap : ∀ s ∈ st.snapshots, s.duid ≠ tmpDuid)
    (tgt : List (String × JVal)) (hn : (JVal.obj tgt).hasNull = false) (hk : DC.JKeysND (.obj tgt)) (hne : tgt ≠ []) :
    ∃ (st' : Store) (v : JVal) (n : Nat) (nd : List OpDoc) (r' : Replica),
      st.patchDocument colName key (.obj tgt) tmpDuid tmpCuid =
        (st', .ok v, [⟨col.name ++ "/" ++ key, patchApiCuid, tmpDuid, n⟩], [(tmpDuid, col.num)]) ∧
      v.canon = (JVal.obj tgt).canon ∧ 2 ≤ n ∧
      st'.operations = st.operations ++ nd ∧ nd.length = n ∧ (∀ o ∈ nd, o.duid = tmpDuid ∧ o.colNum = col.num) ∧
      nd.map (·.sseq) = List.range' 1 n ∧
      st'.getDatatypeByKey col.num key =
        some { duid := tmpDuid, key := key, colNum := col.num, typ := .document, sseqEnd := n } ∧
      st'.latest { duid := tmpDuid, key := key, colNum := col.num, typ := .document, sseqEnd := n } = some (r', n) ∧
      (∃ dd, r'.state = .doc dd ∧ dd.view.canon = (JVal.obj tgt).canon) := by
  have hs : (Replica.new .document tmpCuid true).state = .doc Doc.empty := rfl
  obtain ⟨I, hkeys⟩ := (DP.docInv_new tmpCuid true).of_state hs
  have hnil : jsonDiff Doc.empty.view.canon (JVal.obj tgt).canon ≠ [] := by
    intro h
    have hv := view_of_script_nil I hkeys tgt hn h
    rw [DC.canon_obj tgt, empty_view] at hv
    exact canonKvs_ne_nil hne (JVal.obj.inj hv).symm
  -- the server's fresh replica after the snapshot operation
  obtain ⟨e1, e2⟩ := execRemoteBase_snap
    ({ Replica.new .document "server" false with opId := ⟨0, 1, "server", 0⟩ } : Replica) Doc.empty rfl
    (OpId.new tmpCuid).next Doc.empty
  rcases hq0 : ({ Replica.new .document "server" false with opId := ⟨0, 1, "server", 0⟩ } : Replica).execRemoteBase
      ⟨(OpId.new tmpCuid).next, .snapshot (.doc Doc.empty)⟩ with ⟨q', w⟩
  rw [hq0] at e1 e2
  simp only at e1 e2
  subst e2
  obtain ⟨r2, new, d1, q1, hrun, h⟩ :=
    run_pushes st col (w := ⟨Replica.new .document tmpCuid true, key, tmpDuid, .dueToCreate⟩)
      (q := { q' with rbOps := q'.rbOps ++ [⟨(OpId.new tmpCuid).next, .snapshot (.doc Doc.empty)⟩] })
      hs e1 I hkeys DLR.histOK_empty tgt hn hnil
  -- the buffer of the patched replica: the snapshot operation, then the patch unit
  have hbuf : r2.buffer = ⟨(OpId.new tmpCuid).next, .snapshot (.doc Doc.empty)⟩ :: new := h.buffer
  have hseq1 : SeqFrom 1 r2.buffer := by
    rw [hbuf]
    exact seqFrom_cons rfl h.seq
  have hne2 : r2.buffer ≠ [] := by rw [hbuf]; simp
  have hlen : 2 ≤ r2.buffer.length := by
    rw [hbuf]
    cases new with
    | nil => exact absurd rfl h.ne
    | cons a tl => exact Nat.le_add_left 2 tl.length
  -- the rebuild of the new record: the fresh server replica receives the snapshot operation, then the unit
  have hrecvS : ({ Replica.new .document "server" false with opId := ⟨0, 1, "server", 0⟩ } : Replica).receive r2.buffer =
      (q1, .ok ()) := by
    rw [hbuf, receive_one _ _ _ (fun _ _ e => by cases e), hq0]
    exact h.recv
  have hops0 : st.opsOf tmpDuid = [] := SL.opsOf_nil_of_fresh hlog (SL.getDatatype_none hfresh)
  have hlat := latest_append (col := col) (d := { duid := tmpDuid, key := key, colNum := col.num, typ := .document })
    (by rw [hops0]; rfl) (latest_absent hops0 hsnap) r2.buffer
  rw [hrecvS] at hlat
  refine ⟨_, viewOf r2, 0 + r2.buffer.length, mkDocs tmpDuid col.num 0 r2.buffer, q1, ?_, h.viewOf,
    (Nat.zero_add _).symm ▸ hlen, rfl, ?_, SL.mkDocs_mem _ _ _ _, ?_, ?_, hlat, d1, h.qstate, h.view⟩
  · rw [patchDocument_absent hc hd, hrun,
      pushResult_accept st col ⟨Replica.new .document tmpCuid true, key, tmpDuid, .dueToCreate⟩ (hm := .inr rfl)
        (hpath := .create rfl hd hfresh) (hduid := rfl) (hadmin := rfl) (hseq := hseq1) (hne := hne2)
        (hcp := by rw [h.cp]; rfl)]
    show (pushed st col { duid := tmpDuid, key := key, colNum := col.num, typ := r2.typ } _, _) = _
    rw [h.typ]
    rfl
  · rw [SL.mkDocs_length, Nat.zero_add]
  · simp only [SL.mkDocs_sseq, Nat.zero_add]
  · exact find_upsert_fresh hfresh hd rfl rfl

/-- `hsnap` from "every stored snapshot belongs to a datatype document" -/
theorem snap_fresh {st : Store} {tmpDuid : String} (h : SN.SnapNoOrphan st) (hfresh : st.getDatatype tmpDuid = none) :
    ∀ s ∈ st.snapshots, s.duid ≠ tmpDuid := by
  intro s hs e
  obtain ⟨d, hd, hds⟩ := h s hs
  exact SL.getDatatype_none hfresh d hd (hds.trans e)

/-! ## non-vacuity: the store of `RestP.Ex` (collection "col", one document "k" with three stored operations), a NEW key
"n", a target with an array nested in an array and an object nested in an array -/

namespace ExC
open Ex

def tgtC : List (String × JVal) :=
  [("m", .arr [.arr [.num 1, .num 2], .obj [("y", .str "z")], .num 7]), ("b", .bool true)]

/-- what is read off `st3` for the new key "n" and the id "dX", evaluated by the kernel -/
theorem st3_factsC : (st3.getDatatypeByKey col.num "n").isNone = true ∧ (st3.getDatatype "dX").isNone = true ∧
    st3.snapshots.isEmpty = true := by decide +kernel

theorem hdC : st3.getDatatypeByKey col.num "n" = none := Option.isNone_iff_eq_none.1 st3_factsC.1
theorem hfreshC : st3.getDatatype "dX" = none := Option.isNone_iff_eq_none.1 st3_factsC.2.1
theorem hsnapC : ∀ s ∈ st3.snapshots, s.duid ≠ "dX" := by
  have h : st3.snapshots = [] := List.isEmpty_iff.1 st3_factsC.2.2
  intro s hs
  rw [h] at hs
  cases hs
theorem tgtC_nonull : (JVal.obj tgtC).hasNull = false := by decide +kernel
theorem tgtC_keys : DC.JKeysND (.obj tgtC) := by simp [tgtC, DC.JKeysND, DC.JKeysNDKvs, DC.JKeysNDList]
theorem tgtC_canon : (JVal.obj tgtC).canon =
    .obj [("b", .bool true), ("m", .arr [.arr [.num 1, .num 2], .obj [("y", .str "z")], .num 7])] := by decide +kernel

/-- `patchDocument_creates_and_stores_target` instantiated, all hypotheses discharged, the value written out -/
example : ∃ (st' : Store) (v : JVal) (n : Nat) (nd : List OpDoc) (r' : Replica),
      st3.patchDocument "col" "n" (.obj tgtC) "dX" "tmp" =
        (st', .ok v, [⟨col.name ++ "/" ++ "n", patchApiCuid, "dX", n⟩], [("dX", col.num)]) ∧
      v.canon = .obj [("b", .bool true), ("m", .arr [.arr [.num 1, .num 2], .obj [("y", .str "z")], .num 7])] ∧ 2 ≤ n ∧
      st'.operations = st3.operations ++ nd ∧ nd.length = n ∧ (∀ o ∈ nd, o.duid = "dX" ∧ o.colNum = col.num) ∧
      nd.map (·.sseq) = List.range' 1 n ∧
      st'.getDatatypeByKey col.num "n" =
        some { duid := "dX", key := "n", colNum := col.num, typ := .document, sseqEnd := n } ∧
      st'.latest { duid := "dX", key := "n", colNum := col.num, typ := .document, sseqEnd := n } = some (r', n) ∧
      (∃ dd, r'.state = .doc dd ∧
        dd.view.canon = .obj [("b", .bool true), ("m", .arr [.arr [.num 1, .num 2], .obj [("y", .str "z")], .num 7])]) :=
  tgtC_canon ▸ patchDocument_creates_and_stores_target st3 "col" "n" "dX" "tmp" col hc hdC hlog hfreshC hsnapC
    tgtC tgtC_nonull tgtC_keys (by simp [tgtC])

/-- the result written out (kernel-evaluated): the answer, ONE notification on topic "col/n" with the new end of the log 4
    (snapshot operation + a transaction header + two operations), ONE snapshot job -/
example : (st3.patchDocument "col" "n" (.obj tgtC) "dX" "tmp").2 =
    (.ok (.obj [("b", .bool true), ("m", .arr [.arr [.num 1, .num 2], .obj [("y", .str "z")], .num 7])]),
     [⟨"col/n", patchApiCuid, "dX", 4⟩], [("dX", 1)]) := by decide +kernel

/-- the stored operations afterwards: the three of document "k", then four under the new id from sseq 1, cseq 1 -/
example : (st3.patchDocument "col" "n" (.obj tgtC) "dX" "tmp").1.operations.map (fun o => (o.sseq, o.duid, o.op.id.seq)) =
    [(1, "duid1", 1), (2, "duid1", 2), (3, "duid1", 3), (1, "dX", 1), (2, "dX", 2), (3, "dX", 3), (4, "dX", 4)] := by
  decide +kernel

/-- the empty-object target on the new key: answered `{}`, nothing stored -/
example : st3.patchDocument "col" "n" (.obj []) "dX" "tmp" = (st3, .ok (.obj []), [], []) :=
  patchDocument_create_empty_target_stores_nothing st3 "col" "n" "dX" "tmp" col hc hdC

end ExC

end Orda.RestP
