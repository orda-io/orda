/-
The abstract part of the RGA convergence argument, over any linear order of keys: the path order `plt`
(ancestors first, siblings by DESCENDING key) is a strict total order, and the insert step of RGA,
"skip while the next node is newer, then insert" (`skipIns1` of the model), keeps a list of tree nodes
sorted by it (`TInv`, `skip_inv`); `chain_inv` does the same for a batch, each node the child of the
previous one (`skipInsMany`).
-/
import Mathlib.Order.Defs.LinearOrder
import Orda.Proofs.ListAux

namespace Orda.PathOrder

variable {K : Type} [LinearOrder K]

def plt : List K → List K → Prop
  | [], [] => False
  | [], _ :: _ => True
  | _ :: _, [] => False
  | a :: as, b :: bs => b < a ∨ (a = b ∧ plt as bs)

theorem plt_cons {a b : K} {as bs : List K} :
    plt (a :: as) (b :: bs) ↔ b < a ∨ (a = b ∧ plt as bs) := Iff.rfl

theorem not_plt_nil : ∀ p : List K, ¬ plt p []
  | [] => id
  | _ :: _ => id

theorem plt_irrefl : ∀ p : List K, ¬ plt p p
  | [] => id
  | a :: as => fun h => h.elim (lt_irrefl a) fun h => plt_irrefl as h.2

theorem plt_trans {p q r : List K} (h1 : plt p q) (h2 : plt q r) : plt p r := by
  induction p generalizing q r with
  | nil =>
    cases r with
    | nil => exact (not_plt_nil _ h2).elim
    | cons c cs => trivial
  | cons a as ih =>
    cases q with
    | nil => exact (not_plt_nil _ h1).elim
    | cons b bs =>
      cases r with
      | nil => exact (not_plt_nil _ h2).elim
      | cons c cs =>
        rcases plt_cons.mp h1 with ba | ⟨rfl, t1⟩
        · rcases plt_cons.mp h2 with cb | ⟨rfl, _⟩
          · exact Or.inl (lt_trans cb ba)
          · exact Or.inl ba
        · rcases plt_cons.mp h2 with cb | ⟨rfl, t2⟩
          · exact Or.inl cb
          · exact Or.inr ⟨rfl, ih t1 t2⟩

theorem plt_tri (p q : List K) : plt p q ∨ p = q ∨ plt q p := by
  induction p generalizing q with
  | nil =>
    cases q with
    | nil => exact Or.inr (Or.inl rfl)
    | cons b bs => exact Or.inl trivial
  | cons a as ih =>
    cases q with
    | nil => exact Or.inr (Or.inr trivial)
    | cons b bs =>
      rcases lt_trichotomy a b with h | rfl | h
      · exact Or.inr (Or.inr (Or.inl h))
      · rcases ih bs with h | rfl | h
        · exact Or.inl (Or.inr ⟨rfl, h⟩)
        · exact Or.inr (Or.inl rfl)
        · exact Or.inr (Or.inr (Or.inr ⟨rfl, h⟩))
      · exact Or.inl (Or.inl h)

theorem plt_asymm {p q : List K} (h1 : plt p q) (h2 : plt q p) : False :=
  plt_irrefl p (plt_trans h1 h2)

theorem plt_append_left (p x y : List K) : plt (p ++ x) (p ++ y) ↔ plt x y := by
  induction p with
  | nil => exact Iff.rfl
  | cons a as ih =>
    rw [List.cons_append, List.cons_append, plt_cons, ← ih]
    exact ⟨fun h => h.elim (fun h => (lt_irrefl a h).elim) And.right, fun h => Or.inr ⟨rfl, h⟩⟩

theorem plt_prefix (p : List K) (k : K) (r : List K) : plt p (p ++ k :: r) := by
  have := (plt_append_left p [] (k :: r)).mpr trivial
  rwa [List.append_nil] at this

theorem not_plt_append (p r : List K) : ¬ plt (p ++ r) p := fun h => by
  rw [← List.append_nil p, List.append_assoc, plt_append_left] at h
  exact not_plt_nil _ h

theorem plt_cases {p q : List K} (h : plt p q) :
    (∃ k r, q = p ++ k :: r) ∨
    (∃ c u v r1 r2, p = c ++ u :: r1 ∧ q = c ++ v :: r2 ∧ v < u) := by
  induction p generalizing q with
  | nil =>
    cases q with
    | nil => exact (not_plt_nil _ h).elim
    | cons b bs => exact Or.inl ⟨b, bs, rfl⟩
  | cons a as ih =>
    cases q with
    | nil => exact (not_plt_nil _ h).elim
    | cons b bs =>
      rcases plt_cons.mp h with ba | ⟨rfl, t⟩
      · exact Or.inr ⟨[], a, b, as, bs, rfl, rfl, ba⟩
      · rcases ih t with ⟨k, r, rfl⟩ | ⟨c, u, v, r1, r2, rfl, rfl, hv⟩
        · exact Or.inl ⟨k, r, rfl⟩
        · exact Or.inr ⟨a :: c, u, v, r1, r2, rfl, rfl, hv⟩

theorem plt_sibling (p : List K) {u v : K} (h : v < u) : plt (p ++ [u]) (p ++ [v]) :=
  (plt_append_left p [u] [v]).mpr (Or.inl h)

theorem plt_below_child {ap q : List K} {t : K} (h1 : plt ap q) (h2 : plt q (ap ++ [t])) :
    ∃ k r, q = ap ++ k :: r ∧ t < k := by
  rcases plt_cases h1 with ⟨k, r, rfl⟩ | ⟨c, u, v, r1, r2, rfl, rfl, hvu⟩
  · refine ⟨k, r, rfl, ?_⟩
    rcases plt_cons.mp ((plt_append_left ap _ _).mp h2) with h | ⟨_, h⟩
    · exact h
    · exact (not_plt_nil _ h).elim
  · rw [List.append_assoc, plt_append_left] at h2
    rcases plt_cons.mp h2 with h | ⟨rfl, _⟩
    · exact (lt_asymm h hvu).elim
    · exact (lt_irrefl _ hvu).elim

/-- `c ++ [v]` is an older child of `ap`, or the older sibling where `q` leaves `ap` -/
theorem plt_above_child {ap q : List K} {t : K} (hk : ∀ k ∈ ap, k ≤ t) (h1 : plt ap q)
    (h2 : plt (ap ++ [t]) q) : ∃ c v r, q = c ++ v :: r ∧ v ≤ t ∧ plt ap (c ++ [v]) := by
  rcases plt_cases h1 with ⟨k, r, rfl⟩ | ⟨c, u, v, r1, r2, rfl, rfl, hvu⟩
  · refine ⟨ap, k, r, rfl, ?_, plt_prefix ap k []⟩
    rcases plt_cons.mp ((plt_append_left ap _ _).mp h2) with h | ⟨rfl, _⟩
    · exact le_of_lt h
    · exact le_refl _
  · exact ⟨c, v, r2, rfl, le_of_lt (lt_of_lt_of_le hvu (hk u (by simp))),
      (plt_append_left c _ _).mpr (Or.inl hvu)⟩

structure Nd (K : Type) where
  pre : List K
  key : K

def Nd.path (n : Nd K) : List K := n.pre ++ [n.key]

def nlt (x y : Nd K) : Prop := plt x.path y.path

/-! ## the forest invariant

Why one comparison per node suffices.  The loop stands behind the anchor and compares only KEYS with the new key `t`; the
order it has to respect compares PATHS.  Keys ascend along a path (`mono`: a node is newer than its ancestors, which is
causality), and siblings stand newest first.  So the whole subtree of a sibling NEWER than `t` is newer than `t` and is skipped
node by node, and the first node older than `t` is in no such subtree: the new node belongs directly before it.  With
siblings oldest first the subtree of an OLDER sibling would hold newer keys and the loop would stop inside it.
In `skip_inv`: no skipped node lies beyond the new one (`hbefore`), for its path would leave the anchor, or the anchor's path,
at a key `v ≤ t` (`plt_above_child`, where `hk` — `mono` of the new node — bounds the keys of the anchor's path); the node
at `v` is in the list (`closed`), older than `t`, behind the anchor and not behind the skipped node, so the loop would have
stopped there.  The first node left behind lies beyond the new one (`hafter`), for otherwise it stands below a sibling newer
than `t` (`plt_below_child`) and is newer than `t` itself (`mem_path_le`, its own `mono`). -/

structure TInv (l : List (Nd K)) : Prop where
  -- the list is the forest in depth-first order, siblings by descending key
  sorted : l.Pairwise nlt
  -- the parent of every node that has one is in the list
  closed : ∀ x ∈ l, x.pre ≠ [] → ∃ y ∈ l, y.path = x.pre
  -- a node is newer than each of its ancestors
  mono : ∀ x ∈ l, ∀ k ∈ x.pre, k ≤ x.key

theorem TInv.nil : TInv ([] : List (Nd K)) :=
  ⟨List.Pairwise.nil, fun _ h => (nomatch h), fun _ h => (nomatch h)⟩

theorem mem_path_le {l : List (Nd K)} (h : TInv l) {x : Nd K} (hx : x ∈ l) {k : K}
    (hk : k ∈ x.path) : k ≤ x.key := by
  rcases List.mem_append.mp hk with hk | hk
  · exact h.mono x hx k hk
  · exact le_of_eq (List.mem_singleton.mp hk)

omit [LinearOrder K] in
theorem key_of_path {x : Nd K} {p : List K} {k : K} (h : x.path = p ++ [k]) : x.key = k :=
  List.singleton_inj.mp (List.append_inj' h rfl).2

theorem closed_prefix {l : List (Nd K)} (h : TInv l) (r c : List K) (v : K) (x : Nd K)
    (hx : x ∈ l) (e : x.path = c ++ v :: r) : ∃ y ∈ l, y.path = c ++ [v] := by
  induction r generalizing c v with
  | nil => exact ⟨x, hx, e⟩
  | cons w r ih =>
    obtain ⟨y', hy', e'⟩ := ih (c ++ [v]) w (by rw [e, List.append_cons])
    have hp : y'.pre = c ++ [v] := (List.append_inj' e' rfl).1
    obtain ⟨y, hy, e''⟩ := h.closed y' hy' (by rw [hp]; exact List.concat_ne_nil _ _)
    exact ⟨y, hy, e''.trans hp⟩

/-- `ap` is the path of the anchor (`[]` for the head), `pre` the nodes up to and including the anchor,
    `sk` the nodes skipped, `rest` those left behind the new node -/
theorem skip_inv {pre sk rest : List (Nd K)} (h : TInv (pre ++ (sk ++ rest))) (ap : List K) (t : K)
    (hpre : ∀ x ∈ pre, x.path = ap ∨ plt x.path ap)
    (hpost : ∀ x ∈ sk ++ rest, plt ap x.path)
    (hap : ap ≠ [] → ∃ y ∈ pre ++ (sk ++ rest), y.path = ap)
    (hk : ∀ k ∈ ap, k ≤ t)
    (hfresh : ∀ x ∈ pre ++ (sk ++ rest), x.key ≠ t)
    (hsk : ∀ x ∈ sk, t < x.key) (hrest : ∀ y, rest.head? = some y → y.key < t) :
    TInv (pre ++ (sk ++ ⟨ap, t⟩ :: rest)) := by
  obtain ⟨hpreS, hpostS, hcross⟩ := List.pairwise_append.mp h.sorted
  obtain ⟨hskS, hrestS, hcross'⟩ := List.pairwise_append.mp hpostS
  have hpostl : ∀ {y}, y ∈ sk ++ rest → y ∈ pre ++ (sk ++ rest) := List.mem_append_right pre
  have hne : ∀ x ∈ sk ++ rest, x.path ≠ ap ++ [t] := fun x hx e => hfresh x (hpostl hx) (key_of_path e)
  -- a skipped node cannot lie beyond the new one: the node at `c ++ [v]` would be in the list
  -- (closure), beyond the anchor, not after `x`, and older than `t`
  have hbefore : ∀ x ∈ sk, plt x.path (ap ++ [t]) := fun x hx => by
    have hx' := List.mem_append_left rest hx
    rcases plt_tri x.path (ap ++ [t]) with h' | h' | h'
    · exact h'
    · exact absurd h' (hne x hx')
    · obtain ⟨c, v, r, e, hvt, hav⟩ := plt_above_child hk (hpost x hx') h'
      obtain ⟨y, hy, hyp⟩ := closed_prefix h r c v x (hpostl hx') e
      have hyt : y.key < t := lt_of_le_of_ne (key_of_path hyp ▸ hvt) (hfresh y hy)
      have hxy : ¬ plt x.path y.path := by
        rw [e, hyp, List.append_cons]
        exact not_plt_append _ _
      rcases List.mem_append.mp hy with hy | hy
      · exact ((hpre y hy).elim (fun e => plt_irrefl _ (e ▸ hyp ▸ hav))
          (plt_asymm (hyp ▸ hav))).elim
      · rcases List.mem_append.mp hy with hy | hy
        · exact absurd (hsk y hy) (lt_asymm hyt)
        · exact absurd (hcross' x hx y hy) hxy
  have hafter : ∀ y ∈ rest, plt (ap ++ [t]) y.path := by
    cases rest with
    | nil => exact fun _ hy => nomatch hy
    | cons y ys =>
      have hy := List.mem_append_right sk (List.mem_cons_self (a := y) (l := ys))
      have hy0 : plt (ap ++ [t]) y.path := by
        rcases plt_tri y.path (ap ++ [t]) with h' | h' | h'
        · obtain ⟨k, r, e, htk⟩ := plt_below_child (hpost y hy) h'
          exact absurd (lt_of_lt_of_le htk (mem_path_le h (hpostl hy)
            (e ▸ List.mem_append_right _ List.mem_cons_self))) (lt_asymm (hrest y rfl))
        · exact absurd h' (hne y hy)
        · exact h'
      intro z hz
      rcases List.mem_cons.mp hz with rfl | hz
      · exact hy0
      · exact plt_trans hy0 ((List.pairwise_cons.mp hrestS).1 z hz)
  have hmem : ∀ x, x ∈ pre ++ (sk ++ ⟨ap, t⟩ :: rest) ↔ x = ⟨ap, t⟩ ∨ x ∈ pre ++ (sk ++ rest) :=
    fun x => by rw [← List.append_assoc, ListAux.mem_middle, List.append_assoc]
  refine ⟨List.pairwise_append.mpr ⟨hpreS, List.pairwise_append.mpr
    ⟨hskS, List.pairwise_cons.mpr ⟨hafter, hrestS⟩, fun x hx y hy => ?_⟩, fun x hx y hy => ?_⟩,
    fun x hx hxpre => ?_, fun x hx k hkx => ?_⟩
  · rcases List.mem_cons.mp hy with rfl | hy
    · exact hbefore x hx
    · exact hcross' x hx y hy
  · rcases ListAux.mem_middle.mp hy with rfl | hy
    · rcases hpre x hx with h1 | h1
      · exact h1 ▸ plt_prefix ap t []
      · exact plt_trans h1 (plt_prefix ap t [])
    · exact hcross x hx y hy
  · obtain ⟨y, hy, hyp⟩ : ∃ y ∈ pre ++ (sk ++ rest), y.path = x.pre := by
      rcases (hmem x).mp hx with rfl | hx'
      · exact hap hxpre
      · exact h.closed x hx' hxpre
    exact ⟨y, (hmem y).mpr (Or.inr hy), hyp⟩
  · rcases (hmem x).mp hx with rfl | hx'
    · exact hk k hkx
    · exact h.mono x hx' k hkx

theorem insAfter_inv {pre sk rest : List (Nd K)} {a : Nd K} (h : TInv (pre ++ a :: (sk ++ rest)))
    (t : K) (hk : a.key ≤ t) (hfresh : ∀ x ∈ pre ++ a :: (sk ++ rest), x.key ≠ t)
    (hsk : ∀ x ∈ sk, t < x.key) (hrest : ∀ y, rest.head? = some y → y.key < t) :
    TInv (pre ++ a :: (sk ++ ⟨a.path, t⟩ :: rest)) := by
  obtain ⟨_, hapost, hcross⟩ := List.pairwise_append.mp h.sorted
  have ha : a ∈ pre ++ [a] ++ (sk ++ rest) := by simp
  rw [List.append_cons] at h hfresh ⊢
  refine skip_inv h a.path t (fun x hx => ?_) (List.pairwise_cons.mp hapost).1 (fun _ => ⟨a, ha, rfl⟩)
    (fun k hk' => le_trans (mem_path_le h ha hk') hk) hfresh hsk hrest
  rcases List.mem_append.mp hx with hx | hx
  · exact Or.inr (hcross x hx a List.mem_cons_self)
  · exact Or.inl (List.mem_singleton.mp hx ▸ rfl)

theorem insHead_inv {sk rest : List (Nd K)} (h : TInv (sk ++ rest)) (t : K)
    (hfresh : ∀ x ∈ sk ++ rest, x.key ≠ t)
    (hsk : ∀ x ∈ sk, t < x.key) (hrest : ∀ y, rest.head? = some y → y.key < t) :
    TInv (sk ++ ⟨[], t⟩ :: rest) :=
  skip_inv (pre := []) h [] t (fun _ hx => nomatch hx)
    (fun x _ => by
      cases hx : x.path with
      | nil => exact (List.concat_ne_nil _ _ hx).elim
      | cons a as => trivial)
    (fun h => (h rfl).elim) (fun _ hk => nomatch hk) hfresh hsk hrest

/-! ## batches: each further node is the child of the previous one -/

def chainNodes : List K → List K → List (Nd K)
  | _, [] => []
  | ap, t :: ts => ⟨ap, t⟩ :: chainNodes (ap ++ [t]) ts

omit [LinearOrder K] in
theorem chainNodes_keys : ∀ (ap ts : List K), (chainNodes ap ts).map Nd.key = ts
  | _, [] => rfl
  | ap, t :: ts => congrArg (t :: ·) (chainNodes_keys (ap ++ [t]) ts)

theorem chain_inv (ts : List K) (pre : List (Nd K)) (a : Nd K) (rest : List (Nd K))
    (h : TInv (pre ++ a :: rest)) (hhead : ∀ y, rest.head? = some y → y.key < a.key)
    (hasc : (a.key :: ts).Pairwise (· < ·))
    (hfresh : ∀ x ∈ pre ++ rest, ∀ t ∈ ts, x.key ≠ t) :
    TInv (pre ++ a :: (chainNodes a.path ts ++ rest)) := by
  induction ts generalizing pre a with
  | nil => exact h
  | cons t ts ih =>
    obtain ⟨hat, hasc'⟩ := List.pairwise_cons.mp hasc
    have hat : a.key < t := hat t List.mem_cons_self
    have hhead' : ∀ y, rest.head? = some y → y.key < t := fun y hy => lt_trans (hhead y hy) hat
    have h1 := insAfter_inv (sk := []) h t (le_of_lt hat) (fun x hx => by
      rcases ListAux.mem_middle.mp hx with rfl | hx
      · exact ne_of_lt hat
      · exact hfresh x hx t List.mem_cons_self) (fun _ hx => nomatch hx) hhead'
    rw [List.nil_append, List.append_cons] at h1
    have := ih (pre ++ [a]) ⟨a.path, t⟩ h1 hhead' hasc' fun x hx t' ht' => by
      rw [List.append_assoc] at hx
      rcases ListAux.mem_middle.mp hx with rfl | hx
      · exact ne_of_lt (lt_trans hat ((List.pairwise_cons.mp hasc').1 t' ht'))
      · exact hfresh x hx t' (List.mem_cons_of_mem _ ht')
    rwa [← List.append_cons] at this

end Orda.PathOrder
