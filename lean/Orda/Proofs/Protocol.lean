/-
The push-pull protocol of one datatype as a labelled transition system over the MODEL'S OWN functions
`pushOps` (server: which pushed operations are accepted) and `newForeignOps` (client: which pulled
operations are applied), under an adversarial network: any request ever sent may be served any number
of times, any response ever produced may be delivered any number of times, in any order, or never.
The invariant `PInv` (J1–J3 per client, plus what every request and response ever sent stands for) is
inductive (`proto_inv`); everything else is read off it.
-/
import Orda.Proofs.ServerLog
import Orda.Proofs.ListAux
namespace Orda

/-! ## The protocol LTS -/

structure PClient where
  cuid : String
  buf : List Op            -- own operations issued so far
  cp : CheckPoint          -- (last server seq seen, last own seq acknowledged)
  applied : List Op        -- foreign operations applied, in application order

structure PReq where
  i : Nat                  -- index of the sending client
  s : Nat                  -- the sseq of the client's checkpoint when the request was made
  ops : List Op            -- its unacknowledged operations at that time

structure PResp where
  i : Nat
  ops : List Op            -- pulled operations
  cp : CheckPoint          -- (end of log after the push, the client's cseq after the push)

structure PSys where
  clients : List PClient
  log : List Op                          -- the server log; position + 1 = sseq
  cps : List (String × CheckPoint)       -- the server's record per client id
  reqs : List PReq                       -- requests ever sent
  resps : List PResp                     -- responses ever produced

/-- the server's record for client id `u` (`cp0` of `processPack`: ⟨0,0⟩ when absent) -/
def PSys.recOf (S : PSys) (u : String) : CheckPoint := (alFind u S.cps).getD ⟨0, 0⟩

/-- the datatype id / collection number under which the single modelled datatype is stored -/
def pDuid : String := "d"
def pCol : Nat := 1

/-- what a client does with a response (`WDt.applyPack`, success branch): apply `newForeignOps`, merge
    the checkpoint with `max` -/
def PClient.receive (cl : PClient) (p : PResp) : PClient :=
  { cl with applied := cl.applied ++ newForeignOps cl.cuid cl.cp p.cp p.ops,
            cp := ⟨max cl.cp.sseq p.cp.sseq, max cl.cp.cseq p.cp.cseq⟩ }

/-- the protocol's server as a FUNCTION of the request: what serving the operations `ops` of client `u`, whose checkpoint
    was at sseq `s`, does to (log, records), and what it answers — nothing, if `pushOps` refuses.  The constructors `serve` and
    `refuse` of `PStep`, of `JStep` (Proofs/ProtocolJoin; `serveSub` is it on no operations) and of `PNet.RStep` (Proofs/ProtoNet)
    spell out its two outcomes: together they say "the server's part of the state becomes `absServe …`" (`of_absServe` of each). -/
def absServe (log : List Op) (cps : List (String × CheckPoint)) (u : String) (s : Nat) (ops : List Op) :
    List Op × List (String × CheckPoint) × Option (List Op × CheckPoint) :=
  match pushOps pDuid pCol ⟨log.length, ((alFind u cps).getD ⟨0, 0⟩).cseq⟩ ops [] with
  | .ok (cp2, docs) => (log ++ docs.map (·.op), alSet u cp2 cps, some (log.drop s, cp2))
  | .error _ => (log, cps, none)

inductive PStep : PSys → PSys → Prop
  /-- client `i` issues an operation: its id, next seq; any body, any lamport/era -/
  | localOp (S : PSys) (i : Nat) (cl : PClient) (o : Op) :
      S.clients[i]? = some cl → o.id.cuid = cl.cuid → o.id.seq = cl.buf.length + 1 →
      PStep S { S with clients := S.clients.set i { cl with buf := cl.buf ++ [o] } }
  /-- client `i` sends its current request -/
  | send (S : PSys) (i : Nat) (cl : PClient) :
      S.clients[i]? = some cl →
      PStep S { S with reqs := S.reqs ++ [⟨i, cl.cp.sseq, cl.buf.drop cl.cp.cseq⟩] }
  /-- the server serves any request ever sent (`processPack`, success shape): `pushOps` runs from
      `cp1 = ⟨end of log, recorded cseq⟩`; the accepted operations are appended; the pulled operations
      are the OLD log after the request's sseq; the answer's and the recorded checkpoint is `pushOps`'
      result `cp2` = (end of log after the push, cseq after the push) (`cp3` of `processPack` equals it
      on a gapless log, `SL.cp3_eq`) -/
  | serve (S : PSys) (r : PReq) (cl : PClient) (cp2 : CheckPoint) (docs : List OpDoc) :
      r ∈ S.reqs → S.clients[r.i]? = some cl →
      pushOps pDuid pCol ⟨S.log.length, (S.recOf cl.cuid).cseq⟩ r.ops [] = .ok (cp2, docs) →
      PStep S { S with log := S.log ++ docs.map (·.op),
                       cps := alSet cl.cuid cp2 S.cps,
                       resps := S.resps ++ [⟨r.i, S.log.drop r.s, cp2⟩] }
  /-- `pushOps` refuses: nothing changes -/
  | refuse (S : PSys) (r : PReq) (cl : PClient) (code : Nat) :
      r ∈ S.reqs → S.clients[r.i]? = some cl →
      pushOps pDuid pCol ⟨S.log.length, (S.recOf cl.cuid).cseq⟩ r.ops [] = .error code →
      PStep S S
  /-- any response ever produced is delivered to its client -/
  | deliver (S : PSys) (p : PResp) (cl : PClient) :
      p ∈ S.resps → S.clients[p.i]? = some cl →
      PStep S { S with clients := S.clients.set p.i (cl.receive p) }

def PSys.init (cuids : List String) : PSys :=
  { clients := cuids.map (fun u => ⟨u, [], ⟨0, 0⟩, []⟩), log := [], cps := [], reqs := [], resps := [] }

/-- states reachable from the initial state with distinct client ids -/
inductive PReach (cuids : List String) : PSys → Prop
  | init : cuids.Nodup → PReach cuids (PSys.init cuids)
  | step {S S' : PSys} : PReach cuids S → PStep S S' → PReach cuids S'

theorem PStep.of_absServe (S : PSys) (r : PReq) (cl : PClient) (hr : r ∈ S.reqs) (hi : S.clients[r.i]? = some cl) :
    PStep S { S with log := (absServe S.log S.cps cl.cuid r.s r.ops).1,
                     cps := (absServe S.log S.cps cl.cuid r.s r.ops).2.1,
                     resps := S.resps ++
                       ((absServe S.log S.cps cl.cuid r.s r.ops).2.2.map (fun a => (⟨r.i, a.1, a.2⟩ : PResp))).toList } := by
  unfold absServe
  cases hp : pushOps pDuid pCol ⟨S.log.length, ((alFind cl.cuid S.cps).getD ⟨0, 0⟩).cseq⟩ r.ops [] with
  | ok res => exact PStep.serve S r cl res.1 res.2 hr hi hp
  | error code =>
    show PStep S { S with resps := S.resps ++ [] }
    rw [List.append_nil]
    exact PStep.refuse S r cl code hr hi hp

namespace PR

/-! ## List facts -/

/-- the operations of client `u` in `l` -/
def own (u : String) (l : List Op) : List Op := l.filter (fun o => o.id.cuid = u)
/-- the operations of the other clients in `l` (the very filter of `newForeignOps`) -/
def frn (u : String) (l : List Op) : List Op := l.filter (fun o => o.id.cuid ≠ u)

@[simp] theorem own_nil (u : String) : own u [] = [] := rfl
@[simp] theorem frn_nil (u : String) : frn u [] = [] := rfl
theorem own_append (u : String) (a b : List Op) : own u (a ++ b) = own u a ++ own u b := by simp [own]
theorem frn_append (u : String) (a b : List Op) : frn u (a ++ b) = frn u a ++ frn u b := by simp [frn]

theorem frn_eq_not (u : String) (l : List Op) : frn u l = l.filter (fun o => !(decide (o.id.cuid = u))) := by
  unfold frn; congr 1; funext o; simp

theorem own_frn_perm (u : String) (l : List Op) : (own u l ++ frn u l).Perm l :=
  frn_eq_not u l ▸ List.filter_append_perm _ l

theorem own_frn_length (u : String) (l : List Op) : (own u l).length + (frn u l).length = l.length :=
  List.length_append ▸ (own_frn_perm u l).length_eq

theorem own_all {u : String} {l : List Op} (h : ∀ o ∈ l, o.id.cuid = u) : own u l = l :=
  List.filter_eq_self.2 (fun o ho => decide_eq_true (h o ho))
theorem frn_all {u : String} {l : List Op} (h : ∀ o ∈ l, o.id.cuid ≠ u) : frn u l = l :=
  List.filter_eq_self.2 (fun o ho => decide_eq_true (h o ho))
theorem frn_of_all_own {u : String} {l : List Op} (h : ∀ o ∈ l, o.id.cuid = u) : frn u l = [] :=
  List.filter_eq_nil_iff.2 (fun o ho => by simp [h o ho])
theorem own_of_all_frn {u : String} {l : List Op} (h : ∀ o ∈ l, o.id.cuid ≠ u) : own u l = [] :=
  List.filter_eq_nil_iff.2 (fun o ho => by simp [h o ho])

theorem take_append_drop_take {α : Type} (l : List α) (a b : Nat) :
    l.take a ++ (l.take b).drop a = l.take (max a b) := by
  rcases Nat.le_total b a with h | h
  · rw [List.drop_eq_nil_of_le (Nat.le_trans (List.length_take_le _ _) h), List.append_nil, Nat.max_eq_left h]
  · have : l.take a = (l.take b).take a := by rw [List.take_take, Nat.min_eq_left h]
    rw [this, List.take_append_drop, Nat.max_eq_right h]

/-! ## `newForeignOps` against a log -/

/-- `newForeignOps` keeps the last `k` foreign operations, `k` the difference of the checkpoints' distances
    `(new.sseq - cur.sseq) - (new.cseq - cur.cseq)` in `Int` (none if that is negative): `hk` has it as a
    truncated difference in `Nat` -/
theorem nfo_eq (u : String) (cur new : CheckPoint) (ops A B : List Op) (hF : frn u ops = A ++ B)
    (hk : new.sseq + cur.cseq - (cur.sseq + new.cseq) = B.length) :
    newForeignOps u cur new ops = B := by
  have e : ((new.sseq : Int) - cur.sseq) - ((new.cseq : Int) - cur.cseq) =
      ((new.sseq + cur.cseq : Nat) : Int) - ((cur.sseq + new.cseq : Nat) : Int) := by
    rw [Int.natCast_add, Int.natCast_add]; omega
  have hk' : (if ((new.sseq : Int) - cur.sseq) - ((new.cseq : Int) - cur.cseq) < 0 then 0
      else (((new.sseq : Int) - cur.sseq) - ((new.cseq : Int) - cur.cseq)).toNat) = B.length := by
    rw [e, Int.toNat_sub, hk]
    split
    · next h => exact (Nat.sub_eq_zero_of_le (Int.ofNat_le.1 (Int.le_of_lt (Int.lt_of_sub_neg h)))).symm.trans hk
    · rfl
  show (frn u ops).drop ((frn u ops).length - _) = B
  rw [hk', hF, List.length_append, Nat.add_sub_cancel]
  exact List.drop_left

theorem own_take_count (u : String) (L : List Op) {a b : Nat} (h : a ≤ b) (hb : b ≤ L.length) :
    b + (own u (L.take a)).length =
      a + (own u (L.take b)).length + (frn u ((L.take b).drop a)).length := by
  have h1 := own_frn_length u ((L.take b).drop a)
  have h2 : own u (L.take b) = own u (L.take a) ++ own u ((L.take b).drop a) := by
    rw [← own_append, take_append_drop_take, Nat.max_eq_right h]
  rw [List.length_drop, List.length_take, Nat.min_eq_left hb] at h1
  rw [h2, List.length_append]
  omega

theorem own_take_mono (u : String) (L : List Op) {a b : Nat} (h : a ≤ b) :
    (own u (L.take a)).length ≤ (own u (L.take b)).length := by
  rw [← Nat.max_eq_right h, ← take_append_drop_take, own_append, List.length_append]
  exact Nat.le_add_right _ _

theorem own_take_max (u : String) (L : List Op) (s s' : Nat) :
    (own u (L.take (max s s'))).length = max (own u (L.take s)).length (own u (L.take s')).length := by
  rcases Nat.le_total s s' with h | h
  · rw [Nat.max_eq_right h, Nat.max_eq_right (own_take_mono u L h)]
  · rw [Nat.max_eq_left h, Nat.max_eq_left (own_take_mono u L h)]

/-- for a client at checkpoint `(s, c)` of log `L` and a response standing for the log
    prefix of length `s'` (pulled operations = positions `(sr, e]`, `sr ≤ s`, positions `(e, s']` own),
    the operations applied are exactly the foreign ones in positions `(s, s']` — none if `s' ≤ s`. -/
theorem pull_count (u : String) (L : List Op) (s c s' c' e sr : Nat)
    (hs : s ≤ L.length) (hs' : s' ≤ L.length) (he : e ≤ s') (hsr : sr ≤ s)
    (hc : (own u (L.take s)).length = c) (hc' : (own u (L.take s')).length = c')
    (hown : ∀ o ∈ (L.take s').drop e, o.id.cuid = u) :
    newForeignOps u ⟨s, c⟩ ⟨s', c'⟩ ((L.take e).drop sr) = frn u ((L.take s').drop s) := by
  rcases Nat.lt_or_ge s' s with hlt | hle
  · -- a stale response: its checkpoint is behind the client's
    have h := own_take_count u L (Nat.le_of_lt hlt) hs
    rw [hc, hc'] at h
    rw [List.drop_eq_nil_of_le (Nat.le_trans (List.length_take_le _ _) (Nat.le_of_lt hlt))]
    exact nfo_eq u _ _ _ _ [] (List.append_nil _).symm (Nat.sub_eq_zero_of_le (h ▸ Nat.le_add_right _ _))
  · -- the foreign operations pulled are those up to `s` followed by those wanted; beyond `e` all are own
    have h := own_take_count u L hle hs'
    rw [hc, hc'] at h
    have hB : frn u ((L.take s').drop s) = frn u ((L.take e).drop s) := by
      conv => lhs; rw [← List.take_append_drop e (L.take s'), List.take_take, Nat.min_eq_left he]
      rw [List.drop_append, frn_append,
        frn_of_all_own (fun o ho => hown o (List.mem_of_mem_drop ho)), List.append_nil]
    have hsplit : (L.take e).drop sr = ((L.take e).drop sr).take (s - sr) ++ (L.take e).drop s := by
      have := (List.take_append_drop (s - sr) ((L.take e).drop sr)).symm
      rwa [List.drop_drop, Nat.add_sub_cancel' hsr] at this
    refine nfo_eq u _ _ _ (frn u (((L.take e).drop sr).take (s - sr))) _ ?_ (Nat.sub_eq_of_eq_add (h.trans (Nat.add_comm _ _)))
    rw [hB, ← frn_append, ← hsplit]

/-! ## The invariant -/

/-- per client, against log `L` and the server's recorded cseq `rc` for it -/
structure CInv (L : List Op) (rc : Nat) (cl : PClient) : Prop where
  /-- the k-th own operation carries seq k and the client's id -/
  bufOk : ∀ k (h : k < cl.buf.length), cl.buf[k].id.seq = k + 1 ∧ cl.buf[k].id.cuid = cl.cuid
  /-- J1: the own operations in the log are exactly the acknowledged prefix of the buffer, in order -/
  j1 : own cl.cuid L = cl.buf.take rc
  rcLe : rc ≤ cl.buf.length
  /-- J2: the checkpoint is a position of the log, and its cseq counts the own operations up to there -/
  sLe : cl.cp.sseq ≤ L.length
  j2 : (own cl.cuid (L.take cl.cp.sseq)).length = cl.cp.cseq
  /-- J3: exactly once, in log order -/
  j3 : cl.applied = frn cl.cuid (L.take cl.cp.sseq)

/-- a request ever sent is a segment of the client's buffer starting no later than the server's record -/
def ReqInv (rc : Nat) (cl : PClient) (r : PReq) : Prop :=
  ∃ n c0, n ≤ cl.buf.length ∧ c0 ≤ rc ∧ r.ops = (cl.buf.take n).drop c0 ∧ r.s ≤ cl.cp.sseq

/-- a response ever produced: made when the log had length `e`, pulled from `sr` (not beyond what the
    client has seen by now), positions `(e, s']` are the client's operations stored by that very
    request, and `c'` counts the client's operations up to `s'` -/
def RespInv (L : List Op) (cl : PClient) (p : PResp) : Prop :=
  ∃ e sr, p.ops = (L.take e).drop sr ∧ sr ≤ cl.cp.sseq ∧ e ≤ p.cp.sseq ∧ p.cp.sseq ≤ L.length ∧
    (∀ o ∈ (L.take p.cp.sseq).drop e, o.id.cuid = cl.cuid) ∧
    p.cp.cseq = (own cl.cuid (L.take p.cp.sseq)).length

end PR
open PR

structure PInv (S : PSys) : Prop where
  nodup : (S.clients.map (·.cuid)).Nodup
  cli : ∀ (i : Nat) (cl : PClient), S.clients[i]? = some cl → CInv S.log (S.recOf cl.cuid).cseq cl
  logCuid : ∀ o ∈ S.log, ∃ (i : Nat) (cl : PClient), S.clients[i]? = some cl ∧ cl.cuid = o.id.cuid
  recS : ∀ u, (S.recOf u).sseq ≤ S.log.length
  req : ∀ r ∈ S.reqs, ∀ cl, S.clients[r.i]? = some cl → ReqInv (S.recOf cl.cuid).cseq cl r
  resp : ∀ p ∈ S.resps, ∀ cl, S.clients[p.i]? = some cl → RespInv S.log cl p

namespace PR

theorem CInv.cLe {L : List Op} {rc : Nat} {cl : PClient} (h : CInv L rc cl) : cl.cp.cseq ≤ rc := by
  have h1 := own_take_mono cl.cuid L h.sLe
  rw [List.take_length, h.j1, h.j2] at h1
  exact Nat.le_trans h1 (List.length_take_le _ _)

theorem mem_buf_cuid {L : List Op} {rc : Nat} {cl : PClient} (h : CInv L rc cl) {o : Op} (ho : o ∈ cl.buf) :
    o.id.cuid = cl.cuid := by
  obtain ⟨k, hk, rfl⟩ := List.mem_iff_getElem.1 ho
  exact (h.bufOk k hk).2

theorem CInv.append {L : List Op} {rc : Nat} {cl : PClient} (h : CInv L rc cl) (acc : List Op) (rc' : Nat)
    (hj1 : own cl.cuid (L ++ acc) = cl.buf.take rc') (hle : rc' ≤ cl.buf.length) : CInv (L ++ acc) rc' cl := by
  have ht : (L ++ acc).take cl.cp.sseq = L.take cl.cp.sseq := List.take_append_of_le_length h.sLe
  refine ⟨h.bufOk, hj1, hle, ?_, ?_, ?_⟩
  · rw [List.length_append]; exact Nat.le_trans h.sLe (Nat.le_add_right _ _)
  · rw [ht]; exact h.j2
  · rw [ht]; exact h.j3

theorem CInv.append_other {L : List Op} {rc : Nat} {cl : PClient} (h : CInv L rc cl) (acc : List Op)
    (hacc : ∀ o ∈ acc, o.id.cuid ≠ cl.cuid) : CInv (L ++ acc) rc cl := by
  apply h.append acc rc _ h.rcLe
  rw [own_append, own_of_all_frn hacc, List.append_nil]; exact h.j1

theorem CInv.append_own {L : List Op} {rc : Nat} {cl : PClient} (h : CInv L rc cl) (n : Nat)
    (hn : n ≤ cl.buf.length) : CInv (L ++ (cl.buf.take n).drop rc) (max rc n) cl := by
  apply h.append _ _ _ (Nat.max_le.2 ⟨h.rcLe, hn⟩)
  rw [own_append, h.j1, own_all, take_append_drop_take]
  intro o ho
  exact mem_buf_cuid h (List.mem_of_mem_take (List.mem_of_mem_drop ho))

theorem CInv.localOp {L : List Op} {rc : Nat} {cl : PClient} (h : CInv L rc cl) (o : Op)
    (hu : o.id.cuid = cl.cuid) (hs : o.id.seq = cl.buf.length + 1) :
    CInv L rc { cl with buf := cl.buf ++ [o] } := by
  refine ⟨?_, ?_, ?_, h.sLe, h.j2, h.j3⟩
  · intro k hk
    show (cl.buf ++ [o])[k].id.seq = k + 1 ∧ (cl.buf ++ [o])[k].id.cuid = cl.cuid
    rw [List.getElem_append]
    split
    · next hlt => exact h.bufOk k hlt
    · next hge =>
      rw [List.length_append, List.length_singleton] at hk
      rw [List.getElem_singleton, Nat.le_antisymm (Nat.le_of_lt_succ hk) (Nat.le_of_not_lt hge)]
      exact ⟨hs, hu⟩
  · show own cl.cuid L = (cl.buf ++ [o]).take rc
    rw [List.take_append_of_le_length h.rcLe]; exact h.j1
  · show rc ≤ (cl.buf ++ [o]).length
    rw [List.length_append]; exact Nat.le_trans h.rcLe (Nat.le_add_right _ _)

theorem CInv.receive {L : List Op} {rc : Nat} {cl : PClient} (h : CInv L rc cl) {p : PResp}
    (hp : RespInv L cl p) : CInv L rc (cl.receive p) := by
  obtain ⟨e, sr, h1, h2, h3, h4, h5, h6⟩ := hp
  refine ⟨h.bufOk, h.j1, h.rcLe, Nat.max_le.2 ⟨h.sLe, h4⟩, ?_, ?_⟩
  · show (own cl.cuid (L.take (max cl.cp.sseq p.cp.sseq))).length = max cl.cp.cseq p.cp.cseq
    rw [h6, ← h.j2]; exact own_take_max ..
  · show cl.applied ++ newForeignOps cl.cuid ⟨cl.cp.sseq, cl.cp.cseq⟩ ⟨p.cp.sseq, p.cp.cseq⟩ p.ops =
      frn cl.cuid (L.take (max cl.cp.sseq p.cp.sseq))
    rw [h.j3, h1, pull_count cl.cuid L _ _ _ _ e sr h.sLe h4 h3 h2 h.j2 h6.symm h5, ← frn_append,
      take_append_drop_take]

theorem RespInv.append {L : List Op} {cl : PClient} {p : PResp} (h : RespInv L cl p) (acc : List Op) :
    RespInv (L ++ acc) cl p := by
  obtain ⟨e, sr, h1, h2, h3, h4, h5, h6⟩ := h
  have t1 : (L ++ acc).take e = L.take e := List.take_append_of_le_length (Nat.le_trans h3 h4)
  have t2 : (L ++ acc).take p.cp.sseq = L.take p.cp.sseq := List.take_append_of_le_length h4
  refine ⟨e, sr, t1 ▸ h1, h2, h3, ?_, t2 ▸ h5, t2 ▸ h6⟩
  rw [List.length_append]; exact Nat.le_trans h4 (Nat.le_add_right _ _)

theorem RespInv.mono {L : List Op} {cl cl' : PClient} {p : PResp} (h : RespInv L cl p)
    (hu : cl'.cuid = cl.cuid) (hs : cl.cp.sseq ≤ cl'.cp.sseq) : RespInv L cl' p := by
  obtain ⟨e, sr, h1, h2, h3, h4, h5, h6⟩ := h
  exact ⟨e, sr, h1, Nat.le_trans h2 hs, h3, h4, hu ▸ h5, hu ▸ h6⟩

theorem ReqInv.mono {rc rc' : Nat} {cl cl' : PClient} {r : PReq} (h : ReqInv rc cl r) (hrc : rc ≤ rc')
    (x : List Op) (hb : cl'.buf = cl.buf ++ x) (hs : cl.cp.sseq ≤ cl'.cp.sseq) : ReqInv rc' cl' r := by
  obtain ⟨n, c0, h1, h2, h3, h4⟩ := h
  refine ⟨n, c0, ?_, Nat.le_trans h2 hrc, ?_, Nat.le_trans h4 hs⟩
  · rw [hb, List.length_append]; exact Nat.le_trans h1 (Nat.le_add_right _ _)
  · rw [hb, List.take_append_of_le_length h1]; exact h3

/-! ## Client indices -/

theorem idx_unique {l : List PClient} (hnd : (l.map (·.cuid)).Nodup) {i j : Nat} {a b : PClient}
    (hi : l[i]? = some a) (hj : l[j]? = some b) (hab : a.cuid = b.cuid) : i = j := by
  have hlt : i < (l.map (·.cuid)).length := by rw [List.length_map]; exact (List.getElem?_eq_some_iff.1 hi).1
  refine (List.getElem?_inj hlt hnd).1 ?_
  rw [List.getElem?_map, List.getElem?_map, hi, hj]; exact congrArg some hab

theorem set_rel {α : Type} {R : α → α → Prop} (hrefl : ∀ a, R a a) {l : List α} {i : Nat} {a a' : α}
    (hi : l[i]? = some a) (hR : R a a') {j : Nat} {b : α} (hj : l[j]? = some b) :
    ∃ b', (l.set i a')[j]? = some b' ∧ R b b' := by
  by_cases hij : i = j
  · subst hij
    rw [hi] at hj; cases hj
    exact ⟨a', List.getElem?_set_self (List.getElem?_eq_some_iff.1 hi).1, hR⟩
  · exact ⟨b, (List.getElem?_set_ne hij).trans hj, hrefl b⟩

theorem map_set_same {α β : Type} {l : List α} {i : Nat} {a b : α} (f : α → β) (hi : l[i]? = some a) (h : f b = f a) :
    (l.set i b).map f = l.map f := by
  rw [List.map_set, h]; exact ListAux.set_self (by rw [List.getElem?_map, hi]; rfl)

/-! ## Preservation -/

theorem recOf_alSet_self (S : PSys) (u : String) (cp : CheckPoint) (l : List Op) (rs : List PResp) :
    ({ S with log := l, cps := alSet u cp S.cps, resps := rs } : PSys).recOf u = cp := by
  simp [PSys.recOf, alFind_alSet_self]

theorem recOf_alSet_ne (S : PSys) {u v : String} (cp : CheckPoint) (l : List Op) (rs : List PResp) (h : v ≠ u) :
    ({ S with log := l, cps := alSet u cp S.cps, resps := rs } : PSys).recOf v = S.recOf v := by
  simp [PSys.recOf, alFind_alSet_ne _ _ h]

theorem rec_mono (cps : List (String × CheckPoint)) (u v : String) (cp : CheckPoint)
    (h1 : ((alFind u cps).getD ⟨0, 0⟩).sseq ≤ cp.sseq) (h2 : ((alFind u cps).getD ⟨0, 0⟩).cseq ≤ cp.cseq) :
    ((alFind v cps).getD ⟨0, 0⟩).sseq ≤ ((alFind v (alSet u cp cps)).getD ⟨0, 0⟩).sseq ∧
    ((alFind v cps).getD ⟨0, 0⟩).cseq ≤ ((alFind v (alSet u cp cps)).getD ⟨0, 0⟩).cseq := by
  by_cases hv : v = u
  · subst hv; rw [alFind_alSet_self]; exact ⟨h1, h2⟩
  · rw [alFind_alSet_ne _ _ hv]; exact ⟨Nat.le_refl _, Nat.le_refl _⟩

theorem pinv_set {S : PSys} (h : PInv S) {i : Nat} {cl cl' : PClient} (hi : S.clients[i]? = some cl)
    (hu : cl'.cuid = cl.cuid) (hc : CInv S.log (S.recOf cl.cuid).cseq cl')
    (hreq : ∀ r ∈ S.reqs, r.i = i → ReqInv (S.recOf cl.cuid).cseq cl r → ReqInv (S.recOf cl.cuid).cseq cl' r)
    (hs : cl.cp.sseq ≤ cl'.cp.sseq) :
    PInv { S with clients := S.clients.set i cl' } := by
  refine ⟨?_, ?_, ?_, h.recS, ?_, ?_⟩
  · show ((S.clients.set i cl').map (·.cuid)).Nodup
    rw [map_set_same _ hi hu]; exact h.nodup
  · intro j b hj
    show CInv S.log (S.recOf b.cuid).cseq b
    rcases ListAux.getElem?_set_some hj with ⟨_, rfl⟩ | ⟨_, hj'⟩
    · rw [hu]; exact hc
    · exact h.cli j b hj'
  · intro o ho
    obtain ⟨j, b, hj, hbo⟩ := h.logCuid o ho
    obtain ⟨b', hj', hb'⟩ := set_rel (R := fun a b : PClient => b.cuid = a.cuid) (fun _ => rfl) hi hu hj
    exact ⟨j, b', hj', hb'.trans hbo⟩
  · intro r hr b hj
    show ReqInv (S.recOf b.cuid).cseq b r
    rcases ListAux.getElem?_set_some hj with ⟨hri, rfl⟩ | ⟨_, hj'⟩
    · rw [hu]; exact hreq r hr hri (h.req r hr cl (hri ▸ hi))
    · exact h.req r hr b hj'
  · intro p hp b hj
    show RespInv S.log b p
    rcases ListAux.getElem?_set_some hj with ⟨hpi, rfl⟩ | ⟨_, hj'⟩
    · exact (h.resp p hp cl (hpi ▸ hi)).mono hu hs
    · exact h.resp p hp b hj'

theorem pinv_localOp {S : PSys} (h : PInv S) {i : Nat} {cl : PClient} {o : Op} (hi : S.clients[i]? = some cl)
    (hu : o.id.cuid = cl.cuid) (hs : o.id.seq = cl.buf.length + 1) :
    PInv { S with clients := S.clients.set i { cl with buf := cl.buf ++ [o] } } :=
  pinv_set h hi rfl ((h.cli i cl hi).localOp o hu hs)
    (fun _ _ _ hr => hr.mono (Nat.le_refl _) [o] rfl (Nat.le_refl _)) (Nat.le_refl _)

theorem pinv_deliver {S : PSys} (h : PInv S) {p : PResp} {cl : PClient} (hp : p ∈ S.resps)
    (hi : S.clients[p.i]? = some cl) :
    PInv { S with clients := S.clients.set p.i (cl.receive p) } :=
  pinv_set h hi rfl ((h.cli p.i cl hi).receive (h.resp p hp cl hi))
    (fun _ _ _ hr => hr.mono (Nat.le_refl _) [] (List.append_nil _).symm (Nat.le_max_left _ _)) (Nat.le_max_left _ _)

theorem pinv_addReq {S : PSys} (h : PInv S) {cl : PClient} (r : PReq) (hi : S.clients[r.i]? = some cl)
    (hr : ReqInv (S.recOf cl.cuid).cseq cl r) : PInv { S with reqs := S.reqs ++ [r] } := by
  refine ⟨h.nodup, h.cli, h.logCuid, h.recS, ?_, h.resp⟩
  intro r' hr' b hj
  show ReqInv (S.recOf b.cuid).cseq b r'
  rcases List.mem_append.1 hr' with hr' | hr'
  · exact h.req r' hr' b hj
  · cases List.mem_singleton.1 hr'
    cases hi.symm.trans hj
    exact hr

theorem pinv_send {S : PSys} (h : PInv S) {i : Nat} {cl : PClient} (hi : S.clients[i]? = some cl) :
    PInv { S with reqs := S.reqs ++ [⟨i, cl.cp.sseq, cl.buf.drop cl.cp.cseq⟩] } :=
  pinv_addReq h ⟨i, cl.cp.sseq, cl.buf.drop cl.cp.cseq⟩ hi
    ⟨cl.buf.length, cl.cp.cseq, Nat.le_refl _, (h.cli i cl hi).cLe, by rw [List.take_length], Nat.le_refl _⟩

theorem serve_ok {L : List Op} {rc : Nat} {cl : PClient} {r : PReq} (hc : CInv L rc cl) (hr : ReqInv rc cl r)
    (s0 : Nat) :
    ∃ cp2 docs, pushOps pDuid pCol ⟨s0, rc⟩ r.ops [] = .ok (cp2, docs) ∧
      ∃ n, n ≤ cl.buf.length ∧ docs.map (·.op) = (cl.buf.take n).drop rc ∧ cp2.cseq = max rc n ∧
        cp2.sseq = s0 + (docs.map (·.op)).length ∧ r.s ≤ cl.cp.sseq := by
  obtain ⟨n, c0, h1, h2, h3, h4⟩ := hr
  have hseq : ∀ k (hk : k < ((cl.buf.take n).drop c0).length), ((cl.buf.take n).drop c0)[k].id.seq = c0 + k + 1 := by
    intro k hk
    rw [List.length_drop, List.length_take] at hk
    rw [List.getElem_drop, List.getElem_take]
    exact (hc.bufOk (c0 + k) (Nat.lt_of_lt_of_le (Nat.add_lt_of_lt_sub' hk) (Nat.min_le_right _ _))).1
  -- `pushOps` = what it accepts (`SL.accepted`: on consecutive numbers from a record `rc ≥ c0`, all beyond the record), numbered
  refine ⟨⟨s0 + ((cl.buf.take n).drop rc).length, rc + ((cl.buf.take n).drop rc).length⟩,
    RestP.mkDocs pDuid pCol s0 ((cl.buf.take n).drop rc), ?_, n, h1, SL.mkDocs_ops .., ?_, by rw [SL.mkDocs_ops], h4⟩
  · rw [h3, SL.pushOps_eq, SL.accepted_consec _ c0 rc hseq h2, List.drop_drop, Nat.add_sub_cancel' h2]; rfl
  · show rc + ((cl.buf.take n).drop rc).length = max rc n
    rw [List.length_drop, List.length_take, Nat.min_eq_left h1]; omega

theorem serve_facts {L : List Op} {rc : Nat} {cl : PClient} {r : PReq} (hc : CInv L rc cl) (hr : ReqInv rc cl r)
    {s0 : Nat} {cp2 : CheckPoint} {docs : List OpDoc}
    (hp : pushOps pDuid pCol ⟨s0, rc⟩ r.ops [] = .ok (cp2, docs)) :
    ∃ n, n ≤ cl.buf.length ∧ docs.map (·.op) = (cl.buf.take n).drop rc ∧ cp2.cseq = max rc n ∧
      cp2.sseq = s0 + (docs.map (·.op)).length ∧ r.s ≤ cl.cp.sseq := by
  obtain ⟨cp2', docs', e, h⟩ := serve_ok hc hr s0
  rw [e] at hp; cases hp; exact h

theorem pinv_serve {S : PSys} (h : PInv S) {r : PReq} {cl : PClient} {cp2 : CheckPoint} {docs : List OpDoc}
    (hr : r ∈ S.reqs) (hi : S.clients[r.i]? = some cl)
    (hp : pushOps pDuid pCol ⟨S.log.length, (S.recOf cl.cuid).cseq⟩ r.ops [] = .ok (cp2, docs)) :
    PInv { S with log := S.log ++ docs.map (·.op), cps := alSet cl.cuid cp2 S.cps,
                  resps := S.resps ++ [⟨r.i, S.log.drop r.s, cp2⟩] } := by
  have hc := h.cli r.i cl hi
  obtain ⟨n, hn, hacc, hcs, hss, hrs⟩ := serve_facts hc (h.req r hr cl hi) hp
  have hown : ∀ o ∈ docs.map (·.op), o.id.cuid = cl.cuid := fun o ho =>
    mem_buf_cuid hc (List.mem_of_mem_take (List.mem_of_mem_drop (hacc ▸ ho)))
  have hcl : CInv (S.log ++ docs.map (·.op)) cp2.cseq cl := by
    rw [hacc, hcs]; exact hc.append_own n hn
  have hlen : cp2.sseq = (S.log ++ docs.map (·.op)).length := by rw [hss, List.length_append]
  have htake : (S.log ++ docs.map (·.op)).take cp2.sseq = S.log ++ docs.map (·.op) := by
    rw [hlen, List.take_length]
  refine ⟨h.nodup, ?_, ?_, ?_, ?_, ?_⟩
  · intro j b hj
    have hj' : S.clients[j]? = some b := hj
    by_cases hb : b.cuid = cl.cuid
    · cases idx_unique h.nodup hj' hi hb
      cases hi.symm.trans hj'
      rw [recOf_alSet_self]; exact hcl
    · rw [recOf_alSet_ne _ _ _ _ hb]
      exact (h.cli j b hj').append_other _ (fun o ho e => hb ((hown o ho).symm.trans e).symm)
  · intro o ho
    rcases List.mem_append.1 ho with ho | ho
    · exact h.logCuid o ho
    · exact ⟨r.i, cl, hi, (hown o ho).symm⟩
  · intro v
    show _ ≤ (S.log ++ docs.map (·.op)).length
    by_cases hv : v = cl.cuid
    · subst hv; rw [recOf_alSet_self]; exact Nat.le_of_eq hlen
    · rw [recOf_alSet_ne _ _ _ _ hv, List.length_append]; exact Nat.le_trans (h.recS v) (Nat.le_add_right _ _)
  · intro r' hr' b hj
    have hold := h.req r' hr' b hj
    by_cases hb : b.cuid = cl.cuid
    · rw [hb, recOf_alSet_self]
      rw [hb] at hold
      exact hold.mono (hcs ▸ Nat.le_max_left _ _) [] (List.append_nil _).symm (Nat.le_refl _)
    · rw [recOf_alSet_ne _ _ _ _ hb]; exact hold
  · intro p hp' b hj
    show RespInv (S.log ++ docs.map (·.op)) b p
    rcases List.mem_append.1 hp' with hp' | hp'
    · exact (h.resp p hp' b hj).append _
    · cases List.mem_singleton.1 hp'
      cases hi.symm.trans hj
      refine ⟨S.log.length, r.s, ?_, hrs, hss ▸ Nat.le_add_right _ _, Nat.le_of_eq hlen, ?_, ?_⟩
      · show S.log.drop r.s = _
        rw [List.take_left]
      · show ∀ o ∈ ((S.log ++ docs.map (·.op)).take cp2.sseq).drop S.log.length, _
        rw [htake, List.drop_left]; exact hown
      · show cp2.cseq = (own cl.cuid ((S.log ++ docs.map (·.op)).take cp2.sseq)).length
        rw [htake, hcl.j1, List.length_take, Nat.min_eq_left hcl.rcLe]

theorem pinv_step {S S' : PSys} (h : PInv S) (st : PStep S S') : PInv S' := by
  cases st with
  | localOp i cl o hi hu hs => exact pinv_localOp h hi hu hs
  | send i cl hi => exact pinv_send h hi
  | serve r cl cp2 docs hr hi hp => exact pinv_serve h hr hi hp
  | refuse r cl code hr hi hp => exact h
  | deliver p cl hp hi => exact pinv_deliver h hp hi

theorem pinv_init {cuids : List String} (hnd : cuids.Nodup) : PInv (PSys.init cuids) := by
  refine ⟨?_, ?_, fun o ho => absurd ho List.not_mem_nil, fun u => Nat.le_refl _,
    fun r hr => absurd hr List.not_mem_nil, fun p hp => absurd hp List.not_mem_nil⟩
  · show ((cuids.map (fun u => (⟨u, [], ⟨0, 0⟩, []⟩ : PClient))).map (·.cuid)).Nodup
    rw [List.map_map]; exact (List.map_id cuids).symm ▸ hnd
  · intro i cl hi
    obtain ⟨u, _, rfl⟩ := List.mem_map.1 (List.mem_of_getElem? hi)
    exact ⟨fun k hk => absurd hk (Nat.not_lt_zero k), rfl, Nat.le_refl _, Nat.le_refl _, rfl, rfl⟩

end PR
open PR

/-- **The protocol invariant** holds in every reachable state, under any interleaving, duplication,
    loss and delay of requests and responses. -/
theorem proto_inv {cuids : List String} {S : PSys} (h : PReach cuids S) : PInv S := by
  induction h with
  | init hnd => exact pinv_init hnd
  | step _ st ih => exact pinv_step ih st

/-- J1–J3 spelled out for every client of a reachable state -/
theorem proto_inv_client {cuids : List String} {S : PSys} (h : PReach cuids S) : ∀ cl ∈ S.clients,
    -- J1
    S.log.filter (fun o => o.id.cuid = cl.cuid) = cl.buf.take (S.recOf cl.cuid).cseq ∧
    -- J2
    cl.cp.sseq ≤ S.log.length ∧
    ((S.log.take cl.cp.sseq).filter (fun o => o.id.cuid = cl.cuid)).length = cl.cp.cseq ∧
    cl.cp.cseq ≤ (S.recOf cl.cuid).cseq ∧ (S.recOf cl.cuid).cseq ≤ cl.buf.length ∧
    -- J3: exactly once, in log order
    cl.applied = (S.log.take cl.cp.sseq).filter (fun o => o.id.cuid ≠ cl.cuid) := by
  intro cl hcl
  obtain ⟨i, hi⟩ := List.mem_iff_getElem?.1 hcl
  have c := (proto_inv h).cli i cl hi
  exact ⟨c.j1, c.sLe, c.j2, c.cLe, c.rcLe, c.j3⟩

/-- liveness side of the retry: in a reachable state the server never refuses a request ever sent -/
theorem never_refused {cuids : List String} {S : PSys} (h : PReach cuids S) {r : PReq} {cl : PClient}
    (hr : r ∈ S.reqs) (hi : S.clients[r.i]? = some cl) :
    ∃ cp2 docs, pushOps pDuid pCol ⟨S.log.length, (S.recOf cl.cuid).cseq⟩ r.ops [] = .ok (cp2, docs) :=
  let ⟨cp2, docs, e, _⟩ := serve_ok ((proto_inv h).cli r.i cl hi) ((proto_inv h).req r hr cl hi) S.log.length
  ⟨cp2, docs, e⟩

/-! ## The log holds exactly the issued-and-accepted operations, each once -/

theorem PInv.mem_log {S : PSys} (inv : PInv S) (o : Op) :
    o ∈ S.log ↔ ∃ cl ∈ S.clients, o ∈ cl.buf.take (S.recOf cl.cuid).cseq := by
  constructor
  · intro ho
    obtain ⟨i, cl, hi, hu⟩ := inv.logCuid o ho
    refine ⟨cl, List.mem_of_getElem? hi, ?_⟩
    rw [← (inv.cli i cl hi).j1]
    exact List.mem_filter.2 ⟨ho, decide_eq_true hu.symm⟩
  · rintro ⟨cl, hcl, ho⟩
    obtain ⟨i, hi⟩ := List.mem_iff_getElem?.1 hcl
    rw [← (inv.cli i cl hi).j1] at ho
    exact (List.mem_filter.1 ho).1

theorem log_is_exactly_issued {cuids : List String} {S : PSys} (h : PReach cuids S) :
    ∀ o, o ∈ S.log ↔ ∃ cl ∈ S.clients, o ∈ cl.buf.take (S.recOf cl.cuid).cseq :=
  (proto_inv h).mem_log

namespace PR

theorem nodup_of_classes (l : List Op) (h : ∀ u, ((own u l).map (·.id.seq)).Nodup) :
    (l.map (fun o => (o.id.cuid, o.id.seq))).Nodup := by
  induction l with
  | nil => exact List.nodup_nil
  | cons x xs ih =>
    rw [List.map_cons, List.nodup_cons]
    constructor
    · intro hm
      obtain ⟨y, hy, hyx⟩ := List.mem_map.1 hm
      rw [Prod.mk.injEq] at hyx
      have := h x.id.cuid
      rw [own, List.filter_cons_of_pos (by exact decide_eq_true rfl), List.map_cons, List.nodup_cons] at this
      exact this.1 (List.mem_map.2 ⟨y, List.mem_filter.2 ⟨hy, decide_eq_true hyx.1⟩, hyx.2⟩)
    · refine ih (fun u => ?_)
      have := h u
      rw [own, List.filter_cons] at this
      split at this
      · exact (List.nodup_cons.1 this).2
      · exact this

theorem seq_nodup {L : List Op} {rc : Nat} {cl : PClient} (h : CInv L rc cl) :
    ((cl.buf.take rc).map (·.id.seq)).Nodup := by
  rw [List.Nodup, List.pairwise_iff_getElem]
  intro i j hi hj hij
  rw [List.length_map, List.length_take] at hi hj
  rw [List.getElem_map, List.getElem_map, List.getElem_take, List.getElem_take,
    (h.bufOk i (Nat.lt_of_lt_of_le hi (Nat.min_le_right _ _))).1,
    (h.bufOk j (Nat.lt_of_lt_of_le hj (Nat.min_le_right _ _))).1]
  exact Nat.ne_of_lt (Nat.succ_lt_succ hij)

end PR

/-- per client the own operations in the log are a buffer prefix (J1), numbered 1, 2, …; an id that is no
    client's does not occur at all -/
theorem PInv.log_ids_nodup {S : PSys} (inv : PInv S) : (S.log.map (fun o => (o.id.cuid, o.id.seq))).Nodup := by
  refine nodup_of_classes _ (fun u => ?_)
  by_cases hex : ∃ (i : Nat) (cl : PClient), S.clients[i]? = some cl ∧ cl.cuid = u
  · obtain ⟨i, cl, hi, rfl⟩ := hex
    rw [(inv.cli i cl hi).j1]
    exact seq_nodup (inv.cli i cl hi)
  · rw [own_of_all_frn (fun o ho hou => hex (let ⟨i, cl, hi, hu⟩ := inv.logCuid o ho; ⟨i, cl, hi, hu.trans hou⟩))]
    exact List.nodup_nil

/-- each accepted operation is stored exactly once: no (client, seq) pair occurs twice in the log -/
theorem log_ids_nodup {cuids : List String} {S : PSys} (h : PReach cuids S) :
    (S.log.map (fun o => (o.id.cuid, o.id.seq))).Nodup :=
  (proto_inv h).log_ids_nodup

theorem log_nodup {cuids : List String} {S : PSys} (h : PReach cuids S) : S.log.Nodup :=
  List.Pairwise.of_map (fun o => (o.id.cuid, o.id.seq)) (fun a b hab e => hab (by rw [e])) (log_ids_nodup h)

/-! ## Monotonicity -/

/-- a client's checkpoint never moves backwards, whatever is delivered in whatever order -/
theorem checkpoint_monotone {S S' : PSys} (st : PStep S S') :
    ∀ (i : Nat) (cl : PClient), S.clients[i]? = some cl →
      ∃ cl', S'.clients[i]? = some cl' ∧ cl'.cuid = cl.cuid ∧
        cl.cp.sseq ≤ cl'.cp.sseq ∧ cl.cp.cseq ≤ cl'.cp.cseq := by
  intro i cl hi
  have same : ∃ cl', S.clients[i]? = some cl' ∧ cl'.cuid = cl.cuid ∧
      cl.cp.sseq ≤ cl'.cp.sseq ∧ cl.cp.cseq ≤ cl'.cp.cseq := ⟨cl, hi, rfl, Nat.le_refl _, Nat.le_refl _⟩
  have set {j : Nat} {a a' : PClient} (hj : S.clients[j]? = some a)
      (hR : a'.cuid = a.cuid ∧ a.cp.sseq ≤ a'.cp.sseq ∧ a.cp.cseq ≤ a'.cp.cseq) :
      ∃ cl', (S.clients.set j a')[i]? = some cl' ∧ cl'.cuid = cl.cuid ∧
        cl.cp.sseq ≤ cl'.cp.sseq ∧ cl.cp.cseq ≤ cl'.cp.cseq :=
    set_rel (R := fun a b : PClient => b.cuid = a.cuid ∧ a.cp.sseq ≤ b.cp.sseq ∧ a.cp.cseq ≤ b.cp.cseq)
      (fun _ => ⟨rfl, Nat.le_refl _, Nat.le_refl _⟩) hj hR hi
  cases st with
  | localOp j cl0 o hj hu hs => exact set hj ⟨rfl, Nat.le_refl _, Nat.le_refl _⟩
  | send j cl0 hj => exact same
  | serve r cl0 cp2 docs hr hj hp => exact same
  | refuse r cl0 code hr hj hp => exact same
  | deliver p cl0 hp hj => exact set hj ⟨rfl, Nat.le_max_left _ _, Nat.le_max_left _ _⟩

/-- the server's records never move backwards, and the log only grows by appending -/
theorem server_monotone {S S' : PSys} (inv : PInv S) (st : PStep S S') :
    (∀ u, (S.recOf u).sseq ≤ (S'.recOf u).sseq ∧ (S.recOf u).cseq ≤ (S'.recOf u).cseq) ∧
    ∃ acc, S'.log = S.log ++ acc := by
  have same : (∀ u, (S.recOf u).sseq ≤ (S.recOf u).sseq ∧ (S.recOf u).cseq ≤ (S.recOf u).cseq) ∧
      ∃ acc, S.log = S.log ++ acc := ⟨fun u => ⟨Nat.le_refl _, Nat.le_refl _⟩, [], (List.append_nil _).symm⟩
  cases st with
  | localOp j cl0 o hj hu hs => exact same
  | send j cl0 hj => exact same
  | refuse r cl0 code hr hj hp => exact same
  | deliver p cl0 hp hj => exact same
  | serve r cl0 cp2 docs hr hj hp =>
    obtain ⟨add, _, _, _, h4, _, h6⟩ := SL.pushOps_spec _ _ _ _ _ _ _ hp
    exact ⟨fun u => rec_mono S.cps cl0.cuid u cp2
      (Nat.le_trans (inv.recS cl0.cuid) (h4 ▸ Nat.le_add_right _ _)) h6, _, rfl⟩

/-! ## Convergence -/

theorem PR.CInv.quiescent {L : List Op} {rc : Nat} {cl : PClient} (c : CInv L rc cl)
    (q1 : cl.cp.sseq = L.length) (q2 : cl.cp.cseq = cl.buf.length) :
    cl.applied = frn cl.cuid L ∧ cl.buf = own cl.cuid L := by
  refine ⟨by rw [c.j3, q1, List.take_length], ?_⟩
  rw [c.j1, List.take_of_length_le (q2 ▸ c.cLe)]

/-- at quiescence (every client has seen the whole log and has everything acknowledged) every client
    holds every operation exactly once: its own ones and each foreign one -/
theorem quiescent_converged {cuids : List String} {S : PSys} (h : PReach cuids S)
    (hq : ∀ cl ∈ S.clients, cl.cp.sseq = S.log.length ∧ cl.cp.cseq = cl.buf.length) :
    ∀ cl ∈ S.clients, (cl.applied ++ cl.buf).Perm S.log := by
  intro cl hcl
  obtain ⟨i, hi⟩ := List.mem_iff_getElem?.1 hcl
  obtain ⟨happ, hbuf⟩ := ((proto_inv h).cli i cl hi).quiescent (hq cl hcl).1 (hq cl hcl).2
  rw [happ, hbuf]
  exact List.perm_append_comm.trans (own_frn_perm _ _)

/-- … and in the same order everywhere: what it applied is the foreign subsequence of the log, in log
    order, and its buffer is the own subsequence of the log -/
theorem quiescent_converged_order {cuids : List String} {S : PSys} (h : PReach cuids S)
    (hq : ∀ cl ∈ S.clients, cl.cp.sseq = S.log.length ∧ cl.cp.cseq = cl.buf.length) :
    ∀ cl ∈ S.clients, cl.applied = S.log.filter (fun o => o.id.cuid ≠ cl.cuid) ∧
      cl.buf = S.log.filter (fun o => o.id.cuid = cl.cuid) := by
  intro cl hcl
  obtain ⟨i, hi⟩ := List.mem_iff_getElem?.1 hcl
  exact ((proto_inv h).cli i cl hi).quiescent (hq cl hcl).1 (hq cl hcl).2

/-! ## C07: duplicates, losses and delays leave no trace -/

theorem PR.CInv.as_if_once {L₁ L₂ : List Op} {rc₁ rc₂ : Nat} {cl₁ cl₂ : PClient} (c₁ : CInv L₁ rc₁ cl₁)
    (c₂ : CInv L₂ rc₂ cl₂) (hu : cl₁.cuid = cl₂.cuid) (hlog : L₁.take cl₁.cp.sseq = L₂.take cl₂.cp.sseq) :
    cl₁.applied = cl₂.applied ∧ cl₁.cp.cseq = cl₂.cp.cseq :=
  ⟨by rw [c₁.j3, c₂.j3, hlog, hu], by rw [← c₁.j2, ← c₂.j2, hlog, hu]⟩

/-- What a client has applied (and what it counts as acknowledged) is a function of the log prefix it
    has seen: any two reachable states — reached through whatever different histories of duplicated,
    lost, delayed, reordered requests and responses — that agree on that prefix agree on `applied`. -/
theorem as_if_once {cuids₁ cuids₂ : List String} {S₁ S₂ : PSys} (h₁ : PReach cuids₁ S₁) (h₂ : PReach cuids₂ S₂)
    {cl₁ cl₂ : PClient} (m₁ : cl₁ ∈ S₁.clients) (m₂ : cl₂ ∈ S₂.clients) (hu : cl₁.cuid = cl₂.cuid)
    (hlog : S₁.log.take cl₁.cp.sseq = S₂.log.take cl₂.cp.sseq) :
    cl₁.applied = cl₂.applied ∧ cl₁.cp.cseq = cl₂.cp.cseq := by
  obtain ⟨i, hi⟩ := List.mem_iff_getElem?.1 m₁
  obtain ⟨j, hj⟩ := List.mem_iff_getElem?.1 m₂
  exact ((proto_inv h₁).cli i cl₁ hi).as_if_once ((proto_inv h₂).cli j cl₂ hj) hu hlog

/-- the same for whole states: same log and same sseq per client ⇒ same applied operations, same cseq,
    and the same acknowledged part of the buffer -/
theorem as_if_once_states {cuids₁ cuids₂ : List String} {S₁ S₂ : PSys} (h₁ : PReach cuids₁ S₁)
    (h₂ : PReach cuids₂ S₂) (hlog : S₁.log = S₂.log)
    {cl₁ cl₂ : PClient} (m₁ : cl₁ ∈ S₁.clients) (m₂ : cl₂ ∈ S₂.clients) (hu : cl₁.cuid = cl₂.cuid)
    (hs : cl₁.cp.sseq = cl₂.cp.sseq) :
    cl₁.applied = cl₂.applied ∧ cl₁.cp.cseq = cl₂.cp.cseq ∧
      cl₁.buf.take (S₁.recOf cl₁.cuid).cseq = cl₂.buf.take (S₂.recOf cl₂.cuid).cseq := by
  have := as_if_once h₁ h₂ m₁ m₂ hu (by rw [hlog, hs])
  refine ⟨this.1, this.2, ?_⟩
  obtain ⟨i, hi⟩ := List.mem_iff_getElem?.1 m₁
  obtain ⟨j, hj⟩ := List.mem_iff_getElem?.1 m₂
  rw [← ((proto_inv h₁).cli i cl₁ hi).j1, ← ((proto_inv h₂).cli j cl₂ hj).j1, hlog, hu]

/-! ## Non-vacuity: the classic failure scenario

Client `a` pushes `a1`; the response is lost.  Client `b` pushes `b1` in between.  `a` issues `a2` and
retries with `[a1, a2]` from its old checkpoint: the server skips `a1` as a duplicate, stores `a2`, and
answers with the old log `[a1, b1]` and checkpoint (3, 2); `a` applies exactly `[b1]`.  Then the lost
response arrives after all, the first request is delivered to the server a second time, and its answer
is delivered too: nothing changes. -/
namespace PEx

def a1 : Op := ⟨⟨0, 1, "a", 1⟩, .increase 1⟩
def a2 : Op := ⟨⟨0, 2, "a", 2⟩, .increase 2⟩
def b1 : Op := ⟨⟨0, 1, "b", 1⟩, .increase 5⟩

def A (buf : List Op) (cp : CheckPoint) (applied : List Op) : PClient := ⟨"a", buf, cp, applied⟩
def B (buf : List Op) (cp : CheckPoint) (applied : List Op) : PClient := ⟨"b", buf, cp, applied⟩

def reqA0 : PReq := ⟨0, 0, [a1]⟩          -- first request of a
def reqB0 : PReq := ⟨1, 0, [b1]⟩
def reqA1 : PReq := ⟨0, 0, [a1, a2]⟩      -- the retry, from the same checkpoint
def respA0 : PResp := ⟨0, [], ⟨1, 1⟩⟩     -- LOST (delivered only at the very end)
def respB0 : PResp := ⟨1, [a1], ⟨2, 1⟩⟩
def respA1 : PResp := ⟨0, [a1, b1], ⟨3, 2⟩⟩
def respA2 : PResp := ⟨0, [a1, b1, a2], ⟨3, 2⟩⟩   -- answer to the duplicate delivery of reqA0

def E1 : PSys := ⟨[A [a1] ⟨0,0⟩ [], B [] ⟨0,0⟩ []], [], [], [], []⟩
def E2 : PSys := ⟨[A [a1] ⟨0,0⟩ [], B [] ⟨0,0⟩ []], [], [], [reqA0], []⟩
def E3 : PSys := ⟨[A [a1] ⟨0,0⟩ [], B [] ⟨0,0⟩ []], [a1], [("a", ⟨1,1⟩)], [reqA0], [respA0]⟩
def E4 : PSys := ⟨[A [a1] ⟨0,0⟩ [], B [b1] ⟨0,0⟩ []], [a1], [("a", ⟨1,1⟩)], [reqA0], [respA0]⟩
def E5 : PSys := ⟨[A [a1] ⟨0,0⟩ [], B [b1] ⟨0,0⟩ []], [a1], [("a", ⟨1,1⟩)], [reqA0, reqB0], [respA0]⟩
def E6 : PSys := ⟨[A [a1] ⟨0,0⟩ [], B [b1] ⟨0,0⟩ []], [a1, b1], [("a", ⟨1,1⟩), ("b", ⟨2,1⟩)],
                  [reqA0, reqB0], [respA0, respB0]⟩
def E7 : PSys := ⟨[A [a1, a2] ⟨0,0⟩ [], B [b1] ⟨0,0⟩ []], [a1, b1], [("a", ⟨1,1⟩), ("b", ⟨2,1⟩)],
                  [reqA0, reqB0], [respA0, respB0]⟩
def E8 : PSys := ⟨[A [a1, a2] ⟨0,0⟩ [], B [b1] ⟨0,0⟩ []], [a1, b1], [("a", ⟨1,1⟩), ("b", ⟨2,1⟩)],
                  [reqA0, reqB0, reqA1], [respA0, respB0]⟩
def E9 : PSys := ⟨[A [a1, a2] ⟨0,0⟩ [], B [b1] ⟨0,0⟩ []], [a1, b1, a2], [("a", ⟨3,2⟩), ("b", ⟨2,1⟩)],
                  [reqA0, reqB0, reqA1], [respA0, respB0, respA1]⟩
def E10 : PSys := ⟨[A [a1, a2] ⟨3,2⟩ [b1], B [b1] ⟨0,0⟩ []], [a1, b1, a2], [("a", ⟨3,2⟩), ("b", ⟨2,1⟩)],
                  [reqA0, reqB0, reqA1], [respA0, respB0, respA1]⟩
-- E10 → E10 : the lost response respA0 arrives late; nothing changes
def E12 : PSys := ⟨[A [a1, a2] ⟨3,2⟩ [b1], B [b1] ⟨2,1⟩ [a1]], [a1, b1, a2], [("a", ⟨3,2⟩), ("b", ⟨2,1⟩)],
                  [reqA0, reqB0, reqA1], [respA0, respB0, respA1]⟩
def E13 : PSys := ⟨[A [a1, a2] ⟨3,2⟩ [b1], B [b1] ⟨2,1⟩ [a1]], [a1, b1, a2], [("a", ⟨3,2⟩), ("b", ⟨2,1⟩)],
                  [reqA0, reqB0, reqA1], [respA0, respB0, respA1, respA2]⟩
-- E13 → E13 : respA2 is delivered; nothing changes

theorem reach : PReach ["a", "b"] E13 := by
  have h0 : PReach ["a", "b"] (PSys.init ["a", "b"]) := .init (by decide)
  have h1 : PReach ["a", "b"] E1 := .step h0 (.localOp _ 0 (A [] ⟨0,0⟩ []) a1 rfl rfl rfl)
  have h2 : PReach ["a", "b"] E2 := .step h1 (.send _ 0 (A [a1] ⟨0,0⟩ []) rfl)
  have h3 : PReach ["a", "b"] E3 :=
    .step h2 (.serve _ reqA0 (A [a1] ⟨0,0⟩ []) ⟨1,1⟩ [⟨pDuid, pCol, 1, a1⟩] (.head _) rfl rfl)
  have h4 : PReach ["a", "b"] E4 := .step h3 (.localOp _ 1 (B [] ⟨0,0⟩ []) b1 rfl rfl rfl)
  have h5 : PReach ["a", "b"] E5 := .step h4 (.send _ 1 (B [b1] ⟨0,0⟩ []) rfl)
  have h6 : PReach ["a", "b"] E6 :=
    .step h5 (.serve _ reqB0 (B [b1] ⟨0,0⟩ []) ⟨2,1⟩ [⟨pDuid, pCol, 2, b1⟩] (.tail _ (.head _)) rfl rfl)
  have h7 : PReach ["a", "b"] E7 := .step h6 (.localOp _ 0 (A [a1] ⟨0,0⟩ []) a2 rfl rfl rfl)
  have h8 : PReach ["a", "b"] E8 := .step h7 (.send _ 0 (A [a1, a2] ⟨0,0⟩ []) rfl)
  -- the retry is served: a1 skipped as a duplicate, a2 stored
  have h9 : PReach ["a", "b"] E9 :=
    .step h8 (.serve _ reqA1 (A [a1, a2] ⟨0,0⟩ []) ⟨3,2⟩ [⟨pDuid, pCol, 3, a2⟩] (.tail _ (.tail _ (.head _))) rfl rfl)
  have h10 : PReach ["a", "b"] E10 := .step h9 (.deliver _ respA1 (A [a1, a2] ⟨0,0⟩ []) (.tail _ (.tail _ (.head _))) rfl)
  -- the lost response shows up late
  have h11 : PReach ["a", "b"] E10 := .step h10 (.deliver _ respA0 (A [a1, a2] ⟨3,2⟩ [b1]) (.head _) rfl)
  have h12 : PReach ["a", "b"] E12 := .step h11 (.deliver _ respB0 (B [b1] ⟨0,0⟩ []) (.tail _ (.head _)) rfl)
  -- the very first request is delivered to the server once more
  have h13 : PReach ["a", "b"] E13 :=
    .step h12 (.serve _ reqA0 (A [a1, a2] ⟨3,2⟩ [b1]) ⟨3,2⟩ [] (.head _) rfl rfl)
  exact .step h13 (.deliver _ respA2 (A [a1, a2] ⟨3,2⟩ [b1]) (.tail _ (.tail _ (.tail _ (.head _)))) rfl)

/-- J3 in that state, from the theorem … -/
example : ∀ cl ∈ E13.clients, cl.applied = (E13.log.take cl.cp.sseq).filter (fun o => o.id.cuid ≠ cl.cuid) :=
  fun cl hcl => (proto_inv_client reach cl hcl).2.2.2.2.2

/-- … and by evaluation: `a` applied exactly `[b1]`, `b` exactly `[a1]`, the log is `[a1, b1, a2]` -/
example : E13.log = [a1, b1, a2] ∧ E13.clients.map (·.applied) = [[b1], [a1]] ∧
    (E13.log.take 3).filter (fun o => o.id.cuid ≠ "a") = [b1] ∧
    (E13.log.take 2).filter (fun o => o.id.cuid ≠ "b") = [a1] := ⟨rfl, rfl, rfl, rfl⟩

/-- the hypotheses of `quiescent_converged` are satisfiable: one more round of `b` brings the system to rest -/
def reqB1 : PReq := ⟨1, 2, []⟩
def respB1 : PResp := ⟨1, [a2], ⟨3, 1⟩⟩
def E16 : PSys := ⟨[A [a1, a2] ⟨3,2⟩ [b1], B [b1] ⟨3,1⟩ [a1, a2]], [a1, b1, a2], [("a", ⟨3,2⟩), ("b", ⟨3,1⟩)],
                  [reqA0, reqB0, reqA1, reqB1], [respA0, respB0, respA1, respA2, respB1]⟩

theorem reach16 : PReach ["a", "b"] E16 := by
  have h14 : PReach ["a", "b"] (⟨E13.clients, E13.log, E13.cps, E13.reqs ++ [reqB1], E13.resps⟩ : PSys) :=
    .step reach (.send _ 1 (B [b1] ⟨2,1⟩ [a1]) rfl)
  have h15 : PReach ["a", "b"]
      (⟨E13.clients, E13.log, [("a", ⟨3,2⟩), ("b", ⟨3,1⟩)], E13.reqs ++ [reqB1], E13.resps ++ [respB1]⟩ : PSys) :=
    .step h14 (.serve _ reqB1 (B [b1] ⟨2,1⟩ [a1]) ⟨3,1⟩ [] (.tail _ (.tail _ (.tail _ (.head _)))) rfl rfl)
  exact .step h15 (.deliver _ respB1 (B [b1] ⟨2,1⟩ [a1]) (.tail _ (.tail _ (.tail _ (.tail _ (.head _))))) rfl)

example : ∀ cl ∈ E16.clients, (cl.applied ++ cl.buf).Perm E16.log :=
  quiescent_converged reach16 (by
    intro cl hcl
    simp only [E16, List.mem_cons, List.not_mem_nil, or_false] at hcl
    rcases hcl with rfl | rfl <;> exact ⟨rfl, rfl⟩)

end PEx

end Orda
