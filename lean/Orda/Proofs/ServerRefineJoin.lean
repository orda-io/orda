/-
The entry phase, store level: `processPack` on a create pack for an absent key, on a subscribe pack of a
late joiner and on ordinary packs refines the system `JSys` of Proofs/ProtocolJoin under the abstraction
`absLog` / `absCps` of Proofs/ServerRefine.

`JSys` has no create step: its creator starts joined on the empty log and its first request is a normal one.
At the store level "the target does not exist" (no document with its id, hence by `LogInv.noOrphan` no
operation) abstracts to that empty state (`absent_abs`), and the create pack is `JStep.serve` on it, or
`JStep.refuse` when `pushOps` finds a gap; only the response's create bit is not modelled in `JSys`
(`IsServeJ.respBits` records it).

The first two sections are the one-pack statement of creation, `processPack_is_create` (Props/C13), in the vocabulary
`IsServeJ` / `Pushing` / `CreateReq`; the runs do not go through them.

Runs: invariant `GoodJ` (LogInv, KeyUnique, `Phase`: target absent or present).  Every pack handled on the target
goes down one row of `SL.Path`, and `path_sim` (from `SRef.served_commutes` and `JStep.of_absServe`) says for all
rows at once that it is the `JStep` of its request.  Ordinary and subscribe packs arriving before the datatype
exists are refused without a trace (invisible steps).  Not covered: a create-only pack of an unrecorded client on
an existing key is refused 302 (`create_existing_refused`) and is not a step; read-only / volatile clients.
-/
import Orda.Proofs.ServerRefine
import Orda.Proofs.ServerContract
import Orda.Proofs.ProtocolJoin
namespace Orda.SRefJ
open Orda Orda.SRef

/-! ## A served request on ANY dispatch path that pushes: the abstract `serve` -/

/-- `r` is the abstract `serve` step on datatype `doc.duid` for client `cuid`, request sseq `s`, with
    `pushOps` result `(cp2, docs)`; `doc` is the document the request worked on -/
structure IsServeJ (st : Store) (cuid : String) (dd : Dispatch) (doc : DatatypeDoc) (s : Nat) (cp2 : CheckPoint) (docs : List OpDoc)
    (r : PPResult) : Prop where
  log : absLog r.store doc.duid = absLog st doc.duid ++ docs.map (·.op)
  cps : absCps r.store doc.duid = alSet cuid cp2 (absCps st doc.duid)
  respOps : r.resp.ops = (absLog st doc.duid).drop s
  respCp : r.resp.cp = cp2
  respOk : r.resp.error = false
  respBits : r.resp.create = decide (dd = .create) ∧ r.resp.subscribe = decide (dd = .subscribe)
  pushed : r.pushed = docs.length
  other : ∀ u, u ≠ doc.duid → r.store.getDatatype u = st.getDatatype u ∧ absLog r.store u = absLog st u ∧
    absCps r.store u = absCps st u
  docAfter : ∃ d', r.store.getDatatype doc.duid = some d' ∧ d'.key = doc.key ∧ d'.colNum = doc.colNum ∧
    d'.sseqBegin = doc.sseqBegin ∧ d'.typ = doc.typ ∧ d'.visible = doc.visible
  inv : LogInv r.store

section core
variable {st : Store} {cl : ClientDoc} {col : CollectionDoc} {p : Pack} {dd : Dispatch} {doc : DatatypeDoc}

/-- the hypotheses common to every pushing path (`cpsAbs` is `SRef.served_cps` of `served`; no proof reads it) -/
structure Pushing (st : Store) (cl : ClientDoc) (col : CollectionDoc) (p : Pack) (dd : Dispatch) (doc : DatatypeDoc) : Prop where
  served : SL.Served st col p dd doc
  notSub : dd ≠ .subscribe
  eq_finish : processPack st cl col p = SL.finish st cl col p dd doc
  cpsAbs : absCps st doc.duid = doc.rw.map (fun e => (e.1, e.2.cp))
  readWrite : p.readOnly = false
  noSnapshot : p.snapshot = false
  notVolatile : cl.typ ≠ 2
  logKept : doc.sseqBegin ≤ p.cp.sseq + 1

theorem pushing_is_serve (inv : LogInv st) (h : Pushing st cl col p dd doc) {cp2 : CheckPoint} {docs : List OpDoc}
    (hpush : pushOps pDuid pCol ⟨(absLog st doc.duid).length, (absRec st doc.duid cl.cuid).cseq⟩ p.ops [] = .ok (cp2, docs)) :
    IsServeJ st cl.cuid dd doc p.cp.sseq cp2 docs (processPack st cl col p) := by
  have hsd := served_decided inv h.served h.eq_finish h.readWrite
  rw [SL.inOps_of_ne p h.notSub, hpush] at hsd
  obtain ⟨nd, hndop, hpr, heq⟩ := hsd
  have a := okR_abs inv h.served hpr h.readWrite h.notVolatile h.noSnapshot h.logKept
  rw [heq]
  refine ⟨by rw [a.log, hndop], a.cps, a.respOps, a.respCp, rfl, ⟨rfl, rfl⟩, ?_, ?_,
    ⟨_, a.stored, SL.doc2_fields st cl p dd doc cp2 nd⟩, a.inv⟩
  · show nd.length = docs.length
    rw [← List.length_map (·.op), hndop, List.length_map]
  · intro u hu
    obtain ⟨h1, h2⟩ := a.other u hu
    exact ⟨h1, by unfold absLog; rw [h2], by unfold absCps; rw [h1]⟩

theorem pushing_is_refuse (inv : LogInv st) (h : Pushing st cl col p dd doc) {code : Nat}
    (hpush : pushOps pDuid pCol ⟨(absLog st doc.duid).length, (absRec st doc.duid cl.cuid).cseq⟩ p.ops [] = .error code) :
    (processPack st cl col p).store = st ∧ (processPack st cl col p).resp.error = true ∧
    (processPack st cl col p).resp.ops = [⟨OpId.nil, .error code⟩] := by
  have heq := served_decided inv h.served h.eq_finish h.readWrite
  rw [SL.inOps_of_ne p h.notSub, hpush] at heq
  rw [heq]; exact ⟨rfl, rfl, rfl⟩

end core

/-! ## The CREATE pack on an absent key -/

/-- a CREATE (or subscribe-or-create) pack of a non-volatile client for a key that does not exist in its
    collection, carrying a datatype id that is not in use: the first request on the key -/
structure CreateReq (st : Store) (cl : ClientDoc) (col : CollectionDoc) (p : Pack) : Prop where
  create : p.create = true
  readWrite : p.readOnly = false
  noSnapshot : p.snapshot = false
  notVolatile : cl.typ ≠ 2
  absentKey : st.getDatatypeByKey col.num p.key = none
  absentId : st.getDatatype p.duid = none

/-- the document `processPack` creates -/
def freshDoc (col : CollectionDoc) (p : Pack) : DatatypeDoc :=
  { duid := p.duid, key := p.key, colNum := col.num, typ := p.typ }

section create
variable {st : Store} {cl : ClientDoc} {col : CollectionDoc} {p : Pack}

theorem absent_abs (inv : LogInv st) {u : String} (h : st.getDatatype u = none) : absLog st u = [] ∧ absCps st u = [] := by
  refine ⟨by rw [absLog_eq inv, SL.opsOf_nil_of_fresh inv (SL.getDatatype_none h)]; rfl, ?_⟩
  unfold absCps; rw [h]

theorem CreateReq.path (h : CreateReq st cl col p) : SL.Path st cl col p .create (freshDoc col p) :=
  .create h.create h.absentKey h.absentId

theorem CreateReq.pushing (h : CreateReq st cl col p) : Pushing st cl col p .create (freshDoc col p) := by
  refine ⟨h.path.okFacts.served, nofun, h.path.eq_finish h.readWrite, ?_, h.readWrite, h.noSnapshot, h.notVolatile,
    Nat.zero_le _⟩
  show absCps st p.duid = _
  unfold absCps; rw [h.absentId]; rfl

theorem CreateReq.push_abs (inv : LogInv st) (h : CreateReq st cl col p) :
    pushOps pDuid pCol ⟨(absLog st (freshDoc col p).duid).length, (absRec st (freshDoc col p).duid cl.cuid).cseq⟩ p.ops []
      = pushOps pDuid pCol ⟨0, 0⟩ p.ops [] := by
  obtain ⟨a1, a2⟩ := absent_abs inv h.absentId
  show pushOps pDuid pCol ⟨(absLog st p.duid).length, (absRec st p.duid cl.cuid).cseq⟩ p.ops [] = _
  unfold absRec
  rw [a1, a2]; rfl

/-- **The create pack on an absent key is the abstract `serve` of a NORMAL request on the empty protocol
    state** (`JStep.serve` from log `[]`, record ⟨0,0⟩ — `JSys` lets the creator start joined on the empty
    log): the datatype document is created under the pack's id with the pack's key and type, visible, in
    the client's collection; the log becomes exactly the operations `pushOps` accepts from ⟨0,0⟩; the
    client is recorded with `cp2`; the answer carries no operations, checkpoint `cp2`, and the create bit. -/
theorem processPack_is_create (inv : LogInv st) (h : CreateReq st cl col p) {cp2 : CheckPoint} {docs : List OpDoc}
    (hpush : pushOps pDuid pCol ⟨0, 0⟩ p.ops [] = .ok (cp2, docs)) :
    let r := processPack st cl col p
    (absLog st p.duid = [] ∧ absCps st p.duid = []) ∧
    IsServeJ st cl.cuid .create (freshDoc col p) p.cp.sseq cp2 docs r ∧
    absLog r.store p.duid = docs.map (·.op) ∧ absCps r.store p.duid = [(cl.cuid, cp2)] ∧
    r.resp.ops = [] ∧ r.resp.cp = cp2 ∧ r.resp.error = false ∧ r.resp.create = true ∧
    ∃ d', r.store.getDatatype p.duid = some d' ∧ d'.key = p.key ∧ d'.colNum = col.num ∧ d'.typ = p.typ ∧
      d'.visible = true ∧ d'.sseqBegin = 0 := by
  obtain ⟨a1, a2⟩ := absent_abs inv h.absentId
  have hs := pushing_is_serve inv h.pushing ((h.push_abs inv).trans hpush)
  intro r
  obtain ⟨d', g0, g1, g2, g3, g4, g5⟩ := hs.docAfter
  refine ⟨⟨a1, a2⟩, hs, ?_, ?_, ?_, hs.respCp, hs.respOk, by simpa using hs.respBits.1, d', g0, g1, g2, g4, g5, g3⟩
  · have := hs.log; rw [show (freshDoc col p).duid = p.duid from rfl, a1] at this; simpa using this
  · have := hs.cps; rw [show (freshDoc col p).duid = p.duid from rfl, a2] at this; exact this
  · have := hs.respOps; rw [show (freshDoc col p).duid = p.duid from rfl, a1] at this; simpa using this

theorem processPack_create_refused (inv : LogInv st) (h : CreateReq st cl col p) {code : Nat}
    (hpush : pushOps pDuid pCol ⟨0, 0⟩ p.ops [] = .error code) :
    (processPack st cl col p).store = st ∧ (processPack st cl col p).resp.error = true := by
  have := pushing_is_refuse inv h.pushing ((h.push_abs inv).trans hpush)
  exact ⟨this.1, this.2.1⟩

end create

/-- the creator's CREATE pack served AGAIN after the datatype exists (a retry, a duplicate): the key is found,
    id and type match, the client is recorded: it is served on the normal path -/
structure CreateAgain (st : Store) (cl : ClientDoc) (col : CollectionDoc) (p : Pack) (d : DatatypeDoc) : Prop where
  create : p.create = true
  readWrite : p.readOnly = false
  noSnapshot : p.snapshot = false
  notVolatile : cl.typ ≠ 2
  byKey : st.getDatatypeByKey col.num p.key = some d
  sameId : d.duid = p.duid
  sameType : d.typ = p.typ
  visible : d.visible = true
  recorded : (d.sub cl.cuid false).isSome = true
  logKept : d.sseqBegin ≤ p.cp.sseq + 1

/-- a SUBSCRIBE-OR-CREATE pack (both bits) on an EXISTING key stored under another id is handled exactly as
    the same pack without the create bit: as a subscription -/
theorem subOrCreate_eq {st : Store} {cl : ClientDoc} {col : CollectionDoc} {p : Pack} {d : DatatypeDoc}
    (hs : p.subscribe = true) (hro : p.readOnly = false)
    (hk : st.getDatatypeByKey col.num p.key = some d) (ht : d.typ = p.typ) (hv : d.visible = true)
    (hd : d.duid ≠ p.duid) :
    processPack st cl col p = processPack st cl col { p with create := false } := by
  rw [(SL.Path.subscribe hs hk ht hv (.inr hd)).eq_finish hro,
    (SL.Path.subscribe (p := { p with create := false }) (cl := cl) hs hk ht hv (.inr hd)).eq_finish hro]
  rfl

/-! ## The store-level system with the entry phase -/

/-- the datatype observed: collection, stored id (= the id the creator's datatype object carries), key, type -/
structure TargetJ where
  col : CollectionDoc
  duid : String
  key : String
  typ : DtType

/-- the REAL store with `JSys`'s clients (joined or due to subscribe) and its adversarial network -/
structure SSysJ where
  st : Store
  clients : List JClient
  reqs : List JReq
  resps : List JResp

def SSysJ.abs (T : SSysJ) (tg : TargetJ) : JSys :=
  ⟨T.clients, absLog T.st tg.duid, absCps T.st tg.duid, T.reqs, T.resps⟩

/-- an ordinary pack carrying request `r` (as `SRef.PackOf`) -/
structure PackOfJ (tg : TargetJ) (r : JReq) (p : Pack) : Prop where
  key : p.key = tg.key
  duid : p.duid = tg.duid
  noCreate : p.create = false
  noSubscribe : p.subscribe = false
  readWrite : p.readOnly = false
  noSnapshot : p.snapshot = false
  ops : p.ops = r.ops
  sseq : p.cp.sseq = r.s

/-- a CREATE (or subscribe-or-create: the subscribe bit is free) pack carrying request `r`: the creator's
    datatype object has the id that will be stored -/
structure CreatePackOf (tg : TargetJ) (r : JReq) (p : Pack) : Prop where
  key : p.key = tg.key
  duid : p.duid = tg.duid
  typ : p.typ = tg.typ
  create : p.create = true
  readWrite : p.readOnly = false
  noSnapshot : p.snapshot = false
  ops : p.ops = r.ops
  sseq : p.cp.sseq = r.s

/-- a SUBSCRIBE pack of a late joiner carrying request `r`: its own datatype id (another one than the
    stored id), the key and the type; whatever operations it carries are dropped by the server -/
structure SubPackOf (tg : TargetJ) (r : JReq) (p : Pack) : Prop where
  key : p.key = tg.key
  otherId : p.duid ≠ tg.duid
  typ : p.typ = tg.typ
  subscribe : p.subscribe = true
  noCreate : p.create = false
  readWrite : p.readOnly = false
  noSnapshot : p.snapshot = false
  sseq : p.cp.sseq = r.s

/-- a SUBSCRIBE-OR-CREATE pack (both bits) of a late joiner carrying request `r` -/
structure SubCreatePackOf (tg : TargetJ) (r : JReq) (p : Pack) : Prop where
  key : p.key = tg.key
  otherId : p.duid ≠ tg.duid
  typ : p.typ = tg.typ
  subscribe : p.subscribe = true
  create : p.create = true
  readWrite : p.readOnly = false
  noSnapshot : p.snapshot = false
  sseq : p.cp.sseq = r.s

/-- the response the network carries back, of the kind of the exchange; an error pack carries nothing -/
def respOfJ (k : JMsgKind) (i : Nat) (r : PPResult) : List JResp :=
  if r.resp.error then [] else [⟨k, i, r.resp.ops, r.resp.cp⟩]

inductive SStepJ (tg : TargetJ) : SSysJ → SSysJ → Prop
  /-- as `JStep.localOp` -/
  | localOp (T : SSysJ) (i : Nat) (cl : JClient) (o : Op) :
      T.clients[i]? = some cl → o.id.cuid = cl.base.cuid → o.id.seq = cl.base.buf.length + 1 →
      SStepJ tg T { T with clients := T.clients.set i { cl with base := { cl.base with buf := cl.base.buf ++ [o] } } }
  /-- as `JStep.send`: a normal request of a joined client, a subscribe request of one due to subscribe -/
  | send (T : SSysJ) (i : Nat) (cl : JClient) :
      T.clients[i]? = some cl →
      SStepJ tg T { T with reqs := T.reqs ++ [⟨if cl.joined then .normal else .sub, i, cl.base.cp.sseq,
                                               cl.base.buf.drop cl.base.cp.cseq⟩] }
  /-- CREATE: a normal request of a (joined = creator) client, carried as a create pack, handled by
      `processPack` while neither the key nor the id exists: the first request on the key -/
  | create (T : SSysJ) (r : JReq) (cl : JClient) (cd : ClientDoc) (p : Pack) :
      r ∈ T.reqs → r.kind = .normal → T.clients[r.i]? = some cl → cd.cuid = cl.base.cuid → cd.typ ≠ 2 →
      CreatePackOf tg r p → T.st.getDatatype tg.duid = none → T.st.getDatatypeByKey tg.col.num tg.key = none →
      SStepJ tg T { T with st := (processPack T.st cd tg.col p).store,
                           resps := T.resps ++ respOfJ .normal r.i (processPack T.st cd tg.col p) }
  /-- any normal request ever sent, carried as an ordinary pack (refused, invisibly, while the datatype
      does not exist) -/
  | serve (T : SSysJ) (r : JReq) (cl : JClient) (cd : ClientDoc) (p : Pack) :
      r ∈ T.reqs → r.kind = .normal → T.clients[r.i]? = some cl → cd.cuid = cl.base.cuid → cd.typ ≠ 2 →
      PackOfJ tg r p →
      SStepJ tg T { T with st := (processPack T.st cd tg.col p).store,
                           resps := T.resps ++ respOfJ .normal r.i (processPack T.st cd tg.col p) }
  /-- the creator's create pack handled AGAIN (retry, duplicate) once the creator is recorded -/
  | createAgain (T : SSysJ) (r : JReq) (cl : JClient) (cd : ClientDoc) (p : Pack) :
      r ∈ T.reqs → r.kind = .normal → T.clients[r.i]? = some cl → cd.cuid = cl.base.cuid → cd.typ ≠ 2 →
      CreatePackOf tg r p → (alFind cd.cuid (absCps T.st tg.duid)).isSome = true →
      SStepJ tg T { T with st := (processPack T.st cd tg.col p).store,
                           resps := T.resps ++ respOfJ .normal r.i (processPack T.st cd tg.col p) }
  /-- SUBSCRIBE: any subscribe request ever sent, any number of times, at any time (refused,
      invisibly, while the datatype does not exist) -/
  | subscribe (T : SSysJ) (r : JReq) (cl : JClient) (cd : ClientDoc) (p : Pack) :
      r ∈ T.reqs → r.kind = .sub → T.clients[r.i]? = some cl → cd.cuid = cl.base.cuid → cd.typ ≠ 2 →
      SubPackOf tg r p →
      SStepJ tg T { T with st := (processPack T.st cd tg.col p).store,
                           resps := T.resps ++ respOfJ .sub r.i (processPack T.st cd tg.col p) }
  /-- … also carried as a SUBSCRIBE-OR-CREATE pack, once the datatype exists (while it does not, such a pack
      of another id would create the key under THAT id: it is then the `create` step of that target) -/
  | subscribeOrCreate (T : SSysJ) (r : JReq) (cl : JClient) (cd : ClientDoc) (p : Pack) :
      r ∈ T.reqs → r.kind = .sub → T.clients[r.i]? = some cl → cd.cuid = cl.base.cuid → cd.typ ≠ 2 →
      SubCreatePackOf tg r p → (T.st.getDatatype tg.duid).isSome = true →
      SStepJ tg T { T with st := (processPack T.st cd tg.col p).store,
                           resps := T.resps ++ respOfJ .sub r.i (processPack T.st cd tg.col p) }
  /-- as `JStep.deliver`: a normal response, to a joined client -/
  | deliver (T : SSysJ) (q : JResp) (cl : JClient) :
      q ∈ T.resps → q.kind = .normal → T.clients[q.i]? = some cl → cl.joined = true →
      SStepJ tg T { T with clients := T.clients.set q.i { cl with base := cl.base.receive ⟨q.i, q.ops, q.cp⟩ } }
  /-- as `JStep.deliverSub`: a subscribe response, handled by `JClient.deliverSub` -/
  | deliverSub (T : SSysJ) (q : JResp) (cl : JClient) :
      q ∈ T.resps → q.kind = .sub → T.clients[q.i]? = some cl →
      SStepJ tg T { T with clients := T.clients.set q.i (cl.deliverSub q) }
  /-- any pack of any client in any collection answered for another datatype id that, while the target
      does not exist yet, does not take the target's key -/
  | other (T : SSysJ) (cd : ClientDoc) (col : CollectionDoc) (p : Pack) :
      (processPack T.st cd col p).resp.duid ≠ tg.duid →
      ((T.st.getDatatype tg.duid).isSome ∨
        (processPack T.st cd col p).store.getDatatypeByKey tg.col.num tg.key = none) →
      SStepJ tg T { T with st := (processPack T.st cd col p).store }
  /-- anything that leaves the datatype and operation collections alone (as `SRef.SStep.frame`) -/
  | frame (T : SSysJ) (st' : Store) :
      st'.datatypes = T.st.datatypes → st'.operations = T.st.operations → SStepJ tg T { T with st := st' }

/-- the target does not exist yet (neither its id nor its key), or it exists under its id, in its
    collection, under its key, with its type, visible, with an uncut log (type and visibility: what the rows
    `SL.Path.again` and `SL.Path.subscribe` ask of the document a create or subscribe pack finds by key) -/
inductive Phase (tg : TargetJ) (st : Store) : Prop
  | absent : st.getDatatype tg.duid = none → st.getDatatypeByKey tg.col.num tg.key = none → Phase tg st
  | present (d : DatatypeDoc) : st.getDatatype tg.duid = some d → d.colNum = tg.col.num → d.key = tg.key →
      d.typ = tg.typ → d.visible = true → d.sseqBegin ≤ 1 → Phase tg st

structure GoodJ (tg : TargetJ) (T : SSysJ) : Prop where
  inv : LogInv T.st
  keys : KeyUnique T.st
  phase : Phase tg T.st

inductive SRunJ (tg : TargetJ) : SSysJ → SSysJ → Prop
  | refl (T : SSysJ) : SRunJ tg T T
  | step {T T' T'' : SSysJ} : SRunJ tg T T' → SStepJ tg T' T'' → SRunJ tg T T''

theorem byKey_of_mem {st : Store} (ku : KeyUnique st) (inv : LogInv st) {d : DatatypeDoc} (hm : d ∈ st.datatypes) :
    st.getDatatypeByKey d.colNum d.key = some d := by
  cases hg : st.getDatatypeByKey d.colNum d.key with
  | none => exact absurd rfl (SL.getDatatypeByKey_none hg d hm rfl)
  | some x =>
    obtain ⟨hx, hcol, hkey⟩ := SL.getDatatypeByKey_some hg
    rw [SL.eq_of_nodup_duid inv.duidNodup hx hm (ku x hx d hm hcol hkey)]

theorem ordinary_absent_refused {st : Store} {cl : ClientDoc} {col : CollectionDoc} {p : Pack}
    (hc : p.create = false) (hs : p.subscribe = false) (hro : p.readOnly = false) (hn : st.getDatatype p.duid = none) :
    processPack st cl col p = SL.refuseR st p 301 := by
  have hev : evalCase st col cl.cuid p = (.matchNothing, none) := by
    rw [SL.evalCase_byId (fun hb => by rw [hc, hs] at hb; cases hb), hn]
  exact SC.processPack_refused hro (SL.dsp_refuse (by rw [hev, hc, hs]; rfl))

theorem phase_of_same {tg : TargetJ} {st st' : Store} (h1 : st'.getDatatype tg.duid = st.getDatatype tg.duid)
    (h2 : st'.getDatatypeByKey tg.col.num tg.key = none ∨ (st.getDatatype tg.duid).isSome) (ph : Phase tg st) :
    Phase tg st' := by
  cases ph with
  | absent a b =>
    rcases h2 with h2 | h2
    · exact .absent (by rw [h1]; exact a) h2
    · rw [a] at h2; cases h2
  | present d a b c e f g => exact .present d (by rw [h1]; exact a) b c e f g

theorem served_sim {tg : TargetJ} {T : SSysJ} (inv : LogInv T.st)
    {r : JReq} {cl : JClient} {cd : ClientDoc} {p : Pack} {dd : Dispatch} {doc : DatatypeDoc}
    (hs : SL.Served T.st tg.col p dd doc) (heq : processPack T.st cd tg.col p = SL.finish T.st cd tg.col p dd doc)
    (hrw : p.readOnly = false) (hv : cd.typ ≠ 2) (hsn : p.snapshot = false) (hb : doc.sseqBegin ≤ p.cp.sseq + 1)
    (hdu : doc.duid = tg.duid) (hr : r ∈ T.reqs) (hi : T.clients[r.i]? = some cl) (hcu : cd.cuid = cl.base.cuid)
    (hops : SL.inOps p dd = r.pushed) (hsq : p.cp.sseq = r.s) :
    JStep (T.abs tg) (SSysJ.abs { T with st := (processPack T.st cd tg.col p).store,
                                         resps := T.resps ++ respOfJ r.kind r.i (processPack T.st cd tg.col p) } tg) := by
  obtain ⟨e1, e2, e3⟩ := served_commutes inv hs heq hrw hv hsn hb
  rw [hdu, hcu, hsq, hops] at e1 e2 e3
  show JStep (T.abs tg) ⟨T.clients, absLog (processPack T.st cd tg.col p).store tg.duid,
    absCps (processPack T.st cd tg.col p).store tg.duid, T.reqs,
    T.resps ++ respOfJ r.kind r.i (processPack T.st cd tg.col p)⟩
  unfold respOfJ
  rw [e1, e2, e3 (JResp.mk r.kind r.i)]
  exact JStep.of_absServe (T.abs tg) r cl hr hi

/-! ### every store step is a `JStep` or invisible -/

theorem stutter_of_refused {tg : TargetJ} {T : SSysJ} {res : PPResult} (k : JMsgKind) (i : Nat)
    (h1 : res.store = T.st) (h2 : res.resp.error = true) :
    SSysJ.abs { T with st := res.store, resps := T.resps ++ respOfJ k i res } tg = T.abs tg := by
  show JSys.mk _ (absLog res.store tg.duid) (absCps res.store tg.duid) _ (T.resps ++ respOfJ k i res) = JSys.mk _ _ _ _ _
  have : respOfJ k i res = [] := by unfold respOfJ; rw [h2]; rfl
  rw [h1, this, List.append_nil]

/-- any pack keeps `LogInv` and `KeyUnique`; what a step has to show is the phase -/
theorem GoodJ.processPack {tg : TargetJ} {T : SSysJ} (g : GoodJ tg T) (cd : ClientDoc) (col : CollectionDoc) (p : Pack)
    (resps : List JResp) (ph : Phase tg (processPack T.st cd col p).store) :
    GoodJ tg { T with st := (processPack T.st cd col p).store, resps := resps } :=
  ⟨logInv_processPack _ _ _ _ g.inv, (keyUnique_processPack _ _ _ _ g.keys g.inv.duidNodup).1, ph⟩

theorem phase_finish {tg : TargetJ} {st : Store} (ph : Phase tg st) {cd : ClientDoc} {p : Pack} {dd : Dispatch}
    {doc : DatatypeDoc} (heq : processPack st cd tg.col p = SL.finish st cd tg.col p dd doc)
    (hdu : doc.duid = tg.duid) (hcol : doc.colNum = tg.col.num) (hkey : doc.key = tg.key) (htyp : doc.typ = tg.typ)
    (hvis : doc.visible = true) (hb : doc.sseqBegin ≤ 1) : Phase tg (processPack st cd tg.col p).store := by
  rw [heq]; unfold SL.finish
  cases SL.pushRes cd tg.col p dd doc with
  | error code => exact ph
  | ok r =>
    obtain ⟨f1, f2, f3, f4, f5⟩ := SL.doc2_fields st cd p dd doc r.1 r.2
    exact .present _ (SL.getDatatype_upsert_of_duid _ _ ((SL.doc2_duid ..).trans hdu)) (f2.trans hcol) (f1.trans hkey)
      (f4.trans htyp) (f5.trans hvis) (by rw [f3]; exact hb)

/-- **One step lemma for every pack handled on the target**: on whichever path (`SL.Path`), for a document with the target's
    identity, the step is the `JStep` of the request the pack carries and keeps `GoodJ` -/
theorem path_sim {tg : TargetJ} {T : SSysJ} (g : GoodJ tg T) {r : JReq} {cl : JClient} {cd : ClientDoc} {p : Pack}
    {dd : Dispatch} {doc : DatatypeDoc} (hpath : SL.Path T.st cd tg.col p dd doc)
    (hrw : p.readOnly = false) (hv : cd.typ ≠ 2) (hsn : p.snapshot = false)
    (hdu : doc.duid = tg.duid) (hcol : doc.colNum = tg.col.num) (hkey : doc.key = tg.key) (htyp : doc.typ = tg.typ)
    (hvis : doc.visible = true) (hb : doc.sseqBegin ≤ 1)
    (hr : r ∈ T.reqs) (hi : T.clients[r.i]? = some cl) (hcu : cd.cuid = cl.base.cuid)
    (hops : SL.inOps p dd = r.pushed) (hsq : p.cp.sseq = r.s) :
    GoodJ tg { T with st := (processPack T.st cd tg.col p).store,
                      resps := T.resps ++ respOfJ r.kind r.i (processPack T.st cd tg.col p) } ∧
    (JStep (T.abs tg) (SSysJ.abs { T with st := (processPack T.st cd tg.col p).store,
                                          resps := T.resps ++ respOfJ r.kind r.i (processPack T.st cd tg.col p) } tg) ∨
     SSysJ.abs { T with st := (processPack T.st cd tg.col p).store,
                        resps := T.resps ++ respOfJ r.kind r.i (processPack T.st cd tg.col p) } tg = T.abs tg) :=
  ⟨g.processPack _ _ _ _ (phase_finish g.phase (hpath.eq_finish hrw) hdu hcol hkey htyp hvis hb),
   .inl (served_sim g.inv hpath.okFacts.served (hpath.eq_finish hrw) hrw hv hsn (by omega) hdu hr hi hcu hops hsq)⟩

theorem GoodJ.byKey {tg : TargetJ} {T : SSysJ} (g : GoodJ tg T) {d : DatatypeDoc} (a : T.st.getDatatype tg.duid = some d)
    (b : d.colNum = tg.col.num) (c : d.key = tg.key) : T.st.getDatatypeByKey tg.col.num tg.key = some d := by
  rw [← c, ← b]; exact byKey_of_mem g.keys g.inv (SL.getDatatype_some a).1

theorem refused_invisible {tg : TargetJ} {T : SSysJ} (g : GoodJ tg T) {cd : ClientDoc} {col : CollectionDoc} {p : Pack}
    (k : JMsgKind) (i : Nat) (h1 : (processPack T.st cd col p).store = T.st)
    (h2 : (processPack T.st cd col p).resp.error = true) :
    GoodJ tg { T with st := (processPack T.st cd col p).store,
                      resps := T.resps ++ respOfJ k i (processPack T.st cd col p) } ∧
    (JStep (T.abs tg) (SSysJ.abs { T with st := (processPack T.st cd col p).store,
                                          resps := T.resps ++ respOfJ k i (processPack T.st cd col p) } tg) ∨
     SSysJ.abs { T with st := (processPack T.st cd col p).store,
                        resps := T.resps ++ respOfJ k i (processPack T.st cd col p) } tg = T.abs tg) :=
  ⟨g.processPack _ _ _ _ (by rw [h1]; exact g.phase), .inr (stutter_of_refused k i h1 h2)⟩

theorem store_step_simulates_join {tg : TargetJ} {T T' : SSysJ} (g : GoodJ tg T) (s : SStepJ tg T T') :
    GoodJ tg T' ∧ (JStep (T.abs tg) (T'.abs tg) ∨ T'.abs tg = T.abs tg) := by
  cases s with
  | localOp i cl o hi hu hs => exact ⟨⟨g.inv, g.keys, g.phase⟩, Or.inl (JStep.localOp (T.abs tg) i cl o hi hu hs)⟩
  | send i cl hi => exact ⟨⟨g.inv, g.keys, g.phase⟩, Or.inl (JStep.send (T.abs tg) i cl hi)⟩
  | deliver q cl hq hk hi hj => exact ⟨⟨g.inv, g.keys, g.phase⟩, Or.inl (JStep.deliver (T.abs tg) q cl hq hk hi hj)⟩
  | deliverSub q cl hq hk hi => exact ⟨⟨g.inv, g.keys, g.phase⟩, Or.inl (JStep.deliverSub (T.abs tg) q cl hq hk hi)⟩
  | create r cl cd p hr hk hi hcu hv hp hnd hnk =>
    exact hk ▸ path_sim g (.create hp.create (by rw [hp.key]; exact hnk) (by rw [hp.duid]; exact hnd))
      hp.readWrite hv hp.noSnapshot hp.duid rfl hp.key hp.typ rfl (Nat.zero_le _) hr hi hcu
      (by rw [SL.inOps_of_ne p (d := .create) nofun, JReq.pushed_normal hk]; exact hp.ops) hp.sseq
  | serve r cl cd p hr hk hi hcu hv hp =>
    cases g.phase with
    | present d a b c e f h =>
      exact hk ▸ path_sim g (.byId hp.noCreate hp.noSubscribe (by rw [hp.duid]; exact a) b (by rw [c, hp.key]))
        hp.readWrite hv hp.noSnapshot (SL.getDatatype_some a).2 b c e f h hr hi hcu
        (by rw [SL.inOps_of_ne p (d := .normal) nofun, JReq.pushed_normal hk]; exact hp.ops) hp.sseq
    | absent a b =>
      have heq := ordinary_absent_refused (cl := cd) (col := tg.col) hp.noCreate hp.noSubscribe hp.readWrite
        (by rw [hp.duid]; exact a)
      exact refused_invisible g _ _ (by rw [heq]; rfl) (by rw [heq]; rfl)
  | createAgain r cl cd p hr hk hi hcu hv hp hrec =>
    cases g.phase with
    | absent a _ =>
      rw [(absent_abs g.inv a).2] at hrec
      simp [alFind] at hrec
    | present d a b c e f h =>
      have hdu := (SL.getDatatype_some a).2
      have hrec' : (d.sub cd.cuid p.readOnly).isSome = true := by
        unfold absCps at hrec
        rw [a] at hrec
        simp only [] at hrec
        rw [alFind_map (fun s : SubClient => s.cp)] at hrec
        simpa [DatatypeDoc.sub, hp.readWrite] using hrec
      exact hk ▸ path_sim g (.again (by rw [hp.create]; rfl) (by rw [hp.key]; exact g.byKey a b c) (by rw [e, hp.typ]) f
          hrec' (by rw [hdu, hp.duid]))
        hp.readWrite hv hp.noSnapshot hdu b c e f h hr hi hcu
        (by rw [SL.inOps_of_ne p (d := .normal) nofun, JReq.pushed_normal hk]; exact hp.ops) hp.sseq
  | subscribe r cl cd p hr hk hi hcu hv hp =>
    cases g.phase with
    | present d a b c e f h =>
      have hdu := (SL.getDatatype_some a).2
      exact hk ▸ path_sim g (.subscribe hp.subscribe (by rw [hp.key]; exact g.byKey a b c) (by rw [e, hp.typ]) f
          (.inr (by rw [hdu]; exact fun x => hp.otherId x.symm)))
        hp.readWrite hv hp.noSnapshot hdu b c e f h hr hi hcu (by rw [SL.inOps_subscribe, JReq.pushed_sub hk]) hp.sseq
    | absent a b =>
      obtain ⟨he, h1⟩ := subscribe_missing_refused T.st cd tg.col p hp.noCreate hp.subscribe hp.readWrite
        (by rw [hp.key]; exact b)
      exact refused_invisible g _ _ h1 (by rcases he with he | he <;> exact he.1)
  | subscribeOrCreate r cl cd p hr hk hi hcu hv hp hex =>
    cases g.phase with
    | absent a _ => rw [a] at hex; cases hex
    | present d a b c e f h =>
      have hdu := (SL.getDatatype_some a).2
      exact hk ▸ path_sim g (.subscribe hp.subscribe (by rw [hp.key]; exact g.byKey a b c) (by rw [e, hp.typ]) f
          (.inr (by rw [hdu]; exact fun x => hp.otherId x.symm)))
        hp.readWrite hv hp.noSnapshot hdu b c e f h hr hi hcu (by rw [SL.inOps_subscribe, JReq.pushed_sub hk]) hp.sseq
  | other cd col p hne hkey =>
    obtain ⟨h1, h2, h3⟩ := other_abs T.st cd col p hne
    refine ⟨g.processPack _ _ _ _ (phase_of_same h1 hkey.symm g.phase), Or.inr ?_⟩
    show JSys.mk _ _ _ _ _ = JSys.mk _ _ _ _ _
    rw [h2, h3]
  | frame st' hd ho =>
    obtain ⟨h1, h2, h3⟩ := abs_of_same hd ho tg.duid
    have hbk : st'.getDatatypeByKey tg.col.num tg.key = T.st.getDatatypeByKey tg.col.num tg.key := by
      unfold Store.getDatatypeByKey; rw [hd]
    refine ⟨⟨SL.logInv_congr hd ho g.inv, ?_, ?_⟩, Or.inr ?_⟩
    · show KeyUnique st'
      unfold KeyUnique; rw [hd]; exact g.keys
    · show Phase tg st'
      cases g.phase with
      | absent a b => exact .absent (by rw [h1]; exact a) (by rw [hbk]; exact b)
      | present d a b c e f h => exact .present d (by rw [h1]; exact a) b c e f h
    · show JSys.mk _ _ _ _ _ = JSys.mk _ _ _ _ _
      rw [h2, h3]

/-- **Runs with the entry phase.**  Every run of the store-level system — creation of the target by a create
    pack, late subscriptions (served any number of times, at any time), ordinary pushes and pulls, local
    operations, deliveries of normal and subscribe responses in any order, other datatypes' traffic,
    administrative changes — is matched step by step by `JStep`s of `ProtocolJoin`'s system (or is
    invisible) under the abstraction `SSysJ.abs`. -/
theorem store_run_simulates_join {tg : TargetJ} {cuids : List (String × Bool)} {T0 T : SSysJ}
    (g0 : GoodJ tg T0) (h0 : JReach cuids (T0.abs tg)) (run : SRunJ tg T0 T) :
    GoodJ tg T ∧ JReach cuids (T.abs tg) := by
  induction run with
  | refl => exact ⟨g0, h0⟩
  | step _ s ih =>
    obtain ⟨g, h⟩ := ih
    obtain ⟨g', hs⟩ := store_step_simulates_join g s
    refine ⟨g', ?_⟩
    rcases hs with hs | hs
    · exact JReach.step h hs
    · rw [hs]; exact h

/-! ### late-joiner invariants, as theorems about the STORE -/

/-- **The stored log is exactly what was issued and acknowledged, late joiners included.**  In every state
    of a run (from before the datatype exists on), the operation documents stored for the target, in store
    order (= what `getOperations` returns): are exactly the operations issued by JOINED clients after their
    join and acknowledged by the server's record; carry no (client, seq) pair twice; per client are its
    acknowledged operations in issue order — and nothing of a client that has not joined (in particular
    none of the operations it issued while due to subscribe, which its subscribe pack carried along) is
    stored; every client has applied exactly the foreign operations of the log prefix it has seen (the
    prefix received at its join included), once each, in log order. -/
theorem store_log_with_late_joiners {tg : TargetJ} {cuids : List (String × Bool)} {T0 T : SSysJ}
    (g0 : GoodJ tg T0) (h0 : JReach cuids (T0.abs tg)) (run : SRunJ tg T0 T) :
    let log := (T.st.opsOf tg.duid).map (·.op)
    (T.st.getOperations tg.duid 1).map (·.op) = log ∧
    (∀ o, o ∈ log ↔ ∃ cl ∈ T.clients, cl.joined = true ∧
      o ∈ cl.base.buf.take (absRec T.st tg.duid cl.base.cuid).cseq) ∧
    (log.map (fun o => (o.id.cuid, o.id.seq))).Nodup ∧
    (∀ cl ∈ T.clients, log.filter (fun o => o.id.cuid = cl.base.cuid) =
      if cl.joined then cl.base.buf.take (absRec T.st tg.duid cl.base.cuid).cseq else []) ∧
    (∀ cl ∈ T.clients, cl.base.applied = (log.take cl.base.cp.sseq).filter (fun o => o.id.cuid ≠ cl.base.cuid)) := by
  obtain ⟨g, h⟩ := store_run_simulates_join g0 h0 run
  intro log
  have e : absLog T.st tg.duid = log := absLog_eq g.inv tg.duid
  obtain ⟨a, b, c⟩ := join_log_is_exactly_issued h
  refine ⟨e, ?_, ?_, ?_, ?_⟩
  · rw [← e]; exact a
  · rw [← e]; exact b
  · rw [← e]; exact c
  · intro cl hcl
    have := (join_inv_client h cl hcl).2.2.2.2.2.1
    rw [← e]; exact this

/-- **No spurious refusal once the datatype exists**: `processPack` answers any NORMAL request ever sent,
    carried as an ordinary pack, without an error -/
theorem store_never_refuses_join {tg : TargetJ} {cuids : List (String × Bool)} {T0 T : SSysJ}
    (g0 : GoodJ tg T0) (h0 : JReach cuids (T0.abs tg)) (run : SRunJ tg T0 T)
    {r : JReq} {cl : JClient} {cd : ClientDoc} {p : Pack} {d : DatatypeDoc} (hex : T.st.getDatatype tg.duid = some d)
    (hr : r ∈ T.reqs) (hk : r.kind = .normal) (hi : T.clients[r.i]? = some cl) (hcu : cd.cuid = cl.base.cuid)
    (hv : cd.typ ≠ 2) (hp : PackOfJ tg r p) :
    (processPack T.st cd tg.col p).resp.error = false := by
  obtain ⟨g, h⟩ := store_run_simulates_join g0 h0 run
  cases g.phase with
  | absent a _ => rw [a] at hex; cases hex
  | present d' a b c e f hb =>
    have hord : Ordinary T.st cd tg.col p d' :=
      ⟨hp.noCreate, hp.noSubscribe, hp.readWrite, hp.noSnapshot, by rw [hp.duid]; exact a, b, by rw [c, hp.key], hv,
       by omega⟩
    obtain ⟨cp2, docs, hpush⟩ := join_never_refused h (r := r) (cl := cl) hr hk hi
    have hpush' : pushOps pDuid pCol ⟨(absLog T.st p.duid).length, (absRec T.st p.duid cd.cuid).cseq⟩ p.ops []
        = .ok (cp2, docs) := by
      rw [hp.duid, hcu, hp.ops]; exact hpush
    exact (processPack_is_serve g.inv hord hpush').respOk.1

/-- the initial state: a good store in which the target does not exist; clients flagged `true` (the
    creator) count as joined on the empty log, the others are due to subscribe — `JSys.init` -/
def SSysJ.init (st0 : Store) (cs : List (String × Bool)) : SSysJ :=
  ⟨st0, cs.map (fun c => ⟨⟨c.1, [], ⟨0, 0⟩, []⟩, c.2⟩), [], []⟩

theorem store_run_from_scratch {tg : TargetJ} {cs : List (String × Bool)} {st0 : Store} {T : SSysJ}
    (hnd : (cs.map (·.1)).Nodup) (inv : LogInv st0) (ku : KeyUnique st0)
    (hid : st0.getDatatype tg.duid = none) (hkey : st0.getDatatypeByKey tg.col.num tg.key = none)
    (run : SRunJ tg (SSysJ.init st0 cs) T) : GoodJ tg T ∧ JReach cs (T.abs tg) := by
  apply store_run_simulates_join ⟨inv, ku, .absent hid hkey⟩ _ run
  obtain ⟨a1, a2⟩ := absent_abs inv hid
  have : (SSysJ.init st0 cs).abs tg = JSys.init cs := by
    show JSys.mk _ (absLog st0 tg.duid) (absCps st0 tg.duid) _ _ = JSys.mk _ _ _ _ _
    rw [a1, a2]; rfl
  rw [this]; exact JReach.init hnd

/-! ## Non-vacuity: the store of `SRef.Ex`, built from scratch THROUGH the steps

From `s2` (collection "c" made, clients "a", "b" registered, no datatype): a issues its snapshot operation
and sends; the request is handled as a CREATE pack (`s3`); a receives the answer; b (due to subscribe)
sends a subscribe request, handled as a SUBSCRIBE pack with b's own id "d2" (`s4`); b receives the
subscribe response and joins; b issues `b1`, sends, the request is handled as an ordinary pack (`s5`), b
receives the answer. -/
namespace ExJ
open Orda.SRef.Ex

def tg : TargetJ := ⟨col, "d1", "k", .counter⟩
def cs : List (String × Bool) := [("a", true), ("b", false)]

def A (buf : List Op) (cp : CheckPoint) : JClient := ⟨⟨"a", buf, cp, []⟩, true⟩
def Bn : JClient := ⟨⟨"b", [], ⟨0, 0⟩, []⟩, false⟩
def B (buf : List Op) (cp : CheckPoint) : JClient := ⟨⟨"b", buf, cp, [a1]⟩, true⟩
def rA : JReq := ⟨.normal, 0, 0, [a1]⟩
def rB0 : JReq := ⟨.sub, 1, 0, []⟩
def rB1 : JReq := ⟨.normal, 1, 1, [b1]⟩
def qA : JResp := ⟨.normal, 0, [], ⟨1, 1⟩⟩
def qB0 : JResp := ⟨.sub, 1, [a1], ⟨1, 0⟩⟩
def qB1 : JResp := ⟨.normal, 1, [], ⟨2, 1⟩⟩

def U1 : SSysJ := ⟨s2, [A [a1] ⟨0, 0⟩, Bn], [], []⟩
def U2 : SSysJ := ⟨s2, [A [a1] ⟨0, 0⟩, Bn], [rA], []⟩
def U3 : SSysJ := ⟨s3, [A [a1] ⟨0, 0⟩, Bn], [rA], [qA]⟩
def U4 : SSysJ := ⟨s3, [A [a1] ⟨1, 1⟩, Bn], [rA], [qA]⟩
def U5 : SSysJ := ⟨s3, [A [a1] ⟨1, 1⟩, Bn], [rA, rB0], [qA]⟩
def U6 : SSysJ := ⟨s4, [A [a1] ⟨1, 1⟩, Bn], [rA, rB0], [qA, qB0]⟩
def U7 : SSysJ := ⟨s4, [A [a1] ⟨1, 1⟩, B [] ⟨1, 0⟩], [rA, rB0], [qA, qB0]⟩
def U8 : SSysJ := ⟨s4, [A [a1] ⟨1, 1⟩, B [b1] ⟨1, 0⟩], [rA, rB0], [qA, qB0]⟩
def U9 : SSysJ := ⟨s4, [A [a1] ⟨1, 1⟩, B [b1] ⟨1, 0⟩], [rA, rB0, rB1], [qA, qB0]⟩
def U10 : SSysJ := ⟨s5, [A [a1] ⟨1, 1⟩, B [b1] ⟨1, 0⟩], [rA, rB0, rB1], [qA, qB0, qB1]⟩
def U11 : SSysJ := ⟨s5, [A [a1] ⟨1, 1⟩, B [b1] ⟨2, 1⟩], [rA, rB0, rB1], [qA, qB0, qB1]⟩

example : SSysJ.init s2 cs = ⟨s2, [A [] ⟨0, 0⟩, Bn], [], []⟩ := rfl

theorem run : SRunJ tg (SSysJ.init s2 cs) U11 := by
  have r1 : SRunJ tg (SSysJ.init s2 cs) U1 := .step (.refl _) (.localOp _ 0 (A [] ⟨0, 0⟩) a1 rfl rfl rfl)
  have r2 : SRunJ tg (SSysJ.init s2 cs) U2 := .step r1 (.send _ 0 (A [a1] ⟨0, 0⟩) rfl)
  have r3 : SRunJ tg (SSysJ.init s2 cs) U3 := .step r2 (.create _ rA (A [a1] ⟨0, 0⟩) cA packCreate (.head _) rfl rfl rfl
    (by decide) ⟨rfl, rfl, rfl, rfl, rfl, rfl, rfl, rfl⟩ rfl rfl)
  have r4 : SRunJ tg (SSysJ.init s2 cs) U4 := .step r3 (.deliver _ qA (A [a1] ⟨0, 0⟩) (.head _) rfl rfl rfl)
  have r5 : SRunJ tg (SSysJ.init s2 cs) U5 := .step r4 (.send _ 1 Bn rfl)
  have r6 : SRunJ tg (SSysJ.init s2 cs) U6 := .step r5 (.subscribe _ rB0 Bn cB packSub (.tail _ (.head _)) rfl rfl rfl
    (by decide) ⟨rfl, by decide, rfl, rfl, rfl, rfl, rfl, rfl⟩)
  have r7 : SRunJ tg (SSysJ.init s2 cs) U7 := .step r6 (.deliverSub _ qB0 Bn (.tail _ (.head _)) rfl rfl)
  have r8 : SRunJ tg (SSysJ.init s2 cs) U8 := .step r7 (.localOp _ 1 (B [] ⟨1, 0⟩) b1 rfl rfl rfl)
  have r9 : SRunJ tg (SSysJ.init s2 cs) U9 := .step r8 (.send _ 1 (B [b1] ⟨1, 0⟩) rfl)
  have r10 : SRunJ tg (SSysJ.init s2 cs) U10 := .step r9 (.serve _ rB1 (B [b1] ⟨1, 0⟩) cB packB (.tail _ (.tail _ (.head _))) rfl rfl rfl
    (by decide) ⟨rfl, rfl, rfl, rfl, rfl, rfl, rfl, rfl⟩)
  exact .step r10 (.deliver _ qB1 (B [b1] ⟨1, 0⟩) (.tail _ (.tail _ (.head _))) rfl rfl rfl)

/-- … and the creator's create pack is delivered to the server ONCE MORE (a duplicate): served on the normal
    path, `a1` skipped as a duplicate, nothing stored, a's record moves to ⟨2,1⟩, the answer is the whole log -/
def s6 : Store := (processPack s5 cA col packCreate).store
def qA2 : JResp := ⟨.normal, 0, [a1, b1], ⟨2, 1⟩⟩
def U12 : SSysJ := ⟨s6, [A [a1] ⟨1, 1⟩, B [b1] ⟨2, 1⟩], [rA, rB0, rB1], [qA, qB0, qB1, qA2]⟩

theorem run12 : SRunJ tg (SSysJ.init s2 cs) U12 :=
  .step run (.createAgain _ rA (A [a1] ⟨1, 1⟩) cA packCreate (.head _) rfl rfl rfl (by decide)
    ⟨rfl, rfl, rfl, rfl, rfl, rfl, rfl, rfl⟩ rfl)

example : s6.operations = s5.operations ∧ absCps s6 "d1" = [("a", ⟨2, 1⟩), ("b", ⟨2, 1⟩)] := by
  rw [s6, s5_val]; exact ⟨rfl, rfl⟩

theorem inv2 : LogInv s2 :=
  logInv_processClient _ _ _ _ (logInv_processClient _ _ _ _ (logInv_makeCollection _ _ logInv_empty))

theorem keys2 : KeyUnique s2 := fun _ h1 => absurd h1 List.not_mem_nil

/-- the run ends in a state whose abstraction is `JReach`able -/
theorem reach : GoodJ tg U11 ∧ JReach cs (U11.abs tg) :=
  store_run_from_scratch (by decide) inv2 keys2 rfl rfl run

theorem reach12 : GoodJ tg U12 ∧ JReach cs (U12.abs tg) :=
  store_run_from_scratch (by decide) inv2 keys2 rfl rfl run12

/-- the one-step create theorem instantiated: hypotheses by `rfl`/`decide`, abstract log shown -/
example : absLog s3 "d1" = [a1] ∧ absCps s3 "d1" = [("a", ⟨1, 1⟩)] :=
  have h := processPack_is_create (st := s2) (cl := cA) (col := col) (p := packCreate) inv2
    ⟨rfl, rfl, rfl, by decide, rfl, rfl⟩ (cp2 := ⟨1, 1⟩) (docs := [⟨pDuid, pCol, 1, a1⟩]) rfl
  ⟨h.2.2.1, h.2.2.2.1⟩

/-- the late-joiner invariant read off the store `s5`, from the theorem and by evaluation -/
example : ((s5.opsOf "d1").map (·.op)).filter (fun o => o.id.cuid = "b") = [b1] :=
  (store_log_with_late_joiners ⟨inv2, keys2, .absent rfl rfl⟩
    (by show JReach cs (JSys.init cs); exact JReach.init (by decide)) run).2.2.2.1 (B [b1] ⟨2, 1⟩) (.tail _ (.head _))
example : (s5.opsOf "d1").map (·.op) = [a1, b1] := by rw [s5_val]; rfl

end ExJ

end Orda.SRefJ
