/-
Batches and insert histories, what the files about deliveries share: the shape of a member of a flattened delete / update,
that only inserts ask for a history, and the history clause of a single insert under a name (`HistExt`).
-/
import Orda.Proofs.DocArr
namespace Orda.DA
open DC

/-- the timestamps that a batch starting at `t` gives its values -/
def After (t t1 : Ts) : Prop := t1.era = t.era ∧ t1.lamport = t.lamport ∧ t1.cuid = t.cuid ∧ t.delim ≤ t1.delim

theorem After.key {t t1 : Ts} (h : After t t1) : t1.key = t.key := by simp only [Ts.key, h.1, h.2.1, h.2.2.1]

theorem mem_flatDel {p : Ts} : ∀ {tgs : List Ts} {t : Ts} {e : EOp}, e ∈ flatDel p tgs t →
    ∃ tg t1, tg ∈ tgs ∧ After t t1 ∧ e = .del1 p tg t1
  | [], _, _, h => by simp [flatDel] at h
  | tg :: tgs, t, e, h => by
    simp only [flatDel, List.mem_cons] at h
    rcases h with rfl | h
    · exact ⟨tg, t, List.mem_cons_self, ⟨rfl, rfl, rfl, Nat.le_refl _⟩, rfl⟩
    · obtain ⟨tg', t1, h1, ⟨a1, a2, a3, a4⟩, h2⟩ := mem_flatDel h
      exact ⟨tg', t1, List.mem_cons_of_mem _ h1, ⟨a1, a2, a3, Nat.le_of_succ_le a4⟩, h2⟩

theorem mem_flatUpd {p : Ts} : ∀ {tgs : List Ts} {vs : List JVal} {t : Ts} {e : EOp},
    e ∈ flatUpd p tgs vs t → ∃ tg v t1, tg ∈ tgs ∧ v ∈ vs ∧ After t t1 ∧ e = .upd1 p tg t1 v
  | [], _, _, _, h => by simp [flatUpd] at h
  | _ :: _, [], _, _, h => by simp [flatUpd] at h
  | tg :: tgs, v :: vs, t, e, h => by
    simp only [flatUpd, List.mem_cons] at h
    rcases h with rfl | h
    · exact ⟨tg, v, t, List.mem_cons_self, List.mem_cons_self, ⟨rfl, rfl, rfl, Nat.le_refl _⟩, rfl⟩
    · obtain ⟨tg', v', t1, h1, h2, h3, h4⟩ := mem_flatUpd h
      refine ⟨tg', v', t1, List.mem_cons_of_mem _ h1, List.mem_cons_of_mem _ h2, ?_, h4⟩
      -- `createNode` hands on the timestamp with a higher delimiter
      split at h3
      · rename_i ns c t' hc
        obtain ⟨_, _, _, ht', _⟩ := createNode_ids hc
        obtain ⟨a1, a2, a3, a4⟩ := h3
        rw [ht'] at a1 a2 a3 a4
        simp only [addDelim] at a1 a2 a3 a4
        exact ⟨a1, a2, a3, by omega⟩
      · exact h3

/-! ### only inserts ask for a history -/

theorem insOnE_ins (p a t : Ts) (vs : List JVal) :
    insOnE p (.ins p a t vs) = some ⟨a, newSlots (EOp.ins p a t vs)⟩ := if_pos rfl

theorem filterMap_insOn_ins (p a t : Ts) (vs : List JVal) :
    [EOp.ins p a t vs].filterMap (insOnE p) = [⟨a, newSlots (EOp.ins p a t vs)⟩] := by
  rw [List.filterMap_cons_some (insOnE_ins p a t vs), List.filterMap_nil]

theorem ins_of_insOn {a : AOp} {p : Ts} (h : ∃ e ∈ flat a, (insOnE p e).isSome) :
    ∃ an ts vs, a = .ins p an ts vs := by
  obtain ⟨e, he, hi⟩ := h
  cases a with
  | ins p' an ts vs =>
    cases List.mem_singleton.1 he
    exact ⟨an, ts, vs, by rw [show p' = p from insOnE_p hi]⟩
  | del p' tgs t => obtain ⟨_, _, _, _, rfl⟩ := mem_flatDel he; cases hi
  | upd p' t tgs vs => obtain ⟨_, _, _, _, _, _, rfl⟩ := mem_flatUpd he; cases hi

theorem flat_noIns {y : AOp} (hy : ∀ p a ts vs, y ≠ .ins p a ts vs) (e : EOp) (he : e ∈ flat y) (q : Ts) :
    insOnE q e = none :=
  Option.not_isSome_iff_eq_none.1 fun hi => by
    obtain ⟨an, ts, vs, rfl⟩ := ins_of_insOn ⟨e, he, hi⟩
    exact hy _ _ _ _ rfl

theorem noIns_ordOK (d : Doc) (l : List EOp) (h : ∀ e ∈ l, ∀ p, insOnE p e = none) : OrdOK d l := by
  intro p ⟨e, he, hi⟩
  rw [h e he p] at hi
  cases hi

/-! ### the history clause of one insert -/

/-- the order identifiers `l` were produced by a causal history of inserts; of an array of a document: `DLR.ArrHist` -/
def Hist (l : List Ts) : Prop := ∃ M0, l = foldIds [] M0 ∧ ACausal M0

/-- what `OrdOK` asks of an array with order identifiers `l` that receives the single insert `o` -/
def HistExt (l : List Ts) (o : AIns) : Prop := ∃ M0, l = foldIds [] M0 ∧ ACausal (M0 ++ [o])

theorem HistExt.hist {l : List Ts} {o : AIns} (h : HistExt l o) : Hist l :=
  h.imp fun _ h => ⟨h.1, h.2.prefix⟩

theorem HistExt.step {l : List Ts} {o : AIns} (h : HistExt l o) : Hist (stepIds l o.anchor o.cs) := by
  obtain ⟨M0, hb, hc⟩ := h
  exact ⟨_, by rw [foldIds_snoc, ← hb], hc⟩

theorem ordOK_single_ins_iff {d : Doc} {p a ts : Ts} {vs : List JVal} :
    OrdOK d [.ins p a ts vs] ↔ HistExt (slotIds d p) ⟨a, newSlots (.ins p a ts vs)⟩ := by
  constructor
  · intro h
    obtain ⟨M0, hb, hc⟩ := h p ⟨_, List.mem_singleton_self _, by rw [insOnE_ins]; rfl⟩
    exact ⟨M0, hb, hc _ (filterMap_insOn_ins p a ts vs ▸ List.Perm.refl _)⟩
  · rintro ⟨M0, hb, hc⟩ q ⟨e, he, hi⟩
    obtain rfl := List.mem_singleton.mp he
    obtain rfl : p = q := insOnE_p hi
    refine ⟨M0, hb, fun l' hl' => ?_⟩
    rw [filterMap_insOn_ins] at hl'
    rw [List.perm_singleton.mp hl']
    exact hc

end Orda.DA
