/-
C03 for documents: on a single replica the JSON document behaves as a plain JSON tree (`Spec/PlainDoc`).

The view of a node depends only on the subtree below it (`Safe`, `Same`, `safe_viewAt`), so a change at a located node
shows in the root view exactly at its path (`frame`). The invariant `DInv L b d` / `DocInv r` is kept by a generic step:
`GStp` (new nodes, a new kind for the node `hd`, entries buried or tombstoned; freshness and stamps are hypotheses, so
that the deliveries of `DocRemoteInv` are instances too) and its instance for calls `Stp` (identifiers handed out by the
clock: `Stp.toG`, `Stp.next`); every local operation is such a step, built from its lookup function by `Stp.of_find`,
and what it leaves behind has one form for objects (`ObjStep`: the key-sorted view changed by a function) and one for
arrays (`ArrStep`: `k` live slots from position `p` give way to new values). The calls are analysed on the document `d`
and the clock `L` alone: `Res L d c d' o` is what `prepare` and `execLocal` make of the call, `call_full` gives for every
call such a result with the invariant (`Eff`) and the refinement (`Refines`), and `Res.call` carries it to `Replica.call`.
-/
import Orda.Spec.PlainDoc
import Orda.Proofs.DocTable
import Orda.Proofs.JsonCanon
import Orda.Proofs.DocArrBase
import Orda.Proofs.LiveWalk
import Orda.Proofs.ReplicaApi
import Orda.Proofs.ListAux
namespace Orda.DP
open Orda DC

/-! ## fuel-free views -/

/-- `DG d` (the document is good for views): well-formed, acyclic, distinct keys -/
structure DG (d : Doc) : Prop where
  wf : d.WF
  acyc : ∃ rk, Ranked d rk
  keys : KeysND d

theorem DG.rank {d : Doc} (hg : DG d) : ∃ rk, Ranked d rk ∧ ∀ c, rk c ≤ d.table.length := by
  obtain ⟨rk, hr⟩ := hg.acyc
  exact ⟨crk d rk, crk_ranked hg.wf hr, crk_le d rk⟩

theorem viewOf_big {d : Doc} (hg : DG d) (c : Ts) (f : Nat) (hf : d.table.length < f) :
    d.viewOf f c = d.viewAt c := by
  obtain ⟨rk, hr, hb⟩ := hg.rank
  have := hb c
  exact viewOf_stable hr f (d.table.length + 1) c (by omega) (by omega)

def objView (d : Doc) (m : List (String × Ts)) : List (String × JVal) :=
  m.filterMap fun (k, ch) => if d.isTomb ch then none else some (k, d.viewAt ch)
def arrView (d : Doc) (sl : List (Ts × Ts)) : List JVal :=
  sl.filterMap fun (_, ch) => if d.isTomb ch then none else some (d.viewAt ch)

theorem viewAt_none {d : Doc} {c : Ts} (h : d.find c = none) : d.viewAt c = .null := by
  simp [Doc.viewAt, Doc.viewOf, h]

theorem viewAt_elem {d : Doc} {c : Ts} {n : DNode} {v : JVal} (h : d.find c = some n) (hk : n.kind = .elem v) :
    d.viewAt c = v := by
  obtain ⟨nc, nd, np, nk⟩ := n
  simp only at hk; subst hk
  simp [Doc.viewAt, Doc.viewOf, h]

theorem viewOf_kid {d : Doc} (hg : DG d) {c x : Ts} {n : DNode} (h : d.find c = some n) (hx : x ∈ kids n.kind) :
    d.viewOf d.table.length x = d.viewAt x := by
  obtain ⟨rk, hr, hb⟩ := hg.rank
  have h1 := hr c _ h x hx
  have h2 := hb c
  exact viewOf_stable hr d.table.length (d.table.length + 1) x (by omega) (by omega)

theorem viewAt_obj {d : Doc} (hg : DG d) {c : Ts} {n : DNode} {m : List (String × Ts)} {s : Int}
    (h : d.find c = some n) (hk : n.kind = .obj m s) : d.viewAt c = .obj (objView d m) := by
  obtain ⟨nc, nd, np, nk⟩ := n
  simp only at hk; subst hk
  unfold Doc.viewAt
  simp only [Doc.viewOf, h, objView, JVal.obj.injEq]
  exact List.filterMap_congr fun x hx => by rw [viewOf_kid hg h (List.mem_map.mpr ⟨x, hx, rfl⟩)]

theorem viewAt_arr {d : Doc} (hg : DG d) {c : Ts} {n : DNode} {sl : List (Ts × Ts)} {s : Int}
    (h : d.find c = some n) (hk : n.kind = .arr sl s) : d.viewAt c = .arr (arrView d sl) := by
  obtain ⟨nc, nd, np, nk⟩ := n
  simp only at hk; subst hk
  unfold Doc.viewAt
  simp only [Doc.viewOf, h, arrView, JVal.arr.injEq]
  exact List.filterMap_congr fun x hx => by rw [viewOf_kid hg h (List.mem_map.mpr ⟨x, hx, rfl⟩)]

theorem view_eq_viewAt (d : Doc) : d.view = d.viewAt Ts.oldest := rfl

/-! ## reachability along child links -/

inductive Reach (d : Doc) (a : Ts) : Ts → Prop where
  | refl : Reach d a a
  | snoc {q : Ts} {nq : DNode} {x : Ts} : Reach d a q → d.find q = some nq → x ∈ kids nq.kind → Reach d a x

theorem Reach.trans {d : Doc} {a b c : Ts} (h1 : Reach d a b) (h2 : Reach d b c) : Reach d a c := by
  induction h2 with
  | refl => exact h1
  | snoc _ hq hx ih => exact Reach.snoc ih hq hx

theorem Reach.cons {d : Doc} {a ch x : Ts} {n : DNode} (ha : d.find a = some n) (hc : ch ∈ kids n.kind)
    (h : Reach d ch x) : Reach d a x :=
  Reach.trans (Reach.snoc Reach.refl ha hc) h

theorem Reach.rank_le {d : Doc} {rk : Ts → Nat} (hr : Ranked d rk) {a x : Ts} (h : Reach d a x) : rk x ≤ rk a := by
  induction h with
  | refl => exact Nat.le_refl _
  | snoc _ hq hx ih => have := hr _ _ hq _ hx; omega

theorem Reach.linear {d : Doc} (hw : d.WF) {a b x : Ts} (h1 : Reach d a x) (h2 : Reach d b x) :
    Reach d a b ∨ Reach d b a := by
  induction h1 with
  | refl => exact Or.inr h2
  | @snoc q nq x hq hf hx ih =>
    cases h2 with
    | refl => exact Or.inl (Reach.snoc hq hf hx)
    | @snoc q' nq' _ hq' hf' hx' =>
      have : q = q' := wf_unique_parent hw hf hf' hx hx'
      subst this
      exact ih hq'

theorem not_reach_up {d : Doc} (ha : ∃ rk, Ranked d rk) {p ch : Ts} {n : DNode} (hp : d.find p = some n)
    (hc : ch ∈ kids n.kind) : ¬ Reach d ch p := by
  obtain ⟨rk, hr⟩ := ha
  intro h
  have := h.rank_le hr
  have := hr p n hp ch hc
  omega

theorem sibling_disjoint {d : Doc} (hw : d.WF) (ha : ∃ rk, Ranked d rk) {p a b x : Ts} {n : DNode}
    (hp : d.find p = some n) (hac : a ∈ kids n.kind) (hbc : b ∈ kids n.kind) (hne : a ≠ b)
    (h1 : Reach d a x) (h2 : Reach d b x) : False := by
  have key : ∀ {a b : Ts}, a ∈ kids n.kind → b ∈ kids n.kind → a ≠ b → Reach d a b → False := by
    intro a b hac hbc hne h
    cases h with
    | refl => exact hne rfl
    | @snoc q nq _ hq hf hx =>
      have : q = p := wf_unique_parent hw hf hp hx hbc
      subst this
      exact not_reach_up ha hp hac hq
  rcases Reach.linear hw h1 h2 with h | h
  · exact key hac hbc hne h
  · exact key hbc hac (fun e => hne e.symm) h


/-! ## nodes whose subtree is not touched keep their view -/

/-- the subtree below `c` contains neither `hd` nor a touched child of `hd` -/
def Safe (d : Doc) (hd : Ts) (TK : Ts → Prop) (c : Ts) : Prop :=
  ¬ Reach d c hd ∧ ∀ x, TK x → ¬ Reach d c x

theorem Safe.kid {d : Doc} {hd : Ts} {TK : Ts → Prop} {c ch : Ts} {n : DNode} (h : Safe d hd TK c)
    (hf : d.find c = some n) (hc : ch ∈ kids n.kind) : Safe d hd TK ch :=
  ⟨fun r => h.1 (Reach.cons hf hc r), fun x hx r => h.2 x hx (Reach.cons hf hc r)⟩

/-- `d'` differs from `d` only at `hd`, at touched children of `hd`, and at identifiers unknown to `d` -/
def Same (d d' : Doc) (hd : Ts) (TK : Ts → Prop) : Prop :=
  ∀ c n, d.find c = some n → c ≠ hd → ¬ TK c → d'.find c = some n

theorem safe_find {d d' : Doc} {hd : Ts} {TK : Ts → Prop} (hs : Same d d' hd TK) {c : Ts} {n : DNode}
    (h : Safe d hd TK c) (hf : d.find c = some n) : d'.find c = some n :=
  hs c n hf (fun e => h.1 (e ▸ Reach.refl)) (fun t => h.2 c t Reach.refl)

theorem safe_viewOf {d d' : Doc} {hd : Ts} {TK : Ts → Prop} (hw : d.WF) (hs : Same d d' hd TK) :
    ∀ (f : Nat) (c : Ts), Safe d hd TK c → (d.find c).isSome → d'.viewOf f c = d.viewOf f c := by
  intro f
  induction f with
  | zero => intro c _ _; rfl
  | succ f ih =>
    intro c hc hsome
    obtain ⟨n, hf⟩ := Option.isSome_iff_exists.mp hsome
    have hf' := safe_find hs hc hf
    obtain ⟨nc, nd, np, nk⟩ := n
    have kidfact : ∀ x ∈ kids nk, d'.isTomb x = d.isTomb x ∧ d'.viewOf f x = d.viewOf f x := by
      intro x hx
      obtain ⟨nx, hnx, _⟩ := hw.child c _ hf x hx
      have hsx := hc.kid hf hx
      refine ⟨isTomb_of_find ((safe_find hs hsx hnx).trans hnx.symm), ih x hsx (by simp [hnx])⟩
    cases nk with
    | elem v => simp only [Doc.viewOf, hf, hf']
    | obj m s | arr sl s =>
      simp only [Doc.viewOf, hf, hf', JVal.obj.injEq, JVal.arr.injEq]
      apply List.filterMap_congr
      intro x hx
      obtain ⟨h1, h2⟩ := kidfact x.2 (List.mem_map.mpr ⟨x, hx, rfl⟩)
      rw [h1, h2]

theorem safe_viewAt {d d' : Doc} {hd : Ts} {TK : Ts → Prop} (hg : DG d) (hg' : DG d') (hs : Same d d' hd TK)
    {c : Ts} (hc : Safe d hd TK c) (hsome : (d.find c).isSome) : d'.viewAt c = d.viewAt c := by
  rw [← viewOf_big hg' c (max d.table.length d'.table.length + 1) (by omega),
    ← viewOf_big hg c (max d.table.length d'.table.length + 1) (by omega)]
  exact safe_viewOf hg.wf hs _ c hc hsome

theorem safe_isTomb {d d' : Doc} {hd : Ts} {TK : Ts → Prop} (hs : Same d d' hd TK)
    {c : Ts} (hc : Safe d hd TK c) (hsome : (d.find c).isSome) : d'.isTomb c = d.isTomb c := by
  obtain ⟨n, hf⟩ := Option.isSome_iff_exists.mp hsome
  exact isTomb_of_find ((safe_find hs hc hf).trans hf.symm)

theorem kid_safe {d : Doc} {hd : Ts} {TK : Ts → Prop} (hw : d.WF) (ha : ∃ rk, Ranked d rk) {n : DNode}
    (hp : d.find hd = some n) {x : Ts} (hx : x ∈ kids n.kind) (hnt : ¬ TK x)
    (hTK : ∀ y, TK y → y ∈ kids n.kind) : Safe d hd TK x := by
  refine ⟨not_reach_up ha hp hx, ?_⟩
  intro y hy r
  cases r with
  | refl => exact hnt hy
  | @snoc q nq _ hq hf hyq =>
    have : q = hd := wf_unique_parent hw hf hp hyq (hTK y hy)
    subst this
    exact not_reach_up ha hp hx hq

/-! ## `locate` -/

theorem liveChildren_eq {d : Doc} {c : Ts} {n : DNode} {sl : List (Ts × Ts)} {s : Int}
    (h : d.find c = some n) (hk : n.kind = .arr sl s) :
    d.liveChildren c = (sl.filter (slotLive d)).map (·.2) := by
  unfold Doc.liveChildren
  rw [DA.findArr_some_iff.mpr ⟨h, hk⟩]

/-- `LiveKid d cur sg ch`: below the node `cur` the segment `sg` leads to the live child `ch` (a key of an object to its
    occupant, an index of an array to the child of the `i`-th live slot). `Doc.locate` follows such steps. -/
inductive LiveKid (d : Doc) (cur : Ts) : PlainDoc.Seg → Ts → Prop
  | key {n : DNode} {m : List (String × Ts)} {s : Int} {k : String} {ch : Ts} (hf : d.find cur = some n)
      (hk : n.kind = .obj m s) (ha : alFind k m = some ch) (hl : d.isTomb ch = false) : LiveKid d cur (.key k) ch
  | idx {n : DNode} {sl : List (Ts × Ts)} {s : Int} {i : Nat} {ch : Ts} (hf : d.find cur = some n)
      (hk : n.kind = .arr sl s) (hi : ((sl.filter (slotLive d)).map (·.2))[i]? = some ch) : LiveKid d cur (.idx i) ch

theorem LiveKid.locate {d : Doc} {cur ch : Ts} {sg : PlainDoc.Seg} (h : LiveKid d cur sg ch) (r : List PlainDoc.Seg) :
    d.locate (sg :: r) cur = d.locate r ch := by
  cases h with
  | key hf hk ha hl => simp only [Doc.locate, findObj_some_iff.mpr ⟨hf, hk⟩, ha, hl, Bool.false_eq_true, if_false]
  | idx hf hk hi => simp only [Doc.locate, DA.findArr_some_iff.mpr ⟨hf, hk⟩, liveChildren_eq hf hk, hi]

theorem locate_cons_inv {d : Doc} {sg : PlainDoc.Seg} {r : List PlainDoc.Seg} {cur hd : Ts}
    (h : d.locate (sg :: r) cur = some hd) : ∃ ch, LiveKid d cur sg ch ∧ d.locate r ch = some hd := by
  cases sg with
  | key k =>
    simp only [Doc.locate] at h
    split at h
    · rename_i n m s hfo
      obtain ⟨h1, h2⟩ := findObj_some_iff.mp hfo
      split at h
      · rename_i ch hch
        split at h
        · cases h
        · rename_i ht
          exact ⟨ch, .key h1 h2 hch (by simpa using ht), h⟩
      · cases h
    · cases h
  | idx i =>
    simp only [Doc.locate] at h
    split at h
    · rename_i x hfa
      obtain ⟨n, sl, s⟩ := x
      obtain ⟨h1, h2⟩ := DA.findArr_some_iff.mp hfa
      split at h
      · rename_i ch hch
        rw [liveChildren_eq h1 h2] at hch
        exact ⟨ch, .idx h1 h2 hch, h⟩
      · cases h
    · cases h

theorem locate_induction {d : Doc} {hd : Ts} {P : List PlainDoc.Seg → Ts → Prop} (nil : P [] hd)
    (cons : ∀ sg r cur ch, LiveKid d cur sg ch → d.locate r ch = some hd → P r ch → P (sg :: r) cur) :
    ∀ (π : List PlainDoc.Seg) (cur : Ts), d.locate π cur = some hd → P π cur := by
  intro π
  induction π with
  | nil => intro cur h; simp only [Doc.locate, Option.some.injEq] at h; subst h; exact nil
  | cons sg r ih =>
    intro cur h
    obtain ⟨ch, hk, h'⟩ := locate_cons_inv h
    exact cons sg r cur ch hk h' (ih ch h')

theorem mem_of_getElem?_filter {d : Doc} {sl : List (Ts × Ts)} {i : Nat} {ch : Ts}
    (h : ((sl.filter (slotLive d)).map (·.2))[i]? = some ch) :
    ch ∈ sl.map (·.2) ∧ d.isTomb ch = false := by
  have hm := List.mem_of_getElem? h
  obtain ⟨s, hs, rfl⟩ := List.mem_map.mp hm
  obtain ⟨h1, h2⟩ := List.mem_filter.mp hs
  exact ⟨List.mem_map.mpr ⟨s, h1, rfl⟩, by simpa [slotLive] using h2⟩

theorem LiveKid.mem {d : Doc} {cur ch : Ts} {sg : PlainDoc.Seg} (h : LiveKid d cur sg ch) :
    ∃ n, d.find cur = some n ∧ ch ∈ kids n.kind ∧ d.isTomb ch = false := by
  cases h with
  | key hf hk ha hl => exact ⟨_, hf, by rw [hk]; exact alFind_mem_vals ha, hl⟩
  | idx hf hk hi => exact ⟨_, hf, by rw [hk]; exact (mem_of_getElem?_filter hi).1, (mem_of_getElem?_filter hi).2⟩

theorem locate_reach {d : Doc} {hd : Ts} : ∀ (π : List PlainDoc.Seg) (cur : Ts),
    d.locate π cur = some hd → Reach d cur hd :=
  locate_induction Reach.refl fun _ _ _ _ hk _ ih => let ⟨_, hf, hc, _⟩ := hk.mem; Reach.cons hf hc ih

theorem objView_find {d : Doc} {m : List (String × Ts)} (hk : (m.map (·.1)).Nodup) (k : String) :
    alFind k (objView d m) = (alFind k m).bind (fun ch => if d.isTomb ch then none else some (d.viewAt ch)) :=
  alFind_filterMap_view d.isTomb d.viewAt k m hk

theorem view_key {d : Doc} {m : List (String × Ts)} (hk : (m.map (·.1)).Nodup) (k : String) :
    alFind k (JVal.canonKvs (objView d m)) =
      (alFind k m).bind fun ch => if d.isTomb ch then none else some (d.viewAt ch).canon := by
  rw [alFind_canonKvs, objView_find hk]
  cases alFind k m with
  | none => rfl
  | some c => simp only [Option.bind_some]; cases d.isTomb c <;> rfl

theorem arrView_eq (d : Doc) (sl : List (Ts × Ts)) :
    arrView d sl = ((sl.filter (slotLive d)).map (·.2)).map d.viewAt := by
  induction sl with
  | nil => rfl
  | cons x xs ih =>
    unfold arrView at ih ⊢
    simp only [List.filterMap_cons, List.filter_cons, slotLive]
    by_cases h : d.isTomb x.2 = true
    · simp [h, ih]
    · simp [h, ih]

theorem locate_sub {d : Doc} (hg : DG d) {hd : Ts} : ∀ (π : List PlainDoc.Seg) (cur : Ts),
    d.locate π cur = some hd → PlainDoc.sub π (d.viewAt cur).canon = some (d.viewAt hd).canon :=
  locate_induction rfl fun sg r cur ch hk _ ih => by
    cases hk with
    | key h1 h2 h3 h4 =>
      rw [viewAt_obj hg h1 h2, canon_obj]
      simp only [PlainDoc.sub]
      rw [view_key (hg.keys cur _ _ _ h1 h2), h3]
      simp only [Option.bind_some, h4, Bool.false_eq_true, if_false]
      exact ih
    | idx h1 h2 h3 =>
      rw [viewAt_arr hg h1 h2, canon_arr, canonList_eq_map, arrView_eq]
      simp only [PlainDoc.sub, List.getElem?_map, h3, Option.map_some]
      exact ih

theorem frame {d d' : Doc} {hd : Ts} {TK : Ts → Prop} (hg : DG d) (hg' : DG d') (hs : Same d d' hd TK)
    (hTK : ∀ x, TK x → ∃ n, d.find hd = some n ∧ x ∈ kids n.kind) (hhd : d'.isTomb hd = false) :
    ∀ (π : List PlainDoc.Seg) (cur : Ts), d.locate π cur = some hd →
      PlainDoc.replace (d'.viewAt hd).canon π (d.viewAt cur).canon = some (d'.viewAt cur).canon := by
  refine locate_induction rfl fun sg r cur ch hk h5 ih => ?_
  have hw := hg.wf
  have ha := hg.acyc
  have common : ∀ {n : DNode}, d.find cur = some n → ch ∈ kids n.kind → d.isTomb ch = false →
      d'.find cur = some n ∧ d'.isTomb ch = false ∧ (∀ x ∈ kids n.kind, x ≠ ch → Safe d hd TK x ∧ (d.find x).isSome) := by
    intro n h1 hch hlive
    have hr : Reach d ch hd := locate_reach r ch h5
    have hne : cur ≠ hd := fun e => not_reach_up ha h1 hch (e ▸ hr)
    have hntk : ¬ TK cur := by
      intro t
      obtain ⟨nh, hnh, hk⟩ := hTK cur t
      exact not_reach_up ha hnh hk (Reach.cons h1 hch hr)
    have hcnt : ¬ TK ch := by
      intro t
      obtain ⟨nh, hnh, hk⟩ := hTK ch t
      exact hne (wf_unique_parent hw h1 hnh hch hk)
    refine ⟨hs cur n h1 hne hntk, ?_, ?_⟩
    · by_cases e : ch = hd
      · rw [e]; exact hhd
      · obtain ⟨nc, hnc, _⟩ := hw.child cur n h1 ch hch
        rw [isTomb_of_find ((hs ch nc hnc e hcnt).trans hnc.symm)]; exact hlive
    · intro x hx hxne
      obtain ⟨nx, hnx, _⟩ := hw.child cur n h1 x hx
      refine ⟨⟨fun rx => sibling_disjoint hw ha h1 hx hch hxne rx hr, ?_⟩, by simp [hnx]⟩
      intro y hy ry
      obtain ⟨nh, hnh, hk⟩ := hTK y hy
      cases ry with
      | refl => exact hne (wf_unique_parent hw h1 hnh hx hk)
      | @snoc q nq _ hq hf hyq =>
        have : q = hd := wf_unique_parent hw hf hnh hyq hk
        subst this
        exact sibling_disjoint hw ha h1 hx hch hxne hq hr
  cases hk with
  | @key n m s k _ h1 h2 h3 h4 =>
    have hchk : ch ∈ kids n.kind := by rw [h2]; exact alFind_mem_vals h3
    obtain ⟨hf', hlive', hsib⟩ := common h1 hchk h4
    have hkn := hg.keys cur n m s h1 h2
    have hinj : (m.map (·.2)).Nodup := by have := hw.inj cur n h1; rwa [h2] at this
    rw [viewAt_obj hg h1 h2, viewAt_obj hg' hf' h2, canon_obj, canon_obj]
    simp only [PlainDoc.replace]
    have hfind : alFind k (JVal.canonKvs (objView d m)) = some (d.viewAt ch).canon := by
      rw [view_key hkn, h3]
      simp [h4]
    rw [hfind]
    simp only [ih, Option.map_some, Option.some.injEq, JVal.obj.injEq]
    symm
    apply ksorted_ext (ksorted_canonKvs _) (ksorted_objPut _ _ (ksorted_canonKvs _))
    intro k'
    rw [PD.alFind_objPut, view_key hkn, view_key hkn]
    by_cases e : k = k'
    · subst e
      simp [h3, hlive']
    · simp only [e, if_false]
      cases hx : alFind k' m with
      | none => rfl
      | some x =>
        have hxk : x ∈ kids n.kind := by rw [h2]; exact alFind_mem_vals hx
        have hxne : x ≠ ch := fun e' => e (alFind_inj_of_vals_nodup hinj h3 (e' ▸ hx))
        obtain ⟨hsafe, hsome⟩ := hsib x hxk hxne
        simp only [Option.bind_some, safe_isTomb hs hsafe hsome, safe_viewAt hg hg' hs hsafe hsome]
  | @idx n sl s i _ h1 h2 h3 =>
    obtain ⟨hchk', h4⟩ := mem_of_getElem?_filter h3
    have hchk : ch ∈ kids n.kind := by rw [h2]; exact hchk'
    obtain ⟨hf', hlive', hsib⟩ := common h1 hchk h4
    have hinj : (sl.map (·.2)).Nodup := by have := hw.inj cur n h1; rwa [h2] at this
    have hfilt : sl.filter (slotLive d') = sl.filter (slotLive d) := by
      apply List.filter_congr
      intro x hx
      have hxk : x.2 ∈ kids n.kind := by rw [h2]; exact List.mem_map.mpr ⟨x, hx, rfl⟩
      unfold slotLive
      by_cases e : x.2 = ch
      · rw [e, h4, hlive']
      · obtain ⟨hsafe, hsome⟩ := hsib x.2 hxk e
        rw [safe_isTomb hs hsafe hsome]
    rw [viewAt_arr hg h1 h2, viewAt_arr hg' hf' h2, canon_arr, canon_arr, canonList_eq_map, canonList_eq_map,
      arrView_eq, arrView_eq, hfilt]
    simp only [PlainDoc.replace, List.getElem?_map, h3, Option.map_some, ih, Option.some.injEq,
      JVal.arr.injEq]
    have e1 : ∀ (g : Ts → JVal) (L : List Ts),
        List.map JVal.canon (List.map g L) = List.map (fun x => (g x).canon) L :=
      fun g L => by rw [List.map_map]; rfl
    rw [e1, e1]
    have hnd : ((sl.filter (slotLive d)).map (·.2)).Nodup :=
      List.Nodup.sublist (List.Sublist.map _ List.filter_sublist) hinj
    apply map_set_of_nodup (f := fun x => (d.viewAt x).canon) (f' := fun x => (d'.viewAt x).canon) _ hnd i ch h3
    intro x hx hxne
    obtain ⟨sx, hsx, rfl⟩ := List.mem_map.mp hx
    have hxk : sx.2 ∈ kids n.kind := by rw [h2]; exact List.mem_map.mpr ⟨sx, (List.mem_filter.mp hsx).1, rfl⟩
    obtain ⟨hsafe, hsome⟩ := hsib sx.2 hxk hxne
    simp only [safe_viewAt hg hg' hs hsafe hsome]

/-! ## creation of nodes: further facts -/

def Scalar : JVal → Prop
  | .bool _ | .num _ | .str _ => True
  | _ => False

/-- shape of a freshly created node -/
def NodeOK (n : DNode) : Prop :=
  match n.kind with
  | .elem v => Scalar v
  | .obj m s => s = (m.length : Int)
  | .arr sl s => s = (sl.length : Int) ∧ sl.map (·.1) = sl.map (·.2)

/-- every created node is a root (child of `parent`) or is referenced by the created node that is its parent -/
def Lnk (ns : List DNode) (roots : List Ts) (parent : Ts) : Prop :=
  ∀ n ∈ ns, (n.c ∈ roots ∧ n.parent = some parent) ∨ ∃ p ∈ ns, n.parent = some p.c ∧ n.c ∈ kids p.kind

theorem lnk_append {a b : List DNode} {c : Ts} {cs : List Ts} {parent : Ts} (ha : Lnk a [c] parent)
    (hb : Lnk b cs parent) : Lnk (a ++ b) (c :: cs) parent := by
  intro n hn
  rcases List.mem_append.mp hn with h | h
  · rcases ha n h with ⟨h1, h2⟩ | ⟨p, hp, h2⟩
    · simp only [List.mem_singleton] at h1
      exact Or.inl ⟨by rw [h1]; exact List.mem_cons_self, h2⟩
    · exact Or.inr ⟨p, List.mem_append_left _ hp, h2⟩
  · rcases hb n h with ⟨h1, h2⟩ | ⟨p, hp, h2⟩
    · exact Or.inl ⟨List.mem_cons_of_mem _ h1, h2⟩
    · exact Or.inr ⟨p, List.mem_append_right _ hp, h2⟩

theorem lnk_container {ns : List DNode} {cs : List Ts} {ts parent : Ts} (kind : DKind) (hk : kids kind = cs)
    (h : Lnk ns cs ts) : Lnk (⟨ts, none, some parent, kind⟩ :: ns) [ts] parent := by
  intro n hn
  rcases List.mem_cons.mp hn with rfl | hn
  · exact Or.inl ⟨List.mem_singleton.mpr rfl, rfl⟩
  · rcases h n hn with ⟨h1, h2⟩ | ⟨p, hp, h2⟩
    · exact Or.inr ⟨_, List.mem_cons_self, h2, by rw [hk]; exact h1⟩
    · exact Or.inr ⟨p, List.mem_cons_of_mem _ hp, h2⟩

theorem createArrItems_len (parent : Ts) : ∀ (vs : List JVal) (ts : Ts) (ns : List DNode) (cs : List Ts) (ts' : Ts),
    createArrItems parent ts vs = .ok (ns, cs, ts') → cs.length = vs.length :=
  fun vs ts _ _ _ h =>
    (create_induction (P := fun _ _ _ _ => True) (A := fun _ _ vs r => r.2.1.length = vs.length)
      (O := fun _ _ _ _ => True) (fun _ _ _ => trivial) (fun _ _ _ _ _ _ _ => trivial)
      (fun _ _ _ _ _ _ _ => trivial) (fun _ _ => rfl) (fun _ _ _ _ _ _ _ _ _ _ _ _ h => congrArg (· + 1) h)
      (fun _ _ => trivial) (fun _ _ _ _ _ _ _ _ _ _ _ _ _ _ => trivial)).2.1 parent ts vs _ h

theorem spec2_elem (parent ts : Ts) {v : JVal} (hv : Scalar v) :
    (∀ n ∈ [(⟨ts, none, some parent, .elem v⟩ : DNode)], NodeOK n) ∧
      Lnk [⟨ts, none, some parent, .elem v⟩] [ts] parent := by
  refine ⟨fun n hn => ?_, fun n hn => ?_⟩
  · rw [List.mem_singleton.mp hn]; exact hv
  · rw [List.mem_singleton.mp hn]; exact Or.inl ⟨List.mem_singleton.mpr rfl, rfl⟩

theorem scalar_of_leaf {parent ts : Ts} {v : JVal}
    (h : createNode parent ts v = .ok ([⟨ts, none, some parent, .elem v⟩], ts, ts.nextDelim)) : Scalar v := by
  cases v with
  | null => simp [createNode] at h
  | bool _ => trivial
  | num _ => trivial
  | str _ => trivial
  | obj kvs => simp only [createNode] at h; split at h <;> simp at h
  | arr vs => simp only [createNode] at h; split at h <;> simp at h

/-- Shape and links of created nodes: each is `NodeOK`, and is a root or hangs below another created node (`Lnk`). The equation
    `createNode … = .ok r` appears a second time inside the motive of `create_induction` because the leaf case reads the kind of
    value off it (`scalar_of_leaf`). -/
theorem create_spec2 :
    (∀ parent ts v r, createNode parent ts v = .ok r → createNode parent ts v = .ok r →
      (∀ n ∈ r.1, NodeOK n) ∧ Lnk r.1 [r.2.1] parent) ∧
    (∀ parent ts vs r, createArrItems parent ts vs = .ok r → (∀ n ∈ r.1, NodeOK n) ∧ Lnk r.1 r.2.1 parent) ∧
    (∀ parent ts kvs r, createObjItems parent ts kvs = .ok r →
      (∀ n ∈ r.1, NodeOK n) ∧ Lnk r.1 (r.2.1.map (·.2)) parent) :=
  create_induction
    (P := fun parent ts v r => createNode parent ts v = .ok r → (∀ n ∈ r.1, NodeOK n) ∧ Lnk r.1 [r.2.1] parent)
    (A := fun parent _ _ r => (∀ n ∈ r.1, NodeOK n) ∧ Lnk r.1 r.2.1 parent)
    (O := fun parent _ _ r => (∀ n ∈ r.1, NodeOK n) ∧ Lnk r.1 (r.2.1.map Prod.snd) parent)
    (fun parent ts _ h => spec2_elem parent ts (scalar_of_leaf h))
    (fun _ _ _ _ _ _ i _ => ⟨List.forall_mem_cons.mpr ⟨by simp [NodeOK], i.1⟩, lnk_container _ rfl i.2⟩)
    (fun _ _ _ _ _ _ i _ => ⟨List.forall_mem_cons.mpr ⟨by simp [NodeOK, Function.comp_def], i.1⟩,
      lnk_container _ (by simp [kids, Function.comp_def]) i.2⟩)
    (fun _ _ => ⟨fun _ hn => (nomatch hn), fun _ hn => (nomatch hn)⟩)
    (fun _ _ _ _ _ _ _ _ _ _ h1 a b =>
      ⟨fun n hn => (List.mem_append.mp hn).elim ((a h1).1 n) (b.1 n), lnk_append (a h1).2 b.2⟩)
    (fun _ _ => ⟨fun _ hn => (nomatch hn), fun _ hn => (nomatch hn)⟩)
    (fun _ _ _ _ _ _ _ _ _ _ _ h1 a b =>
      ⟨fun n hn => (List.mem_append.mp hn).elim ((a h1).1 n) (b.1 n), lnk_append (a h1).2 b.2⟩)

theorem createNode_spec2 (parent ts : Ts) : ∀ (v : JVal) (r : List DNode × Ts × Ts),
    createNode parent ts v = .ok r → (∀ n ∈ r.1, NodeOK n) ∧ Lnk r.1 [r.2.1] parent :=
  fun v r h => create_spec2.1 parent ts v r h h
theorem createArrItems_spec2 (parent ts : Ts) : ∀ (vs : List JVal) (ns : List DNode) (cs : List Ts) (ts' : Ts),
    createArrItems parent ts vs = .ok (ns, cs, ts') → (∀ n ∈ ns, NodeOK n) ∧ Lnk ns cs parent :=
  fun vs _ _ _ h => create_spec2.2.1 parent ts vs _ h
theorem createObjItems_spec2 (parent ts : Ts) : ∀ (kvs : List (String × JVal)) (ns : List DNode)
    (m : List (String × Ts)) (ts' : Ts),
    createObjItems parent ts kvs = .ok (ns, m, ts') → (∀ n ∈ ns, NodeOK n) ∧ Lnk ns (m.map (·.2)) parent :=
  fun kvs _ _ _ h => create_spec2.2.2 parent ts kvs _ h

mutual
theorem createNode_ok (parent ts : Ts) : ∀ (v : JVal), v.hasNull = false → ∃ r, createNode parent ts v = .ok r
  | .null, h => by simp [JVal.hasNull] at h
  | .bool b, _ => by simp only [createNode]; exact ⟨_, rfl⟩
  | .num b, _ => by simp only [createNode]; exact ⟨_, rfl⟩
  | .str b, _ => by simp only [createNode]; exact ⟨_, rfl⟩
  | .obj kvs, h => by
    simp only [JVal.hasNull] at h
    obtain ⟨r, hr⟩ := createObjItems_ok ts ts.nextDelim kvs h
    simp only [createNode, hr]; exact ⟨_, rfl⟩
  | .arr vs, h => by
    simp only [JVal.hasNull] at h
    obtain ⟨r, hr⟩ := createArrItems_ok ts ts.nextDelim vs h
    simp only [createNode, hr]; exact ⟨_, rfl⟩
theorem createArrItems_ok (parent ts : Ts) : ∀ (vs : List JVal), JVal.hasNullList vs = false →
    ∃ r, createArrItems parent ts vs = .ok r
  | [], _ => by simp only [createArrItems]; exact ⟨_, rfl⟩
  | v :: vs, h => by
    simp only [JVal.hasNullList, Bool.or_eq_false_iff] at h
    obtain ⟨⟨ns, c, ts1⟩, h1⟩ := createNode_ok parent ts v h.1
    obtain ⟨⟨ns2, cs, ts2⟩, h2⟩ := createArrItems_ok parent ts1 vs h.2
    simp only [createArrItems, h1, h2]; exact ⟨_, rfl⟩
theorem createObjItems_ok (parent ts : Ts) : ∀ (kvs : List (String × JVal)), JVal.hasNullKvs kvs = false →
    ∃ r, createObjItems parent ts kvs = .ok r
  | [], _ => by simp only [createObjItems]; exact ⟨_, rfl⟩
  | (k, v) :: kvs, h => by
    simp only [JVal.hasNullKvs, Bool.or_eq_false_iff] at h
    obtain ⟨⟨ns, c, ts1⟩, h1⟩ := createNode_ok parent ts v h.1
    obtain ⟨⟨ns2, cs, ts2⟩, h2⟩ := createObjItems_ok parent ts1 kvs h.2
    simp only [createObjItems, h1, h2]; exact ⟨_, rfl⟩
end

theorem any_hasNull_iff (vs : List JVal) : vs.any JVal.hasNull = JVal.hasNullList vs := by
  induction vs with
  | nil => rfl
  | cons v vs ih => simp [JVal.hasNullList, ih]

/-! ## the single-replica invariant of a document -/

/-- `St L b t` (stamp bound): `t` has the era of the replica and a clock value not beyond `L`, or the value that is being
    handed out (`L.lamport + 1`) with a delimiter below `b` -/
def St (L : OpId) (b : Nat) (t : Ts) : Prop :=
  t.era = L.era ∧ (t.lamport ≤ L.lamport ∨ (t.lamport = L.lamport + 1 ∧ t.delim < b))

theorem St.mono {L : OpId} {b b' : Nat} {t : Ts} (h : St L b t) (hb : b ≤ b') : St L b' t :=
  ⟨h.1, h.2.imp id (fun ⟨a, c⟩ => ⟨a, by omega⟩)⟩

def ordIds : DKind → List Ts
  | .arr sl _ => sl.map (·.1)
  | _ => []

/-- the stored size is the number of live children -/
def SizeOK (d : Doc) : DKind → Prop
  | .elem _ => True
  | .obj m s => s = ((m.filter fun e => !d.isTomb e.2).length : Int)
  | .arr sl s => s = ((sl.filter (slotLive d)).length : Int)

theorem sizeOK_congr {d d' : Doc} {K : DKind} (h : ∀ c ∈ kids K, d'.isTomb c = d.isTomb c) (hs : SizeOK d K) :
    SizeOK d' K := by
  cases K with
  | elem v => trivial
  | obj m s =>
    unfold SizeOK at hs ⊢
    rw [hs]
    congr 2
    apply List.filter_congr
    intro x hx
    rw [h x.2 (List.mem_map.mpr ⟨x, hx, rfl⟩)]
  | arr sl s =>
    unfold SizeOK at hs ⊢
    rw [hs]
    congr 2
    apply List.filter_congr
    intro x hx
    unfold slotLive
    rw [h x.2 (List.mem_map.mpr ⟨x, hx, rfl⟩)]

/-- The invariant of the document `d` of a replica whose clock is `L`, while an operation has handed out the delimiters below `b`
    (`b = 0` between operations). The table is well-formed and acyclic (`wf`, `acyc`); the root is a live object (`root`); a
    container's stored size counts its live children (`sizes`); every identifier, burial stamp and order identifier is of
    the replica's era and not beyond its clock (`stamps`, `St`); the order identifiers of an array are distinct (`ordnd`); a live
    node is referenced by its parent (`linked`); elements are scalars (`scalar`).
    `KeysND` (no object has a key twice) is not a clause: it survives a call only if the call's values have no duplicate keys
    (`CallKeysND`), so it travels beside `DInv` (`DocInv`, `DG`, `Eff.keys`). -/
structure DInv (L : OpId) (b : Nat) (d : Doc) : Prop where
  wf : d.WF
  acyc : ∃ rk, Ranked d rk
  root : ∃ m s, d.find Ts.oldest = some ⟨Ts.oldest, none, none, .obj m s⟩
  sizes : ∀ c n, d.find c = some n → SizeOK d n.kind
  stamps : ∀ c n, d.find c = some n →
    St L b n.c ∧ (∀ t, n.d = some t → St L b t) ∧ ∀ o ∈ ordIds n.kind, St L b o
  ordnd : ∀ c n, d.find c = some n → (ordIds n.kind).Nodup
  linked : ∀ c n, d.find c = some n → n.d = none →
    c = Ts.oldest ∨ ∃ p pn, n.parent = some p ∧ d.find p = some pn ∧ c ∈ kids pn.kind
  scalar : ∀ c n v, d.find c = some n → n.kind = .elem v → Scalar v

theorem DInv.dg {L : OpId} {b : Nat} {d : Doc} (h : DInv L b d) (hk : KeysND d) : DG d := ⟨h.wf, h.acyc, hk⟩

theorem DInv.restamp {L L' : OpId} {b b' : Nat} {d : Doc} (h : DInv L b d) (key : ∀ t, St L b t → St L' b' t) :
    DInv L' b' d :=
  ⟨h.wf, h.acyc, h.root, h.sizes, fun c n hf =>
      let ⟨s1, s2, s3⟩ := h.stamps c n hf
      ⟨key _ s1, fun t ht => key _ (s2 t ht), fun o ho => key _ (s3 o ho)⟩,
    h.ordnd, h.linked, h.scalar⟩

theorem DInv.mono {L : OpId} {b b' : Nat} {d : Doc} (h : DInv L b d) (hb : b ≤ b') : DInv L b' d :=
  h.restamp fun _ ht => ht.mono hb

theorem DInv.kid_ne {L : OpId} {b : Nat} {d : Doc} (I : DInv L b d) {hd : Ts} {pn : DNode} (hp : d.find hd = some pn)
    {x : Ts} (hx : x ∈ kids pn.kind) : x ≠ hd := by
  obtain ⟨rk, hr⟩ := I.acyc
  intro e
  have := hr hd pn hp x hx
  rw [e] at this
  exact Nat.lt_irrefl _ this

def DocInv (r : Replica) : Prop := ∃ d, r.state = .doc d ∧ DInv r.opId 0 d ∧ KeysND d

theorem fresh_of_newst {L : OpId} {b b' : Nat} {d : Doc} {ns : List DNode} (h : DInv L b d)
    (hn : ∀ c ∈ ids ns, c.era = L.era ∧ c.lamport = L.lamport + 1 ∧ b ≤ c.delim ∧ c.delim < b') : Fresh d ns := by
  intro c hc
  cases hf : d.find c with
  | none => rfl
  | some n =>
    obtain ⟨h1, _, _⟩ := h.stamps c n hf
    rw [find_some_c hf] at h1
    obtain ⟨_, h3, h4, _⟩ := hn c hc
    rcases h1.2 with h5 | h5 <;> omega

theorem block_newst {L : OpId} {ts ts' : Ts} {ns : List DNode} (hb : Block ts ns ts') (h1 : ts.era = L.era)
    (h2 : ts.lamport = L.lamport + 1) :
    ∀ c ∈ ids ns, c.era = L.era ∧ c.lamport = L.lamport + 1 ∧ ts.delim ≤ c.delim ∧ c.delim < ts'.delim := by
  intro c hc
  obtain ⟨a1, a2, _, a4, a5⟩ := hb.mem_ids hc
  exact ⟨a1.trans h1, a2.trans h2, a4, a5⟩

/-! ## a generic step: new nodes, a new kind for `hd`, some children of `hd` buried or tombstoned -/

/-- the new kind of `hd` is of the old sort; for an array: distinct stamped order identifiers -/
def ShapeOK (L : OpId) (b' : Nat) : DKind → DKind → Prop
  | .obj _ _, .obj _ _ => True
  | .arr _ _, .arr sl' _ => (sl'.map (·.1)).Nodup ∧ ∀ o ∈ sl'.map (·.1), St L b' o
  | _, _ => False

theorem fun1_some {t : Ts} {m n : DNode} (h : fun1 t (some m) = some n) : n = { m with d := some t } := by
  cases hk : m.kind <;> simp only [fun1, hk, Option.some.injEq] at h
  · cases h
  · exact h.symm
  · exact h.symm

theorem fun1_none {t : Ts} {m : DNode} (h : fun1 t (some m) = none) : ∃ v, m.kind = .elem v := by
  cases hk : m.kind <;> simp only [fun1, hk] at h
  · exact ⟨_, rfl⟩
  · cases h
  · cases h

/-- the lookup function after a general step: the new nodes enter the table, `hd` gets the kind `K'`, entries are
    buried (`fun1`: an element leaves the table, a container is stamped dead) or tombstoned (`setD`) -/
abbrev gFind (d : Doc) (hd : Ts) (pn : DNode) (K' : DKind) (ns : List DNode) (bury tm : Ts → Option Ts) (c : Ts) :
    Option DNode :=
  if c = hd then some { pn with kind := K' } else
    match bury c with
    | some t => fun1 t ((nfind ns c).or (d.find c))
    | none => match tm c with
      | some t => setD t (d.find c)
      | none => (nfind ns c).or (d.find c)

/-- `GStp` (general step): the step behind `Stp` (local calls) and behind the deliveries of remote operations. Freshness of the new
    identifiers and their stamps are hypotheses, and besides children of `hd` an unreferenced root of the new nodes
    may be buried (a remote value that loses against the occupant). Well-formedness and acyclicity of the result are
    not derived here. -/
structure GStp (L : OpId) (b b' : Nat) (d : Doc) (hd : Ts) (pn : DNode) (K' : DKind) (ns : List DNode)
    (bury tm : Ts → Option Ts) (d' : Doc) : Prop where
  inv : DInv L b d
  hp : d.find hd = some pn
  find' : ∀ c, d'.find c = gFind d hd pn K' ns bury tm c
  block : ∃ ts ts', Block ts ns ts'
  fresh : Fresh d ns
  newst : ∀ c ∈ ids ns, St L b' c
  bb : b ≤ b'
  nodeok : ∀ n ∈ ns, NodeOK n
  lnk : ∀ n ∈ ns, (n.parent = some hd ∧ (n.c ∈ kids K' ∨ ∃ t, bury n.c = some t)) ∨
    ∃ p ∈ ns, n.parent = some p.c ∧ n.c ∈ kids p.kind
  buried : ∀ x t, bury x = some t → St L b' t ∧ (x ∈ kids pn.kind ∨ (x ∈ ids ns ∧ ∀ n ∈ ns, x ∉ kids n.kind))
  tombed : ∀ x t, tm x = some t → St L b' t ∧ x ∈ kids pn.kind
  keep : ∀ c ∈ kids pn.kind, bury c = none → c ∈ kids K'
  shape : ShapeOK L b' pn.kind K'

namespace GStp
variable {L : OpId} {b b' : Nat} {d d' : Doc} {hd : Ts} {pn : DNode} {K' : DKind} {ns : List DNode}
  {bury tm : Ts → Option Ts}

theorem idsnd (h : GStp L b b' d hd pn K' ns bury tm d') : (ids ns).Nodup := by
  obtain ⟨ts, ts', hb⟩ := h.block
  exact block_ids_nodup hb

theorem kid_in (h : GStp L b b' d hd pn K' ns bury tm d') {x : Ts} (hx : x ∈ kids pn.kind) :
    ∃ nx, d.find x = some nx ∧ nx.parent = some hd := h.inv.wf.child hd pn h.hp x hx

theorem old_not_new (h : GStp L b b' d hd pn K' ns bury tm d') {x : Ts} {nx : DNode} (hx : d.find x = some nx) :
    x ∉ ids ns := fun hn => by rw [h.fresh x hn] at hx; cases hx

theorem kid_not_new (h : GStp L b b' d hd pn K' ns bury tm d') {x : Ts} (hx : x ∈ kids pn.kind) : x ∉ ids ns := by
  obtain ⟨nx, h1, _⟩ := h.kid_in hx
  exact h.old_not_new h1

theorem hd_not_new (h : GStp L b b' d hd pn K' ns bury tm d') : hd ∉ ids ns := h.old_not_new h.hp

theorem tm_kid (h : GStp L b b' d hd pn K' ns bury tm d') {x t : Ts} (hx : tm x = some t) : x ∈ kids pn.kind :=
  (h.tombed x t hx).2

theorem untouched (h : GStp L b b' d hd pn K' ns bury tm d') {c : Ts} (hc : c ∉ kids pn.kind) (hn : c ∉ ids ns) :
    bury c = none ∧ tm c = none := by
  constructor
  · cases hb : bury c with
    | none => rfl
    | some t => exact ((h.buried c t hb).2.elim (absurd · hc) (absurd ·.1 hn))
  · cases hb : tm c with
    | none => rfl
    | some t => exact absurd (h.tm_kid hb) hc

theorem untouched_ref (h : GStp L b b' d hd pn K' ns bury tm d') {p : DNode} (hp : p ∈ ns) {c : Ts}
    (hc : c ∈ kids p.kind) : c ∈ ids ns ∧ bury c = none ∧ tm c = none := by
  obtain ⟨ts, ts', hb⟩ := h.block
  obtain ⟨nc, hnc, rfl, _⟩ := hb.links p hp c hc
  have hm : nc.c ∈ ids ns := List.mem_map.mpr ⟨nc, hnc, rfl⟩
  refine ⟨hm, ?_, ?_⟩
  · cases hb : bury nc.c with
    | none => rfl
    | some t => exact ((h.buried _ t hb).2.elim (fun hk => absurd hm (h.kid_not_new hk)) (fun hu => absurd hc (hu.2 p hp)))
  · cases hb : tm nc.c with
    | none => rfl
    | some t => exact absurd hm (h.kid_not_new (h.tm_kid hb))

theorem find_hd (h : GStp L b b' d hd pn K' ns bury tm d') : d'.find hd = some { pn with kind := K' } := by
  rw [h.find']; exact if_pos rfl

theorem find_new (h : GStp L b b' d hd pn K' ns bury tm d') {n : DNode} (hn : n ∈ ns) (hb : bury n.c = none) :
    d'.find n.c = some n := by
  have hmem : n.c ∈ ids ns := List.mem_map.mpr ⟨n, hn, rfl⟩
  have h1 : n.c ≠ hd := fun e => h.hd_not_new (e ▸ hmem)
  have h3 : tm n.c = none := by
    cases ht : tm n.c with
    | none => rfl
    | some t => exact absurd hmem (h.kid_not_new (h.tm_kid ht))
  rw [h.find']
  unfold gFind
  rw [if_neg h1, hb, h3, nfind_of_mem h.idsnd hn]
  rfl

theorem find_old (h : GStp L b b' d hd pn K' ns bury tm d') {c : Ts} {n : DNode} (hf : d.find c = some n)
    (h1 : c ≠ hd) (h2 : bury c = none) (h3 : tm c = none) : d'.find c = some n := by
  rw [h.find']
  unfold gFind
  rw [if_neg h1, h2, h3, nfind_none_iff.mpr (h.old_not_new hf), hf]
  rfl

theorem find_new_kids (h : GStp L b b' d hd pn K' ns bury tm d') {p : DNode} (hp : p ∈ ns) {x : Ts}
    (hx : x ∈ kids p.kind) : ∃ p', d'.find p.c = some p' ∧ x ∈ kids p'.kind := by
  cases hb : bury p.c with
  | none => exact ⟨p, h.find_new hp hb, hx⟩
  | some t =>
    have h1 : p.c ≠ hd := fun e => h.hd_not_new (e ▸ List.mem_map.mpr ⟨p, hp, rfl⟩)
    rw [h.find']
    unfold gFind
    rw [if_neg h1, hb, nfind_of_mem h.idsnd hp]
    cases hk : p.kind with
    | elem v => rw [hk] at hx; cases hx
    | obj m s => exact ⟨{ p with d := some t }, by simp only [Option.some_or, fun1, hk], by rw [hk] at hx; exact hk ▸ hx⟩
    | arr sl s => exact ⟨{ p with d := some t }, by simp only [Option.some_or, fun1, hk], by rw [hk] at hx; exact hk ▸ hx⟩

theorem inversion (h : GStp L b b' d hd pn K' ns bury tm d') {c : Ts} {n : DNode} (hf : d'.find c = some n) :
    (c = hd ∧ n = { pn with kind := K' }) ∨
    (∃ n0 ∈ ns, n0.c = c ∧ ((n = n0 ∧ bury c = none) ∨ ∃ t, bury c = some t ∧ St L b' t ∧ n = { n0 with d := some t })) ∨
    (c ≠ hd ∧ c ∉ ids ns ∧ ∃ n0, d.find c = some n0 ∧ n.kind = n0.kind ∧ n.parent = n0.parent ∧ n.c = n0.c ∧
      ((n.d = n0.d ∧ bury c = none ∧ tm c = none) ∨ (∃ t, n.d = some t ∧ St L b' t ∧ c ∈ kids pn.kind))) := by
  rw [h.find'] at hf
  unfold gFind at hf
  by_cases e : c = hd
  · rw [if_pos e] at hf
    exact Or.inl ⟨e, (Option.some.inj hf).symm⟩
  · rw [if_neg e] at hf
    cases hb : bury c with
    | some t =>
      rw [hb] at hf
      obtain ⟨hst, hwhere⟩ := h.buried c t hb
      cases hn : nfind ns c with
      | some m =>
        rw [hn] at hf
        exact Or.inr (Or.inl ⟨m, (nfind_some hn).1, (nfind_some hn).2, Or.inr ⟨t, rfl, hst, fun1_some hf⟩⟩)
      | none =>
        rw [hn] at hf
        have hk : c ∈ kids pn.kind := hwhere.elim id fun hu => absurd hu.1 (nfind_none_iff.mp hn)
        cases h0 : d.find c with
        | none => rw [h0] at hf; cases hf
        | some n0 =>
          rw [h0] at hf
          cases fun1_some (hf : fun1 t (some n0) = some n)
          exact Or.inr (Or.inr ⟨e, h.old_not_new h0, n0, rfl, rfl, rfl, rfl, Or.inr ⟨t, rfl, hst, hk⟩⟩)
    | none =>
      rw [hb] at hf
      cases ht : tm c with
      | some t =>
        rw [ht] at hf
        obtain ⟨hst, hk⟩ := h.tombed c t ht
        obtain ⟨n0, h0, _⟩ := h.kid_in hk
        rw [h0] at hf
        cases Option.some.inj (hf : some { n0 with d := some t } = some n)
        exact Or.inr (Or.inr ⟨e, h.old_not_new h0, n0, h0, rfl, rfl, rfl, Or.inr ⟨t, rfl, hst, hk⟩⟩)
      | none =>
        rw [ht] at hf
        cases hn : nfind ns c with
        | some m =>
          rw [hn] at hf
          cases Option.some.inj (hf : some m = some n)
          exact Or.inr (Or.inl ⟨_, (nfind_some hn).1, (nfind_some hn).2, Or.inl ⟨rfl, rfl⟩⟩)
        | none =>
          rw [hn] at hf
          have hf' : d.find c = some n := hf
          exact Or.inr (Or.inr ⟨e, nfind_none_iff.mp hn, n, hf', rfl, rfl, rfl, Or.inl ⟨rfl, rfl, rfl⟩⟩)

theorem isTomb_hd (h : GStp L b b' d hd pn K' ns bury tm d') : d'.isTomb hd = d.isTomb hd := by
  unfold Doc.isTomb
  rw [h.find_hd, h.hp]

theorem isTomb_kid (h : GStp L b b' d hd pn K' ns bury tm d') {q y : Ts} {nq : DNode} (hq : d.find q = some nq)
    (hne : q ≠ hd) (hy : y ∈ kids nq.kind) : d'.isTomb y = d.isTomb y := by
  obtain ⟨ny, hny, _⟩ := h.inv.wf.child q nq hq y hy
  by_cases e : y = hd
  · rw [e]; exact h.isTomb_hd
  · obtain ⟨h2, h3⟩ := h.untouched (fun hk => hne (wf_unique_parent h.inv.wf hq h.hp hy hk)) (h.old_not_new hny)
    exact isTomb_of_find ((h.find_old hny e h2 h3).trans hny.symm)

theorem isTomb_new (h : GStp L b b' d hd pn K' ns bury tm d') {n : DNode} (hn : n ∈ ns) (hb : bury n.c = none) :
    d'.isTomb n.c = false := by
  obtain ⟨ts, ts', hbl⟩ := h.block
  simp [Doc.isTomb, h.find_new hn hb, hbl.live n hn]

theorem new_kid (h : GStp L b b' d hd pn K' ns bury tm d') {n : DNode} (hn : n ∈ ns) {c : Ts} (hc : c ∈ kids n.kind) :
    ∃ nc ∈ ns, nc.c = c ∧ nc.parent = some n.c ∧ n.c.delim < c.delim := by
  obtain ⟨ts, ts', hb⟩ := h.block
  exact hb.links n hn c hc

theorem shape_arr (h : GStp L b b' d hd pn K' ns bury tm d') {sl : List (Ts × Ts)} {s : Int} (hk : K' = .arr sl s) :
    (sl.map (·.1)).Nodup ∧ ∀ o ∈ sl.map (·.1), St L b' o := by
  have := h.shape
  rw [hk] at this
  unfold ShapeOK at this
  split at this
  · rename_i e2; cases e2
  · rename_i e2
    simp only [DKind.arr.injEq] at e2
    rw [e2.1]; exact this
  · exact this.elim

theorem shape_not_elem (h : GStp L b b' d hd pn K' ns bury tm d') {v : JVal} (hk : K' = .elem v) : False := by
  have := h.shape
  rw [hk] at this
  unfold ShapeOK at this
  split at this
  · rename_i e2; cases e2
  · rename_i e2; cases e2
  · exact this

theorem kind_cases (h : GStp L b b' d hd pn K' ns bury tm d') {c : Ts} {n : DNode} (hf : d'.find c = some n) :
    (c = hd ∧ n.kind = K') ∨ (∃ n0 ∈ ns, n.kind = n0.kind) ∨ (c ≠ hd ∧ ∃ n0, d.find c = some n0 ∧ n.kind = n0.kind) := by
  rcases h.inversion hf with ⟨e, rfl⟩ | ⟨n0, hn, _, ⟨rfl, _⟩ | ⟨t, _, _, rfl⟩⟩ | ⟨hne, _, n0, h0, hk, _⟩
  · exact Or.inl ⟨e, rfl⟩
  · exact Or.inr (Or.inl ⟨_, hn, rfl⟩)
  · exact Or.inr (Or.inl ⟨_, hn, rfl⟩)
  · exact Or.inr (Or.inr ⟨hne, n0, h0, hk⟩)

theorem next_keys (h : GStp L b b' d hd pn K' ns bury tm d') (hkeys : KeysND d) (hnk : NodesKeysND ns)
    (hK : ∀ m s, K' = .obj m s → (m.map (·.1)).Nodup) : KeysND d' := by
  intro p n m s hf hk
  rcases h.kind_cases hf with ⟨_, e⟩ | ⟨n0, hn, e⟩ | ⟨_, n0, h0, e⟩
  · exact hK m s (e ▸ hk)
  · exact hnk n0 hn m s (e ▸ hk)
  · exact hkeys p n0 m s h0 (e ▸ hk)

theorem next_root (h : GStp L b b' d hd pn K' ns bury tm d') :
    ∃ m s, d'.find Ts.oldest = some ⟨Ts.oldest, none, none, .obj m s⟩ := by
  obtain ⟨m, s, hr⟩ := h.inv.root
  by_cases e : hd = Ts.oldest
  · have hp := h.hp
    rw [e, hr] at hp
    simp only [Option.some.injEq] at hp
    have hf := h.find_hd
    rw [e] at hf
    cases hK : K' with
    | elem v => exact (h.shape_not_elem hK).elim
    | obj m' s' => exact ⟨m', s', by rw [hf, ← hp, hK]⟩
    | arr sl' s' =>
      have := h.shape
      rw [← hp, hK] at this
      exact this.elim
  · have hnk : Ts.oldest ∉ kids pn.kind := by
      intro hk
      obtain ⟨nx, h1, h2⟩ := h.kid_in hk
      rw [hr] at h1
      simp only [Option.some.injEq] at h1
      subst h1
      cases h2
    obtain ⟨h2, h3⟩ := h.untouched hnk (h.old_not_new hr)
    exact ⟨m, s, h.find_old hr (fun e' => e e'.symm) h2 h3⟩

theorem next_sizes (h : GStp L b b' d hd pn K' ns bury tm d') (hsize : SizeOK d' K') :
    ∀ c n, d'.find c = some n → SizeOK d' n.kind := by
  intro c n hf
  rcases h.kind_cases hf with ⟨_, e⟩ | ⟨n0, hn, e⟩ | ⟨hne, n0, h0, e⟩
  · exact e ▸ hsize
  · rw [e]
    have hok := h.nodeok n0 hn
    have hlive : ∀ x ∈ kids n0.kind, d'.isTomb x = false := by
      intro x hx
      obtain ⟨nc, hnc, rfl, _⟩ := h.new_kid hn hx
      exact h.isTomb_new hnc (h.untouched_ref hn hx).2.1
    unfold NodeOK at hok
    cases hk : n0.kind with
    | elem v => trivial
    | obj m s =>
      rw [hk] at hok hlive
      simp only at hok
      unfold SizeOK
      rw [hok]
      congr 1
      symm
      rw [List.filter_eq_self.mpr]
      intro x hx
      simp [hlive x.2 (List.mem_map.mpr ⟨x, hx, rfl⟩)]
    | arr sl s =>
      rw [hk] at hok hlive
      simp only at hok
      unfold SizeOK
      rw [hok.1]
      congr 1
      symm
      rw [List.filter_eq_self.mpr]
      intro x hx
      simp [slotLive, hlive x.2 (List.mem_map.mpr ⟨x, hx, rfl⟩)]
  · rw [e]
    apply sizeOK_congr _ (h.inv.sizes c n0 h0)
    intro y hy
    exact h.isTomb_kid h0 hne hy

theorem next_ord (h : GStp L b b' d hd pn K' ns bury tm d') {c : Ts} {n : DNode} (hf : d'.find c = some n) :
    (ordIds n.kind).Nodup ∧ ∀ o ∈ ordIds n.kind, St L b' o := by
  rcases h.kind_cases hf with ⟨_, e⟩ | ⟨n0, hn, e⟩ | ⟨_, n0, h0, e⟩
  · rw [e]
    cases hK : K' with
    | elem v => exact ⟨List.nodup_nil, fun _ ho => nomatch ho⟩
    | obj m s => exact ⟨List.nodup_nil, fun _ ho => nomatch ho⟩
    | arr sl s => exact h.shape_arr hK
  · rw [e]
    have hok := h.nodeok n0 hn
    obtain ⟨ts, ts', hb⟩ := h.block
    have hinj := hb.inj n0 hn
    unfold NodeOK at hok
    cases hk : n0.kind with
    | elem v => exact ⟨List.nodup_nil, fun _ ho => nomatch ho⟩
    | obj m s => exact ⟨List.nodup_nil, fun _ ho => nomatch ho⟩
    | arr sl s =>
      rw [hk] at hok hinj
      simp only at hok
      simp only [ordIds]
      rw [hok.2]
      refine ⟨hinj, fun o ho => ?_⟩
      obtain ⟨nc, hnc, rfl, _⟩ := h.new_kid hn (by rw [hk]; exact ho)
      exact h.newst _ (List.mem_map.mpr ⟨nc, hnc, rfl⟩)
  · rw [e]
    exact ⟨h.inv.ordnd c n0 h0, fun o ho => ((h.inv.stamps c n0 h0).2.2 o ho).mono h.bb⟩

theorem next_stamps (h : GStp L b b' d hd pn K' ns bury tm d') : ∀ c n, d'.find c = some n →
    St L b' n.c ∧ (∀ t, n.d = some t → St L b' t) ∧ ∀ o ∈ ordIds n.kind, St L b' o := by
  intro c n hf
  refine ⟨?_, ?_, (h.next_ord hf).2⟩
  · rcases h.inversion hf with ⟨rfl, rfl⟩ | ⟨n0, hn, _, ⟨rfl, _⟩ | ⟨t, _, _, rfl⟩⟩ | ⟨_, _, n0, h0, _, _, hc0, _⟩
    · exact (h.inv.stamps c pn h.hp).1.mono h.bb
    · exact h.newst _ (List.mem_map.mpr ⟨_, hn, rfl⟩)
    · exact h.newst _ (List.mem_map.mpr ⟨_, hn, rfl⟩)
    · rw [hc0]; exact (h.inv.stamps c n0 h0).1.mono h.bb
  · intro t ht
    obtain ⟨ts, ts', hb⟩ := h.block
    rcases h.inversion hf with ⟨rfl, rfl⟩ | ⟨n0, hn, _, ⟨rfl, _⟩ | ⟨t', _, hst, rfl⟩⟩ | ⟨_, _, n0, h0, _, _, _, hd0⟩
    · exact ((h.inv.stamps c pn h.hp).2.1 t ht).mono h.bb
    · rw [hb.live _ hn] at ht; cases ht
    · cases Option.some.inj ht; exact hst
    · rcases hd0 with ⟨e, _, _⟩ | ⟨t', e, hst, _⟩
      · exact ((h.inv.stamps c n0 h0).2.1 t (e ▸ ht)).mono h.bb
      · rw [e] at ht
        cases Option.some.inj ht
        exact hst

theorem next_scalar (h : GStp L b b' d hd pn K' ns bury tm d') :
    ∀ c n v, d'.find c = some n → n.kind = .elem v → Scalar v := by
  intro c n v hf hk
  rcases h.kind_cases hf with ⟨_, e⟩ | ⟨n0, hn, e⟩ | ⟨_, n0, h0, e⟩
  · exact (h.shape_not_elem (e ▸ hk)).elim
  · have hok := h.nodeok n0 hn
    unfold NodeOK at hok
    rw [← e, hk] at hok
    exact hok
  · exact h.inv.scalar c n0 v h0 (e ▸ hk)

theorem next_linked (h : GStp L b b' d hd pn K' ns bury tm d') : ∀ c n, d'.find c = some n → n.d = none →
    c = Ts.oldest ∨ ∃ p pn', n.parent = some p ∧ d'.find p = some pn' ∧ c ∈ kids pn'.kind := by
  intro c n hf hlive
  obtain ⟨rk, hr⟩ := h.inv.acyc
  have oldparent : ∀ (p : Ts) (np : DNode) (x : Ts), d.find p = some np → x ∈ kids np.kind → p ≠ hd →
      ∃ np', d'.find p = some np' ∧ x ∈ kids np'.kind := by
    intro p np x hp hx hne
    cases hf' : d'.find p with
    | none =>
      -- gone: a buried element, which has no children
      have := h.find' p
      unfold gFind at this
      rw [hf', if_neg hne, nfind_none_iff.mpr (h.old_not_new hp), hp] at this
      cases hbp : bury p with
      | some t =>
        rw [hbp] at this
        obtain ⟨v, hkv⟩ := fun1_none (this.symm : fun1 t (some np) = none)
        rw [hkv] at hx
        cases hx
      | none =>
        rw [hbp] at this
        cases htp : tm p with
        | some t => rw [htp] at this; cases this
        | none => rw [htp] at this; cases this
    | some np' =>
      rcases h.inversion hf' with ⟨e, _⟩ | ⟨n0, hn0, e, _⟩ | ⟨_, _, n0, h0, hk0, _, _, _⟩
      · exact absurd e hne
      · exact absurd (List.mem_map.mpr ⟨n0, hn0, e⟩) (h.old_not_new hp)
      · cases Option.some.inj (hp.symm.trans h0)
        exact ⟨np', rfl, hk0 ▸ hx⟩
  rcases h.inversion hf with ⟨rfl, rfl⟩ | ⟨n0, hn, hc, ⟨rfl, hb0⟩ | ⟨t, _, _, rfl⟩⟩ |
    ⟨hne, _, n0, h0, hk0, hp0, _, hd0⟩
  · rcases h.inv.linked c pn h.hp hlive with e | ⟨p, np, h1, h2, h3⟩
    · exact Or.inl e
    · have hpne : p ≠ c := by
        intro e
        have := hr p np h2 c h3
        rw [e] at this
        exact Nat.lt_irrefl _ this
      obtain ⟨np', h4, h5⟩ := oldparent p np c h2 h3 hpne
      exact Or.inr ⟨p, np', h1, h4, h5⟩
  · rcases h.lnk n hn with ⟨h1, h2 | ⟨t, h2⟩⟩ | ⟨p, hp, h1, h2⟩
    · exact Or.inr ⟨hd, _, h1, h.find_hd, hc ▸ h2⟩
    · rw [hc, hb0] at h2; cases h2
    · obtain ⟨p', h3, h4⟩ := h.find_new_kids hp h2
      exact Or.inr ⟨p.c, p', h1, h3, hc ▸ h4⟩
  · cases hlive
  · rcases hd0 with ⟨e, hb0, _⟩ | ⟨t, e, _, _⟩
    · rw [e] at hlive
      rcases h.inv.linked c n0 h0 hlive with e' | ⟨p, np, h1, h2, h3⟩
      · exact Or.inl e'
      · by_cases hph : p = hd
        · subst hph
          cases Option.some.inj (h.hp.symm.trans h2)
          exact Or.inr ⟨p, _, by rw [hp0]; exact h1, h.find_hd, h.keep c h3 hb0⟩
        · obtain ⟨np', h4, h5⟩ := oldparent p np c h2 h3 hph
          exact Or.inr ⟨p, np', by rw [hp0]; exact h1, h4, h5⟩
    · rw [e] at hlive; cases hlive

theorem next (h : GStp L b b' d hd pn K' ns bury tm d') (hwf : d'.WF) (hac : ∃ rk, Ranked d' rk)
    (hsize : SizeOK d' K') : DInv L b' d' :=
  ⟨hwf, hac, h.next_root, h.next_sizes hsize, h.next_stamps, fun _ _ hf => (h.next_ord hf).1,
    h.next_linked, h.next_scalar⟩

theorem isTomb_old_kid (h : GStp L b b' d hd pn K' ns bury tm d') {x : Ts} (hx : x ∈ kids pn.kind)
    (h2 : bury x = none) (h3 : tm x = none) : d'.isTomb x = d.isTomb x := by
  obtain ⟨nx, hnx, _⟩ := h.kid_in hx
  exact isTomb_of_find ((h.find_old hnx (h.inv.kid_ne h.hp hx) h2 h3).trans hnx.symm)

theorem isTomb_tm (h : GStp L b b' d hd pn K' ns bury tm d') {x t : Ts} (h2 : bury x = none) (h3 : tm x = some t) :
    d'.isTomb x = true := by
  have hx := h.tm_kid h3
  obtain ⟨nx, hnx, _⟩ := h.kid_in hx
  unfold Doc.isTomb
  rw [h.find']
  unfold gFind
  rw [if_neg (h.inv.kid_ne h.hp hx), h2, h3, hnx]
  rfl

end GStp

/-! ## the step of a local call -/

/-- the lookup function of `Stp.find'`. It is `gFind` but for a buried node, which is looked up in the old table alone: a call
    buries old children only (`Stp.toG`). -/
abbrev stepFind (d : Doc) (hd : Ts) (pn : DNode) (K' : DKind) (ns : List DNode) (bury tm : Ts → Option Ts) (c : Ts) :
    Option DNode :=
  if c = hd then some { pn with kind := K' } else
    match bury c with
    | some t => fun1 t (d.find c)
    | none => match tm c with
      | some t => setD t (d.find c)
      | none => (nfind ns c).or (d.find c)

/-- `Stp` (step of a local call): the new nodes `ns` enter the table `d`, the node `hd` (entry `pn`) gets the kind `K'`,
    children of `hd` are buried (`bury`) or tombstoned (`tm`); delimiters run from `b` to `b'`. Beyond `GStp` it has what
    makes the result well-formed and acyclic (`nodup`, `kidsK`, `kidsnd`, `buryK`), and `newst` names the clock value that
    is being handed out, which makes the new identifiers fresh (`Stp.fresh`). -/
structure Stp (L : OpId) (b b' : Nat) (d : Doc) (hd : Ts) (pn : DNode) (K' : DKind) (ns : List DNode)
    (bury tm : Ts → Option Ts) (d' : Doc) : Prop where
  inv : DInv L b d
  hp : d.find hd = some pn
  find' : ∀ c, d'.find c = if c = hd then some { pn with kind := K' } else
      match bury c with
      | some t => fun1 t (d.find c)
      | none => match tm c with
        | some t => setD t (d.find c)
        | none => (nfind ns c).or (d.find c)
  nodup : (ids d'.table).Nodup
  block : ∃ ts ts', Block ts ns ts'
  newst : ∀ c ∈ ids ns, c.era = L.era ∧ c.lamport = L.lamport + 1 ∧ b ≤ c.delim ∧ c.delim < b'
  bb : b ≤ b'
  nodeok : ∀ n ∈ ns, NodeOK n
  lnk : ∀ n ∈ ns, (n.c ∈ kids K' ∧ n.parent = some hd) ∨ ∃ p ∈ ns, n.parent = some p.c ∧ n.c ∈ kids p.kind
  touched : ∀ x t, (bury x = some t ∨ tm x = some t) → x ∈ kids pn.kind ∧ St L b' t
  buryK : ∀ x t, bury x = some t → x ∉ kids K'
  kidsK : ∀ c ∈ kids K', c ∈ kids pn.kind ∨ ∃ n ∈ ns, n.c = c ∧ n.parent = some hd
  keep : ∀ c ∈ kids pn.kind, bury c = none → c ∈ kids K'
  kidsnd : (kids K').Nodup
  shape : ShapeOK L b' pn.kind K'

namespace Stp
variable {L : OpId} {b b' : Nat} {d d' : Doc} {hd : Ts} {pn : DNode} {K' : DKind} {ns : List DNode}
  {bury tm : Ts → Option Ts}

theorem fresh (h : Stp L b b' d hd pn K' ns bury tm d') : Fresh d ns := fresh_of_newst h.inv h.newst

theorem bury_kid (h : Stp L b b' d hd pn K' ns bury tm d') {x t : Ts} (hx : bury x = some t) : x ∈ kids pn.kind :=
  (h.touched x t (Or.inl hx)).1

theorem tm_kid (h : Stp L b b' d hd pn K' ns bury tm d') {x t : Ts} (hx : tm x = some t) : x ∈ kids pn.kind :=
  (h.touched x t (Or.inr hx)).1

theorem untouched (h : Stp L b b' d hd pn K' ns bury tm d') {c : Ts} (hc : c ∉ kids pn.kind) :
    bury c = none ∧ tm c = none := by
  constructor
  · cases hb : bury c with
    | none => rfl
    | some t => exact absurd (h.bury_kid hb) hc
  · cases hb : tm c with
    | none => rfl
    | some t => exact absurd (h.tm_kid hb) hc

theorem toG (h : Stp L b b' d hd pn K' ns bury tm d') : GStp L b b' d hd pn K' ns bury tm d' := by
  refine ⟨h.inv, h.hp, fun c => ?_, h.block, h.fresh, fun c hc => ?_, h.bb, h.nodeok,
    fun n hn => (h.lnk n hn).imp (fun h1 => ⟨h1.2, Or.inl h1.1⟩) id,
    fun x t hx => ⟨(h.touched x t (Or.inl hx)).2, Or.inl (h.bury_kid hx)⟩,
    fun x t hx => ⟨(h.touched x t (Or.inr hx)).2, h.tm_kid hx⟩, h.keep, h.shape⟩
  · rw [h.find']
    unfold gFind
    by_cases e : c = hd
    · rw [if_pos e, if_pos e]
    · rw [if_neg e, if_neg e]
      cases hb : bury c with
      | none => rfl
      | some t =>
        have hnew : nfind ns c = none := nfind_none_iff.mpr fun hm => by
          obtain ⟨nx, h1, _⟩ := h.inv.wf.child hd pn h.hp c (h.bury_kid hb)
          rw [h.fresh c hm] at h1
          cases h1
        show fun1 t (d.find c) = fun1 t ((nfind ns c).or (d.find c))
        rw [hnew]
        rfl
  · obtain ⟨e1, e2, _, e4⟩ := h.newst c hc
    exact ⟨e1, Or.inr ⟨e2, e4⟩⟩

theorem find_new (h : Stp L b b' d hd pn K' ns bury tm d') {n : DNode} (hn : n ∈ ns) : d'.find n.c = some n :=
  h.toG.find_new hn (h.untouched fun hk => h.toG.kid_not_new hk (List.mem_map.mpr ⟨n, hn, rfl⟩)).1

theorem isTomb_new (h : Stp L b b' d hd pn K' ns bury tm d') {n : DNode} (hn : n ∈ ns) : d'.isTomb n.c = false :=
  h.toG.isTomb_new hn (h.untouched fun hk => h.toG.kid_not_new hk (List.mem_map.mpr ⟨n, hn, rfl⟩)).1

theorem inversion (h : Stp L b b' d hd pn K' ns bury tm d') {c : Ts} {n : DNode} (hf : d'.find c = some n) :
    (c = hd ∧ n = { pn with kind := K' }) ∨ (n ∈ ns ∧ n.c = c) ∨
    (c ≠ hd ∧ c ∉ ids ns ∧ ∃ n0, d.find c = some n0 ∧ n.kind = n0.kind ∧ n.parent = n0.parent ∧ n.c = n0.c ∧
      ((n.d = n0.d ∧ bury c = none ∧ tm c = none) ∨ (∃ t, n.d = some t ∧ St L b' t ∧ c ∈ kids pn.kind))) := by
  rcases h.toG.inversion hf with h1 | ⟨n0, hn, hc, ⟨rfl, _⟩ | ⟨t, hb, _⟩⟩ | h3
  · exact Or.inl h1
  · exact Or.inr (Or.inl ⟨hn, hc⟩)
  · exact absurd (List.mem_map.mpr ⟨n0, hn, hc⟩) (h.toG.kid_not_new (h.bury_kid hb))
  · exact Or.inr (Or.inr h3)

theorem next_wf (h : Stp L b b' d hd pn K' ns bury tm d') : d'.WF := by
  obtain ⟨ts, ts', hb⟩ := h.block
  refine ⟨h.nodup, ?_, ?_⟩
  · intro p n hf c hc
    rcases h.inversion hf with ⟨rfl, rfl⟩ | ⟨hn, rfl⟩ | ⟨hne, _, n0, h0, hk, _, _, _⟩
    · simp only at hc
      rcases h.kidsK c hc with hold | ⟨n', hn', rfl, hpar⟩
      · obtain ⟨nc, hnc, hpar⟩ := h.toG.kid_in hold
        have hb0 : bury c = none := by
          cases hbc : bury c with
          | none => rfl
          | some t => exact absurd hc (h.buryK c t hbc)
        cases ht : tm c with
        | none => exact ⟨nc, h.toG.find_old hnc (h.inv.kid_ne h.hp hold) hb0 ht, hpar⟩
        | some t =>
          refine ⟨{ nc with d := some t }, ?_, hpar⟩
          rw [h.find', if_neg (h.inv.kid_ne h.hp hold), hb0, ht, hnc]
          rfl
      · exact ⟨n', h.find_new hn', hpar⟩
    · obtain ⟨nc, hnc, rfl, hpar, _⟩ := h.toG.new_kid hn hc
      exact ⟨nc, h.find_new hnc, hpar⟩
    · rw [hk] at hc
      obtain ⟨nc, hnc, hpar⟩ := h.inv.wf.child p n0 h0 c hc
      by_cases e : c = hd
      · subst e
        rw [h.hp] at hnc
        simp only [Option.some.injEq] at hnc
        subst hnc
        exact ⟨_, h.toG.find_hd, hpar⟩
      · obtain ⟨h2, h3⟩ := h.untouched fun hk => hne (wf_unique_parent h.inv.wf h0 h.hp hc hk)
        exact ⟨nc, h.toG.find_old hnc e h2 h3, hpar⟩
  · intro p n hf
    rcases h.inversion hf with ⟨rfl, rfl⟩ | ⟨hn, rfl⟩ | ⟨_, _, n0, h0, hk, _, _, _⟩
    · exact h.kidsnd
    · exact hb.inj n hn
    · rw [hk]; exact h.inv.wf.inj p n0 h0

theorem next_acyc (h : Stp L b b' d hd pn K' ns bury tm d') : ∃ rk, Ranked d' rk := by
  obtain ⟨ts, ts', hb⟩ := h.block
  obtain ⟨rk, hr⟩ := h.inv.acyc
  have hK : ∀ c ∈ kids K', c ∈ ids ns ∨ c ∈ kids pn.kind := fun c hc =>
    (h.kidsK c hc).elim Or.inr fun ⟨n', hn', e, _⟩ => Or.inl (List.mem_map.mpr ⟨n', hn', e⟩)
  have hc := find_some_c h.hp
  -- as far as kinds go, `d'` is `d` with the new nodes added and `hd` relinked
  refine ⟨_, ranked_of_kinds (ranked_relink h.inv.wf hb h.fresh h.hp hr K' hK) fun c n hf => ?_⟩
  rw [find_set]
  rcases h.inversion hf with ⟨rfl, rfl⟩ | ⟨hn, rfl⟩ | ⟨hne, _, n0, h0, hk, _⟩
  · exact ⟨_, if_pos hc, rfl⟩
  · refine ⟨n, ?_, rfl⟩
    rw [if_neg fun e => h.toG.hd_not_new (List.mem_map.mpr ⟨n, hn, e.symm.trans hc⟩),
      find_addAll_new h.toG.idsnd hn]
  · exact ⟨n0, by rw [if_neg fun e => hne (e.symm.trans hc), find_addAll_old h.fresh h0], hk⟩

theorem next (h : Stp L b b' d hd pn K' ns bury tm d') (hsize : SizeOK d' K') : DInv L b' d' :=
  h.toG.next h.next_wf h.next_acyc hsize

theorem isTomb_keep (h : Stp L b b' d hd pn K' ns bury tm d') {x : Ts} (hK : x ∈ kids K') (hx : x ∈ kids pn.kind)
    (ht : tm x = none) : d'.isTomb x = d.isTomb x := by
  refine h.toG.isTomb_old_kid hx ?_ ht
  cases hb : bury x with
  | none => rfl
  | some t => exact absurd hK (h.buryK x t hb)

theorem same (h : Stp L b b' d hd pn K' ns bury tm d') :
    Same d d' hd (fun x => (bury x).isSome ∨ (tm x).isSome) := by
  intro c n hf hne hnt
  have h2 : bury c = none := by
    cases hbp : bury c with
    | none => rfl
    | some t => exact absurd (Or.inl (by simp [hbp])) hnt
  have h3 : tm c = none := by
    cases hbp : tm c with
    | none => rfl
    | some t => exact absurd (Or.inr (by simp [hbp])) hnt
  exact h.toG.find_old hf hne h2 h3

theorem tk_kid (h : Stp L b b' d hd pn K' ns bury tm d') (x : Ts) (hx : (bury x).isSome ∨ (tm x).isSome) :
    x ∈ kids pn.kind := by
  rcases hx with hb | hb
  · obtain ⟨t, ht⟩ := Option.isSome_iff_exists.mp hb; exact h.bury_kid ht
  · obtain ⟨t, ht⟩ := Option.isSome_iff_exists.mp hb; exact h.tm_kid ht

end Stp

/-! ## the identifiers a call hands out -/

theorem next_ts (L : OpId) : L.next.ts = ⟨L.era, L.lamport + 1, L.cuid, 0⟩ := rfl

def tsAt (L : OpId) (b : Nat) : Ts := ⟨L.era, L.lamport + 1, L.cuid, b⟩

theorem tsAt_zero (L : OpId) : tsAt L 0 = L.next.ts := rfl

theorem cmp_lt_of_st {L : OpId} {t : Ts} (h : St L 0 t) : t.cmp L.next.ts = .lt := by
  obtain ⟨h1, h2⟩ := h
  have h3 : t.lamport ≤ L.lamport := by
    rcases h2 with h2 | h2
    · exact h2
    · omega
  have a1 : ¬ L.next.ts.era < t.era := by simp only [next_ts]; omega
  have a2 : ¬ t.era < L.next.ts.era := by simp only [next_ts]; omega
  have a3 : ¬ L.next.ts.lamport < t.lamport := by simp only [next_ts]; omega
  have a4 : t.lamport < L.next.ts.lamport := by simp only [next_ts]; omega
  unfold Ts.cmp
  rw [if_neg a1, if_neg a2, if_neg a3, if_pos a4]

theorem timeOf_lt {L : OpId} {d : Doc} (I : DInv L 0 d) {c : Ts} {n : DNode} (hf : d.find c = some n) :
    (d.timeOf c).cmp L.next.ts = .lt := by
  obtain ⟨s1, s2, _⟩ := I.stamps c n hf
  simp only [Doc.timeOf, hf]
  cases hd : n.d with
  | none => exact cmp_lt_of_st s1
  | some t => exact cmp_lt_of_st (s2 t hd)

/-! ## containers: objects and arrays alike -/

/-- `K` is a container with entries `l` (an object's keys or an array's slots; the children are the second components) and
    stored size `n`: what the steps need of either sort -/
structure Cont {α : Type} (K : DKind) (l : List (α × Ts)) (n : Int) : Prop where
  ch : kids K = l.map (·.2)
  sz : ∀ d, SizeOK d K ↔ n = ((l.filter fun e => !d.isTomb e.2).length : Int)

theorem cont_obj (m : List (String × Ts)) (n : Int) : Cont (.obj m n) m n := ⟨rfl, fun _ => Iff.rfl⟩
theorem cont_arr (sl : List (Ts × Ts)) (n : Int) : Cont (.arr sl n) sl n := ⟨rfl, fun _ => Iff.rfl⟩

namespace GStp
variable {L : OpId} {b b' : Nat} {d d' : Doc} {hd : Ts} {pn : DNode} {K' : DKind} {ns : List DNode}
  {bury tm : Ts → Option Ts}

theorem live_others (h : GStp L b b' d hd pn K' ns bury tm d') {α : Type} {A B : List (α × Ts)} {x : α × Ts}
    (hk : kids pn.kind = (A ++ x :: B).map (·.2)) (hx : ∀ c, c ≠ x.2 → bury c = none ∧ tm c = none) :
    ∀ z ∈ A ++ B, (!d'.isTomb z.2) = !d.isTomb z.2 := by
  intro z hz
  have hnd := h.inv.wf.inj hd pn h.hp
  rw [hk, List.map_append, List.map_cons, List.nodup_middle, ← List.map_append] at hnd
  have hne : z.2 ≠ x.2 := fun e' => (List.nodup_cons.mp hnd).1 (e' ▸ List.mem_map_of_mem hz)
  rw [h.isTomb_old_kid (hk ▸ List.mem_map_of_mem (List.perm_middle.mem_iff.mpr (List.mem_cons_of_mem _ hz)))
    (hx _ hne).1 (hx _ hne).2]

theorem size_swap (h : GStp L b b' d hd pn K' ns bury tm d') {α : Type} {A B : List (α × Ts)} {x y : α × Ts}
    {n n' : Int} (hc : Cont pn.kind (A ++ x :: B) n) (hc' : Cont K' (A ++ y :: B) n')
    (hx : ∀ c, c ≠ x.2 → bury c = none ∧ tm c = none)
    (hn : n' = n - (if !d.isTomb x.2 then 1 else 0) + (if !d'.isTomb y.2 then 1 else 0)) : SizeOK d' K' := by
  refine (hc'.sz d').2 ?_
  rw [filter_swap_length _ _ A B x y (h.live_others hc.ch hx), ← (hc.sz d).1 (h.inv.sizes hd pn h.hp)]
  exact hn

end GStp

/-- the node buried by a put / an update -/
def buryOf (o : Option Ts) (t : Ts) : Ts → Option Ts := fun x => if o = some x then some t else none

theorem buryOf_none (t x : Ts) : buryOf none t x = none := by simp [buryOf]
theorem buryOf_self (o t : Ts) : buryOf (some o) t o = some t := by simp [buryOf]
theorem buryOf_ne {o t x : Ts} (h : x ≠ o) : buryOf (some o) t x = none := by
  simp only [buryOf, Option.some.injEq]
  rw [if_neg (fun e => h e.symm)]
theorem buryOf_some {o : Option Ts} {t x t' : Ts} (h : buryOf o t x = some t') : o = some x ∧ t' = t := by
  unfold buryOf at h
  split at h
  · rename_i e; exact ⟨e, by simpa using h.symm⟩
  · cases h
theorem buryOf_eq_none {o t x : Ts} : buryOf (some o) t x = none ↔ x ≠ o := by
  constructor
  · intro h e; rw [e, buryOf_self] at h; cases h
  · exact buryOf_ne

/-! ## how the operations make a step -/

theorem find_relink {d : Doc} {hd : Ts} {pn : DNode} {K' : DKind} {ns : List DNode} {bury tm : Ts → Option Ts}
    (hp : d.find hd = some pn) (hb : ∀ c, bury c = none) (ht : ∀ c, tm c = none) (c : Ts) :
    ((d.addAll ns).set { pn with kind := K' }).find c = stepFind d hd pn K' ns bury tm c := by
  rw [find_set, find_addAll]
  show (if pn.c = c then _ else _) = if c = hd then _ else _
  rw [find_some_c hp, hb, ht]
  by_cases e : c = hd
  · rw [if_pos e, if_pos e.symm]
  · rw [if_neg e, if_neg (fun e' => e e'.symm)]

theorem find_bury {d D : Doc} {hd o : Ts} {pn : DNode} {K' : DKind} {ns : List DNode}
    (hD : ∀ c, D.find c = stepFind d hd pn K' ns (fun _ => none) (fun _ => none) c) (ho : o ≠ hd) (hon : o ∉ ids ns)
    (t c : Ts) : (D.funeral o t).find c = stepFind d hd pn K' ns (buryOf (some o) t) (fun _ => none) c := by
  rw [find_funeral, hD, hD]
  by_cases e : c = o
  · subst e
    simp only [stepFind, ho, if_false, if_true, buryOf_self, nfind_none_iff.mpr hon, Option.none_or]
  · simp only [stepFind, e, if_false, buryOf_ne e]

theorem find_tomb {d D : Doc} {hd o : Ts} {pn : DNode} {K' : DKind} {ns : List DNode}
    (hD : ∀ c, D.find c = stepFind d hd pn K' ns (fun _ => none) (fun _ => none) c) (ho : o ≠ hd) (hon : o ∉ ids ns)
    (t c : Ts) : (D.makeTomb o t).find c = stepFind d hd pn K' ns (fun _ => none) (buryOf (some o) t) c := by
  rw [find_makeTomb, hD, hD]
  by_cases e : c = o
  · subst e
    simp only [stepFind, ho, if_false, if_true, buryOf_self, nfind_none_iff.mpr hon, Option.none_or, setD]
  · simp only [stepFind, e, if_false, buryOf_ne e]

/-- How a local operation is shown to be a step: from the lookup function of the document it leaves (`hfind`). `ns` are the nodes
    it created, a block starting at the identifier `tsAt L b`; `cs` the roots among them (`hlnk`: every other new node hangs below
    a new node), each of them a new node whose parent is `hd` (`hcs`). `hkids` is the content of the step: the children of `hd`
    afterwards are its old children that were not buried, and the roots. -/
theorem Stp.of_find {L : OpId} {b b' : Nat} {d d' : Doc} {hd : Ts} {pn : DNode} {K' : DKind} {ns : List DNode}
    {cs : List Ts} {bury tm : Ts → Option Ts} {ts' : Ts} (I : DInv L b d) (hp : d.find hd = some pn)
    (hfind : ∀ c, d'.find c = stepFind d hd pn K' ns bury tm c) (hnd : (ids d'.table).Nodup)
    (hblock : Block (tsAt L b) ns ts') (hb' : ts'.delim ≤ b') (hnodeok : ∀ n ∈ ns, NodeOK n) (hlnk : Lnk ns cs hd)
    (hcs : ∀ c ∈ cs, ∃ nc ∈ ns, nc.c = c ∧ nc.parent = some hd)
    (htouched : ∀ x t, (bury x = some t ∨ tm x = some t) → x ∈ kids pn.kind ∧ St L b' t)
    (hkids : ∀ c, c ∈ kids K' ↔ (c ∈ kids pn.kind ∧ bury c = none) ∨ c ∈ cs)
    (hKnd : (kids K').Nodup) (hshape : ShapeOK L b' pn.kind K') : Stp L b b' d hd pn K' ns bury tm d' := by
  have hnext : ts'.delim = b + ns.length := by rw [hblock.next]; rfl
  have hnewst : ∀ c ∈ ids ns, c.era = L.era ∧ c.lamport = L.lamport + 1 ∧ b ≤ c.delim ∧ c.delim < b' := by
    intro c hc
    obtain ⟨h1, h2, h3, h4⟩ := block_newst (L := L) hblock rfl rfl c hc
    exact ⟨h1, h2, h3, Nat.lt_of_lt_of_le h4 hb'⟩
  refine ⟨I, hp, hfind, hnd, ⟨_, _, hblock⟩, hnewst, by omega, hnodeok, ?_, htouched, ?_, ?_,
    fun c hc hb => (hkids c).mpr (Or.inl ⟨hc, hb⟩), hKnd, hshape⟩
  · intro n hn
    exact (hlnk n hn).imp (fun h => ⟨(hkids _).mpr (Or.inr h.1), h.2⟩) id
  · intro x t hx hK
    rcases (hkids x).mp hK with h | h
    · rw [hx] at h; cases h.2
    · -- a root of the created nodes is not in the table, an old child is
      obtain ⟨nc, hnc, rfl, _⟩ := hcs x h
      obtain ⟨nx, hnx, _⟩ := I.wf.child hd pn hp _ (htouched _ t (Or.inl hx)).1
      rw [fresh_of_newst I hnewst _ (List.mem_map.mpr ⟨nc, hnc, rfl⟩)] at hnx
      cases hnx
  · intro c hc
    exact ((hkids c).mp hc).imp (·.1) (hcs c)


/-- `Stp.of_find` for an operation that creates nothing and buries nothing (remove, delete): children of `hd` are stamped dead. -/
theorem Stp.of_tombs {L : OpId} {b' : Nat} {d d' : Doc} {hd : Ts} {pn : DNode} {K' : DKind} {tm : Ts → Option Ts}
    (I : DInv L 0 d) (hp : d.find hd = some pn)
    (hfind : ∀ c, d'.find c = stepFind d hd pn K' [] (fun _ => none) tm c) (hnd : (ids d'.table).Nodup)
    (htouched : ∀ x t, tm x = some t → x ∈ kids pn.kind ∧ St L b' t) (hkids : kids K' = kids pn.kind)
    (hshape : ShapeOK L b' pn.kind K') : Stp L 0 b' d hd pn K' [] (fun _ => none) tm d' :=
  Stp.of_find (cs := []) I hp hfind hnd (hblock := block_nil _) (hb' := Nat.zero_le _) (hnodeok := fun _ hn => nomatch hn)
    (hlnk := fun _ hn => nomatch hn) (hcs := fun _ hn => nomatch hn)
    (htouched := fun x t hx => htouched x t (hx.resolve_left fun h => nomatch h))
    (hkids := fun c => by rw [hkids]; exact ⟨fun h => Or.inl ⟨h, rfl⟩, fun h => h.elim (·.1) fun h => nomatch h⟩)
    (hKnd := hkids ▸ I.wf.inj hd pn hp) (hshape := hshape)

/-- what a call creates for one value: `createNode hd ts v` gives the nodes `ns`, whose root `n0` sits at `ts` below `hd`,
    and the next free identifier `t'` -/
structure Created (d : Doc) (hd : Ts) (v : JVal) (ts : Ts) (ns : List DNode) (t' : Ts) (n0 : DNode) : Prop where
  run : createNode hd ts v = .ok (ns, ts, t')
  block : Block ts ns t'
  lt : ts.delim < t'.delim
  nodeok : ∀ n ∈ ns, NodeOK n
  lnk : Lnk ns [ts] hd
  fresh : Fresh d ns
  root : n0 ∈ ns
  root_c : n0.c = ts
  root_parent : n0.parent = some hd

theorem create_one {L : OpId} {b : Nat} {d : Doc} (I : DInv L b d) (hd : Ts) {v : JVal} (hnn : v.hasNull = false) :
    ∃ ns t' n0, Created d hd v (tsAt L b) ns t' n0 := by
  obtain ⟨⟨ns, c, t'⟩, hc⟩ := createNode_ok hd (tsAt L b) v hnn
  obtain rfl := createNode_root hc
  obtain ⟨hblock, _, n0, rest, hns, hn0c, hn0p⟩ := createNode_spec hd _ v _ hc
  obtain ⟨hnodeok, hlnk⟩ := createNode_spec2 hd _ v _ hc
  simp only at hblock hns
  have hlt : (tsAt L b).delim < t'.delim := by rw [hblock.next, hns]; simp [addDelim, tsAt]
  exact ⟨ns, t', n0, hc, hblock, hlt, hnodeok, hlnk, fresh_of_newst I (block_newst (L := L) hblock rfl rfl),
    by rw [hns]; exact List.mem_cons_self, hn0c, hn0p⟩

/-! ## views after a step -/

namespace Stp
variable {L : OpId} {b b' : Nat} {d d' : Doc} {hd : Ts} {pn : DNode} {K' : DKind} {ns : List DNode}
  {bury tm : Ts → Option Ts}

theorem view_old (h : Stp L b b' d hd pn K' ns bury tm d') (hg : DG d) (hg' : DG d') {x : Ts}
    (hx : x ∈ kids pn.kind) (hb : bury x = none) (ht : tm x = none) :
    d'.viewAt x = d.viewAt x ∧ d'.isTomb x = d.isTomb x := by
  have hsafe : Safe d hd (fun x => (bury x).isSome ∨ (tm x).isSome) x :=
    kid_safe h.inv.wf h.inv.acyc h.hp hx (by simp [hb, ht]) h.tk_kid
  obtain ⟨nx, hnx, _⟩ := h.toG.kid_in hx
  exact ⟨safe_viewAt hg hg' h.same hsafe (by simp [hnx]), safe_isTomb h.same hsafe (by simp [hnx])⟩

theorem present (h : Stp L b b' d hd pn K' ns bury tm d') : Present d' ns := fun _ hn => h.find_new hn

theorem view_created (h : Stp L b b' d hd pn K' ns bury tm d') (hg' : DG d') {p t t' : Ts} {v : JVal}
    {ns' : List DNode} (hc : createNode p t v = .ok (ns', t, t')) (hsub : ∀ n ∈ ns', n ∈ ns) :
    d'.viewAt t = v := by
  obtain ⟨F, hF⟩ := viewOf_createNode d' p t v _ hc (fun n hn => h.find_new (hsub n hn))
  rw [← viewOf_big hg' t (max F d'.table.length + 1) (by omega)]
  exact hF _ (by omega)

theorem view_createdMany (h : Stp L b b' d hd pn K' ns bury tm d') (hg' : DG d') {p t t' : Ts} {vs : List JVal}
    {cs : List Ts} (hc : createArrItems p t vs = .ok (ns, cs, t')) :
    arrView d' (cs.map fun c => (c, c)) = vs := by
  obtain ⟨F, hF⟩ := viewOf_arrItems d' p t vs ns cs t' hc h.present
  have := hF (max F d'.table.length + 1) (by omega)
  rw [← this]
  unfold arrView
  apply List.filterMap_congr
  intro x _
  obtain ⟨a, ch⟩ := x
  simp only
  rw [viewOf_big hg' ch _ (by omega)]

end Stp

/-! ## objects -/

/-- `ObjStep L d hd m Ask f d'`: what a local operation on the object `hd` (entries `m`) leaves behind, the common form of
    put and remove: the invariant; every node but `hd` and its children as it was; the key-sorted view of `hd`
    changed by `f` (`Ask`: what the operation asks of its value). -/
structure ObjStep (L : OpId) (d : Doc) (hd : Ts) (m : List (String × Ts)) (Ask : Prop)
    (f : List (String × JVal) → List (String × JVal)) (d' : Doc) : Prop where
  inv : ∃ b', DInv L b' d'
  tomb : d'.isTomb hd = d.isTomb hd
  same : Same d d' hd (fun x => x ∈ m.map (·.2))
  view : KeysND d → Ask → KeysND d' ∧ (d'.viewAt hd).canon = .obj (f (JVal.canonKvs (objView d m)))

/-- A step at an object is an `ObjStep` once its view is known between documents good for views (`DG`): the invariant before and
    after supplies that. `b = 0`, here and in `Stp.arrStep`: the step is the whole operation, which starts at the identifier
    `L.next.ts = tsAt L 0`; only the rounds of the update loop (`upd1_run`) start later. -/
theorem Stp.objStep {L : OpId} {b' : Nat} {d d' : Doc} {hd : Ts} {pn : DNode} {K' : DKind} {ns : List DNode}
    {bury tm : Ts → Option Ts} {m : List (String × Ts)} {s : Int} {Ask : Prop}
    {f : List (String × JVal) → List (String × JVal)} (h : Stp L 0 b' d hd pn K' ns bury tm d')
    (hsize : SizeOK d' K') (hkd : pn.kind = .obj m s)
    (hview : KeysND d → Ask → KeysND d' ∧
      (DG d → DG d' → (d'.viewAt hd).canon = .obj (f (JVal.canonKvs (objView d m))))) : ObjStep L d hd m Ask f d' :=
  ⟨⟨_, h.next hsize⟩, h.toG.isTomb_hd,
    fun c n hf hne hnt => h.same c n hf hne fun ht => hnt (by have := h.tk_kid c ht; rwa [hkd] at this),
    fun hk ha => ⟨(hview hk ha).1, (hview hk ha).2 (h.inv.dg hk) ((h.next hsize).dg (hview hk ha).1)⟩⟩

theorem Stp.view_key_old {L : OpId} {b b' : Nat} {d d' : Doc} {hd : Ts} {pn : DNode} {K' : DKind} {ns : List DNode}
    {bury tm : Ts → Option Ts} (h : Stp L b b' d hd pn K' ns bury tm d') (hg : DG d) (hg' : DG d')
    {m : List (String × Ts)} {s : Int} (hkd : pn.kind = .obj m s) {k' : String}
    (hx : ∀ x, alFind k' m = some x → bury x = none ∧ tm x = none) :
    ((alFind k' m).bind fun ch => if d'.isTomb ch then none else some (d'.viewAt ch).canon) =
      (alFind k' m).bind fun ch => if d.isTomb ch then none else some (d.viewAt ch).canon := by
  cases hk : alFind k' m with
  | none => rfl
  | some x =>
    obtain ⟨h1, h2⟩ := h.view_old hg hg' (by rw [hkd]; exact alFind_mem_vals hk) (hx x hk).1 (hx x hk).2
    simp only [Option.bind_some, h1, h2]

theorem put_view {L : OpId} {b' : Nat} {d d' : Doc} {hd : Ts} {pn : DNode} {m : List (String × Ts)} {s s' : Int}
    {k : String} {v : JVal} {ts ts' : Ts} {ns : List DNode}
    (hstp : Stp L 0 b' d hd pn (.obj (alSet k ts m) s') ns (buryOf (alFind k m) ts) (fun _ => none) d')
    (hg : DG d) (hg' : DG d') (hkd : pn.kind = .obj m s) (hc : createNode hd ts v = .ok (ns, ts, ts')) :
    (d'.viewAt hd).canon = .obj (objPut k v.canon (JVal.canonKvs (objView d m))) := by
  rw [viewAt_obj hg' hstp.toG.find_hd rfl, canon_obj]
  congr 1
  apply ksorted_ext (ksorted_canonKvs _) (ksorted_objPut _ _ (ksorted_canonKvs _))
  intro k'
  have hk1 := hg'.keys hd _ _ _ hstp.toG.find_hd rfl
  have hk0 := hg.keys hd pn m s hstp.hp hkd
  have hinj : (m.map (·.2)).Nodup := by have := hstp.inv.wf.inj hd pn hstp.hp; rwa [hkd] at this
  rw [PD.alFind_objPut, view_key hk1, view_key hk0, alFind_alSet]
  by_cases e : k = k'
  · subst e
    obtain ⟨_, _, n0, rest, hns, hn0c, _⟩ := createNode_spec hd ts v _ hc
    simp only at hns
    have hlive := hstp.isTomb_new (n := n0) (by rw [hns]; simp)
    rw [hn0c] at hlive
    simp [hlive, hstp.view_created hg' hc (fun n hn => hn)]
  · simp only [e, if_false]
    rw [hstp.view_key_old hg hg' hkd fun x hx => ⟨?_, rfl⟩]
    cases hb : buryOf (alFind k m) ts x with
    | none => rfl
    | some t => exact absurd (alFind_inj_of_vals_nodup hinj (buryOf_some hb).1 hx) e

theorem remove_view {L : OpId} {b' : Nat} {d d' : Doc} {hd c : Ts} {pn : DNode} {m : List (String × Ts)} {s s' : Int}
    {k : String} {ts : Ts}
    (hstp : Stp L 0 b' d hd pn (.obj m s') [] (fun _ => none) (buryOf (some c) ts) d')
    (hg : DG d) (hg' : DG d') (hkd : pn.kind = .obj m s) (hf : alFind k m = some c) :
    (d'.viewAt hd).canon = .obj (objDel k (JVal.canonKvs (objView d m))) := by
  rw [viewAt_obj hg' hstp.toG.find_hd rfl, canon_obj]
  congr 1
  apply ksorted_ext (ksorted_canonKvs _) (ksorted_objDel _ (ksorted_canonKvs _))
  intro k'
  have hk0 := hg.keys hd pn m s hstp.hp hkd
  have hinj : (m.map (·.2)).Nodup := by have := hstp.inv.wf.inj hd pn hstp.hp; rwa [hkd] at this
  rw [alFind_objDel _ _ (ksorted_canonKvs _), view_key hk0, view_key hk0]
  by_cases e : k = k'
  · subst e
    simp [hf, hstp.toG.isTomb_tm rfl (buryOf_self c ts)]
  · simp only [e, if_false]
    rw [hstp.view_key_old hg hg' hkd fun x hx =>
      ⟨rfl, buryOf_ne fun e' => e (alFind_inj_of_vals_nodup hinj hf (e' ▸ hx))⟩]

theorem put_run {L : OpId} {d : Doc} {hd : Ts} {pn : DNode} {m : List (String × Ts)} {s : Int}
    (I : DInv L 0 d) (hp : d.find hd = some pn) (hk : pn.kind = .obj m s) (k : String) (v : JVal)
    (hnn : v.hasNull = false) :
    ∃ d', d.putInObject hd k v L.next.ts =
        .ok (d', (alFind k m).bind (fun c => if d.isTomb c then none else some c)) ∧
      ObjStep L d hd m (JKeysND v) (objPut k v.canon) d' := by
  obtain ⟨ns, ts', n0, C⟩ := create_one I hd hnn
  rw [tsAt_zero] at C
  have hpre : PutPre d hd v L.next.ts pn m s ns ts' := ⟨I.wf, hp, hk, C.run, C.fresh⟩
  have hkids : kids pn.kind = m.map (·.2) := by rw [hk]; rfl
  have hvnd : (m.map (·.2)).Nodup := hpre.vals_nodup
  have hsz := I.sizes hd pn hp
  rw [hk] at hsz
  -- the step, whatever the stored size
  have mk : ∀ (s' : Int) (d' : Doc),
      (∀ c, d'.find c = stepFind d hd pn (.obj (alSet k L.next.ts m) s') ns (buryOf (alFind k m) L.next.ts)
        (fun _ => none) c) → (ids d'.table).Nodup →
      Stp L 0 ts'.delim d hd pn (.obj (alSet k L.next.ts m) s') ns (buryOf (alFind k m) L.next.ts)
        (fun _ => none) d' := by
    intro s' d' hfind hnd
    refine Stp.of_find I hp hfind hnd C.block (hb' := Nat.le_refl _) C.nodeok C.lnk
      (hcs := fun c hc' => by rw [List.mem_singleton.mp hc']; exact ⟨n0, C.root, C.root_c, C.root_parent⟩)
      (htouched := ?_) (hkids := ?_) (hKnd := ?_) (hshape := by rw [hk]; trivial)
    · intro x t hx
      rcases hx with hx | hx
      · obtain ⟨e1, e2⟩ := buryOf_some hx
        exact ⟨by rw [hkids]; exact alFind_mem_vals e1, e2 ▸ ⟨rfl, Or.inr ⟨rfl, C.lt⟩⟩⟩
      · cases hx
    · intro c
      rw [hkids]
      show c ∈ (alSet k L.next.ts m).map (·.2) ↔ _
      cases hf : alFind k m with
      | none => rw [alSet_vals_none _ hf]; simp only [List.mem_append, buryOf_none, and_true]
      | some oldC =>
        obtain ⟨A, B, rfl, _, e3⟩ := alFind_split hf
        rw [e3]
        simp only [List.map_append, List.map_cons, buryOf_eq_none, List.mem_singleton] at hvnd ⊢
        exact mem_exchange hvnd _ c
    · show ((alSet k L.next.ts m).map (·.2)).Nodup
      cases hf : alFind k m with
      | none =>
        rw [alSet_vals_none _ hf]
        exact List.nodup_append.mpr ⟨hvnd, List.nodup_singleton _,
          fun a ha b hb e => hpre.ts_notin (by rw [← List.mem_singleton.mp hb, ← e]; exact ha)⟩
      | some oldC => exact (alSet_vals_some hvnd hf hpre.ts_notin).1
  have hnew : ∀ {s' : Int} {D : Doc}, Stp L 0 ts'.delim d hd pn (.obj (alSet k L.next.ts m) s') ns
      (buryOf (alFind k m) L.next.ts) (fun _ => none) D → D.isTomb L.next.ts = false :=
    fun h => C.root_c ▸ h.isTomb_new C.root
  have fin : ∀ {s' : Int} {D : Doc}, Stp L 0 ts'.delim d hd pn (.obj (alSet k L.next.ts m) s') ns
      (buryOf (alFind k m) L.next.ts) (fun _ => none) D → SizeOK D (.obj (alSet k L.next.ts m) s') →
      ObjStep L d hd m (JKeysND v) (objPut k v.canon) D := fun hstp hsize =>
    hstp.objStep hsize hk fun hkeys hjk =>
      ⟨hstp.toG.next_keys hkeys (createNode_keysND hd _ v _ C.run hjk) fun m' s'' hh => by
          cases hh
          exact alSet_keys_nodup _ _ _ (hkeys hd pn m s hp hk),
        fun hg hg' => put_view hstp hg hg' hk C.run⟩
  cases hf : alFind k m with
  | none =>
    have hstp := mk (s + 1) _ (find_relink hp (fun x => by rw [hf]; exact buryOf_none _ x) fun _ => rfl)
      (nodup_set _ (nodup_addAll ns I.wf.nodup))
    refine ⟨_, by rw [put_new hpre hf]; rfl, fin hstp ?_⟩
    generalize (d.addAll ns).set { pn with kind := .obj (alSet k L.next.ts m) (s + 1) } = D at hstp ⊢
    have h1 : (m.filter fun e => !D.isTomb e.2) = m.filter fun e => !d.isTomb e.2 :=
      List.filter_congr fun x hx => by
        have hx2 : x.2 ∈ m.map (·.2) := List.mem_map.mpr ⟨x, hx, rfl⟩
        rw [hstp.isTomb_keep (by show x.2 ∈ (alSet k L.next.ts m).map (·.2)
                                 rw [alSet_vals_none _ hf]; exact List.mem_append_left _ hx2) (hkids ▸ hx2) rfl]
    simp only [SizeOK] at hsz ⊢
    rw [alSet_of_none k _ m hf, List.filter_append, List.length_append, h1, hsz]
    simp [hnew hstp]
  | some oldC =>
    obtain ⟨no, hno, _⟩ := hpre.old_find hf
    have hone : oldC ≠ hd := I.kid_ne hp (by rw [hkids]; exact alFind_mem_vals hf)
    have holdnew : oldC ∉ ids ns := fun hmem => by rw [C.fresh oldC hmem] at hno; cases hno
    have hstp := mk (if d.isTomb oldC then s + 1 else s) _
      (fun c => by rw [hf]; exact find_bury (find_relink hp (fun _ => rfl) fun _ => rfl) hone holdnew _ c)
      (nodup_funeral _ _ (nodup_set _ (nodup_addAll ns I.wf.nodup)))
    refine ⟨_, by rw [put_win hpre hf (timeOf_lt I hno)]; rfl, fin hstp ?_⟩
    generalize ((d.addAll ns).set { pn with kind := .obj (alSet k L.next.ts m) (if d.isTomb oldC then s + 1 else s) }).funeral
        oldC L.next.ts = D at hstp ⊢
    have hnewlive := hnew hstp
    obtain ⟨A, B, rfl, _, e3⟩ := alFind_split hf
    rw [e3] at hstp ⊢
    refine hstp.toG.size_swap (x := (k, oldC)) (y := (k, L.next.ts)) (hk ▸ cont_obj _ _) (cont_obj _ _)
      (fun c hc => ⟨by rw [hf]; exact buryOf_ne hc, rfl⟩) ?_
    cases d.isTomb oldC <;> simp [hnewlive]

theorem remove_err {d : Doc} {hd : Ts} {pn : DNode} {m : List (String × Ts)} {s : Int}
    (hp : d.find hd = some pn) (hk : pn.kind = .obj m s) (k : String) (ts : Ts)
    (h : alFind k m = none ∨ ∃ c, alFind k m = some c ∧ d.isTomb c = true) :
    d.deleteInObject hd k ts true = .err Err.noOp := by
  unfold Doc.deleteInObject
  rw [findObj_some_iff.mpr ⟨hp, hk⟩]
  rcases h with h | ⟨c, h, ht⟩
  · simp [h]
  · simp [h, ht]

theorem remove_run {L : OpId} {d : Doc} {hd : Ts} {pn : DNode} {m : List (String × Ts)} {s : Int}
    (I : DInv L 0 d) (hp : d.find hd = some pn) (hk : pn.kind = .obj m s) (k : String) {c : Ts}
    (hf : alFind k m = some c) (hlive : d.isTomb c = false) :
    ∃ d', d.deleteInObject hd k L.next.ts true = .ok (d', some c) ∧ ObjStep L d hd m True (objDel k) d' := by
  have hkids : kids pn.kind = m.map (·.2) := by rw [hk]; rfl
  have hck : c ∈ kids pn.kind := by rw [hkids]; exact alFind_mem_vals hf
  obtain ⟨nc, hnc, _⟩ := I.wf.child hd pn hp c hck
  have hvnd : (m.map (·.2)).Nodup := by have := I.wf.inj hd pn hp; rwa [hkids] at this
  have hrun : d.deleteInObject hd k L.next.ts true =
      .ok ((d.set { pn with kind := .obj m (s - 1) }).makeTomb c L.next.ts, some c) := by
    unfold Doc.deleteInObject
    rw [findObj_some_iff.mpr ⟨hp, hk⟩]
    simp [hf, hlive, timeOf_lt I hnc]
  have hstp : Stp L 0 1 d hd pn (.obj m (s - 1)) [] (fun _ => none) (buryOf (some c) L.next.ts)
      ((d.set { pn with kind := .obj m (s - 1) }).makeTomb c L.next.ts) := by
    refine Stp.of_tombs I hp
      (hfind := find_tomb (find_relink (ns := []) hp (fun _ => rfl) fun _ => rfl) (I.kid_ne hp hck) (fun h => nomatch h) _)
      (hnd := nodup_makeTomb _ _ (nodup_set _ I.wf.nodup)) (htouched := ?_) (hkids := hkids.symm)
      (hshape := by rw [hk]; trivial)
    intro x t hx
    obtain ⟨e1, e2⟩ := buryOf_some hx
    cases e1
    exact ⟨hck, e2 ▸ ⟨rfl, Or.inr ⟨rfl, Nat.zero_lt_one⟩⟩⟩
  refine ⟨_, hrun, hstp.objStep ?_ hk fun hkeys _ =>
    ⟨hstp.toG.next_keys hkeys (fun n hn => nomatch hn) fun m' s'' hh => by
        cases hh
        exact hkeys hd pn m s hp hk,
      fun hg hg' => remove_view hstp hg hg' hk hf⟩⟩
  generalize (d.set { pn with kind := .obj m (s - 1) }).makeTomb c L.next.ts = D at hstp ⊢
  obtain ⟨A, B, rfl, _, _⟩ := alFind_split hf
  refine hstp.toG.size_swap (x := (k, c)) (y := (k, c)) (hk ▸ cont_obj _ _) (cont_obj _ _)
    (fun x hx => ⟨rfl, buryOf_ne hx⟩) ?_
  simp [hstp.toG.isTomb_tm rfl (buryOf_self _ _), hlive]

/-! ## arrays -/

/-- `ArrStep L d hd sl p k vs d'`: what a local operation on the array `hd` (slots `sl`) leaves behind, the common form
    of insert (`k = 0`), delete (`vs = []`) and update (`k = vs.length`): the invariant; every node but `hd` and the `k`
    live children removed from position `p` as it was; a view of `hd` in which these have given way to `vs` (not canonical, unlike
    `ObjStep.view`: `canon` of an array goes element by element, `arr_refines` applies it at the end). -/
structure ArrStep (L : OpId) (d : Doc) (hd : Ts) (sl : List (Ts × Ts)) (p k : Nat) (vs : List JVal) (d' : Doc) :
    Prop where
  inv : ∃ b', DInv L b' d'
  tomb : d'.isTomb hd = d.isTomb hd
  same : Same d d' hd (fun x => x ∈ (((sl.filter (slotLive d)).drop p).take k).map (·.2))
  view : KeysND d → JKeysNDList vs → KeysND d' ∧ ∃ pn' sl' s', d'.find hd = some pn' ∧ pn'.kind = .arr sl' s' ∧
    arrView d' sl' = ((sl.filter (slotLive d)).take p).map (fun x => d.viewAt x.2) ++ vs ++
      ((sl.filter (slotLive d)).drop (p + k)).map (fun x => d.viewAt x.2)

/-- A step at an array is described by what becomes of the live slots: the stored size and the view both follow. -/
theorem Stp.arrStep {L : OpId} {b' : Nat} {d d' : Doc} {hd : Ts} {pn : DNode} {sl sl' : List (Ts × Ts)} {s s' : Int}
    {ns : List DNode} {bury tm : Ts → Option Ts} {p k : Nat} {N : List (Ts × Ts)} {vs : List JVal}
    (h : Stp L 0 b' d hd pn (.arr sl' s') ns bury tm d') (hkd : pn.kind = .arr sl s)
    (hfilt : sl'.filter (slotLive d') =
      (sl.filter (slotLive d)).take p ++ N ++ (sl.filter (slotLive d)).drop (p + k))
    (hrange : p + k ≤ (sl.filter (slotLive d)).length) (hs' : s' = s - k + N.length)
    (hTK : ∀ x, (bury x).isSome ∨ (tm x).isSome → x ∈ (((sl.filter (slotLive d)).drop p).take k).map (·.2))
    (hold : ∀ x ∈ (sl.filter (slotLive d)).take p ++ (sl.filter (slotLive d)).drop (p + k),
      bury x.2 = none ∧ tm x.2 = none)
    (hkeys : JKeysNDList vs → NodesKeysND ns) (hnew : DG d' → N.map (fun x => d'.viewAt x.2) = vs) :
    ArrStep L d hd sl p k vs d' := by
  have hsize : SizeOK d' (.arr sl' s') := by
    have hsz := h.inv.sizes hd pn h.hp
    rw [hkd] at hsz
    simp only [SizeOK] at hsz ⊢
    rw [hfilt, hs', hsz]
    simp only [List.length_append, List.length_take, List.length_drop]
    omega
  have I' := h.next hsize
  have hkids : kids pn.kind = sl.map (·.2) := by rw [hkd]; rfl
  refine ⟨⟨_, I'⟩, h.toG.isTomb_hd, fun c n hf hne hnt => h.same c n hf hne fun ht => hnt (hTK c ht), fun hk hj => ?_⟩
  have hk' : KeysND d' := h.toG.next_keys hk (hkeys hj) fun m s'' hh => nomatch hh
  refine ⟨hk', _, sl', s', h.toG.find_hd, rfl, ?_⟩
  have hg := h.inv.dg hk
  have hg' := I'.dg hk'
  have hv : ∀ x ∈ (sl.filter (slotLive d)).take p ++ (sl.filter (slotLive d)).drop (p + k),
      d'.viewAt x.2 = d.viewAt x.2 := fun x hx => by
    have hxF : x ∈ sl.filter (slotLive d) :=
      (List.mem_append.mp hx).elim List.mem_of_mem_take List.mem_of_mem_drop
    exact (h.view_old hg hg' (hkids ▸ List.mem_map_of_mem (List.mem_filter.mp hxF).1) (hold x hx).1 (hold x hx).2).1
  have e : arrView d' sl' = (sl'.filter (slotLive d')).map (fun x => d'.viewAt x.2) := by
    rw [arrView_eq, List.map_map]; rfl
  rw [e, hfilt, List.map_append, List.map_append, hnew hg',
    List.map_congr_left fun x hx => hv x (List.mem_append_left _ hx),
    List.map_congr_left fun x hx => hv x (List.mem_append_right _ hx)]

/-! ### inserting between live slots -/

theorem insert_run {L : OpId} {d : Doc} {hd : Ts} {pn : DNode} {slots : List (Ts × Ts)} {size : Int}
    (I : DInv L 0 d) (hp : d.find hd = some pn) (hk : pn.kind = .arr slots size) (pos : Nat) (vs : List JVal)
    (hpos : pos ≤ (slots.filter (slotLive d)).length) (hnn : JVal.hasNullList vs = false) :
    ∃ d' a, d.insertLocalInArray hd pos L.next.ts vs = .ok (d', a) ∧ ArrStep L d hd slots pos 0 vs d' := by
  obtain ⟨⟨ns, cs, ts'⟩, hc⟩ := createArrItems_ok hd L.next.ts vs hnn
  obtain ⟨hblock, hcsnd, hcs⟩ := DA.createMany_block (p := hd) hc
  obtain ⟨hnodeok, hlnk⟩ := createArrItems_spec2 hd L.next.ts vs ns cs ts' hc
  have hnewst := block_newst (L := L) hblock rfl rfl
  have hfresh : Fresh d ns := fresh_of_newst I hnewst
  have hkids : kids pn.kind = slots.map (·.2) := by rw [hk]; rfl
  have hcsnew : ∀ c ∈ cs, c ∈ ids ns := fun c hc' => by
    obtain ⟨nc, h1, h2, _⟩ := hcs c hc'
    exact List.mem_map.mpr ⟨nc, h1, h2⟩
  have hold : ∀ s ∈ slots, s.2 ∉ ids ns := by
    intro s hs hmem
    obtain ⟨nc, hnc, _⟩ := I.wf.child hd pn hp s.2 (by rw [hkids]; exact List.mem_map.mpr ⟨s, hs, rfl⟩)
    rw [hfresh _ hmem] at hnc
    cases hnc
  have hfilt : ∀ X : List (Ts × Ts), (∀ x ∈ X, x ∈ slots) →
      X.filter (slotLive (d.addAll ns)) = X.filter (slotLive d) := fun X hX =>
    List.filter_congr fun x hx => by unfold slotLive; rw [DA.isTomb_addAll_old (hold x (hX x hx))]
  obtain ⟨pre, suf, e1, e2, e3⟩ := insertAtLive_spec (slotLive (d.addAll ns)) (cs.map fun c => (c, c)) slots pos
    (by rw [hfilt slots fun _ h => h]; exact hpos)
  have hpresub : ∀ x ∈ pre, x ∈ slots := fun x hx => e1 ▸ List.mem_append_left _ hx
  have hsufsub : ∀ x ∈ suf, x ∈ slots := fun x hx => e1 ▸ List.mem_append_right _ hx
  obtain ⟨a, ha⟩ : ∃ a, (if pos = 0 then some Ts.oldest
      else (nthLive (slotLive (d.addAll ns)) (pos - 1) slots).map (·.1)) = some a := by
    by_cases h0 : pos = 0
    · exact ⟨Ts.oldest, by rw [if_pos h0]⟩
    · obtain ⟨x, hx⟩ := nthLive_some (slotLive (d.addAll ns)) slots (pos - 1)
        (by rw [hfilt slots fun _ h => h]; omega)
      exact ⟨x.1, by rw [if_neg h0, hx]; rfl⟩
  have hrun : d.insertLocalInArray hd pos L.next.ts vs =
      .ok ((d.addAll ns).set { pn with kind := .arr (pre ++ cs.map (fun c => (c, c)) ++ suf) (size + cs.length) }, a) := by
    unfold Doc.insertLocalInArray
    rw [DA.findArr_some_iff.mpr ⟨hp, hk⟩]
    simp only [createMany, hc, ha, e2]
  have hvnd : (slots.map (·.2)).Nodup := by have := I.wf.inj hd pn hp; rwa [hkids] at this
  have hond : (slots.map (·.1)).Nodup := by have := I.ordnd hd pn hp; rwa [hk] at this
  have hostamp : ∀ o ∈ slots.map (·.1), St L 0 o := by have := (I.stamps hd pn hp).2.2; rwa [hk] at this
  have hKkids : kids (.arr (pre ++ cs.map (fun c => (c, c)) ++ suf) (size + cs.length)) =
      pre.map (·.2) ++ cs ++ suf.map (·.2) := by
    simp only [kids, List.map_append, List.map_map, Function.comp_def, List.map_id']
  have hKord : (pre ++ cs.map (fun c => (c, c)) ++ suf).map (·.1) = pre.map (·.1) ++ cs ++ suf.map (·.1) := by
    simp only [List.map_append, List.map_map, Function.comp_def, List.map_id']
  have hstp : Stp L 0 ts'.delim d hd pn (.arr (pre ++ cs.map (fun c => (c, c)) ++ suf) (size + cs.length)) ns
      (fun _ => none) (fun _ => none)
      ((d.addAll ns).set { pn with kind := .arr (pre ++ cs.map (fun c => (c, c)) ++ suf) (size + cs.length) }) := by
    refine Stp.of_find I hp (hfind := find_relink hp (fun _ => rfl) fun _ => rfl)
      (hnd := nodup_set _ (nodup_addAll ns I.wf.nodup)) hblock (hb' := Nat.le_refl _) hnodeok hlnk hcs
      (htouched := fun x t hx => by rcases hx with hx | hx <;> cases hx) (hkids := ?_) (hKnd := ?_) (hshape := ?_)
    · intro c
      rw [hKkids, hkids, e1]
      simp only [List.map_append, List.mem_append, and_true]
      exact or_right_comm
    · rw [hKkids]
      refine nodup_insert (by rw [← List.map_append, ← e1]; exact hvnd) hcsnd ?_
      rw [← List.map_append, ← e1]
      intro c hc' hcc
      obtain ⟨s, hs, rfl⟩ := List.mem_map.mp hc'
      exact hold s hs (hcsnew _ hcc)
    · rw [hk]
      simp only [ShapeOK]
      rw [hKord]
      refine ⟨nodup_insert (by rw [← List.map_append, ← e1]; exact hond) hcsnd ?_, ?_⟩
      · -- the stamps of the old slots are not of the running operation
        rw [← List.map_append, ← e1]
        intro o ho hoc
        obtain ⟨_, q2, _, _⟩ := hnewst o (hcsnew o hoc)
        have := (hostamp o ho).2
        omega
      · rw [e1, List.map_append] at hostamp
        intro o ho
        rcases List.mem_append.mp ho with ho | ho
        · rcases List.mem_append.mp ho with ho | ho
          · exact (hostamp o (List.mem_append_left _ ho)).mono (Nat.zero_le _)
          · obtain ⟨q1, q2, _, q4⟩ := hnewst o (hcsnew o ho)
            exact ⟨q1, Or.inr ⟨q2, q4⟩⟩
        · exact (hostamp o (List.mem_append_right _ ho)).mono (Nat.zero_le _)
  refine ⟨_, a, hrun, ?_⟩
  generalize (d.addAll ns).set { pn with kind := .arr (pre ++ cs.map (fun c => (c, c)) ++ suf) (size + cs.length) } = D
    at hstp ⊢
  have hsame : ∀ X : List (Ts × Ts), (∀ x ∈ X, x ∈ slots) → X.filter (slotLive D) = X.filter (slotLive d) :=
    fun X hX => List.filter_congr fun x hx => by
      unfold slotLive
      rw [hstp.toG.isTomb_old_kid (by rw [hkids]; exact List.mem_map.mpr ⟨x, hX x hx, rfl⟩) rfl rfl]
  have hnew : (cs.map fun c => (c, c)).filter (slotLive D) = cs.map fun c => (c, c) := by
    rw [List.filter_eq_self]
    intro x hx
    obtain ⟨c, hc', rfl⟩ := List.mem_map.mp hx
    obtain ⟨nc, h1, h2, _⟩ := hcs c hc'
    have := hstp.isTomb_new h1
    rw [h2] at this
    simp [slotLive, this]
  have e3' : (pre.filter (slotLive d)).length = pos := by rw [← e3, hfilt pre hpresub]
  have hF : slots.filter (slotLive d) = pre.filter (slotLive d) ++ suf.filter (slotLive d) := by
    rw [e1, List.filter_append]
  refine hstp.arrStep hk (N := cs.map fun c => (c, c)) (hfilt := ?_) (hrange := hpos) (hs' := by simp)
    (hTK := fun x hx => by simp at hx) (hold := fun _ _ => ⟨rfl, rfl⟩)
    (hkeys := createArrItems_keysND hd _ vs _ _ _ hc) (hnew := fun hg' => ?_)
  · rw [List.filter_append, List.filter_append, hnew, hsame pre hpresub, hsame suf hsufsub, hF, Nat.add_zero,
      List.take_left' e3', List.drop_left' e3']
  · have := hstp.view_createdMany hg' hc
    rw [arrView_eq, hnew, List.map_map] at this
    exact this

/-! ### deleting a range of live slots -/

def foldTomb (d : Doc) (l : List ((Ts × Ts) × Ts)) : Doc := l.foldl (fun acc x => acc.makeTomb x.1.2 x.2) d

/-- the tombstones of the fold as the `tm` of ONE step: what `delete_run` hands to `Stp.of_tombs` -/
theorem find_foldTomb : ∀ (l : List ((Ts × Ts) × Ts)) (d : Doc), (l.map (·.1.2)).Nodup →
    ∃ tm : Ts → Option Ts,
      (∀ c, (foldTomb d l).find c = match tm c with
        | some t => setD t (d.find c)
        | none => d.find c) ∧
      (∀ x, tm x = none ↔ x ∉ l.map (·.1.2)) ∧ ∀ x t, tm x = some t → ∃ s, ((s, x), t) ∈ l := by
  intro l
  induction l with
  | nil => exact fun d _ => ⟨fun _ => none, fun _ => rfl, fun _ => by simp, fun _ _ h => nomatch h⟩
  | cons x r ih =>
    intro d hnd
    simp only [List.map_cons, List.nodup_cons] at hnd
    obtain ⟨tm, h1, h2, h3⟩ := ih (d.makeTomb x.1.2 x.2) hnd.2
    refine ⟨fun c => if c = x.1.2 then some x.2 else tm c, fun c => ?_, fun c => ?_, fun c t h => ?_⟩
    · show (foldTomb (d.makeTomb x.1.2 x.2) r).find c = _
      beta_reduce
      rw [h1 c, find_makeTomb]
      by_cases hc : c = x.1.2
      · subst hc
        rw [if_pos rfl, (h2 _).mpr hnd.1, if_pos rfl]; rfl
      · rw [if_neg hc, if_neg hc]
    · by_cases hc : c = x.1.2
      · simp [hc]
      · simp only [hc, if_false, List.map_cons, List.mem_cons, false_or, h2 c]
    · beta_reduce at h
      by_cases hc : c = x.1.2
      · rw [if_pos hc] at h
        cases h
        exact ⟨x.1.1, hc ▸ List.mem_cons_self⟩
      · rw [if_neg hc] at h
        obtain ⟨s, hs⟩ := h3 c t h
        exact ⟨s, List.mem_cons_of_mem _ hs⟩

theorem nodup_foldTomb : ∀ (l : List ((Ts × Ts) × Ts)) (d : Doc), (ids d.table).Nodup →
    (ids (foldTomb d l).table).Nodup := by
  intro l
  induction l with
  | nil => intro d h; exact h
  | cons x r ih => intro d h; exact ih _ (nodup_makeTomb _ _ h)

theorem delete_run {L : OpId} {d : Doc} {hd : Ts} {pn : DNode} {slots : List (Ts × Ts)} {size : Int}
    (I : DInv L 0 d) (hp : d.find hd = some pn) (hk : pn.kind = .arr slots size) (pos num : Nat)
    (hrange : pos + num ≤ (slots.filter (slotLive d)).length) :
    ∃ d', d.deleteLocalInArray hd pos num L.next.ts =
        .ok (d', (((slots.filter (slotLive d)).drop pos).take num).map (·.1),
          (((slots.filter (slotLive d)).drop pos).take num).map (·.2)) ∧
      ArrStep L d hd slots pos num [] d' := by
  generalize hlive : ((slots.filter (slotLive d)).drop pos).take num = live
  generalize hF : slots.filter (slotLive d) = F at hlive hrange
  have hkids : kids pn.kind = slots.map (·.2) := by rw [hk]; rfl
  have hvnd : (slots.map (·.2)).Nodup := by have := I.wf.inj hd pn hp; rwa [hkids] at this
  have hlen : live.length = num := by rw [← hlive, List.length_take, List.length_drop]; omega
  have hsplit : F = F.take pos ++ (live ++ F.drop (pos + num)) := by rw [← hlive]; exact range_split F pos num
  have hFsub : F.Sublist slots := by rw [← hF]; exact List.filter_sublist
  have hFnd : (F.map (·.2)).Nodup := List.Nodup.sublist (List.Sublist.map _ hFsub) hvnd
  have hlivesub : ∀ s ∈ live, s ∈ slots := by
    intro s hs
    apply hFsub.subset
    rw [hsplit]
    exact List.mem_append_right _ (List.mem_append_left _ hs)
  have hlivend : (live.map (·.2)).Nodup := by
    rw [hsplit] at hFnd
    simp only [List.map_append, List.nodup_append] at hFnd
    exact hFnd.2.1.1
  generalize hl : live.zip (delimSeq L.next.ts num) = l
  have hlmap : l.map (·.1.2) = live.map (·.2) := by
    have : l.map Prod.fst = live := by rw [← hl]; exact List.map_fst_zip (by rw [hlen, delimSeq_length])
    rw [← this, List.map_map]; rfl
  obtain ⟨tm, hfold, htm, htmmem⟩ := find_foldTomb l d (by rw [hlmap]; exact hlivend)
  rw [hlmap] at htm
  have htmhd : tm hd = none := (htm hd).mpr fun hm => by
    obtain ⟨s, hs, e⟩ := List.mem_map.mp hm
    exact I.kid_ne hp (by rw [hkids]; exact List.mem_map.mpr ⟨s, hlivesub s hs, rfl⟩) e
  have hrun : d.deleteLocalInArray hd pos num L.next.ts =
      .ok ((foldTomb d l).set { pn with kind := .arr slots (size - num) }, live.map (·.1), live.map (·.2)) := by
    unfold Doc.deleteLocalInArray
    rw [DA.findArr_some_iff.mpr ⟨hp, hk⟩]
    simp only []
    rw [hF, hlive, if_neg (by omega), hl]
    have : (List.foldl (fun acc x => acc.makeTomb x.1.2 x.2) d l).find hd = some pn := by
      have := hfold hd
      rw [htmhd] at this
      exact this.trans hp
    rw [this]
    rfl
  have hstp : Stp L 0 num d hd pn (.arr slots (size - num)) [] (fun _ => none) tm
      ((foldTomb d l).set { pn with kind := .arr slots (size - num) }) := by
    refine Stp.of_tombs I hp (hfind := ?_) (hnd := nodup_set _ (nodup_foldTomb l d I.wf.nodup)) (htouched := ?_)
      (hkids := hkids.symm) (hshape := ?_)
    · intro x
      rw [find_set, hfold]
      show (if pn.c = x then _ else _) = if x = hd then _ else _
      rw [find_some_c hp]
      by_cases e : x = hd
      · rw [if_pos e, if_pos e.symm]
      · rw [if_neg e, if_neg fun e' => e e'.symm]
        cases tm x <;> rfl
    · intro x t hx
      obtain ⟨s, hs⟩ := htmmem x t hx
      obtain ⟨h1, h2⟩ := List.of_mem_zip (hl ▸ hs)
      refine ⟨by rw [hkids]; exact List.mem_map.mpr ⟨(s, x), hlivesub _ h1, rfl⟩, ?_⟩
      obtain ⟨i, hi, rfl⟩ := DC.mem_delimSeq.mp h2
      exact ⟨rfl, Or.inr ⟨rfl, by simpa [addDelim, next_ts] using hi⟩⟩
    · rw [hk]
      exact ⟨by have := I.ordnd hd pn hp; rwa [hk] at this,
        fun o ho => ((I.stamps hd pn hp).2.2 o (by rw [hk]; exact ho)).mono (Nat.zero_le _)⟩
  refine ⟨_, hrun, ?_⟩
  generalize (foldTomb d l).set { pn with kind := .arr slots (size - num) } = D at hstp ⊢
  have hFnd' := hFnd
  rw [hsplit] at hFnd'
  simp only [List.map_append, List.nodup_append] at hFnd'
  have hnone : ∀ s ∈ F.take pos ++ F.drop (pos + num), tm s.2 = none := by
    intro s hs
    refine (htm s.2).mpr fun hm => ?_
    rcases List.mem_append.mp hs with hs | hs
    · exact hFnd'.2.2 s.2 (List.mem_map.mpr ⟨s, hs, rfl⟩) s.2 (List.mem_append_left _ hm) rfl
    · exact hFnd'.2.1.2.2 s.2 hm s.2 (List.mem_map.mpr ⟨s, hs, rfl⟩) rfl
  have hslot : ∀ s ∈ slots, slotLive D s = ((tm s.2).isNone && slotLive d s) := by
    intro s hs
    have hsk : s.2 ∈ kids pn.kind := by rw [hkids]; exact List.mem_map.mpr ⟨s, hs, rfl⟩
    unfold slotLive
    cases h : tm s.2 with
    | none => rw [hstp.toG.isTomb_old_kid hsk rfl h]; rfl
    | some t => rw [hstp.toG.isTomb_tm rfl h]; rfl
  have h1 : slots.filter (slotLive D) = F.filter (fun s => (tm s.2).isNone) := by
    rw [← hF, List.filter_filter]
    exact List.filter_congr hslot
  have hfl : F.filter (fun s => (tm s.2).isNone) = F.take pos ++ F.drop (pos + num) := by
    conv_lhs => rw [hsplit]
    refine filter_cut (fun s hs => by rw [hnone s hs]; rfl) fun s hs => ?_
    cases h : tm s.2 with
    | none => exact absurd (List.mem_map.mpr ⟨s, hs, rfl⟩) ((htm s.2).mp h)
    | some t => rfl
  have hfilt : slots.filter (slotLive D) = F.take pos ++ F.drop (pos + num) := by rw [h1, hfl]
  refine hstp.arrStep hk (N := []) (hfilt := by rw [hF, List.append_nil]; exact hfilt) (hrange := by rw [hF]; exact hrange)
    (hs' := by simp) (hTK := fun x hx => ?_) (hold := by rw [hF]; exact fun x hx => ⟨rfl, hnone x hx⟩)
    (hkeys := fun _ n hn => nomatch hn) (hnew := fun _ => rfl)
  rw [hF, hlive]
  refine hx.elim (fun h => nomatch h) fun h => Classical.not_not.mp fun hn => ?_
  rw [(htm x).mpr hn] at h
  cases h

/-! ### replacing the child of one live slot -/

theorem setSlotChild_split {c : Ts} : ∀ {sl : List (Ts × Ts)} {s : Ts × Ts}, s ∈ sl → (sl.map (·.1)).Nodup →
    ∃ A B, sl = A ++ s :: B ∧ setSlotChild s.1 c sl = A ++ (s.1, c) :: B := by
  intro sl
  induction sl with
  | nil => intro s hs; cases hs
  | cons x xs ih =>
    intro s hs hnd
    simp only [List.map_cons, List.nodup_cons] at hnd
    by_cases hx : x.1 = s.1
    · have : s = x := by
        rcases List.mem_cons.mp hs with h | h
        · exact h
        · exact absurd (List.mem_map.mpr ⟨s, h, hx.symm⟩) hnd.1
      subst this
      exact ⟨[], xs, rfl, by simp [setSlotChild]⟩
    · have hs' : s ∈ xs := by
        rcases List.mem_cons.mp hs with h | h
        · rw [h] at hx; exact absurd rfl hx
        · exact h
      obtain ⟨A, B, e1, e2⟩ := ih hs' hnd.2
      exact ⟨x :: A, B, by rw [e1]; rfl, by simp [setSlotChild, hx, e2]⟩

/-- one iteration of `Doc.updateLocalInArray` (jsonArray.updateLocal) at the slot `s` of the array `hd`, whose slots are
    `A ++ s :: B`: the nodes `ns` created for the value `v`, the next free identifier `t'`, and the document `D` it leaves -/
structure Upd1 (L : OpId) (b : Nat) (d : Doc) (hd : Ts) (pn : DNode) (sl : List (Ts × Ts)) (size : Int) (s : Ts × Ts)
    (v : JVal) (ns : List DNode) (t' : Ts) (A B : List (Ts × Ts)) (D : Doc) : Prop where
  doc : D = ((d.addAll ns).set { pn with kind := .arr (A ++ (s.1, tsAt L b) :: B) size }).funeral s.2 (tsAt L b)
  run : createNode hd (tsAt L b) v = .ok (ns, tsAt L b, t')
  split : sl = A ++ s :: B
  set : setSlotChild s.1 (tsAt L b) sl = A ++ (s.1, tsAt L b) :: B
  findArr : (d.addAll ns).findArr hd = some (pn, sl, size)
  lt : b < t'.delim
  stp : Stp L b t'.delim d hd pn (.arr (A ++ (s.1, tsAt L b) :: B) size) ns (buryOf (some s.2) (tsAt L b)) (fun _ => none) D
  sizeOK : SizeOK D (.arr (A ++ (s.1, tsAt L b) :: B) size)
  others : ∀ x ∈ A ++ B, x ∈ sl ∧ x.2 ≠ s.2
  live : (A ++ (s.1, tsAt L b) :: B).filter (slotLive D) = A.filter (slotLive d) ++ (s.1, tsAt L b) :: B.filter (slotLive d)

theorem upd1_run {L : OpId} {b : Nat} {d : Doc} {hd : Ts} {pn : DNode} {sl : List (Ts × Ts)} {size : Int}
    (I : DInv L b d) (hp : d.find hd = some pn) (hk : pn.kind = .arr sl size) {s : Ts × Ts} (hs : s ∈ sl)
    (hlive : d.isTomb s.2 = false) (v : JVal) (hnn : v.hasNull = false) :
    ∃ ns t' A B D, Upd1 L b d hd pn sl size s v ns t' A B D := by
  obtain ⟨ns, t', n0, C⟩ := create_one I hd hnn
  have hond : (sl.map (·.1)).Nodup := by have := I.ordnd hd pn hp; rwa [hk] at this
  obtain ⟨A, B, rfl, e2⟩ := setSlotChild_split (c := tsAt L b) hs hond
  have hkids : kids pn.kind = (A ++ s :: B).map (·.2) := by rw [hk]; rfl
  have hsk : s.2 ∈ kids pn.kind := by rw [hkids]; exact List.mem_map_of_mem hs
  have hvnd : (A.map (·.2) ++ s.2 :: B.map (·.2)).Nodup := by
    have := I.wf.inj hd pn hp
    rwa [hkids, List.map_append, List.map_cons] at this
  obtain ⟨nold, hnold, _⟩ := I.wf.child hd pn hp s.2 hsk
  have htnot : tsAt L b ∉ A.map (·.2) ++ s.2 :: B.map (·.2) := fun hm => by
    obtain ⟨nc, hnc, _⟩ := I.wf.child hd pn hp (tsAt L b) (by rw [hkids, List.map_append, List.map_cons]; exact hm)
    rw [C.fresh _ (List.mem_map.mpr ⟨n0, C.root, C.root_c⟩)] at hnc
    cases hnc
  have holdnew : s.2 ∉ ids ns := fun hmem => by rw [C.fresh _ hmem] at hnold; cases hnold
  have hstp : Stp L b t'.delim d hd pn (.arr (A ++ (s.1, tsAt L b) :: B) size) ns (buryOf (some s.2) (tsAt L b))
      (fun _ => none)
      (((d.addAll ns).set { pn with kind := .arr (A ++ (s.1, tsAt L b) :: B) size }).funeral s.2 (tsAt L b)) := by
    refine Stp.of_find I hp
      (hfind := find_bury (find_relink hp (fun _ => rfl) fun _ => rfl) (I.kid_ne hp hsk) holdnew _)
      (hnd := nodup_funeral _ _ (nodup_set _ (nodup_addAll ns I.wf.nodup))) C.block (hb' := Nat.le_refl _) C.nodeok C.lnk
      (hcs := fun c hc' => by rw [List.mem_singleton.mp hc']; exact ⟨n0, C.root, C.root_c, C.root_parent⟩)
      (htouched := ?_) (hkids := ?_) (hKnd := ?_) (hshape := ?_)
    · intro x t hx
      rcases hx with hx | hx
      · obtain ⟨e1', e2'⟩ := buryOf_some hx
        cases e1'
        exact ⟨hsk, e2' ▸ ⟨rfl, Or.inr ⟨rfl, C.lt⟩⟩⟩
      · cases hx
    · intro c
      rw [hkids]
      show c ∈ (A ++ (s.1, tsAt L b) :: B).map (·.2) ↔ _
      simp only [List.map_append, List.map_cons, buryOf_eq_none, List.mem_singleton]
      exact mem_exchange hvnd _ c
    · show ((A ++ (s.1, tsAt L b) :: B).map (·.2)).Nodup
      rw [List.map_append, List.map_cons]
      exact nodup_exchange hvnd htnot
    · have hord : (A ++ (s.1, tsAt L b) :: B).map (·.1) = (A ++ s :: B).map (·.1) := by
        rw [List.map_append, List.map_append]; rfl
      rw [hk]
      simp only [ShapeOK]
      rw [hord]
      exact ⟨hond, fun o ho => ((I.stamps hd pn hp).2.2 o (by rw [hk]; exact ho)).mono (Nat.le_of_lt C.lt)⟩
  have hnew := hstp.isTomb_new C.root
  rw [C.root_c] at hnew
  have hAB : ∀ x ∈ A ++ B, x ∈ A ++ s :: B ∧ x.2 ≠ s.2 := fun x hx =>
    ⟨ListAux.mem_middle.mpr (.inr hx), fun e => (List.nodup_cons.mp (List.nodup_middle.mp hvnd)).1 (by rw [← List.map_append]; exact List.mem_map.mpr ⟨x, hx, e⟩)⟩
  generalize hD : ((d.addAll ns).set { pn with kind := .arr (A ++ (s.1, tsAt L b) :: B) size }).funeral s.2 (tsAt L b) = D
    at hstp hnew
  have hF1 : (A ++ (s.1, tsAt L b) :: B).filter (slotLive D) =
      A.filter (slotLive d) ++ (s.1, tsAt L b) :: B.filter (slotLive d) := by
    have hcong : ∀ X : List (Ts × Ts), (∀ x ∈ X, x ∈ A ++ B) → X.filter (slotLive D) = X.filter (slotLive d) :=
      fun X hX => List.filter_congr fun x hx => by
        unfold slotLive
        rw [hstp.toG.isTomb_old_kid (by rw [hkids]; exact List.mem_map_of_mem (hAB x (hX x hx)).1)
          (buryOf_ne (hAB x (hX x hx)).2) rfl]
    have h1 : slotLive D (s.1, tsAt L b) = true := by unfold slotLive; rw [hnew]; rfl
    rw [List.filter_append, List.filter_cons, hcong A fun x hx => List.mem_append_left _ hx,
      hcong B fun x hx => List.mem_append_right _ hx, if_pos h1]
  have hsize : SizeOK D (.arr (A ++ (s.1, tsAt L b) :: B) size) :=
    hstp.toG.size_swap (x := s) (y := (s.1, tsAt L b)) (hk ▸ cont_arr _ _) (cont_arr _ _)
      (fun c hc => ⟨buryOf_ne hc, rfl⟩) (by simp [hlive, hnew])
  exact ⟨ns, t', A, B, D, hD.symm, C.run, rfl, e2, DA.findArr_some_iff.mpr ⟨find_addAll_old C.fresh hp, hk⟩, C.lt, hstp, hsize, hAB,
    hF1⟩

theorem tsAt_next {L : OpId} {b : Nat} {t' : Ts} {ns : List DNode} (hb : Block (tsAt L b) ns t') :
    t' = tsAt L t'.delim := by
  rw [hb.next]; rfl

/-- what the loop of `Doc.updateLocalInArray` over the slots `todo` of the array `hd` (slots `sl`) leaves: the document `d'`, the delimiter
    `b'` reached, the entry `pn'` of `hd` with the slots `sl'`. `remote`: the loop of `Doc.updateRemoteInArray` over the order
    identifiers of the same slots writes the same table, provided their children are older than the operation (it decides by last
    writer wins, which the local loop does not ask). -/
structure UpdLoop (L : OpId) (hd : Ts) (size : Int) (todo : List (Ts × Ts)) (vs : List JVal) (b : Nat) (d : Doc)
    (sl : List (Ts × Ts)) (d' : Doc) (b' : Nat) (pn' : DNode) (sl' : List (Ts × Ts)) : Prop where
  run : Doc.updateLocalInArray.go hd todo vs (tsAt L b) d = .ok d'
  inv : DInv L b' d'
  find : d'.find hd = some pn'
  kind : pn'.kind = .arr sl' size
  tomb : d'.isTomb hd = d.isTomb hd
  same : Same d d' hd (fun x => x ∈ todo.map (·.2))
  view : KeysND d → JKeysNDList vs → KeysND d' ∧ ∀ P Q, sl.filter (slotLive d) = P ++ todo ++ Q →
    arrView d' sl' = P.map (fun x => d.viewAt x.2) ++ vs ++ Q.map (fun x => d.viewAt x.2)
  remote : (∀ s ∈ todo, (d.timeOf s.2).cmp L.next.ts = .lt) →
    Doc.updateRemoteInArray.go hd (todo.map (·.1)) vs (tsAt L b) d = .ok d'

theorem update_loop {L : OpId} {hd : Ts} {size : Int} (todo : List (Ts × Ts)) (vs : List JVal) (b : Nat)
    (d : Doc) (pn : DNode) (sl : List (Ts × Ts)) (I : DInv L b d) (hp : d.find hd = some pn)
    (hk : pn.kind = .arr sl size) (htodo : ∀ s ∈ todo, s ∈ sl ∧ d.isTomb s.2 = false)
    (hnd : (todo.map (·.2)).Nodup) (hlen : vs.length = todo.length) (hnn : JVal.hasNullList vs = false) :
    ∃ d' b' pn' sl', UpdLoop L hd size todo vs b d sl d' b' pn' sl' := by
  induction todo generalizing vs b d pn sl with
  | nil =>
    have : vs = [] := List.length_eq_zero_iff.mp hlen
    subst this
    refine ⟨d, b, pn, sl, by rw [Doc.updateLocalInArray.go], I, hp, hk, rfl, fun c n h _ _ => h, ?_,
      fun _ => by simp only [List.map_nil, Doc.updateRemoteInArray.go]⟩
    intro hkeys _
    refine ⟨hkeys, ?_⟩
    intro P Q hPQ
    rw [arrView_eq, hPQ]
    simp [List.map_map, Function.comp_def]
  | cons s ss ih =>
    cases vs with
    | nil => simp at hlen
    | cons v vs' =>
      simp only [JVal.hasNullList, Bool.or_eq_false_iff] at hnn
      simp only [List.map_cons, List.nodup_cons] at hnd
      obtain ⟨hs, hlive⟩ := htodo s List.mem_cons_self
      obtain ⟨ns, t', A, B, D1, U⟩ := upd1_run I hp hk hs hlive v hnn.1
      have hblock := (createNode_spec hd (tsAt L b) v _ U.run).1
      simp only at hblock
      have I1 := U.stp.next U.sizeOK
      have hkids : kids pn.kind = sl.map (·.2) := by rw [hk]; rfl
      have hothers : ∀ x ∈ sl, x.2 ≠ s.2 → x ∈ A ++ (s.1, tsAt L b) :: B := by
        intro x hx hne
        rw [U.split] at hx
        simp only [List.mem_append, List.mem_cons] at hx ⊢
        rcases hx with h | h | h
        · exact Or.inl h
        · rw [h] at hne; exact absurd rfl hne
        · exact Or.inr (Or.inr h)
      have htodo1 : ∀ s' ∈ ss, s' ∈ A ++ (s.1, tsAt L b) :: B ∧ D1.isTomb s'.2 = false := by
        intro s' hs'
        obtain ⟨h1, h2⟩ := htodo s' (List.mem_cons_of_mem _ hs')
        have hne : s'.2 ≠ s.2 := fun e => hnd.1 (e ▸ List.mem_map.mpr ⟨s', hs', rfl⟩)
        refine ⟨hothers s' h1 hne, ?_⟩
        rw [U.stp.toG.isTomb_old_kid (by rw [hkids]; exact List.mem_map.mpr ⟨s', h1, rfl⟩) (buryOf_ne hne) rfl]
        exact h2
      obtain ⟨d', b', pn', sl', hgo, I', hp', hk', htomb', hsame', hview', hrem'⟩ :=
        ih vs' t'.delim D1 _ _ I1 U.stp.toG.find_hd rfl htodo1 hnd.2 (by simpa using hlen) hnn.2
      refine ⟨d', b', pn', sl', ?_, I', hp', hk', htomb'.trans U.stp.toG.isTomb_hd, ?_, ?_, fun hold => ?_⟩
      · rw [Doc.updateLocalInArray.go]
        simp only [U.run, U.findArr, U.set]
        rw [← U.doc, tsAt_next hblock]
        exact hgo
      · intro c n hf hne hnot
        simp only [List.map_cons, List.mem_cons, not_or] at hnot
        exact hsame' c n (U.stp.toG.find_old hf hne (buryOf_ne hnot.1) rfl) hne hnot.2
      · intro hkeys hjk
        simp only [JKeysNDList] at hjk
        have hkeys1 : KeysND D1 := U.stp.toG.next_keys hkeys (createNode_keysND hd (tsAt L b) v _ U.run hjk.1)
          (by intro m s' hh; cases hh)
        obtain ⟨hkeys', hv'⟩ := hview' hkeys1 hjk.2
        refine ⟨hkeys', ?_⟩
        intro P Q hPQ
        have hg := I.dg hkeys
        have hg1 := I1.dg hkeys1
        have hA : ∀ x ∈ A, x ∈ sl ∧ x.2 ≠ s.2 := fun x hx => U.others x (List.mem_append_left _ hx)
        have hB : ∀ x ∈ B, x ∈ sl ∧ x.2 ≠ s.2 := fun x hx => U.others x (List.mem_append_right _ hx)
        have hF0 : sl.filter (slotLive d) = A.filter (slotLive d) ++ s :: B.filter (slotLive d) := by
          have : slotLive d s = true := by unfold slotLive; rw [hlive]; rfl
          rw [U.split, List.filter_append, List.filter_cons, if_pos this]
        have hsA : s ∉ A.filter (slotLive d) := by
          intro hm
          exact (hA s (List.mem_filter.mp hm).1).2 rfl
        have hsB : s ∉ B.filter (slotLive d) := fun hm => (hB s (List.mem_filter.mp hm).1).2 rfl
        obtain ⟨eA, -, eB⟩ := (List.append_cons_inj_of_notMem hsA hsB).mp
          (show _ = P ++ s :: (ss ++ Q) by rw [← hF0, hPQ]; simp)
        have hv := hv' (P ++ [(s.1, tsAt L b)]) Q (by rw [U.live, eA, eB]; simp)
        rw [hv]
        have hnewv : D1.viewAt (tsAt L b) = v := U.stp.view_created hg1 U.run (fun n hn => hn)
        have hPv : ∀ x ∈ P, D1.viewAt x.2 = d.viewAt x.2 := by
          intro x hx
          have hxA : x ∈ A.filter (slotLive d) := by rw [eA]; exact hx
          obtain ⟨h1, h2⟩ := hA x (List.mem_filter.mp hxA).1
          exact (U.stp.view_old hg hg1 (by rw [hkids]; exact List.mem_map.mpr ⟨x, h1, rfl⟩) (buryOf_ne h2) rfl).1
        have hQv : ∀ x ∈ Q, D1.viewAt x.2 = d.viewAt x.2 := by
          intro x hx
          have hxB : x ∈ B.filter (slotLive d) := by rw [eB]; exact List.mem_append_right _ hx
          obtain ⟨h1, h2⟩ := hB x (List.mem_filter.mp hxB).1
          exact (U.stp.view_old hg hg1 (by rw [hkids]; exact List.mem_map.mpr ⟨x, h1, rfl⟩) (buryOf_ne h2) rfl).1
        rw [List.map_append, List.map_congr_left hPv, List.map_congr_left hQv]
        simp [hnewv]
      · -- the remote loop finds the slot (`DInv` of the running document), its child live and older, and writes what the local one wrote
        obtain ⟨nold, hnold, _⟩ := I.wf.child hd pn hp s.2 (by rw [hkids]; exact List.mem_map_of_mem hs)
        have hfo : (d.addAll ns).find s.2 = d.find s.2 := (find_addAll_old U.stp.fresh hnold).trans hnold.symm
        have hfind : sl.find? (fun x => x.1 = s.1) = some s := by
          have hond : (sl.map (·.1)).Nodup := by have := I.ordnd hd pn hp; rwa [hk] at this
          rw [U.split, List.map_append, List.map_cons, List.nodup_append] at hond
          refine List.find?_eq_some_iff_append.mpr ⟨by simp, A, B, U.split, fun a ha => ?_⟩
          simpa using fun e => hond.2.2 a.1 (List.mem_map_of_mem ha) s.1 List.mem_cons_self e
        have hcond : (!(d.addAll ns).isTomb s.2 && ((d.addAll ns).timeOf s.2).cmp (tsAt L b) == Ordering.lt) = true := by
          rw [isTomb_of_find hfo, timeOf_of_find hfo, hlive,
            cmp_congr_key (d.timeOf s.2) (d.timeOf s.2) (tsAt L b) L.next.ts rfl rfl, hold s List.mem_cons_self]
          rfl
        simp only [List.map_cons, Doc.updateRemoteInArray.go, U.run, U.findArr, hfind, hcond,
          if_true, U.set]
        rw [← U.doc, tsAt_next hblock]
        refine hrem' fun s' hs' => ?_
        obtain ⟨h1, _⟩ := htodo s' (List.mem_cons_of_mem _ hs')
        have hk' : s'.2 ∈ kids pn.kind := by rw [hkids]; exact List.mem_map_of_mem h1
        obtain ⟨n', hn', _⟩ := I.wf.child hd pn hp s'.2 hk'
        have hne : s'.2 ≠ s.2 := fun e => hnd.1 (e ▸ List.mem_map.mpr ⟨s', hs', rfl⟩)
        rw [timeOf_of_find ((U.stp.toG.find_old hn' (I.kid_ne hp hk') (buryOf_ne hne) rfl).trans hn'.symm)]
        exact hold s' (List.mem_cons_of_mem _ hs')

theorem update_run {L : OpId} {d : Doc} {hd : Ts} {pn : DNode} {slots : List (Ts × Ts)} {size : Int}
    (I : DInv L 0 d) (hp : d.find hd = some pn) (hk : pn.kind = .arr slots size) (pos : Nat) (vs : List JVal)
    (hrange : pos + vs.length ≤ (slots.filter (slotLive d)).length) (hnn : JVal.hasNullList vs = false) :
    ∃ d', d.updateLocalInArray hd pos L.next.ts vs =
        .ok (d', (((slots.filter (slotLive d)).drop pos).take vs.length).map (·.1),
          (((slots.filter (slotLive d)).drop pos).take vs.length).map (·.2)) ∧
      ArrStep L d hd slots pos vs.length vs d' := by
  generalize hlive : ((slots.filter (slotLive d)).drop pos).take vs.length = live
  have hkids : kids pn.kind = slots.map (·.2) := by rw [hk]; rfl
  have hvnd : (slots.map (·.2)).Nodup := by have := I.wf.inj hd pn hp; rwa [hkids] at this
  have hlen : live.length = vs.length := by rw [← hlive, List.length_take, List.length_drop]; omega
  have hsplit := range_split (slots.filter (slotLive d)) pos vs.length
  rw [hlive] at hsplit
  have hFnd : ((slots.filter (slotLive d)).map (·.2)).Nodup :=
    List.Nodup.sublist (List.Sublist.map _ List.filter_sublist) hvnd
  have hlivemem : ∀ s ∈ live, s ∈ slots ∧ d.isTomb s.2 = false := by
    intro s hs
    have : s ∈ slots.filter (slotLive d) := by rw [hsplit]; simp [hs]
    obtain ⟨h1, h2⟩ := List.mem_filter.mp this
    exact ⟨h1, by simpa [slotLive] using h2⟩
  have hlivend : (live.map (·.2)).Nodup := by
    rw [hsplit] at hFnd
    simp only [List.map_append, List.nodup_append] at hFnd
    exact hFnd.2.1.1
  -- a loop of steps, each starting at the delimiter the one before reached: `ArrStep` is read off `UpdLoop`,
  -- not built by `Stp.arrStep`
  obtain ⟨d', b', pn', sl', R⟩ :=
    update_loop (L := L) (hd := hd) (size := size) live vs 0 d pn slots I hp hk hlivemem hlivend hlen.symm hnn
  refine ⟨d', ?_, ⟨b', R.inv⟩, R.tomb, hlive ▸ R.same, fun hkeys hjk => ?_⟩
  · unfold Doc.updateLocalInArray
    rw [DA.findArr_some_iff.mpr ⟨hp, hk⟩]
    simp only []
    rw [hlive, if_neg (by omega)]
    have hgo := R.run
    rw [tsAt_zero] at hgo
    rw [hgo]
  · obtain ⟨h1, h2⟩ := R.view hkeys hjk
    exact ⟨h1, pn', sl', size, R.find, R.kind, h2 _ _ (by rw [List.append_assoc]; exact hsplit)⟩

/-! ## the public calls -/

-- `CallKeysND` and `isMutating` default by wildcard: a new call that carries values, or that writes, is entered here by hand;
-- left out it counts as a read without values, and `mut_refines` finds no `hm` for it.
def CallKeysND : Call → Prop
  | .mput _ v => JKeysND v
  | .linsert _ vs => JKeysNDList vs
  | .lupdate _ vs => JKeysNDList vs
  | .dput _ _ v => JKeysND v
  | .dinsert _ _ vs => JKeysNDList vs
  | .dupdate _ _ vs => JKeysNDList vs
  | _ => True

def isMutating : Call → Bool
  | .dput _ _ _ | .dremove _ _ | .dinsert _ _ _ | .ddelete _ _ | .ddeleteMany _ _ _ | .dupdate _ _ _ => true
  | _ => false

theorem prepare_doc {c : Call} {h : Ts} (hh : PlainDoc.handleOf c = some h) (d : Doc) :
    c.prepare (.doc d) = c.prepareDoc d := by
  cases c <;> first | rfl | cases hh

/-- the check a call through a handle starts with: the handle, the kind of container it must be, and whether a deleted
    container is accepted (the reads) -/
def guardOf : Call → Option (Ts × NKind × Bool)
  | .dput h _ _ | .dremove h _ => some (h, .obj, false)
  | .dinsert h _ _ | .ddelete h _ | .ddeleteMany h _ _ | .dupdate h _ _ => some (h, .arr, false)
  | .dgetObj h _ => some (h, .obj, true)
  | .dgetArr h _ _ => some (h, .arr, true)
  | _ => none

theorem handleOf_guard {c : Call} {h : Ts} {K : NKind} {g : Bool} (hc : guardOf c = some (h, K, g)) :
    PlainDoc.handleOf c = some h := by
  cases c <;> cases hc <;> rfl

theorem prepareDoc_guard {c : Call} {h : Ts} {K : NKind} {g : Bool} (hc : guardOf c = some (h, K, g)) {d : Doc} {e : Nat}
    (he : d.assertLocal h K g = some e) : c.prepareDoc d = .done (.err e) := by
  cases c <;> cases hc <;> simp only [Call.prepareDoc, he]

/-- `Res L d c d' o`: on the document `d` of a replica whose clock is `L` the call `c` is answered `o` and leaves the
    document `d'`: `prepare` answers by itself (a read or a refusal), or the document refuses the prepared operation, or
    it executes it. `Res.call` says what `Replica.call` does to the replica in each case. `done.hq`: a mutating call that
    `prepare` answers by itself is refused (read by `DPatch.exec_step`, which needs the operation of a successful call). -/
inductive Res (L : OpId) (d : Doc) (c : Call) : Doc → Outcome Ret → Prop
  | done {o} (hp : c.prepare (.doc d) = .done o) (hq : isMutating c = true → ∃ e, o = .err e) : Res L d c d o
  | err {b post e} (hp : c.prepare (.doc d) = .op b post) (he : execLocal (.doc d) L.next.ts b = .err e) :
      Res L d c d (.err e)
  | ok {b post d' bd ret} (hm : isMutating c = true) (hp : c.prepare (.doc d) = .op b post)
      (he : execLocal (.doc d) L.next.ts b = .ok (.doc d', bd, ret)) : Res L d c d' (.ok (post ret))

theorem Res.call {r : Replica} {d d' : Doc} {c : Call} {o : Outcome Ret} (hs : r.state = .doc d)
    (h : Res r.opId d c d' o) :
    (d' = d ∧ r.call c = (r, o)) ∨ ∃ bd v, o = .ok v ∧ r.call c = (r.queued (.doc d') bd, o) := by
  cases h with
  | done hp _ => exact Or.inl ⟨rfl, Orda.call_of_done (by rw [hs]; exact hp)⟩
  | err hp he => exact Or.inl ⟨rfl, Orda.call_of_err (by rw [hs]; exact hp) (by rw [hs]; exact he)⟩
  | ok _ hp he => exact Or.inr ⟨_, _, rfl, Orda.call_of_ok (by rw [hs]; exact hp) (by rw [hs]; exact he)⟩

theorem Res.quiet_call {r : Replica} {d d' : Doc} {c : Call} {o : Outcome Ret} (hs : r.state = .doc d)
    (h : Res r.opId d c d' o) (hm : isMutating c = false) : r.call c = (r, o) := by
  cases h with
  | done hp _ => exact Orda.call_of_done (by rw [hs]; exact hp)
  | err hp he => exact Orda.call_of_err (by rw [hs]; exact hp) (by rw [hs]; exact he)
  | ok hm' _ _ => rw [hm] at hm'; cases hm'

/-- the call is answered, not with a panic, and leaves a document that satisfies the invariant -/
structure Eff (L : OpId) (d : Doc) (c : Call) (d' : Doc) (o : Outcome Ret) : Prop where
  res : Res L d c d' o
  out : (∃ e, o = .err e) ∨ ∃ v, o = .ok v
  inv : ∃ b', DInv L b' d'
  keys : KeysND d → CallKeysND c → KeysND d'

/-- through a handle located at `π` the call acts on the view as the plain tree does at `π` -/
def Refines (d : Doc) (c : Call) (d' : Doc) (o : Outcome Ret) : Prop :=
  ∀ (π : List PlainDoc.Seg) (hd : Ts), KeysND d → CallKeysND c → d.locate π Ts.oldest = some hd →
    PlainDoc.handleOf c = some hd →
    d'.view.canon = (PlainDoc.step d.view.canon π c).1 ∧ PlainDoc.outCanon o = (PlainDoc.step d.view.canon π c).2

/-- What is proved of every call (`call_full`). Per call (`full_d*`): the guard first (`obj_guarded`, `arr_guarded`); where the
    document stays as it was `refused`, `refused_op`, `answered`, `out_of_range`; where an operation is executed its `*_run`
    lemma and `obj_refines` or `arr_refines` (both over `mut_refines`). -/
def Full (L : OpId) (d : Doc) (c : Call) : Prop := ∃ d' o, Eff L d c d' o ∧ Refines d c d' o

/-- a call that leaves the document as it was: a read or a refusal -/
theorem unchanged {L : OpId} {d : Doc} {c : Call} {o : Outcome Ret} {h : Ts} (I : DInv L 0 d)
    (hh : PlainDoc.handleOf c = some h) (hres : Res L d c d o) (ho : (∃ e, o = .err e) ∨ ∃ v, o = .ok v)
    (hstep : ∀ (π : List PlainDoc.Seg), KeysND d → d.locate π Ts.oldest = some h →
      PlainDoc.step d.view.canon π c = (d.view.canon, PlainDoc.outCanon o)) : Full L d c :=
  ⟨d, o, ⟨hres, ho, ⟨0, I⟩, fun hk _ => hk⟩, fun π hd hk _ hloc hh' => by
    rw [hh] at hh'
    cases hh'
    rw [hstep π hk hloc]
    exact ⟨rfl, rfl⟩⟩

section unchanged
variable {L : OpId} {d : Doc} {c : Call} {h : Ts} (I : DInv L 0 d) (hh : PlainDoc.handleOf c = some h)
include I hh

theorem refused {e : Nat} (hp : c.prepareDoc d = .done (.err e))
    (hstep : ∀ (π : List PlainDoc.Seg), KeysND d → d.locate π Ts.oldest = some h →
      PlainDoc.step d.view.canon π c = (d.view.canon, .err e)) : Full L d c :=
  unchanged I hh (.done ((prepare_doc hh d).trans hp) fun _ => ⟨e, rfl⟩) (Or.inl ⟨e, rfl⟩) hstep

theorem refused_op {b : OpBody} {post : Ret → Ret} {e : Nat} (hp : c.prepareDoc d = .op b post)
    (he : execLocal (.doc d) L.next.ts b = .err e)
    (hstep : ∀ (π : List PlainDoc.Seg), KeysND d → d.locate π Ts.oldest = some h →
      PlainDoc.step d.view.canon π c = (d.view.canon, .err e)) : Full L d c :=
  unchanged I hh (.err ((prepare_doc hh d).trans hp) he) (Or.inl ⟨e, rfl⟩) hstep

theorem answered {v : Ret} (hm : isMutating c = false) (hp : c.prepareDoc d = .done (.ok v))
    (hstep : ∀ (π : List PlainDoc.Seg), KeysND d → d.locate π Ts.oldest = some h →
      PlainDoc.step d.view.canon π c = (d.view.canon, PlainDoc.outCanon (.ok v))) : Full L d c :=
  unchanged I hh (.done ((prepare_doc hh d).trans hp) fun h => by rw [hm] at h; cases h) (Or.inr ⟨v, rfl⟩) hstep

end unchanged

/-! ## calls of other datatypes on a document: refused -/

theorem full_other {L : OpId} {d : Doc} (I : DInv L 0 d) (c : Call) (hh : PlainDoc.handleOf c = none) : Full L d c := by
  have fin : ∀ e, Res L d c d (.err e) → Full L d c := fun e hr =>
    ⟨d, _, ⟨hr, Or.inl ⟨e, rfl⟩, ⟨0, I⟩, fun hk _ => hk⟩, fun π hd _ _ _ h => by rw [hh] at h; cases h⟩
  cases c <;> cases hh
  case inc x => exact fin _ (.err (b := .increase x) (post := id) rfl rfl)
  case mput k v =>
    by_cases hkv : (k = "" || v.isNull) = true
    · exact fin Err.illegalParameters (.done (by simp only [Call.prepare, hkv, if_true]) fun _ => ⟨_, rfl⟩)
    · exact fin _ (.err (b := .put k v) (post := id) (by simp only [Call.prepare, hkv]; rfl) rfl)
  case mremove k =>
    by_cases hkv : k = ""
    · exact fin Err.illegalParameters (.done (by simp only [Call.prepare, hkv, if_true]) fun _ => ⟨_, rfl⟩)
    · exact fin _ (.err (b := .remove k) (post := id) (by simp only [Call.prepare, hkv]; rfl) rfl)
  -- the reads of maps and all list calls are refused when the call is prepared
  all_goals exact fin Err.illegalOperation (.done rfl fun _ => ⟨_, rfl⟩)

/-! ## the node behind a located handle: alive, its kind, the shape of its view -/

theorem kindOf_obj {d : Doc} {h : Ts} : d.kindOf h = .obj ↔ ∃ pn m s, d.find h = some pn ∧ pn.kind = .obj m s := by
  unfold Doc.kindOf
  constructor
  · intro hk
    split at hk
    · rename_i c dd p m s hf; exact ⟨_, m, s, hf, rfl⟩
    · cases hk
    · cases hk
  · rintro ⟨pn, m, s, hf, hk⟩
    obtain ⟨c, dd, p, k⟩ := pn
    simp only at hk; subst hk
    simp [hf]

theorem kindOf_arr {d : Doc} {h : Ts} : d.kindOf h = .arr ↔ ∃ pn sl s, d.find h = some pn ∧ pn.kind = .arr sl s := by
  unfold Doc.kindOf
  constructor
  · intro hk
    split at hk
    · cases hk
    · rename_i c dd p sl s hf; exact ⟨_, sl, s, hf, rfl⟩
    · cases hk
  · rintro ⟨pn, sl, s, hf, hk⟩
    obtain ⟨c, dd, p, k⟩ := pn
    simp only at hk; subst hk
    simp [hf]

theorem kindOf_elem {d : Doc} {h : Ts} {pn : DNode} {v : JVal} (hf : d.find h = some pn) (hk : pn.kind = .elem v) :
    d.kindOf h = .elem := by
  obtain ⟨c, dd, p, k⟩ := pn
  simp only at hk; subst hk
  simp [Doc.kindOf, hf]

theorem kindOf_none {d : Doc} {h : Ts} (hf : d.find h = none) : d.kindOf h = .elem := by
  simp [Doc.kindOf, hf]

/-- in the table, and no tombstone on the way to the root -/
def Alive (d : Doc) (c : Ts) : Prop := (∀ f, d.isGarbage f c = false) ∧ (d.find c).isSome

theorem alive_kid {L : OpId} {b : Nat} {d : Doc} (I : DInv L b d) {cur ch : Ts} {n : DNode} (ha : Alive d cur)
    (hn : d.find cur = some n) (hch : ch ∈ kids n.kind) (hlive : d.isTomb ch = false) :
    Alive d ch ∧ d.garbage ch = false := by
  obtain ⟨nc, hnc, hpar⟩ := I.wf.child cur n hn ch hch
  have hg : ∀ f, d.isGarbage f ch = false := by
    intro f
    cases f with
    | zero => rfl
    | succ f =>
      have : nc.d.isSome = false := by simpa [Doc.isTomb, hnc] using hlive
      simp [Doc.isGarbage, hnc, this, hpar, ha.1 f]
  exact ⟨⟨hg, by simp [hnc]⟩, hg _⟩

theorem root_live {L : OpId} {b : Nat} {d : Doc} (I : DInv L b d) : Alive d Ts.oldest := by
  obtain ⟨m, s, hr⟩ := I.root
  refine ⟨?_, by simp [hr]⟩
  intro f
  cases f with
  | zero => rfl
  | succ f => simp [Doc.isGarbage, hr]

theorem alive_located {L : OpId} {b : Nat} {d : Doc} (I : DInv L b d) {π : List PlainDoc.Seg} {hd : Ts}
    (h : d.locate π Ts.oldest = some hd) : Alive d hd :=
  locate_induction (P := fun _ cur => Alive d cur → Alive d hd) id (fun _ _ _ _ hk _ ih ha =>
    let ⟨_, hf, hc, hl⟩ := hk.mem; ih (alive_kid I ha hf hc hl).1) π Ts.oldest h (root_live I)

theorem scalar_canon {v : JVal} (h : Scalar v) : v.canon = v ∧ (∀ kvs, v ≠ .obj kvs) ∧ ∀ l, v ≠ .arr l := by
  cases v <;> simp_all [Scalar, JVal.canon]

theorem garbage_kid {L : OpId} {b : Nat} {d : Doc} (I : DInv L b d) {hd c : Ts} {pn : DNode}
    (hp : d.find hd = some pn) (hg : ∀ f, d.isGarbage f hd = false) (hc : c ∈ kids pn.kind) :
    d.garbage c = d.isTomb c := by
  obtain ⟨nc, hnc, hpar⟩ := I.wf.child hd pn hp c hc
  simp [Doc.garbage, Doc.isGarbage, Doc.isTomb, hnc, hpar, hg]

theorem validateRange_eq (sz pos n : Int) :
    (⟨[], sz⟩ : Rga).validateRange pos n = if PlainDoc.inRange pos n sz then none else some Err.illegalParameters := by
  unfold Rga.validateRange PlainDoc.inRange
  by_cases h1 : pos < 0
  · have : ¬ (0 ≤ pos) := by omega
    simp [h1, this]
  · by_cases h2 : n < 1
    · have : ¬ (1 ≤ n) := by omega
      simp [h1, h2, this]
    · by_cases h3 : sz - 1 < pos
      · have : ¬ (pos ≤ sz - 1) := by omega
        simp [h1, h2, h3, this]
      · by_cases h4 : pos + n > sz
        · have : ¬ (pos + n ≤ sz) := by omega
          simp [h1, h2, h3, h4, this]
        · have a1 : 0 ≤ pos := by omega
          have a2 : 1 ≤ n := by omega
          have a3 : pos ≤ sz - 1 := by omega
          have a4 : pos + n ≤ sz := by omega
          simp [h1, h2, h3, h4, a1, a2, a3, a4]

theorem validateInsert_eq (sz pos : Int) :
    (⟨[], sz⟩ : Rga).validateInsert pos = if pos < 0 || pos > sz then some Err.illegalParameters else none := by
  unfold Rga.validateInsert
  by_cases h1 : pos < 0
  · simp [h1]
  · by_cases h2 : pos > sz
    · simp [h1, h2]
    · simp [h1, h2]

theorem arrRga_eq {d : Doc} {h : Ts} {pn : DNode} {sl : List (Ts × Ts)} {s : Int} (hf : d.find h = some pn)
    (hk : pn.kind = .arr sl s) : d.arrRga h = ⟨[], s⟩ := by
  unfold Doc.arrRga
  rw [DA.findArr_some_iff.mpr ⟨hf, hk⟩]

theorem arrView_length (d : Doc) (sl : List (Ts × Ts)) : (arrView d sl).length = (sl.filter (slotLive d)).length := by
  rw [arrView_eq]; simp

theorem arr_size {L : OpId} {b : Nat} {d : Doc} (I : DInv L b d) {h : Ts} {pn : DNode} {sl : List (Ts × Ts)} {s : Int}
    (hf : d.find h = some pn) (hk : pn.kind = .arr sl s) : s = ((sl.filter (slotLive d)).length : Int) := by
  have := I.sizes h pn hf
  rw [hk] at this
  exact this

/-- everything known about a located handle -/
structure Loc (d : Doc) (π : List PlainDoc.Seg) (hd : Ts) : Prop where
  sub : PlainDoc.sub π d.view.canon = some (d.viewAt hd).canon
  garbage : d.garbage hd = false
  live : d.isTomb hd = false
  anc : ∀ f, d.isGarbage f hd = false

theorem loc_of {L : OpId} {b : Nat} {d : Doc} (I : DInv L b d) (hk : KeysND d) {π : List PlainDoc.Seg} {hd : Ts}
    (h : d.locate π Ts.oldest = some hd) : Loc d π hd ∧ ∃ pn, d.find hd = some pn := by
  obtain ⟨a1, a2⟩ := alive_located I h
  obtain ⟨pn, hpn⟩ := Option.isSome_iff_exists.mp a2
  have hl : d.isTomb hd = false := by
    have := a1 1
    simp only [Doc.isGarbage, hpn, Bool.or_eq_false_iff] at this
    simp [Doc.isTomb, hpn, this.1]
  exact ⟨⟨locate_sub (I.dg hk) π Ts.oldest h, a1 _, hl, a1⟩, pn, hpn⟩

theorem shape_elem {L : OpId} {b : Nat} {d : Doc} (I : DInv L b d) {h : Ts} {pn : DNode} {v : JVal}
    (hf : d.find h = some pn) (hk : pn.kind = .elem v) :
    (d.viewAt h).canon = v ∧ (∀ kvs, v ≠ .obj kvs) ∧ ∀ l, v ≠ .arr l := by
  rw [viewAt_elem hf hk]
  exact scalar_canon (I.scalar h pn v hf hk)

theorem shape_obj {d : Doc} (hg : DG d) {h : Ts} {pn : DNode} {m : List (String × Ts)} {s : Int}
    (hf : d.find h = some pn) (hk : pn.kind = .obj m s) :
    (d.viewAt h).canon = .obj (JVal.canonKvs (objView d m)) := by
  rw [viewAt_obj hg hf hk, canon_obj]

theorem shape_arr {d : Doc} (hg : DG d) {h : Ts} {pn : DNode} {sl : List (Ts × Ts)} {s : Int}
    (hf : d.find h = some pn) (hk : pn.kind = .arr sl s) :
    (d.viewAt h).canon = .arr ((arrView d sl).map JVal.canon) := by
  rw [viewAt_arr hg hf hk, canon_arr, canonList_eq_map]

/-! ## what the calls through a handle share -/

def sortOf : JVal → NKind
  | .obj _ => .obj
  | .arr _ => .arr
  | _ => .elem

theorem view_sort {L : OpId} {b : Nat} {d : Doc} (I : DInv L b d) (hk : KeysND d) {h : Ts} {pn : DNode}
    (hf : d.find h = some pn) : sortOf (d.viewAt h).canon = d.kindOf h := by
  cases hkd : pn.kind with
  | elem v =>
    rw [(shape_elem I hf hkd).1, kindOf_elem hf hkd]
    have := I.scalar h pn v hf hkd
    cases v <;> first | rfl | exact this.elim
  | obj m s => rw [shape_obj (I.dg hk) hf hkd, kindOf_obj.mpr ⟨_, _, _, hf, hkd⟩]; rfl
  | arr sl s => rw [shape_arr (I.dg hk) hf hkd, kindOf_arr.mpr ⟨_, _, _, hf, hkd⟩]; rfl

theorem step_wrong_sort {c : Call} {h : Ts} {K : NKind} {g : Bool} (hc : guardOf c = some (h, K, g)) {t s0 : JVal}
    {π : List PlainDoc.Seg} (hsub : PlainDoc.sub π t = some s0) (hn : sortOf s0 ≠ K) :
    PlainDoc.step t π c = (t, .err Err.invalidParent) := by
  have ho : K = .obj → ∀ kvs, s0 ≠ .obj kvs := fun e kvs e' => hn (e' ▸ e ▸ rfl)
  have ha : K = .arr → ∀ l, s0 ≠ .arr l := fun e l e' => hn (e' ▸ e ▸ rfl)
  -- the fall-through equations of `PlainDoc.step` ask for exactly these
  cases c <;> cases hc <;>
    first | (have := ho rfl; simp only [PlainDoc.step, hsub]) | (have := ha rfl; simp only [PlainDoc.step, hsub])

theorem obj_sub {L : OpId} {b : Nat} {d : Doc} (I : DInv L b d) (hk : KeysND d) {π : List PlainDoc.Seg} {h : Ts}
    {pn : DNode} {m : List (String × Ts)} {s : Int} (hloc : d.locate π Ts.oldest = some h)
    (hf : d.find h = some pn) (hkd : pn.kind = .obj m s) :
    PlainDoc.sub π d.view.canon = some (.obj (JVal.canonKvs (objView d m))) := by
  rw [← shape_obj (I.dg hk) hf hkd]
  exact (loc_of I hk hloc).1.sub

theorem arr_sub {L : OpId} {b : Nat} {d : Doc} (I : DInv L b d) (hk : KeysND d) {π : List PlainDoc.Seg} {h : Ts}
    {pn : DNode} {sl : List (Ts × Ts)} {s : Int} (hloc : d.locate π Ts.oldest = some h)
    (hf : d.find h = some pn) (hkd : pn.kind = .arr sl s) :
    PlainDoc.sub π d.view.canon = some (.arr ((arrView d sl).map JVal.canon)) ∧
      (((arrView d sl).map JVal.canon).length : Int) = s := by
  refine ⟨?_, by rw [List.length_map, arrView_length]; exact (arr_size I hf hkd).symm⟩
  rw [← shape_arr (I.dg hk) hf hkd]
  exact (loc_of I hk hloc).1.sub

theorem view_put {d d' : Doc} {hd : Ts} {TK : Ts → Prop} (hg : DG d) (hg' : DG d') (hs : Same d d' hd TK)
    (hTK : ∀ x, TK x → ∃ n, d.find hd = some n ∧ x ∈ kids n.kind) (hhd : d'.isTomb hd = false)
    {π : List PlainDoc.Seg} (hloc : d.locate π Ts.oldest = some hd) :
    d'.view.canon = PlainDoc.put d.view.canon π (d'.viewAt hd).canon := by
  have := frame hg hg' hs hTK hhd π Ts.oldest hloc
  unfold PlainDoc.put
  rw [view_eq_viewAt, view_eq_viewAt, this]
  rfl

/-- A call that prepares and executes ONE operation which changes the document only at the handle `h` and at touched
    children of `h` refines the plain tree, if the plain tree, on any tree showing at `π` what `h` showed, puts there what
    `h` shows afterwards and answers the same. All mutating calls are instances. -/
theorem mut_refines {L : OpId} {d d' : Doc} {c : Call} {h : Ts} {b bd : OpBody} {post : Ret → Ret} {ret : Ret}
    {b' : Nat} {TK : Ts → Prop} (I : DInv L 0 d) (hh : PlainDoc.handleOf c = some h) (hm : isMutating c = true)
    (hp : c.prepareDoc d = .op b post) (he : execLocal (.doc d) L.next.ts b = .ok (.doc d', bd, ret))
    (I' : DInv L b' d') (hkeys' : KeysND d → CallKeysND c → KeysND d') (hsame : Same d d' h TK)
    (hTK : ∀ x, TK x → ∃ n, d.find h = some n ∧ x ∈ kids n.kind) (htomb : d'.isTomb h = d.isTomb h)
    (hplain : ∀ (π : List PlainDoc.Seg), DG d → DG d' → CallKeysND c →
      PlainDoc.sub π d.view.canon = some (d.viewAt h).canon →
      PlainDoc.step d.view.canon π c =
        (PlainDoc.put d.view.canon π (d'.viewAt h).canon, PlainDoc.outCanon (.ok (post ret)))) : Full L d c := by
  refine ⟨d', .ok (post ret), ⟨.ok hm ((prepare_doc hh d).trans hp) he, Or.inr ⟨_, rfl⟩, ⟨b', I'⟩, hkeys'⟩,
    fun π hd hkeys hck hloc hh' => ?_⟩
  rw [hh] at hh'
  cases hh'
  have hg := I.dg hkeys
  have hg' := I'.dg (hkeys' hkeys hck)
  obtain ⟨loc, _⟩ := loc_of I hkeys hloc
  rw [hplain π hg hg' hck loc.sub]
  exact ⟨view_put hg hg' hsame hTK (by rw [htomb]; exact loc.live) hloc, rfl⟩

theorem obj_refines {L : OpId} {d d' : Doc} {c : Call} {h : Ts} {b bd : OpBody} {post : Ret → Ret} {ret : Ret}
    {pn : DNode} {m : List (String × Ts)} {s : Int} {Ask : Prop} {f : List (String × JVal) → List (String × JVal)}
    (I : DInv L 0 d) (hh : PlainDoc.handleOf c = some h) (hm : isMutating c = true) (hp : c.prepareDoc d = .op b post)
    (he : execLocal (.doc d) L.next.ts b = .ok (.doc d', bd, ret))
    (hf : d.find h = some pn) (hkd : pn.kind = .obj m s) (S : ObjStep L d h m Ask f d') (hask : CallKeysND c → Ask)
    (hstep : KeysND d → ∀ (t : JVal) (π : List PlainDoc.Seg),
      PlainDoc.sub π t = some (.obj (JVal.canonKvs (objView d m))) → PlainDoc.step t π c =
        (PlainDoc.put t π (.obj (f (JVal.canonKvs (objView d m)))), PlainDoc.outCanon (.ok (post ret)))) :
    Full L d c := by
  obtain ⟨b', I'⟩ := S.inv
  refine mut_refines I hh hm hp he I' (hkeys' := fun hk hck => (S.view hk (hask hck)).1) (hsame := S.same)
    (hTK := fun x hx => ⟨pn, hf, by rw [hkd]; exact hx⟩) (htomb := S.tomb) (hplain := fun π hg hg' hck hsub => ?_)
  rw [shape_obj hg hf hkd] at hsub
  rw [hstep hg.keys _ π hsub, (S.view hg.keys (hask hck)).2]

/-- The check every call through a handle starts with (`assertLocal`: the kind of the node, and for `g = false`
    that it is not garbage). A call that the check refuses is refused by the plain tree as well, or its handle is
    not located at all. -/
theorem guarded {L : OpId} {d : Doc} (I : DInv L 0 d) {c : Call} {h : Ts} {K : NKind} {g : Bool}
    (hc : guardOf c = some (h, K, g)) (hmain : d.kindOf h = K → d.assertLocal h K g = none → Full L d c) :
    Full L d c := by
  have hh := handleOf_guard hc
  by_cases hkind : d.kindOf h = K
  · cases hal : d.assertLocal h K g with
    | none => exact hmain hkind hal
    | some e =>
      refine refused I hh (prepareDoc_guard hc hal) fun π hkeys hloc => ?_
      -- refused although the kind is right: `h` is garbage, so it is not located
      have hgb : d.garbage h = true := by
        unfold Doc.assertLocal at hal
        rw [if_neg fun hne => hne hkind] at hal
        split at hal
        · rename_i hc; rw [Bool.and_eq_true] at hc; exact hc.2
        · cases hal
      rw [(loc_of I hkeys hloc).1.garbage] at hgb
      cases hgb
  · refine refused I hh (prepareDoc_guard hc (by unfold Doc.assertLocal; rw [if_pos hkind])) fun π hkeys hloc => ?_
    obtain ⟨loc, pn, hf⟩ := loc_of I hkeys hloc
    exact step_wrong_sort hc loc.sub (by rw [view_sort I hkeys hf]; exact hkind)

theorem obj_guarded {L : OpId} {d : Doc} (I : DInv L 0 d) {c : Call} {h : Ts} {g : Bool}
    (hc : guardOf c = some (h, .obj, g))
    (hmain : ∀ pn m s, d.find h = some pn → pn.kind = .obj m s → d.assertLocal h .obj g = none → Full L d c) :
    Full L d c :=
  guarded I hc fun hkind hal => let ⟨pn, m, s, hf, hkd⟩ := kindOf_obj.mp hkind; hmain pn m s hf hkd hal

theorem arr_guarded {L : OpId} {d : Doc} (I : DInv L 0 d) {c : Call} {h : Ts} {g : Bool}
    (hc : guardOf c = some (h, .arr, g))
    (hmain : ∀ pn sl s, d.find h = some pn → pn.kind = .arr sl s → d.assertLocal h .arr g = none → Full L d c) :
    Full L d c :=
  guarded I hc fun hkind hal => let ⟨pn, sl, s, hf, hkd⟩ := kindOf_arr.mp hkind; hmain pn sl s hf hkd hal

/-! ## reads -/

theorem full_dvalue {L : OpId} {d : Doc} (I : DInv L 0 d) (h : Ts) : Full L d (.dvalue h) := by
  refine answered I rfl (v := .val (some (d.viewAt h))) rfl rfl fun π hk hloc => ?_
  simp only [PlainDoc.step, (loc_of I hk hloc).1.sub, PlainDoc.outCanon, PlainDoc.retCanon]

theorem full_dgetObj {L : OpId} {d : Doc} (I : DInv L 0 d) (h : Ts) (k : String) :
    Full L d (.dgetObj h k) := by
  refine obj_guarded I (g := true) rfl fun pn m s hf hkd hal => ?_
  refine answered I rfl (v := .val ((alFind k m).bind fun c => if d.garbage c then none else some (d.viewAt c))) rfl
    (by
      simp only [Call.prepareDoc, hal, findObj_some_iff.mpr ⟨hf, hkd⟩]
      cases alFind k m with
      | none => rfl
      | some c => simp only [Option.bind_some]; cases d.garbage c <;> rfl) fun π hkeys hloc => ?_
  simp only [PlainDoc.step, obj_sub I hkeys hloc hf hkd, PlainDoc.outCanon]
  rw [view_key (hkeys h pn m s hf hkd)]
  cases hk : alFind k m with
  | none => rfl
  | some c =>
    have := garbage_kid I hf (loc_of I hkeys hloc).1.anc (by rw [hkd]; exact alFind_mem_vals hk)
    simp only [Option.bind_some, this]
    cases d.isTomb c <;> rfl

theorem full_dgetArr {L : OpId} {d : Doc} (I : DInv L 0 d) (h : Ts) (pos n : Int) :
    Full L d (.dgetArr h pos n) := by
  refine arr_guarded I (g := true) rfl fun pn sl s hf hkd hal => ?_
  cases hr : PlainDoc.inRange pos n s with
  | true =>
    refine answered I rfl (v := .vals ((((d.liveChildren h).drop pos.toNat).take n.toNat).map d.viewAt)) rfl
      (by simp only [Call.prepareDoc, hal, arrRga_eq hf hkd, validateRange_eq, hr, if_true]) fun π hkeys hloc => ?_
    obtain ⟨hsub, hlen⟩ := arr_sub I hkeys hloc hf hkd
    simp only [PlainDoc.step, hsub, PlainDoc.outCanon, hlen, hr, Bool.not_true, Bool.false_eq_true, if_false,
      PlainDoc.retCanon]
    rw [liveChildren_eq hf hkd, arrView_eq]
    simp only [List.map_take, List.map_drop, List.map_map]
  | false =>
    refine refused I rfl (e := Err.illegalParameters)
      (by simp only [Call.prepareDoc, hal, arrRga_eq hf hkd, validateRange_eq, hr, Bool.false_eq_true, if_false])
      fun π hkeys hloc => ?_
    obtain ⟨hsub, hlen⟩ := arr_sub I hkeys hloc hf hkd
    simp only [PlainDoc.step, hsub, hlen, hr, Bool.not_false, if_true]

/-! ## object calls -/

theorem full_dput {L : OpId} {d : Doc} (I : DInv L 0 d) (h : Ts) (k : String) (v : JVal) :
    Full L d (.dput h k v) := by
  refine obj_guarded I (g := false) rfl fun pn m s hf hkd hal => ?_
  cases hnn : v.hasNull with
  | true =>
    refine refused I rfl (e := Err.illegalParameters) (by simp only [Call.prepareDoc, hal, hnn, if_true]) fun π hkeys hloc => ?_
    simp only [PlainDoc.step, obj_sub I hkeys hloc hf hkd, hnn, if_true]
  | false =>
    obtain ⟨d', hrun, S⟩ := put_run I hf hkd k v hnn
    refine obj_refines I (hh := rfl) (hm := rfl) (post := docRet d true) (b := .docPut h k v) (bd := .docPut h k v)
      (ret := .nodes ((alFind k m).bind (fun c => if d.isTomb c then none else some c)).toList)
      (hp := by simp only [Call.prepareDoc, hal, hnn, Bool.false_eq_true, if_false])
      (he := by simp only [execLocal, hrun]) hf hkd S (hask := id) (hstep := fun hkeys t π hsub => ?_)
    simp only [PlainDoc.step, hsub, hnn, Bool.false_eq_true, if_false]
    rw [view_key (hkeys h pn m s hf hkd)]
    cases alFind k m with
    | none => rfl
    | some x => cases ht : d.isTomb x <;> simp [ht, docRet, PlainDoc.outCanon, PlainDoc.retCanon]

theorem full_dremove {L : OpId} {d : Doc} (I : DInv L 0 d) (h : Ts) (k : String) :
    Full L d (.dremove h k) := by
  refine obj_guarded I (g := false) rfl fun pn m s hf hkd hal => ?_
  have hprep : (Call.dremove h k).prepareDoc d = .op (.docRemove h k) (docRet d true) := by
    simp only [Call.prepareDoc, hal]
  have hfind : ∀ hkeys : KeysND d, alFind k (JVal.canonKvs (objView d m)) =
      (alFind k m).bind fun c => if d.isTomb c then none else some (d.viewAt c).canon :=
    fun hkeys => view_key (hkeys h pn m s hf hkd) k
  by_cases hlive : ∃ c, alFind k m = some c ∧ d.isTomb c = false
  · obtain ⟨c, hfk, hlv⟩ := hlive
    obtain ⟨d', hrun, S⟩ := remove_run I hf hkd k hfk hlv
    refine obj_refines I (hh := rfl) (hm := rfl) (bd := .docRemove h k) (ret := .nodes [c]) (hp := hprep)
      (he := by simp only [execLocal, hrun]; rfl) hf hkd S (hask := fun _ => trivial)
      (hstep := fun hkeys t π hsub => ?_)
    simp only [PlainDoc.step, hsub, hfind hkeys, hfk, Option.bind_some, hlv, Bool.false_eq_true, if_false]
    simp [PlainDoc.outCanon, docRet, PlainDoc.retCanon]
  · have hdead : ∀ c, alFind k m = some c → d.isTomb c = true := fun c hfk => by
      cases ht : d.isTomb c with
      | true => rfl
      | false => exact absurd ⟨c, hfk, ht⟩ hlive
    have herr := remove_err hf hkd k L.next.ts (by
      cases hfk : alFind k m with
      | none => exact Or.inl rfl
      | some c => exact Or.inr ⟨c, rfl, hdead c hfk⟩)
    refine refused_op I rfl (e := Err.noOp) hprep (by simp only [execLocal, herr]) fun π hkeys hloc => ?_
    have hnone : alFind k (JVal.canonKvs (objView d m)) = none := by
      rw [hfind hkeys]
      cases hfk : alFind k m with
      | none => rfl
      | some c => simp only [Option.bind_some, hdead c hfk, if_true]
    simp only [PlainDoc.step, obj_sub I hkeys hloc hf hkd, hnone]

/-! ## array calls -/

theorem live_vals (d : Doc) (sl : List (Ts × Ts)) (p n : Nat) :
    ((((sl.filter (slotLive d)).drop p).take n).map (·.2)).map (fun x => (d.viewAt x).canon) =
      (((arrView d sl).map JVal.canon).drop p).take n := by
  rw [arrView_eq]
  simp only [List.map_take, List.map_drop, List.map_map]
  rfl

theorem arr_refines {L : OpId} {d d' : Doc} {c : Call} {h : Ts} {b bd : OpBody} {post : Ret → Ret} {ret : Ret}
    {pn : DNode} {sl : List (Ts × Ts)} {s : Int} {p k : Nat} {vs : List JVal}
    (I : DInv L 0 d) (hh : PlainDoc.handleOf c = some h) (hm : isMutating c = true) (hp : c.prepareDoc d = .op b post)
    (he : execLocal (.doc d) L.next.ts b = .ok (.doc d', bd, ret))
    (hf : d.find h = some pn) (hkd : pn.kind = .arr sl s) (S : ArrStep L d h sl p k vs d')
    (hvs : CallKeysND c → JKeysNDList vs) (plainRet : List JVal → Ret)
    (hstep : ∀ (t : JVal) (π : List PlainDoc.Seg) (l : List JVal), PlainDoc.sub π t = some (.arr l) →
      (l.length : Int) = s → PlainDoc.step t π c =
        (PlainDoc.put t π (.arr (l.take p ++ vs.map JVal.canon ++ l.drop (p + k))), .ok (plainRet l)))
    (hret : PlainDoc.outCanon (.ok (post ret)) = .ok (plainRet ((arrView d sl).map JVal.canon))) :
    Full L d c := by
  obtain ⟨b', I'⟩ := S.inv
  refine mut_refines I hh hm hp he I' (hkeys' := fun hk hck => (S.view hk (hvs hck)).1) (hsame := S.same)
    (hTK := fun x hx => ⟨pn, hf, ?_⟩) (htomb := S.tomb) (hplain := fun π hg hg' hck hsub => ?_)
  · rw [hkd]
    obtain ⟨y, hy, rfl⟩ := List.mem_map.mp hx
    exact List.mem_map.mpr ⟨y, (List.mem_filter.mp (List.mem_of_mem_drop (List.mem_of_mem_take hy))).1, rfl⟩
  · obtain ⟨-, pn', sl', s', hf', hkd', hview⟩ := S.view hg.keys (hvs hck)
    rw [shape_arr hg hf hkd] at hsub
    rw [hstep _ π _ hsub (by rw [List.length_map, arrView_length]; exact (arr_size I hf hkd).symm), hret,
      shape_arr hg' hf' hkd', hview, arrView_eq]
    simp only [List.map_append, List.map_take, List.map_drop, List.map_map]
    rfl

theorem inRange_facts {pos n s : Int} (h : PlainDoc.inRange pos n s = true) :
    0 ≤ pos ∧ 1 ≤ n ∧ pos + n ≤ s := by
  unfold PlainDoc.inRange at h
  simp only [Bool.and_eq_true, decide_eq_true_eq] at h
  exact ⟨h.1.1.1, h.1.1.2, h.2⟩

theorem full_dinsert {L : OpId} {d : Doc} (I : DInv L 0 d) (h : Ts) (pos : Int)
    (vs : List JVal) : Full L d (.dinsert h pos vs) := by
  refine arr_guarded I (g := false) rfl fun pn sl s hf hkd hal => ?_
  have hsz := arr_size I hf hkd
  cases hr : (decide (pos < 0) || decide (pos > s)) with
  | true =>
    refine refused I rfl (e := Err.illegalParameters) (by simp only [Call.prepareDoc, hal, arrRga_eq hf hkd, validateInsert_eq, hr, if_true])
      fun π hkeys hloc => ?_
    obtain ⟨hsub, hlen⟩ := arr_sub I hkeys hloc hf hkd
    simp only [PlainDoc.step, hsub, hlen, hr, if_true]
  | false =>
    cases hnull : vs.any JVal.hasNull with
    | true =>
      refine refused I rfl (e := Err.illegalParameters)
        (by simp only [Call.prepareDoc, hal, arrRga_eq hf hkd, validateInsert_eq, hr, hnull, Bool.false_eq_true, if_false,
          if_true]) fun π hkeys hloc => ?_
      obtain ⟨hsub, hlen⟩ := arr_sub I hkeys hloc hf hkd
      simp only [PlainDoc.step, hsub, hlen, hr, hnull, Bool.false_eq_true, if_false, if_true]
    | false =>
      have hnn : JVal.hasNullList vs = false := by rw [← any_hasNull_iff]; exact hnull
      have hpos : pos.toNat ≤ (sl.filter (slotLive d)).length := by
        simp only [Bool.or_eq_false_iff, decide_eq_false_iff_not] at hr
        omega
      obtain ⟨d', a, hrun, S⟩ := insert_run I hf hkd pos.toNat vs hpos hnn
      exact arr_refines I (hh := rfl) (hm := rfl) (b := .docInsert h pos.toNat none vs) (post := id)
        (hp := by
          simp only [Call.prepareDoc, hal, arrRga_eq hf hkd, validateInsert_eq, hr, hnull, Bool.false_eq_true, if_false])
        (he := by simp only [execLocal, hrun]; rfl) hf hkd S (hvs := id) (plainRet := fun _ => .none)
        (hstep := fun t π l hsub hlen => by
          simp only [PlainDoc.step, hsub, hlen, hr, hnull, Bool.false_eq_true, if_false, Nat.add_zero])
        (hret := rfl)

theorem retCanon_val (o : Option JVal) : PlainDoc.retCanon (.val o) = .val (o.map JVal.canon) := by
  cases o <;> rfl

/-- what DocDelete does, for both public variants -/
theorem delete_core {L : OpId} {d : Doc} (I : DInv L 0 d) {h : Ts} {pn : DNode}
    {sl : List (Ts × Ts)} {s : Int} (hf : d.find h = some pn) (hkd : pn.kind = .arr sl s) (c : Call)
    (hh : PlainDoc.handleOf c = some h) (hm : isMutating c = true) (post : Ret → Ret) (p num : Nat)
    (hprep : c.prepareDoc d = .op (.docDelete h p num []) post)
    (hrange : p + num ≤ (sl.filter (slotLive d)).length) (plainRet : List JVal → Ret)
    (hstep : ∀ (t : JVal) (π : List PlainDoc.Seg) (l : List JVal), PlainDoc.sub π t = some (.arr l) →
      (l.length : Int) = s → PlainDoc.step t π c =
        (PlainDoc.put t π (.arr (l.take p ++ l.drop (p + num))), .ok (plainRet l)))
    (hret : PlainDoc.outCanon (.ok (post (.nodes ((((sl.filter (slotLive d)).drop p).take num).map (·.2))))) =
      .ok (plainRet ((arrView d sl).map JVal.canon))) : Full L d c := by
  obtain ⟨d', hrun, S⟩ := delete_run I hf hkd p num hrange
  exact arr_refines I hh hm (hp := hprep) (he := by simp only [execLocal, hrun]; rfl) hf hkd S (hvs := fun _ => trivial)
    (plainRet := plainRet)
    (hstep := fun t π l hsub hlen => by rw [hstep t π l hsub hlen, List.map_nil, List.append_nil]) (hret := hret)

theorem out_of_range {L : OpId} {d : Doc} (I : DInv L 0 d) {c : Call}
    {h : Ts} {pn : DNode} {sl : List (Ts × Ts)} {s : Int} (hh : PlainDoc.handleOf c = some h)
    (hf : d.find h = some pn) (hkd : pn.kind = .arr sl s)
    (hprep : c.prepareDoc d = .done (.err Err.illegalParameters))
    (hstep : ∀ (t : JVal) (π : List PlainDoc.Seg) (l : List JVal), PlainDoc.sub π t = some (.arr l) → (l.length : Int) = s →
      PlainDoc.step t π c = (t, .err Err.illegalParameters)) : Full L d c := by
  refine refused I hh hprep fun π hkeys hloc => ?_
  obtain ⟨hsub, hlen⟩ := arr_sub I hkeys hloc hf hkd
  exact hstep _ π _ hsub hlen

theorem full_ddelete {L : OpId} {d : Doc} (I : DInv L 0 d) (h : Ts) (pos : Int) :
    Full L d (.ddelete h pos) := by
  refine arr_guarded I (g := false) rfl fun pn sl s hf hkd hal => ?_
  have hsz := arr_size I hf hkd
  cases hr : PlainDoc.inRange pos 1 s with
  | false =>
    refine out_of_range I rfl hf hkd ?_ fun t π l hsub hlen => ?_
    · simp only [Call.prepareDoc, hal, arrRga_eq hf hkd, validateRange_eq, hr, Bool.false_eq_true, if_false]
    · simp only [PlainDoc.step, hsub, hlen, hr, Bool.not_false, if_true]
  | true =>
    obtain ⟨h0, _, h2⟩ := inRange_facts hr
    refine delete_core I hf hkd (.ddelete h pos) (hh := rfl) (hm := rfl) (post := docRet d true) (p := pos.toNat) (num := 1)
      (hprep := by simp only [Call.prepareDoc, hal, arrRga_eq hf hkd, validateRange_eq, hr, if_true]) (hrange := by omega)
      (plainRet := fun l => .val (l.drop pos.toNat).head?)
      (hstep := fun t π l hsub hlen => by
        simp only [PlainDoc.step, hsub, hlen, hr, Bool.not_true, Bool.false_eq_true, if_false]) (hret := ?_)
    simp only [PlainDoc.outCanon, docRet, if_true, retCanon_val, List.head?_map, Option.map_map]
    have h2 := congrArg List.head? (live_vals d sl pos.toNat 1)
    simp only [List.head?_map, List.head?_take, Option.map_map, Function.comp_def, one_ne_zero, if_false] at h2
    simp only [Function.comp_def, List.head?_take, one_ne_zero, if_false]
    rw [h2]

theorem full_ddeleteMany {L : OpId} {d : Doc} (I : DInv L 0 d) (h : Ts) (pos n : Int) :
    Full L d (.ddeleteMany h pos n) := by
  refine arr_guarded I (g := false) rfl fun pn sl s hf hkd hal => ?_
  have hsz := arr_size I hf hkd
  cases hr : PlainDoc.inRange pos n s with
  | false =>
    refine out_of_range I rfl hf hkd ?_ fun t π l hsub hlen => ?_
    · simp only [Call.prepareDoc, hal, arrRga_eq hf hkd, validateRange_eq, hr, Bool.false_eq_true, if_false]
    · simp only [PlainDoc.step, hsub, hlen, hr, Bool.not_false, if_true]
  | true =>
    obtain ⟨h0, h1, h2⟩ := inRange_facts hr
    refine delete_core I hf hkd (.ddeleteMany h pos n) (hh := rfl) (hm := rfl) (post := docRet d false) (p := pos.toNat)
      (num := n.toNat)
      (hprep := by simp only [Call.prepareDoc, hal, arrRga_eq hf hkd, validateRange_eq, hr, if_true]) (hrange := by omega)
      (plainRet := fun l => .vals ((l.drop pos.toNat).take n.toNat))
      (hstep := fun t π l hsub hlen => by
        simp only [PlainDoc.step, hsub, hlen, hr, Bool.not_true, Bool.false_eq_true, if_false]) (hret := ?_)
    simp only [PlainDoc.outCanon, docRet, Bool.false_eq_true, if_false, PlainDoc.retCanon, List.map_map]
    have := live_vals d sl pos.toNat n.toNat
    simp only [List.map_map] at this
    rw [← this]
    rfl

theorem full_dupdate {L : OpId} {d : Doc} (I : DInv L 0 d) (h : Ts) (pos : Int)
    (vs : List JVal) : Full L d (.dupdate h pos vs) := by
  refine arr_guarded I (g := false) rfl fun pn sl s hf hkd hal => ?_
  have hsz := arr_size I hf hkd
  cases hr : PlainDoc.inRange pos vs.length s with
  | false =>
    refine out_of_range I rfl hf hkd ?_ fun t π l hsub hlen => ?_
    · simp only [Call.prepareDoc, hal, arrRga_eq hf hkd, validateRange_eq, hr, Bool.false_eq_true, if_false]
    · simp only [PlainDoc.step, hsub, hlen, hr, Bool.not_false, if_true]
  | true =>
    cases hnull : vs.any JVal.hasNull with
    | true =>
      refine out_of_range I rfl hf hkd ?_ fun t π l hsub hlen => ?_
      · simp only [Call.prepareDoc, hal, arrRga_eq hf hkd, validateRange_eq, hr, hnull, if_true]
      · simp only [PlainDoc.step, hsub, hlen, hr, hnull, Bool.not_true, Bool.false_eq_true, if_false, if_true]
    | false =>
      have hnn : JVal.hasNullList vs = false := by rw [← any_hasNull_iff]; exact hnull
      obtain ⟨h0, _, h2⟩ := inRange_facts hr
      obtain ⟨d', hrun, S⟩ := update_run I hf hkd pos.toNat vs (by omega) hnn
      refine arr_refines I (hh := rfl) (hm := rfl) (b := .docUpdate h pos.toNat [] vs) (post := docRet d false)
        (hp := by
          simp only [Call.prepareDoc, hal, arrRga_eq hf hkd, validateRange_eq, hr, hnull, if_true, Bool.false_eq_true,
            if_false])
        (he := by simp only [execLocal, hrun]; rfl) hf hkd S (hvs := id)
        (plainRet := fun l => .vals ((l.drop pos.toNat).take vs.length))
        (hstep := fun t π l hsub hlen => by
          simp only [PlainDoc.step, hsub, hlen, hr, hnull, Bool.not_true, Bool.false_eq_true, if_false]) (hret := ?_)
      simp only [PlainDoc.outCanon, docRet, Bool.false_eq_true, if_false, PlainDoc.retCanon, List.map_map]
      have := live_vals d sl pos.toNat vs.length
      simp only [List.map_map] at this
      rw [← this]
      rfl

theorem call_full {L : OpId} {d : Doc} (I : DInv L 0 d) (c : Call) :
    Full L d c := by
  cases c with
  | dput h k v => exact full_dput I h k v
  | dremove h k => exact full_dremove I h k
  | dinsert h p vs => exact full_dinsert I h p vs
  | ddelete h p => exact full_ddelete I h p
  | ddeleteMany h p n => exact full_ddeleteMany I h p n
  | dupdate h p vs => exact full_dupdate I h p vs
  | dgetObj h k => exact full_dgetObj I h k
  | dgetArr h p n => exact full_dgetArr I h p n
  | dvalue h => exact full_dvalue I h
  | inc x => exact full_other I _ rfl
  | mput k v => exact full_other I _ rfl
  | mremove k => exact full_other I _ rfl
  | mget k => exact full_other I _ rfl
  | msize => exact full_other I _ rfl
  | linsert p vs => exact full_other I _ rfl
  | ldelete p => exact full_other I _ rfl
  | ldeleteMany p n => exact full_other I _ rfl
  | lupdate p vs => exact full_other I _ rfl
  | lget p => exact full_other I _ rfl
  | lgetMany p n => exact full_other I _ rfl
  | lsize => exact full_other I _ rfl

/-! ## the results: the invariant from a new replica on, no panic, the refinement (read by `Props/C03` and the net modules) -/

/-- `DC.find_empty` and the identifier -/
theorem find_empty {c : Ts} {n : DNode} (h : Doc.empty.find c = some n) :
    c = Ts.oldest ∧ n = ⟨Ts.oldest, none, none, .obj [] 0⟩ :=
  ⟨by rw [← find_some_c h, DC.find_empty h], DC.find_empty h⟩

theorem dinv_empty (L : OpId) (hL : L.era = 0) : DInv L 0 Doc.empty := by
  refine ⟨wf_doc_empty, ⟨fun _ => 0, ?_⟩, ⟨[], 0, rfl⟩, ?_, ?_, ?_, ?_, ?_⟩
  · intro p n h c hc
    obtain ⟨_, rfl⟩ := find_empty h
    simp [kids] at hc
  · intro c n h
    obtain ⟨_, rfl⟩ := find_empty h
    simp [SizeOK]
  · intro c n h
    obtain ⟨_, rfl⟩ := find_empty h
    refine ⟨⟨by simp [Ts.oldest, hL], Or.inl (by simp [Ts.oldest])⟩, (by intro t ht; cases ht), (by simp [ordIds])⟩
  · intro c n h
    obtain ⟨_, rfl⟩ := find_empty h
    simp [ordIds]
  · intro c n h _
    exact Or.inl (find_empty h).1
  · intro c n v h hk
    obtain ⟨_, rfl⟩ := find_empty h
    cases hk

theorem docInv_new (cuid : String) (create : Bool) : DocInv (Replica.new .document cuid create) := by
  cases create
  · exact ⟨Doc.empty, rfl, dinv_empty _ rfl, keysND_empty⟩
  · exact ⟨Doc.empty, rfl, dinv_empty _ rfl, keysND_empty⟩

theorem DocInv.of_state {r : Replica} {d : Doc} (h : DocInv r) (hs : r.state = .doc d) : DInv r.opId 0 d ∧ KeysND d := by
  obtain ⟨d0, hs0, I, hk⟩ := h
  obtain rfl : d = d0 := DState.doc.inj (hs.symm.trans hs0)
  exact ⟨I, hk⟩

/-- how a call that queued its operation ends: the clock moves to `L.next`, which bounds every stamp the operation handed out -/
theorem DInv.finish {L : OpId} {b : Nat} {d : Doc} (I : DInv L b d) : DInv L.next 0 d :=
  I.restamp fun t ht => by
    refine ⟨ht.1, Or.inl ?_⟩
    have : L.next.lamport = L.lamport + 1 := rfl
    rcases ht.2 with h | h <;> omega

theorem docInv_call (r : Replica) (c : Call) (hk : CallKeysND c) (h : DocInv r) : DocInv (r.call c).1 := by
  obtain ⟨d, hs, I, hkeys⟩ := h
  obtain ⟨d', o, E, -⟩ := call_full I c
  obtain ⟨b', I'⟩ := E.inv
  rcases E.res.call hs with ⟨rfl, hc⟩ | ⟨bd, v, -, hc⟩ <;> rw [hc]
  · exact ⟨d', hs, I, hkeys⟩
  · exact ⟨d', rfl, I'.finish, E.keys hkeys hk⟩

theorem docInv_calls (cuid : String) (create : Bool) (cs : List Call) (hk : ∀ c ∈ cs, CallKeysND c) :
    DocInv (cs.foldl (fun r c => (r.call c).1) (Replica.new .document cuid create)) := by
  have key : ∀ (cs : List Call) (r : Replica), (∀ c ∈ cs, CallKeysND c) → DocInv r →
      DocInv (cs.foldl (fun r c => (r.call c).1) r) := by
    intro cs
    induction cs with
    | nil => intro r _ h; exact h
    | cons c cs ih =>
      intro r hk h
      exact ih _ (fun c' hc' => hk c' (List.mem_cons_of_mem _ hc')) (docInv_call r c (hk c List.mem_cons_self) h)
  exact key cs _ hk (docInv_new cuid create)

theorem doc_call_no_panic (r : Replica) (c : Call) (h : DocInv r) (w : String) : (r.call c).2 ≠ .panic w := by
  obtain ⟨d, hs, I, _⟩ := h
  obtain ⟨d', o, E, -⟩ := call_full I c
  have ho : (r.call c).2 = o := by rcases E.res.call hs with ⟨-, hc⟩ | ⟨bd, v, -, hc⟩ <;> rw [hc]
  rw [ho]
  rcases E.out with ⟨e, rfl⟩ | ⟨v, rfl⟩ <;> exact fun hh => nomatch hh

/-- C03 for documents: a call through a handle located at π changes the JSON view exactly as the plain tree changes, and
    returns what the plain tree returns (values compared in canonical form) -/
theorem doc_call_refines (r : Replica) (d : Doc) (hs : r.state = .doc d) (h : DocInv r) (π : List PlainDoc.Seg) (hd : Ts)
    (hloc : d.locate π Ts.oldest = some hd) (c : Call) (hc : PlainDoc.handleOf c = some hd) (hk : CallKeysND c) :
    ∃ d', (r.call c).1.state = .doc d' ∧
      d'.view.canon = (PlainDoc.step d.view.canon π c).1 ∧
      PlainDoc.outCanon (r.call c).2 = (PlainDoc.step d.view.canon π c).2 := by
  obtain ⟨I, hkeys⟩ := h.of_state hs
  obtain ⟨d', o, E, R⟩ := call_full I c
  obtain ⟨h1, h2⟩ := R π hd hkeys hk hloc hc
  rcases E.res.call hs with ⟨rfl, hcall⟩ | ⟨bd, v, -, hcall⟩ <;> rw [hcall]
  · exact ⟨d', hs, h1, h2⟩
  · exact ⟨d', rfl, h1, h2⟩

theorem doc_located_not_garbage (r : Replica) (d : Doc) (hs : r.state = .doc d) (h : DocInv r) (π : List PlainDoc.Seg)
    (hd : Ts) (hloc : d.locate π Ts.oldest = some hd) : d.garbage hd = false ∧ (d.find hd).isSome := by
  obtain ⟨I, hkeys⟩ := h.of_state hs
  obtain ⟨a1, a2⟩ := alive_located I hloc
  exact ⟨a1 _, a2⟩

theorem doc_deleted_container_refused (r : Replica) (d : Doc) (hs : r.state = .doc d) (h : DocInv r) (hd : Ts)
    (hg : d.garbage hd = true) (c : Call) (hc : PlainDoc.handleOf c = some hd) (hm : isMutating c = true) :
    ∃ e, (r.call c).2 = .err e := by
  have _ := h
  obtain ⟨K, hcg⟩ : ∃ K, guardOf c = some (hd, K, false) := by
    cases c <;> cases hm <;> cases hc <;> exact ⟨_, rfl⟩
  obtain ⟨e, he⟩ : ∃ e, d.assertLocal hd K false = some e := by
    unfold Doc.assertLocal
    by_cases hk : d.kindOf hd ≠ K
    · exact ⟨Err.invalidParent, by rw [if_pos hk]⟩
    · exact ⟨Err.noOp, by rw [if_neg hk]; simp [hg]⟩
  exact ⟨e, by rw [Orda.call_of_done (by rw [hs, prepare_doc hc]; exact prepareDoc_guard hcg he)]⟩

/-! ## every live node sits at a path -/

theorem locate_append {d : Doc} (σ : List PlainDoc.Seg) {p : Ts} : ∀ (π : List PlainDoc.Seg) (a : Ts),
    d.locate π a = some p → d.locate (π ++ σ) a = d.locate σ p :=
  locate_induction (P := fun π a => d.locate (π ++ σ) a = d.locate σ p) rfl
    fun _ r _ _ hk _ ih => (hk.locate (r ++ σ)).trans ih

theorem has_path_aux {L : OpId} {b : Nat} {d : Doc} (I : DInv L b d) (hkeys : KeysND d) {rk : Ts → Nat}
    (hr : Ranked d rk) (hb : ∀ c, rk c ≤ d.table.length) : ∀ (f : Nat) (c : Ts) (n : DNode), d.find c = some n →
    d.table.length < f + rk c → d.isGarbage f c = false → ∃ π, d.locate π Ts.oldest = some c := by
  -- `d.table.length < f + rk c`: the fuel `f` of `isGarbage` lasts for the climb from `c` to the root
  intro f
  induction f with
  | zero => intro c n _ h; have := hb c; omega
  | succ f ih =>
    intro c n hf hlt hg
    simp only [Doc.isGarbage, hf, Bool.or_eq_false_iff] at hg
    obtain ⟨hg1, hg2⟩ := hg
    have hlive : n.d = none := by
      cases hd : n.d with
      | none => rfl
      | some t => rw [hd] at hg1; simp at hg1
    rcases I.linked c n hf hlive with e | ⟨p, pn, h1, h2, h3⟩
    · exact ⟨[], by rw [e]; rfl⟩
    · rw [h1] at hg2
      simp only at hg2
      have hrk := hr p pn h2 c h3
      obtain ⟨π, hπ⟩ := ih p pn h2 (by omega) hg2
      have htomb : d.isTomb c = false := by simp [Doc.isTomb, hf, hlive]
      cases hk : pn.kind with
      | elem v => rw [hk] at h3; simp [kids] at h3
      | obj m s =>
        rw [hk] at h3
        obtain ⟨x, hx, hxc⟩ := List.mem_map.mp h3
        have hfind : alFind x.1 m = some c := by
          rw [← hxc]
          exact alFind_of_mem x.1 x.2 m (hkeys p pn m s h2 hk) hx
        exact ⟨π ++ [.key x.1], (locate_append _ π _ hπ).trans ((LiveKid.key h2 hk hfind htomb).locate [])⟩
      | arr sl s =>
        rw [hk] at h3
        obtain ⟨x, hx, hxc⟩ := List.mem_map.mp h3
        have hmem : c ∈ (sl.filter (slotLive d)).map (·.2) := by
          refine List.mem_map.mpr ⟨x, List.mem_filter.mpr ⟨hx, ?_⟩, hxc⟩
          simp [slotLive, hxc, htomb]
        obtain ⟨i, hi⟩ := List.getElem?_of_mem hmem
        exact ⟨π ++ [.idx i], (locate_append _ π _ hπ).trans ((LiveKid.idx h2 hk hi).locate [])⟩

theorem doc_live_handle_has_path (r : Replica) (d : Doc) (hs : r.state = .doc d) (h : DocInv r) (hd : Ts) (n : DNode)
    (hf : d.find hd = some n) (hg : d.garbage hd = false) : ∃ π, d.locate π Ts.oldest = some hd := by
  obtain ⟨I, hkeys⟩ := h.of_state hs
  obtain ⟨rk, hr, hb⟩ := (I.dg hkeys).rank
  exact has_path_aux I hkeys hr hb (d.table.length + 1) hd n hf (by omega) hg

/-! ## non-vacuity -/

namespace Ex

/-- a fresh document in which `{"a": [1, {"x": 5}]}` was put -/
def r : Replica :=
  ((Replica.new .document "c" true).call (.dput Ts.oldest "a" (.arr [.num 1, .obj [("x", .num 5)]]))).1

/-- the handle of the inner object `{"x": 5}` -/
def hd : Ts := ⟨0, 2, "c", 2⟩

def d : Doc := ⟨[
  ⟨Ts.oldest, none, none, .obj [("a", ⟨0, 2, "c", 0⟩)] 1⟩,
  ⟨⟨0, 2, "c", 0⟩, none, some Ts.oldest, .arr [(⟨0, 2, "c", 1⟩, ⟨0, 2, "c", 1⟩), (⟨0, 2, "c", 2⟩, ⟨0, 2, "c", 2⟩)] 2⟩,
  ⟨⟨0, 2, "c", 1⟩, none, some ⟨0, 2, "c", 0⟩, .elem (.num 1)⟩,
  ⟨⟨0, 2, "c", 2⟩, none, some ⟨0, 2, "c", 0⟩, .obj [("x", ⟨0, 2, "c", 3⟩)] 1⟩,
  ⟨⟨0, 2, "c", 3⟩, none, some ⟨0, 2, "c", 2⟩, .elem (.num 5)⟩]⟩

theorem r_state : r.state = .doc d := rfl

theorem r_inv : DocInv r :=
  docInv_call _ _ (by simp [CallKeysND, JKeysND, JKeysNDList, JKeysNDKvs]) (docInv_new "c" true)

theorem hd_located : d.locate [.key "a", .idx 1] Ts.oldest = some hd := by decide

/-- `doc_call_refines` instantiated: putting "y" through the handle of the inner object -/
example : ∃ d', (r.call (.dput hd "y" (.str "s"))).1.state = .doc d' ∧
    d'.view.canon = (PlainDoc.step d.view.canon [.key "a", .idx 1] (.dput hd "y" (.str "s"))).1 ∧
    PlainDoc.outCanon (r.call (.dput hd "y" (.str "s"))).2 =
      (PlainDoc.step d.view.canon [.key "a", .idx 1] (.dput hd "y" (.str "s"))).2 :=
  doc_call_refines r d r_state r_inv [.key "a", .idx 1] hd hd_located (.dput hd "y" (.str "s")) rfl
    (by simp [CallKeysND, JKeysND])

/-- … and what the plain tree says in this instance -/
example : PlainDoc.step d.view.canon [.key "a", .idx 1] (.dput hd "y" (.str "s")) =
    (.obj [("a", .arr [.num 1, .obj [("x", .num 5), ("y", .str "s")]])], .ok (.val none)) := by rfl

/-- `doc_located_not_garbage` on the same instance -/
example : d.garbage hd = false ∧ (d.find hd).isSome :=
  doc_located_not_garbage r d r_state r_inv [.key "a", .idx 1] hd hd_located

end Ex

end Orda.DP
