/-
Key-sorted JSON. `JVal.Canonical`: object keys strictly increasing, recursively; `canon` produces such values and is the
identity on them; `JVal.beq` decides equality. `objPut` / `objDel` on association lists with increasing keys. An object
with strictly increasing keys is determined by its lookup function, so two objects with the same lookups have the same
`canon` (`DC.canonKvs_ext`).
Namespace `PD` (that of Proofs/PatchDiff.lean): `JVal.beq`, `objPut`/`objDel` and `canon` on increasing keys in the spelling of
`JVal.Canonical`, `(kvs.map (·.1)).Pairwise (· < ·)`.  Namespace `DC` (that of the document modules): the same objects as
`KSorted` lists, `objDel`, and the extensionality.  `beq_iff_eq`, `canon_canonical`, `canon_of_canonical` stand in `Orda`.
-/
import Orda.Model.Patch
import Orda.Proofs.Assoc
namespace Orda


mutual
/-- canonical JSON value: object keys strictly increasing (sorted, no duplicates), recursively -/
def JVal.Canonical : JVal → Prop
  | .arr l => JVal.CanonicalList l
  | .obj kvs => JVal.CanonicalKvs kvs ∧ (kvs.map (·.1)).Pairwise (· < ·)
  | _ => True
def JVal.CanonicalList : List JVal → Prop
  | [] => True
  | v :: vs => v.Canonical ∧ JVal.CanonicalList vs
def JVal.CanonicalKvs : List (String × JVal) → Prop
  | [] => True
  | (_, v) :: r => v.Canonical ∧ JVal.CanonicalKvs r
end

namespace PD

/-! ### `JVal.beq` -/

/-- `JVal.canon.mutual_induct` is the structural induction of `JVal` with its lists and key-value lists (its statement
    does not mention `canon`); its cases, in order: `.arr l`, `.obj kvs`, a value that is neither, `[]`, `v :: vs`,
    no binding, `(k, v) :: r` -/
theorem beq_eq_all : (∀ a b : JVal, JVal.beq a b = true ↔ a = b) ∧ (∀ a b, JVal.beqKvs a b = true ↔ a = b) ∧
    ∀ a b, JVal.beqList a b = true ↔ a = b := by
  apply JVal.canon.mutual_induct
  case case1 => intro l ih b; cases b <;> simp [JVal.beq, ih]
  case case2 => intro kvs ih b; cases b <;> simp [JVal.beq, ih]
  case case3 =>
    intro a h1 h2 b
    cases a with
    | arr l => exact (h1 l rfl).elim
    | obj kvs => exact (h2 kvs rfl).elim
    | _ => cases b <;> simp [JVal.beq]
  case case4 => intro b; cases b <;> simp [JVal.beqList]
  case case5 => intro v vs h1 h2 b; cases b <;> simp [JVal.beqList, h1, h2]
  case case6 => intro b; cases b <;> simp [JVal.beqKvs]
  case case7 => exact fun k v r h1 h2 b => by rcases b with _ | ⟨⟨k', y⟩, ys⟩ <;> simp [JVal.beqKvs, h1, h2, and_assoc]

theorem beqList_eq : ∀ (a b : List JVal), JVal.beqList a b = true ↔ a = b := beq_eq_all.2.2
theorem beqKvs_eq : ∀ (a b : List (String × JVal)), JVal.beqKvs a b = true ↔ a = b := beq_eq_all.2.1

/-! ### the key order -/


theorem str_lt_of_not {k k' : String} (h1 : ¬ k = k') (h2 : ¬ k < k') : k' < k :=
  Std.lt_of_le_of_ne (String.not_lt.mp h2) (Ne.symm h1)

theorem str_tri (k k' : String) : k = k' ∨ k < k' ∨ k' < k := by
  by_cases h1 : k = k'
  · exact Or.inl h1
  · by_cases h2 : k < k'
    · exact Or.inr (Or.inl h2)
    · exact Or.inr (Or.inr (str_lt_of_not h1 h2))

/-! ### association lists with `objPut` / `objDel` -/

theorem objPut_cons_eq (k : String) (v v' : JVal) (r : List (String × JVal)) :
    objPut k v ((k, v') :: r) = (k, v) :: r := if_pos rfl

theorem objPut_cons_lt {k k' : String} (h : k < k') (v v' : JVal) (r : List (String × JVal)) :
    objPut k v ((k', v') :: r) = (k, v) :: (k', v') :: r :=
  (if_neg (String.ne_of_lt h)).trans (if_pos h)

theorem objPut_cons_gt {k k' : String} (h : k' < k) (v v' : JVal) (r : List (String × JVal)) :
    objPut k v ((k', v') :: r) = (k', v') :: objPut k v r :=
  (if_neg (String.ne_of_lt h).symm).trans (if_neg (String.lt_asymm h))

theorem alFind_objPut (k k' : String) (v : JVal) : ∀ kvs : List (String × JVal),
    alFind k' (objPut k v kvs) = if k = k' then some v else alFind k' kvs
  | [] => rfl
  | (k0, v0) :: r => by
    rcases str_tri k k0 with rfl | h | h
    · rw [objPut_cons_eq]
      by_cases e : k = k'
      · rw [if_pos e, e, alFind_cons_self]
      · rw [if_neg e, alFind_cons_ne e, alFind_cons_ne e]
    · rw [objPut_cons_lt h]
      by_cases e : k = k'
      · rw [if_pos e, e, alFind_cons_self]
      · rw [if_neg e, alFind_cons_ne e]
    · rw [objPut_cons_gt h]
      by_cases e0 : k0 = k'
      · rw [← e0, alFind_cons_self, alFind_cons_self, if_neg (String.ne_of_lt h).symm]
      · rw [alFind_cons_ne e0, alFind_cons_ne e0, alFind_objPut k k' v r]

theorem alFind_objPut_self (k : String) (v : JVal) (kvs : List (String × JVal)) :
    alFind k (objPut k v kvs) = some v :=
  (alFind_objPut k k v kvs).trans (if_pos rfl)

theorem objPut_objPut (k : String) (v1 v2 : JVal) :
    ∀ kvs, objPut k v2 (objPut k v1 kvs) = objPut k v2 kvs
  | [] => objPut_cons_eq k v2 v1 []
  | (k', v') :: r => by
    rcases str_tri k k' with rfl | h | h
    · rw [objPut_cons_eq, objPut_cons_eq, objPut_cons_eq]
    · rw [objPut_cons_lt h, objPut_cons_eq, objPut_cons_lt h]
    · rw [objPut_cons_gt h, objPut_cons_gt h, objPut_objPut k v1 v2 r, objPut_cons_gt h]

theorem objPut_append (k : String) (v : JVal) (rest : List (String × JVal)) :
    ∀ pre : List (String × JVal), (∀ p ∈ pre, p.1 < k) → objPut k v (pre ++ rest) = pre ++ objPut k v rest
  | [], _ => rfl
  | (k', v') :: r, h => by
    rw [List.cons_append, objPut_cons_gt (h (k', v') List.mem_cons_self),
      objPut_append k v rest r fun p hp => h p (List.mem_cons_of_mem _ hp), List.cons_append]

theorem objDel_append (k : String) (rest : List (String × JVal)) :
    ∀ pre : List (String × JVal), (∀ p ∈ pre, p.1 < k) → objDel k (pre ++ rest) = pre ++ objDel k rest
  | [], _ => rfl
  | (k', v') :: r, h => by
    have hk : k' < k := h (k', v') List.mem_cons_self
    rw [List.cons_append, objDel, if_neg (String.ne_of_lt hk).symm,
      objDel_append k rest r fun p hp => h p (List.mem_cons_of_mem _ hp), List.cons_append]

theorem objPut_head (k : String) (v : JVal) : ∀ r : List (String × JVal),
    (∀ a ∈ r.map (·.1), k < a) → objPut k v r = (k, v) :: r
  | [], _ => rfl
  | (k', v') :: r, h => objPut_cons_lt (h k' List.mem_cons_self) v v' r

theorem mem_objPut {k : String} {v : JVal} {x : String × JVal} :
    ∀ {kvs : List (String × JVal)}, x ∈ objPut k v kvs → x = (k, v) ∨ x ∈ kvs
  | [], h => Or.inl (List.mem_singleton.1 h)
  | (k', v') :: r, h => by
    rcases str_tri k k' with rfl | hk | hk
    · rw [objPut_cons_eq] at h
      exact (List.mem_cons.1 h).imp_right (List.mem_cons_of_mem _)
    · rw [objPut_cons_lt hk] at h
      exact List.mem_cons.1 h
    · rw [objPut_cons_gt hk] at h
      rcases List.mem_cons.1 h with rfl | h
      · exact Or.inr List.mem_cons_self
      · exact (mem_objPut h).imp_right (List.mem_cons_of_mem _)

theorem objPut_sorted (k : String) (v : JVal) : ∀ kvs : List (String × JVal),
    (kvs.map (·.1)).Pairwise (· < ·) → ((objPut k v kvs).map (·.1)).Pairwise (· < ·)
  | [], _ => List.pairwise_singleton _ _
  | (k', v') :: r, h => by
    have h' := List.pairwise_cons.1 h
    rcases str_tri k k' with rfl | hk | hk
    · rw [objPut_cons_eq]; exact h
    · rw [objPut_cons_lt hk]
      refine List.pairwise_cons.2 ⟨fun a ha => ?_, h⟩
      rcases List.mem_cons.mp ha with rfl | ha
      · exact hk
      · exact String.lt_trans hk (h'.1 a ha)
    · rw [objPut_cons_gt hk]
      refine List.pairwise_cons.2 ⟨fun a ha => ?_, objPut_sorted k v r h'.2⟩
      obtain ⟨x, hx, rfl⟩ := List.mem_map.mp ha
      rcases mem_objPut hx with rfl | hx
      · exact hk
      · exact h'.1 x.1 (List.mem_map_of_mem hx)

/-! ### `canon` -/

theorem canonicalList_iff : ∀ l : List JVal, JVal.CanonicalList l ↔ ∀ v ∈ l, v.Canonical
  | [] => by simp [JVal.CanonicalList]
  | x :: xs => by simp [JVal.CanonicalList, canonicalList_iff xs]


theorem canonicalKvs_iff : ∀ kvs : List (String × JVal),
    JVal.CanonicalKvs kvs ↔ ∀ x ∈ kvs, x.2.Canonical
  | [] => by simp [JVal.CanonicalKvs]
  | (k, v) :: r => by simp [JVal.CanonicalKvs, canonicalKvs_iff r]

theorem objPut_canonicalKvs (k : String) (v : JVal) (kvs : List (String × JVal))
    (hv : v.Canonical) (h : JVal.CanonicalKvs kvs) : JVal.CanonicalKvs (objPut k v kvs) := by
  rw [canonicalKvs_iff] at h ⊢
  intro x hx
  rcases mem_objPut hx with hx | hx
  · rw [hx]; exact hv
  · exact h x hx

theorem canon_can_all : (∀ v : JVal, v.canon.Canonical) ∧
    (∀ kvs, JVal.CanonicalKvs (JVal.canonKvs kvs) ∧ ((JVal.canonKvs kvs).map (·.1)).Pairwise (· < ·)) ∧
    ∀ l, JVal.CanonicalList (JVal.canonList l) := by
  apply JVal.canon.mutual_induct
  case case1 => exact fun l ih => by simp only [JVal.canon, JVal.Canonical]; exact ih
  case case2 => exact fun kvs ih => by simp only [JVal.canon, JVal.Canonical]; exact ih
  case case3 =>
    intro v h1 h2
    cases v with
    | arr l => exact (h1 l rfl).elim
    | obj kvs => exact (h2 kvs rfl).elim
    | _ => simp only [JVal.canon, JVal.Canonical]
  case case4 => simp only [JVal.canonList, JVal.CanonicalList]
  case case5 => exact fun v vs h1 h2 => by simp only [JVal.canonList, JVal.CanonicalList]; exact ⟨h1, h2⟩
  case case6 => simp [JVal.canonKvs, JVal.CanonicalKvs]
  case case7 => exact fun k v r h ih => ⟨objPut_canonicalKvs k _ _ h ih.1, objPut_sorted k _ _ ih.2⟩

theorem canonList_can : ∀ l : List JVal, JVal.CanonicalList (JVal.canonList l) := canon_can_all.2.2
theorem canonKvs_can : ∀ kvs : List (String × JVal),
    JVal.CanonicalKvs (JVal.canonKvs kvs) ∧ ((JVal.canonKvs kvs).map (·.1)).Pairwise (· < ·) := canon_can_all.2.1

theorem canon_id_all : (∀ v : JVal, v.Canonical → v.canon = v) ∧
    (∀ kvs, JVal.CanonicalKvs kvs → (kvs.map (·.1)).Pairwise (· < ·) → JVal.canonKvs kvs = kvs) ∧
    ∀ l, JVal.CanonicalList l → JVal.canonList l = l := by
  apply JVal.canon.mutual_induct
  case case1 => exact fun l ih h => by simp only [JVal.canon, ih h]
  case case2 => exact fun kvs ih h => by simp only [JVal.canon, ih h.1 h.2]
  case case3 =>
    intro v h1 h2 _
    cases v with
    | arr l => exact (h1 l rfl).elim
    | obj kvs => exact (h2 kvs rfl).elim
    | _ => simp only [JVal.canon]
  case case4 => exact fun _ => by simp only [JVal.canonList]
  case case5 => exact fun v vs h1 h2 h => by simp only [JVal.canonList, h1 h.1, h2 h.2]
  case case6 => exact fun _ _ => by simp only [JVal.canonKvs]
  case case7 =>
    intro k v r h1 h2 h hp
    simp only [List.map_cons, List.pairwise_cons] at hp
    simp only [JVal.canonKvs, h1 h.1, h2 h.2 hp.2]
    exact objPut_head k v r hp.1

theorem canonList_id : ∀ l : List JVal, JVal.CanonicalList l → JVal.canonList l = l := canon_id_all.2.2
theorem canonKvs_id : ∀ kvs : List (String × JVal), JVal.CanonicalKvs kvs →
    (kvs.map (·.1)).Pairwise (· < ·) → JVal.canonKvs kvs = kvs := canon_id_all.2.1

end PD

/-- `JVal.beq` decides equality -/
theorem beq_iff_eq (a b : JVal) : JVal.beq a b = true ↔ a = b := PD.beq_eq_all.1 a b

theorem canon_canonical (v : JVal) : v.canon.Canonical := PD.canon_can_all.1 v
theorem canon_of_canonical (v : JVal) (h : v.Canonical) : v.canon = v := PD.canon_id_all.1 v h

namespace DC

/-! ### key-sorted JSON (`JVal.canon`): determined by the lookup function -/

def KSorted {β : Type} (l : List (String × β)) : Prop := l.Pairwise (fun a b => a.1 < b.1)

theorem ksorted_objPut (k : String) (v : JVal) {l : List (String × JVal)} (h : KSorted l) :
    KSorted (objPut k v l) :=
  List.pairwise_map.mp (PD.objPut_sorted k v l (List.pairwise_map.mpr h))

theorem alFind_none_of_lt {β : Type} {k : String} : ∀ {l : List (String × β)}, (∀ x ∈ l, k < x.1) →
    alFind k l = none
  | [], _ => rfl
  | (_, v0) :: _, h =>
    (alFind_cons_ne (String.ne_of_lt (h _ List.mem_cons_self)).symm v0 _).trans
      (alFind_none_of_lt fun x hx => h x (List.mem_cons_of_mem _ hx))

theorem objDel_sublist (k : String) : ∀ (l : List (String × JVal)), (objDel k l).Sublist l := by
  intro l
  induction l with
  | nil => exact List.Sublist.refl _
  | cons x r ih =>
    obtain ⟨k0, v0⟩ := x
    simp only [objDel]
    split
    · exact List.sublist_cons_self _ _
    · exact List.Sublist.cons_cons _ ih

theorem ksorted_objDel (k : String) {l : List (String × JVal)} (h : KSorted l) : KSorted (objDel k l) :=
  List.Pairwise.sublist (objDel_sublist k l) h

theorem alFind_objDel (k k' : String) : ∀ {l : List (String × JVal)}, KSorted l →
    alFind k' (objDel k l) = if k = k' then none else alFind k' l := by
  intro l
  induction l with
  | nil => intro _; simp [objDel, alFind]
  | cons x r ih =>
    obtain ⟨k0, v0⟩ := x
    intro hs
    unfold KSorted at hs
    rw [List.pairwise_cons] at hs
    simp only [objDel]
    by_cases e : k = k0
    · subst e
      simp only [if_true, alFind]
      by_cases e2 : k = k'
      · subst e2
        simp only [if_true]
        exact alFind_none_of_lt (fun x hx => hs.1 x hx)
      · simp [e2]
    · simp only [e, if_false, alFind, ih hs.2]
      by_cases e2 : k0 = k'
      · have : ¬ k = k' := fun e' => e (e'.trans e2.symm)
        simp [e2, this]
      · simp [e2]

theorem ksorted_ext {β : Type} : ∀ {l l' : List (String × β)}, KSorted l → KSorted l' →
    (∀ k, alFind k l = alFind k l') → l = l' := by
  -- a key below the head of a sorted list is not found: the heads are the least keys found
  have low : ∀ {k k' : String} {v' : β} {r' : List (String × β)}, (∀ x ∈ r', k' < x.1) → k < k' →
      alFind k ((k', v') :: r') = none := fun hr hlt =>
    alFind_none_of_lt fun x hx =>
      (List.mem_cons.mp hx).elim (fun e => e ▸ hlt) fun hx => String.lt_trans hlt (hr x hx)
  intro l
  induction l with
  | nil =>
    intro l' _ _ h
    cases l' with
    | nil => rfl
    | cons y r => have := h y.1; rw [alFind_cons_self] at this; cases this
  | cons x r ih =>
    obtain ⟨k, v⟩ := x
    intro l' hs hs' h
    cases l' with
    | nil => have := h k; rw [alFind_cons_self] at this; cases this
    | cons y r' =>
      obtain ⟨k', v'⟩ := y
      have hs := List.pairwise_cons.mp hs
      have hs' := List.pairwise_cons.mp hs'
      have hk : k = k' := by
        rcases PD.str_tri k k' with c | c | c
        · exact c
        · have := h k; rw [alFind_cons_self, low hs'.1 c] at this; cases this
        · have := h k'; rw [alFind_cons_self, low hs.1 c] at this; cases this
      subst hk
      have hv := h k
      rw [alFind_cons_self, alFind_cons_self] at hv
      cases hv
      rw [ih hs.2 hs'.2 fun k'' => ?_]
      by_cases e : k = k''
      · rw [← e, alFind_none_of_lt hs.1, alFind_none_of_lt hs'.1]
      · have := h k''; rwa [alFind_cons_ne e, alFind_cons_ne e] at this

theorem canon_obj (kvs : List (String × JVal)) : (JVal.obj kvs).canon = .obj (JVal.canonKvs kvs) := by
  simp [JVal.canon]
theorem canon_arr (l : List JVal) : (JVal.arr l).canon = .arr (JVal.canonList l) := by
  simp [JVal.canon]

theorem canonList_eq_map : ∀ (l : List JVal), JVal.canonList l = l.map JVal.canon := by
  intro l
  induction l with
  | nil => simp [JVal.canonList]
  | cons x r ih => simp [JVal.canonList, ih]

theorem ksorted_canonKvs (l : List (String × JVal)) : KSorted (JVal.canonKvs l) :=
  List.pairwise_map.mp (PD.canonKvs_can l).2

theorem alFind_canonKvs (k : String) : ∀ (l : List (String × JVal)),
    alFind k (JVal.canonKvs l) = (alFind k l).map JVal.canon := by
  intro l
  induction l with
  | nil => simp [JVal.canonKvs, alFind]
  | cons x r ih =>
    obtain ⟨k0, v⟩ := x
    simp only [JVal.canonKvs, PD.alFind_objPut, alFind, ih]
    by_cases e : k0 = k <;> simp [e]

theorem canonKvs_ext {l l' : List (String × JVal)}
    (h : ∀ k, (alFind k l).map JVal.canon = (alFind k l').map JVal.canon) :
    JVal.canonKvs l = JVal.canonKvs l' := by
  apply ksorted_ext (ksorted_canonKvs l) (ksorted_canonKvs l')
  intro k
  rw [alFind_canonKvs, alFind_canonKvs, h k]

end DC

end Orda
